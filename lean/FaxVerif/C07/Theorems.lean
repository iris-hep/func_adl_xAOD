/-
C07 — property theorems.

Statement of the property (full strength):
    ∀ D T (h : List OpO) (p : Probe), runProbeNew D T (runO D h s₀) p = freshResult D T p
    ∀ D T h p e, (runO D h s₀).execs[e]? has backend p.b → runProbeOn D T (runO D h s₀) p e = freshResult D T p
It is FALSE of the code as it stands (ten `leak_counterexample_*` theorems below, each replayed on
the real code and listed in known_findings.jsonl).  What is proved is the statement for every
history all of whose operations are benign for the probe (`benignNew`, `benignOn`: decidable, the
excluded clauses are exactly the counterexample classes), for every translator function `T` and
every defaults table `D`; plus the repair theorems (`reset_restores`, `success_heals_partial`).
-/
import FaxVerif.C07.Proofs
namespace FaxVerif.C07

/-- **What the translator can see.**  Two situations (state, executor) in which the registry agrees
on the (type, method) pairs the probe looks up, the namespace registry agrees below the names it
resolves, the effective extended-metadata dict agrees on the kinds its metadata uses (and the caller
does not register itself), the executors have the same backend and the same accumulated job-script
blocks and have found the same extended metadata of the kinds asked for, give the same result —
whatever else differs (other registry entries, other executors, inject blocks, name counter) and
whatever the translator function is. -/
theorem result_depends_on_view_only (D : Defaults) (T : Translator) (p : Probe) (s₁ s₂ : HState)
    (e₁ e₂ : Nat) (ex₁ ex₂ : Exec)
    (h₁ : s₁.execs[e₁]? = some ex₁) (h₂ : s₂.execs[e₂]? = some ex₂)
    (hb : ex₁.backend = ex₂.backend) (hj : ex₁.job = ex₂.job)
    (hreg : ∀ k ∈ p.q.keys, alookup s₁.reg k = alookup s₂.reg k)
    (hns : ∀ t ∈ p.q.names, s₁.ns.restrict t = s₂.ns.restrict t)
    (hx : ∀ kind ∈ mdKinds p.md, kind ∉ akeys p.xadd → alookup (effXmd s₁ ex₁) kind = alookup (effXmd s₂ ex₂) kind)
    (hf : ex₁.found.filter (fun f => decide (f.1 ∈ akeys p.xadd)) = ex₂.found.filter (fun f => decide (f.1 ∈ akeys p.xadd))) :
    runProbeOn D T s₁ p e₁ = runProbeOn D T s₂ p e₂ := by
  -- after the caller's `add_extended_md` the two situations still look the same
  have hsee : SeesSame p.q p.md (akeys p.xadd)
      (addXmd s₁ e₁ p.xadd) { ex₁ with xmd := ainsertAll ex₁.xmd p.xadd }
      (addXmd s₂ e₂ p.xadd) { ex₂ with xmd := ainsertAll ex₂.xmd p.xadd } := by
    rw [addXmd_some p.xadd h₁, addXmd_some p.xadd h₂]
    exact ⟨hb, hj, hreg, hns, fun kind hk => alookup_ainsertAll_congr _ _ _ kind (hx kind hk), hf⟩
  obtain ⟨ho, b₁, b₂, hb1, hb2, hfound⟩ := translate_congr D (T p.q p.md) p.q p.md (akeys p.xadd) _ _ e₁ e₂ _ _
    (by rw [addXmd_some p.xadd h₁]; exact getElem?_set_self' h₁)
    (by rw [addXmd_some p.xadd h₂]; exact getElem?_set_self' h₂) hsee
  unfold runProbeOn foundFor
  simp only [ho, hb1, hb2, hfound]

theorem clean_on_indep (D : Defaults) (T : Translator) (p : Probe) (s : HState) (e : Nat)
    (hc : cleanOn D p s e = true) : runProbeOn D T s p e = freshResult D T p := by
  obtain ⟨ex, he, hr, hn, hx⟩ := (cleanOn_iff D p s e).1 hc
  refine result_depends_on_view_only D T p s (newExec D s₀ p.b) e s₀.execs.length ex ⟨p.b, [], [], [], []⟩ he
    List.getElem?_concat_length hx.backend hx.job hr hn ?_ ?_
  · intro kind hk hnk
    exact (hx.xmd kind hk).resolve_left hnk
  · exact List.filter_eq_nil_iff.2 fun f hf h => hx.found f hf (of_decide_eq_true h)

/-- **Clean state ⇒ fresh result (new executor).**  If nothing the probe can see has been left
behind (`cleanNew`: decidable), translating it on a newly created executor gives exactly what the
first query of a fresh process gives. -/
theorem clean_new_indep (D : Defaults) (T : Translator) (p : Probe) (s : HState)
    (hc : cleanNew D p s = true) : runProbeNew D T s p = freshResult D T p :=
  clean_on_indep D T p _ _ (cleanOn_of_new D p s hc)

theorem benign_preserves_new (D : Defaults) (p : Probe) (s : HState) (o : OpO)
    (hc : cleanNew D p s = true) (hb : benignNew D p s o = true) : cleanNew D p (stepO D s o) = true := by
  obtain ⟨hr, hn⟩ := (cleanNew_iff D p s).1 hc
  exact (cleanNew_iff D p _).2 ⟨fun k hk hd => stepO_reg hb hk (Or.inl hd) (hr k hk hd),
    fun t ht => (stepO_ns hb ht).trans (hn t ht)⟩

theorem benign_preserves_on (D : Defaults) (p : Probe) (e₀ : Nat) (s : HState) (o : OpO)
    (hc : cleanOn D p s e₀ = true) (hb : benignNew D p s o = true) (hb2 : benignOn D p e₀ s o = true) :
    cleanOn D p (stepO D s o) e₀ = true := by
  obtain ⟨ex₀, he₀, hr, hn, hx⟩ := (cleanOn_iff D p s e₀).1 hc
  obtain ⟨ex', he', hx'⟩ := stepO_execClean he₀ hx hb2
  exact (cleanOn_iff D p _ e₀).2 ⟨ex', he', fun k hk => stepO_reg hb hk (Or.inr ⟨e₀, hb2⟩) (hr k hk),
    fun t ht => (stepO_ns hb ht).trans (hn t ht), hx'⟩

theorem benignRun_preserves_new (D : Defaults) (p : Probe) :
    ∀ (h : List OpO) (s : HState), cleanNew D p s = true → benignRunNew D p s h = true →
      cleanNew D p (runO D h s) = true := by
  intro h
  induction h with
  | nil => intro s hc _; exact hc
  | cons o h ih =>
    intro s hc hb
    simp only [benignRunNew, Bool.and_eq_true] at hb
    exact ih _ (benign_preserves_new D p s o hc hb.1) hb.2

/-- From ANY clean state — not only from a fresh interpreter — a benign history leaves the probe's
result on a new executor equal to the fresh one. -/
theorem history_indep_of_clean (D : Defaults) (T : Translator) (p : Probe) (s : HState) (h : List OpO)
    (hc : cleanNew D p s = true) (hb : benignRunNew D p s h = true) :
    runProbeNew D T (runO D h s) p = freshResult D T p :=
  clean_new_indep D T p _ (benignRun_preserves_new D p h s hc hb)

/-- **History independence, new executor (partial).**  FULL STATEMENT (false, see the
counterexamples): `∀ h p, runProbeNew D T (runO D h s₀) p = freshResult D T p`.
PROVED: for every defaults table, every translator function, every probe and every finite history
of operations — new executors of any backend, `add_extended_md`, translations with any metadata
ending in success or in a failure at any stage — all of which are benign for the probe
(`benignRunNew`, decidable), the probe translated on a new executor gives exactly the result of a
fresh process.  MISSING: the operations `benignNew` excludes; each excluded clause is a
`leak_counterexample_*` below. -/
theorem history_indep_partial (D : Defaults) (T : Translator) (h : List OpO) (p : Probe)
    (hb : benignRunNew D p s₀ h = true) : HistoryIndependentNew D T h p :=
  history_indep_of_clean D T p s₀ h (s₀_cleanNew D p) hb

theorem benignRun_preserves_on (D : Defaults) (p : Probe) (e₀ : Nat) :
    ∀ (h : List OpO) (s : HState), cleanNew D p s = true → (e₀ < s.execs.length → cleanOn D p s e₀ = true) →
      benignRunOn D p e₀ s h = true →
      cleanNew D p (runO D h s) = true ∧ (e₀ < (runO D h s).execs.length → cleanOn D p (runO D h s) e₀ = true) := by
  intro h
  induction h with
  | nil => intro s hc ho _; exact ⟨hc, ho⟩
  | cons o h ih =>
    intro s hc ho hb
    simp only [benignRunOn, Bool.and_eq_true] at hb
    obtain ⟨⟨hb1, hb2⟩, hb3⟩ := hb
    refine ih _ (benign_preserves_new D p s o hc hb1) ?_ hb3
    intro hlt
    by_cases hl : e₀ < s.execs.length
    · exact benign_preserves_on D p e₀ s o (ho hl) hb1 hb2
    · -- `e₀` can only be the executor this very operation creates
      rcases stepO_length D s o with hlen | ⟨b', rfl, hlen⟩
      · omega
      · obtain rfl : s.execs.length = e₀ := by omega
        obtain rfl : b' = p.b := ((benignOn_new_iff D p s _ b').1 hb2).resolve_left (fun h => h rfl)
        exact cleanOn_of_new D p s hc

/-- **History independence, existing executor (partial).**  FULL STATEMENT (false):
`∀ h p e, e is an executor of p's backend → runProbeOn D T (runO D h s₀) p e = freshResult D T p`.
PROVED: the same for every history all of whose operations satisfy `benignNew` and `benignOn … e`
(decidable): the probe translated on the executor `e` that has lived through the whole history —
with its earlier successes and failures — gives exactly the result of a fresh process. -/
theorem history_indep_on_partial (D : Defaults) (T : Translator) (h : List OpO) (p : Probe) (e : Nat)
    (hb : benignRunOn D p e s₀ h = true) (he : e < (runO D h s₀).execs.length) :
    HistoryIndependentOn D T h p e :=
  clean_on_indep D T p _ e ((benignRun_preserves_on D p e h s₀ (s₀_cleanNew D p) (fun h => absurd h (Nat.not_lt_zero e)) hb).2 he)

/-- **History independence with the translator in the loop (partial).**  The earlier
translations succeed or fail as the translator function `T` itself decides in the state it finds
(so an earlier leak may change an earlier outcome); if the history with those outcomes written down
is benign for the probe, the probe's result is the fresh result. -/
theorem history_indep_T_partial (D : Defaults) (T : Translator) (h : List Op) (p : Probe)
    (hb : benignRunNew D p s₀ (record D T h s₀) = true) :
    runProbeNew D T (run D T h s₀) p = freshResult D T p := by
  rw [run_eq_runO_record]
  exact history_indep_partial D T _ p hb

/-- **`reset()` after a successful translation.**  Whatever the state was before (any registry
contents left by any history): after a translation on executor `e` that ended `ok`, the registry is
exactly the backend's defaults, the executor has no job-script blocks, no inject blocks, an
empty extended-metadata dict; other executors are untouched.  NOT
restored: `_found_extended_md` (only grows) and the namespace/enum registry. -/
theorem reset_restores (D : Defaults) (o : View → TRes) (s : HState) (e : Nat) (q : Query) (md : List MdItem)
    (ex : Exec) (f : String) (he : s.execs[e]? = some ex) (hok : (translateWith D o s e q md).2 = .ok f) :
    (translateWith D o s e q md).1.reg = defaultsReg D ex.backend ∧
    (translateWith D o s e q md).1.execs[e]? =
      some { ex with job := [], inject := [], xmd := [],
                     found := ex.found ++ xitemsOf (mdOf s ex md).1.specs } ∧
    (translateWith D o s e q md).1.ns = (mdOf s ex md).1.ns ∧
    ∀ e', e ≠ e' → (translateWith D o s e q md).1.execs[e']? = s.execs[e']? := by
  cases hm : (mdOf s ex md).2 with
  | some i => rw [translateWith_mdFail D o q md he hm] at hok; cases hok
  | none =>
    rw [translateWith_run D o q md he hm] at hok ⊢
    have hst := stage_of_ok _ _ f hok
    refine ⟨by simp only [hst, if_true], ?_, rfl, ?_⟩
    · show (s.execs.set e _)[e]? = _
      rw [getElem?_set_self' he, hst]; rfl
    · intro e' hne; exact List.getElem?_set_ne hne

/-- **…hence the next query on that executor is translated as in a fresh process.**  After a
translation that ended `ok` — in ANY earlier state — a probe of the executor's backend on the same
executor gives the fresh result, provided only that no enum is defined below a name it resolves and
the executor has not found extended metadata of a kind the caller asks for (the two things
`reset()` does not restore). -/
theorem reset_restores_result (D : Defaults) (T : Translator) (o : View → TRes) (s : HState) (e : Nat) (q : Query)
    (md : List MdItem) (ex : Exec) (f : String) (p : Probe)
    (he : s.execs[e]? = some ex) (hok : (translateWith D o s e q md).2 = .ok f) (hb : ex.backend = p.b)
    (hns : nsClean p (translateWith D o s e q md).1 = true)
    (hfound : ∀ x ∈ ex.found ++ xitemsOf (mdOf s ex md).1.specs, x.1 ∉ akeys p.xadd) :
    runProbeOn D T (translateWith D o s e q md).1 p e = freshResult D T p := by
  obtain ⟨hr, hx, _, _⟩ := reset_restores D o s e q md ex f he hok
  exact clean_on_indep D T p _ e ((cleanOn_iff D p _ e).2 ⟨_, hx, fun k _ => by rw [hr, hb],
    (nsClean_iff p _).1 hns, ⟨hb, fun _ _ => Or.inr rfl, rfl, hfound⟩⟩)

/-- **One success heals the registry (partial).**  Take ANY state `s` — reached by any history
whatsoever, with any leaked method types — in which no enum has been defined below a name the
probe resolves.  After one
recorded translation that reaches `reset()` on an executor of the probe's backend (and defines no
such enum itself), every benign continuation leaves the probe's result equal to the fresh one. -/
theorem success_heals_partial (D : Defaults) (T : Translator) (p : Probe) (s : HState) (e : Nat) (q : Query)
    (md : List MdItem) (r : TRes) (ex : Exec) (h₂ : List OpO)
    (he : s.execs[e]? = some ex) (hbk : ex.backend = p.b) (hdone : reachedStage s ex md r = some .done)
    (hen : ∀ t ∈ enumTops md, t ∉ p.q.names.map some)
    (hn : nsClean p s = true)
    (hb : benignRunNew D p (stepO D s (.translate e q md r)) h₂ = true) :
    runProbeNew D T (runO D (.translate e q md r :: h₂) s) p = freshResult D T p := by
  refine history_indep_of_clean D T p _ h₂ ((cleanNew_iff D p _).2 ⟨fun k _ _ => ?_, fun t ht => ?_⟩) hb
  · rw [(stepO_translate_fields D q md r he).2.1, if_pos hdone, hbk]
  · rw [stepO_translate_ns D q md r he fun hc => hen _ hc (List.mem_map.2 ⟨t, ht, rfl⟩)]
    exact (nsClean_iff p s).1 hn t ht

/-- **Inject blocks never leak**: `_inject_blocks` is replaced by every `apply_ast_transformations`
before `write_cpp_files` reads it; whatever an earlier (failed) translation left there is invisible. -/
theorem inject_never_leaks (D : Defaults) (T : Translator) (p : Probe) (s : HState) (e : Nat) (ex : Exec)
    (inj : List (String × String)) (he : s.execs[e]? = some ex) :
    runProbeOn D T { s with execs := s.execs.set e { ex with inject := inj } } p e = runProbeOn D T s p e :=
  result_depends_on_view_only D T p { s with execs := s.execs.set e { ex with inject := inj } } s e e
    { ex with inject := inj } ex (getElem?_set_self' he) he rfl rfl
    (fun _ _ => rfl) (fun _ _ => rfl) (fun _ _ _ => rfl) rfl

/-- **The name counter is never read by the model's view**: results are independent of
`unique_var_index` (the oracle compares generated files up to renumbering for exactly this reason). -/
theorem counter_never_read (D : Defaults) (T : Translator) (p : Probe) (s : HState) (e : Nat) (ex : Exec) (n : Nat)
    (he : s.execs[e]? = some ex) :
    runProbeOn D T { s with counter := n } p e = runProbeOn D T s p e :=
  result_depends_on_view_only D T p { s with counter := n } s e e ex ex he he rfl rfl
    (fun _ _ => rfl) (fun _ _ => rfl) (fun _ _ _ => rfl) rfl

/-- **The oracle accepts equal observations**: `agreeObs` (equality up to ONE bijective renumbering
of generated names over all files, same ending, same extended metadata found) is reflexive — so it
never rejects a result for being compared with itself, whatever text the files contain. -/
theorem agreeObs_refl (o : Obs) : agreeObs o o = true := by
  obtain ⟨m, hm, _⟩ := agreeFiles_refl o.files [] (fun _ h => by cases h)
  simp [agreeObs, hm]

/-- **The theorem in the oracle's terms**: after a benign history the probe's observation agrees
(`agreeObs`, the predicate the harness evaluates on the IMPLEMENTATION's fresh-interpreter and
after-history outputs) with the fresh one. -/
theorem history_indep_agree_partial (D : Defaults) (T : Translator) (h : List OpO) (p : Probe)
    (hb : benignRunNew D p s₀ h = true) :
    agreeObs (obsOfResult (freshResult D T p)) (obsOfResult (runProbeNew D T (runO D h s₀) p)) = true := by
  rw [history_indep_partial D T h p hb]; exact agreeObs_refl _

/-! One counterexample per clause that `benignNew` / `benignOn` exclude. Each history below is replayed against the real
code on every run (known_findings.jsonl, field `witness`); the driver checks that the replayed history has the shape of
the literal used here. -/

open Witness in
/-- (a) A translation that declared `xAOD::Jet::pt → int` and then failed in `write_cpp_files`
(so `reset()` was skipped) changes the next, unrelated query on a NEW executor. -/
theorem leak_counterexample_failed_translation :
    ∃ D T h p, ¬ HistoryIndependentNew D T h p :=
  ⟨D₀, Tkey ("xAOD::Jet", "pt"), failedDecl.1, failedDecl.2, by unfold HistoryIndependentNew; decide +kernel⟩

open Witness in
/-- (a') The same when `process_metadata` itself raises after having applied the declaration. -/
theorem leak_counterexample_failed_metadata :
    ∃ D T h p, ¬ HistoryIndependentNew D T h p :=
  ⟨D₀, Tkey ("xAOD::Jet", "pt"), failedDeclMd.1, failedDeclMd.2, by unfold HistoryIndependentNew; decide +kernel⟩

open Witness in
/-- (b) An enum defined by an earlier SUCCESSFUL query stays defined: a later query that uses the
enum without declaring it translates instead of being refused. -/
theorem leak_counterexample_enum :
    ∃ D T h p, ¬ HistoryIndependentNew D T h p :=
  ⟨D₀, Tenum "xAOD" "Red", enumStays.1, enumStays.2, by unfold HistoryIndependentNew; decide +kernel⟩

open Witness in
/-- (b') …and the first definition wins: a later query that declares the enum with more values is
refused because its own declaration is ignored. -/
theorem leak_counterexample_enum_first_wins :
    ∃ D T h p, ¬ HistoryIndependentNew D T h p :=
  ⟨D₀, Tenum "xAOD" "Blue", enumFirstWins.1, enumFirstWins.2, by unfold HistoryIndependentNew; decide +kernel⟩

open Witness in
/-- (c) A successful translation on a CMS executor resets the registry to the CMS defaults: the
live ATLAS executor has lost `xAOD::TruthParticle::prodVtx`. -/
theorem leak_counterexample_cross_backend_reset :
    ∃ D T h p e, e < (runO D h s₀).execs.length ∧ ¬ HistoryIndependentOn D T h p e :=
  ⟨D₀, Tkey ("xAOD::TruthParticle", "prodVtx"), crossBackendReset.1.1, crossBackendReset.1.2, crossBackendReset.2,
    by decide, by unfold HistoryIndependentOn; decide +kernel⟩

open Witness in
/-- (c') Creating a CMS executor leaves the CMS defaults in the registry every later ATLAS query reads. -/
theorem leak_counterexample_cross_backend_new :
    ∃ D T h p, ¬ HistoryIndependentNew D T h p :=
  ⟨D₀, Tkey ("reco::Muon", "globalTrack"), crossBackendNew.1, crossBackendNew.2, by unfold HistoryIndependentNew; decide +kernel⟩

/-- (d) **`add_extended_md` is invisible to every executor created later.**  Whatever the state,
whichever executor (reset or never reset) and whatever kinds are registered: a probe translated on a
NEW executor afterwards gives exactly what it gives without the registration — for every translator.
(Guards fix cfca57a of /repo: a registration written into a default dict that the constructor shares
between executors would be seen by every later one.) -/
theorem addXmd_invisible_to_new_executors (D : Defaults) (T : Translator) (s : HState) (e : Nat) (x : Xmd) (p : Probe) :
    runProbeNew D T (addXmd s e x) p = runProbeNew D T s p := by
  obtain ⟨hreg, hns, _⟩ := addXmd_reg_ns s e x
  unfold runProbeNew
  refine result_depends_on_view_only D T p (newExec D (addXmd s e x) p.b) (newExec D s p.b) _ _
    ⟨p.b, [], [], [], []⟩ ⟨p.b, [], [], [], []⟩ List.getElem?_concat_length List.getElem?_concat_length rfl rfl
    (fun k _ => ?_) (fun t _ => ?_) (fun _ _ _ => rfl) rfl
  · show alookup (ainsertAll (addXmd s e x).reg (D p.b)) k = alookup (ainsertAll s.reg (D p.b)) k
    rw [hreg]
  · show (addXmd s e x).ns.restrict t = s.ns.restrict t
    rw [hns]

open Witness in
/-- …in particular the history `sharedDefault` (an `add_extended_md` of kind `docker` on a never-reset
executor, then a probe with `docker` metadata on a new executor: the witness of the finding that fix
cfca57a closed) satisfies the property: the probe is refused exactly as in a fresh process. -/
theorem shared_default_repaired (T : Translator) : HistoryIndependentNew D₀ T sharedDefault.1 sharedDefault.2 :=
  history_indep_partial D₀ T sharedDefault.1 sharedDefault.2 (by decide)

open Witness in
/-- (e) `_found_extended_md` is never reset: the executor reports the previous query's item. -/
theorem leak_counterexample_found_md :
    ∃ D T h p e, e < (runO D h s₀).execs.length ∧ ¬ HistoryIndependentOn D T h p e :=
  ⟨D₀, Tconst, foundStays.1.1, foundStays.1.2, foundStays.2, by decide, by unfold HistoryIndependentOn; decide +kernel⟩

open Witness in
/-- (f) Job-script blocks appended before a failure in `write_cpp_files` are emitted with the next
query of that executor. -/
theorem leak_counterexample_job_blocks :
    ∃ D T h p e, e < (runO D h s₀).execs.length ∧ ¬ HistoryIndependentOn D T h p e :=
  ⟨D₀, Tjob, jobBlocksStay.1.1, jobBlocksStay.1.2, jobBlocksStay.2, by decide, by unfold HistoryIndependentOn; decide +kernel⟩

open Witness in
/-- (a'') Extended metadata registered on an executor survives a failed translation: the next
query on it may use a metadata kind a fresh process refuses. -/
theorem leak_counterexample_extended_md :
    ∃ D T h p e, e < (runO D h s₀).execs.length ∧ ¬ HistoryIndependentOn D T h p e :=
  ⟨D₀, Tconst, xmdStays.1.1, xmdStays.1.2, xmdStays.2, by decide, by unfold HistoryIndependentOn; decide +kernel⟩

/-- **Translating the same AST object again (existing executor, partial).**  Handing an AST object
that earlier operations of the history already translated — as it is, or as a sub-tree of other
queries derived from it; they are ordinary `.translate` entries of `h`, successful or failed, on
this or on other executors — to the executor `e` gives exactly what a fresh process gives for the
query, WITH its metadata, under the same hypotheses as `history_indep_on_partial` (`reuseProbe` is
the identity: with fix 1c4553a `apply_ast_transformations` works on a deep copy and leaves the caller's
object as it is). -/
theorem retranslation_indep_on_partial (D : Defaults) (T : Translator) (h : List OpO) (p : Probe) (e : Nat)
    (hb : benignRunOn D p e s₀ h = true) (he : e < (runO D h s₀).execs.length) :
    runProbeOn D T (runO D h s₀) (reuseProbe p) e = freshResult D T p :=
  history_indep_on_partial D T h p e hb he

theorem retranslation_indep_new_partial (D : Defaults) (T : Translator) (h : List OpO) (p : Probe)
    (hb : benignRunNew D p s₀ h = true) :
    runProbeNew D T (runO D h s₀) (reuseProbe p) = freshResult D T p :=
  history_indep_partial D T h p hb

open Witness in
/-- (h) the history `reusedAst` — the object that declares `xAOD::Jet::pt → int` translated once, then
handed to the same executor again — satisfies the property for every translator: the second
translation sees the declaration again. (Guards fix 1c4553a: it would not, if `extract_metadata`
removed the `MetaData` calls of the caller's object in place.) -/
theorem reused_ast_repaired (T : Translator) :
    runProbeOn D₀ T (runO D₀ reusedAst.1.1 s₀) (reuseProbe reusedAst.1.2) reusedAst.2 = freshResult D₀ T reusedAst.1.2 :=
  retranslation_indep_on_partial D₀ T reusedAst.1.1 reusedAst.1.2 reusedAst.2 (by decide) (by decide)

/-- (g) The name counter does NOT "only rename": `unique_name` concatenates name and index, so the
columns `x1` (drawn at counter 1, as in a fresh process) and `x` (drawn ten names later) get the SAME
member `_x11`; twelve names later in the life of the process (`_x113`, `_x23`) they are distinct.  The
package of such a query is not the same up to renumbering in a fresh and in an old process.  The
model's `View` leaves the counter out, i.e. the theorems above assume a query whose generated names
do not collide (a listed finding, replayed on the real code). -/
theorem leak_counterexample_name_counter :
    uniqueName "x1" 1 true = uniqueName "x" 11 true ∧ uniqueName "x1" 13 true ≠ uniqueName "x" 23 true := by
  decide

open Witness in
/-- a query WITH metadata whose object was translated twice before (once successfully, once on a
second executor), with an `add_extended_md` of the probe's own kind on that other (never-reset)
executor in between, satisfies the hypotheses of `retranslation_indep_on_partial` -/
example : benignRunOn D₀ ⟨.atlas, [], jetPt, [ptInt, dockerMd]⟩ 0 s₀
    [.new .atlas, .translate 0 jetPt [ptInt] okRes, .new .atlas, .addXmd 1 [("docker", "[\"docker\", \"img\"]")],
     .translate 1 jetPt [ptInt] okRes] = true := by decide +kernel

open Witness in
/-- a history with a declaration on the probe's own key that succeeds, a failure in
`process_metadata`, a failure in `write_cpp_files` and a second executor is benign for the probe -/
example : benignRunNew D₀ ⟨.atlas, [], jetPt, []⟩ s₀
    [.new .atlas, .translate 0 jetPt [ptInt, jobBlk] okRes, .translate 0 jetPt [.methodType "xAOD::Jet" "eta" "terminal|int", .bad] okRes,
     .translate 0 badWrite [jobBlk, .inject "blk" "x"] failWriteRes, .new .atlas,
     .translate 1 jetPt [.methodType "xAOD::Jet" "eta" "terminal|int"] failWriteRes] = true := by decide +kernel

open Witness in
/-- and the same for a probe on executor 0 (which has had a success, a metadata failure and a
failed write without job blocks) -/
example : benignRunOn D₀ ⟨.atlas, [], jetPt, []⟩ 0 s₀
    [.new .atlas, .translate 0 jetPt [ptInt, jobBlk] okRes, .translate 0 jetPt [.methodType "xAOD::Jet" "eta" "terminal|int", .bad] okRes,
     .translate 0 badWrite [.inject "blk" "x"] failWriteRes, .new .cmsAod,
     .translate 1 muonPt [] okRes] = true := by decide +kernel

open Witness in
/-- the witnesses of six of the counterexamples are outside the hypotheses (the exclusions are not
wider than needed for these) -/
example : benignRunNew D₀ failedDecl.2 s₀ failedDecl.1 = false ∧ benignRunNew D₀ enumStays.2 s₀ enumStays.1 = false ∧
    benignRunNew D₀ crossBackendNew.2 s₀ crossBackendNew.1 = false ∧
    benignRunOn D₀ crossBackendReset.1.2 0 s₀ crossBackendReset.1.1 = false ∧
    benignRunOn D₀ jobBlocksStay.1.2 0 s₀ jobBlocksStay.1.1 = false ∧
    benignRunOn D₀ foundStays.1.2 0 s₀ foundStays.1.1 = false := by decide +kernel

end FaxVerif.C07
