/-
C07 — what the property theorems rest on. `process_metadata` run from two states that agree on a footprint stays in
agreement (`AccRel`, `mdRun_rel`), hence `translate_congr`: situations that look the same (`SeesSame`) give the same
result; and it changes nothing outside what its items declare (`mdRun_frame`). The decidable invariants `cleanNew` /
`cleanOn` as propositions, what one benign operation does to each of their parts (`stepO_ns`, `stepO_reg`,
`stepO_execClean`), and that they hold at the start and on a new executor. Beside these: the model's insertion-ordered
dicts are `Common/Dict`'s, `run` is `runO` of the recorded history, the oracle's matching of generated names is reflexive.
-/
import FaxVerif.C07.Spec
import FaxVerif.Common.Dict
namespace FaxVerif.C07

section AList
variable {κ ν : Type} [DecidableEq κ]

/-- `alookup`, `ainsert`, `ainsertAll` are `Dict.get`, `Dict.set`, `Dict.update` -/
theorem alookup_eq (l : List (κ × ν)) (k : κ) : alookup l k = Dict.get l k := by
  induction l with
  | nil => rfl
  | cons a l ih => obtain ⟨k', v⟩ := a; rw [alookup, Dict.get_cons, ih]

theorem ainsert_eq (l : List (κ × ν)) (k : κ) (v : ν) : ainsert l k v = Dict.set l k v := by
  induction l with
  | nil => rfl
  | cons a l ih => obtain ⟨k', v'⟩ := a; rw [ainsert, Dict.set, ih]

theorem ainsertAll_eq (r l : List (κ × ν)) : ainsertAll r l = Dict.update r l := by
  induction l generalizing r with
  | nil => rfl
  | cons a l ih => obtain ⟨k, v⟩ := a; rw [ainsertAll, Dict.update, ih, ainsert_eq]

theorem alookup_ainsert (r : List (κ × ν)) (k k' : κ) (v : ν) :
    alookup (ainsert r k v) k' = if k = k' then some v else alookup r k' := by
  rw [alookup_eq, ainsert_eq, Dict.get_set, alookup_eq]

theorem alookup_ainsertAll_of_not_mem (l : List (κ × ν)) (r : List (κ × ν)) (k : κ)
    (h : k ∉ akeys l) : alookup (ainsertAll r l) k = alookup r k := by
  rw [alookup_eq, ainsertAll_eq, Dict.get_update_of_not_mem _ _ _ h, alookup_eq]

theorem alookup_ainsertAll_congr (l r r' : List (κ × ν)) (k : κ)
    (h : k ∉ akeys l → alookup r k = alookup r' k) :
    alookup (ainsertAll r l) k = alookup (ainsertAll r' l) k := by
  simp only [alookup_eq, ainsertAll_eq] at h ⊢
  exact Dict.get_update_congr _ _ _ _ h

theorem alookup_nil (k : κ) : alookup ([] : List (κ × ν)) k = none := rfl

theorem alookup_filter (l : List (κ × ν)) (g : κ → Bool) (k : κ) :
    alookup (l.filter (fun e => g e.1)) k = if g k then alookup l k else none := by
  induction l with
  | nil => show none = _; split <;> rfl
  | cons hd t ih =>
    obtain ⟨k₀, v₀⟩ := hd
    rw [List.filter_cons]
    by_cases hk : k₀ = k
    · subst hk
      by_cases hg : g k₀ = true
      · rw [if_pos hg, if_pos hg]; simp only [alookup, if_true]
      · rw [if_neg hg, if_neg hg, ih, if_neg hg]
    · by_cases hg : g k₀ = true
      · rw [if_pos hg]; simp only [alookup, if_neg hk, ih]
      · rw [if_neg hg, ih]; simp only [alookup, if_neg hk]

end AList

theorem head_of_mem_nonEmptyInits (ns p : List String) (h : p ∈ nonEmptyInits ns) : p.head? = ns.head? := by
  cases ns with
  | nil => cases h
  | cons a t =>
    simp only [nonEmptyInits, List.mem_cons, List.mem_map] at h
    rcases h with h | ⟨q, _, h⟩
    · subst h; rfl
    · subst h; rfl

theorem filter_addSpaces (f : List String → Bool) (ps sp : List (List String)) :
    (addSpaces sp ps).filter f = addSpaces (sp.filter f) (ps.filter f) := by
  induction ps generalizing sp with
  | nil => rfl
  | cons p t ih =>
    rw [addSpaces, ih, List.filter_cons]
    by_cases hp : f p = true
    · rw [if_pos hp, addSpaces]
      congr 1
      by_cases hm : p ∈ sp
      · rw [if_pos hm, if_pos (List.mem_filter.2 ⟨hm, hp⟩)]
      · rw [if_neg hm, if_neg (fun hc => hm (List.mem_filter.1 hc).1), List.filter_append,
          List.filter_cons_of_pos hp, List.filter_nil]
    · rw [if_neg hp]
      congr 1
      by_cases hm : p ∈ sp
      · rw [if_pos hm]
      · rw [if_neg hm, List.filter_append, List.filter_cons_of_neg hp, List.filter_nil, List.append_nil]

theorem restrict_empty (t : String) : NsReg.empty.restrict t = NsReg.empty := rfl

theorem restrict_define (n : NsReg) (ns : List String) (name : String) (vals : List String) (t : String) :
    (n.define ns name vals).restrict t =
      if ns.head? = some t then (n.restrict t).define ns name vals else n.restrict t := by
  have hl := alookup_filter n.enums (fun k => k.1.head? == some t) (ns, name)
  unfold NsReg.define NsReg.restrict
  simp only [filter_addSpaces]
  by_cases hh : ns.head? = some t
  · have hf : (nonEmptyInits ns).filter (fun p => p.head? == some t) = nonEmptyInits ns :=
      List.filter_eq_self.2 fun p hp => by rw [head_of_mem_nonEmptyInits ns p hp, hh]; exact beq_self_eq_true _
    simp only [hh, beq_self_eq_true, if_true] at hl
    rw [if_pos hh, hf, hl]
    cases alookup n.enums (ns, name) with
    | some v => rfl
    | none => simp [List.filter_append, hh]
  · have hf : (nonEmptyInits ns).filter (fun p => p.head? == some t) = [] :=
      List.filter_eq_nil_iff.2 fun p hp => by rw [head_of_mem_nonEmptyInits ns p hp]; simpa using hh
    rw [if_neg hh, hf]
    cases alookup n.enums (ns, name) with
    | some v => rfl
    | none => simp [List.filter_append, hh, addSpaces]

theorem mdKinds_cons (it : MdItem) (rest : List MdItem) : mdKinds (it :: rest) = mdKinds [it] ++ mdKinds rest := by
  cases it <;> rfl

theorem declKeys_cons (it : MdItem) (rest : List MdItem) : declKeys (it :: rest) = declKeys [it] ++ declKeys rest := by
  cases it <;> rfl

theorem enumTops_cons (it : MdItem) (rest : List MdItem) : enumTops (it :: rest) = enumTops [it] ++ enumTops rest := by
  cases it <;> rfl

/-- the two accumulators hold the same specifications and look the same through the footprint `(K, N)` -/
structure AccRel (K : List Key) (N : List String) (a₁ a₂ : MdAcc) : Prop where
  specs : a₁.specs = a₂.specs
  reg : ∀ k ∈ K, alookup a₁.reg k = alookup a₂.reg k
  ns : ∀ t ∈ N, a₁.ns.restrict t = a₂.ns.restrict t

theorem AccRel.append {K : List Key} {N : List String} {a₁ a₂ : MdAcc} (h : AccRel K N a₁ a₂) (sp : Spec) :
    AccRel K N { a₁ with specs := a₁.specs ++ [sp] } { a₂ with specs := a₂.specs ++ [sp] } :=
  ⟨congrArg (· ++ [sp]) h.specs, h.reg, h.ns⟩

theorem AccRel.mkView_eq {q : Query} {a₁ a₂ : MdAcc} (h : AccRel q.keys q.names a₁ a₂) (b : Backend)
    (job : List JobBlock) : mkView b q a₁ job = mkView b q a₂ job := by
  unfold mkView
  rw [h.specs]
  congr 1
  · exact List.map_congr_left fun k hk => by rw [h.reg k hk]
  · exact List.map_congr_left fun t ht => by rw [h.ns t ht]

theorem mdStep_rel (K : List Key) (N : List String) (x₁ x₂ : Xmd) (a₁ a₂ : MdAcc) (it : MdItem)
    (hx : ∀ kind ∈ mdKinds [it], alookup x₁ kind = alookup x₂ kind) (h : AccRel K N a₁ a₂) :
    (mdStep x₁ a₁ it = none ∧ mdStep x₂ a₂ it = none) ∨
    ∃ b₁ b₂, mdStep x₁ a₁ it = some b₁ ∧ mdStep x₂ a₂ it = some b₂ ∧ AccRel K N b₁ b₂ := by
  cases it with
  | methodType ty m info =>
    refine Or.inr ⟨_, _, rfl, rfl, ⟨h.specs, fun k hk => ?_, h.ns⟩⟩
    simp only [alookup_ainsert, h.reg k hk]
  | defineEnum ns name vals =>
    refine Or.inr ⟨_, _, rfl, rfl, ⟨h.specs, h.reg, fun t ht => ?_⟩⟩
    simp only [restrict_define, h.ns t ht]
  | inject name body =>
    have hf : findInject a₂.specs name = findInject a₁.specs name := by rw [h.specs]
    simp only [mdStep, hf]
    cases findInject a₁.specs name with
    | none => exact Or.inr ⟨_, _, rfl, rfl, h.append _⟩
    | some b' =>
      dsimp only
      by_cases hb : b' = body
      · rw [if_pos hb, if_pos hb]; exact Or.inr ⟨_, _, rfl, rfl, h⟩
      · rw [if_neg hb, if_neg hb]; exact Or.inl ⟨rfl, rfl⟩
  | jobScript name script deps => exact Or.inr ⟨_, _, rfl, rfl, h.append _⟩
  | cppFunction name body => exact Or.inr ⟨_, _, rfl, rfl, h.append _⟩
  | collection bk name body => exact Or.inr ⟨_, _, rfl, rfl, h.append _⟩
  | extended kind fields =>
    simp only [mdStep, ← hx kind (List.mem_singleton.2 rfl)]
    cases alookup x₁ kind with
    | none => exact Or.inl ⟨rfl, rfl⟩
    | some proto => exact Or.inr ⟨_, _, rfl, rfl, h.append _⟩
  | bad => exact Or.inl ⟨rfl, rfl⟩

theorem mdRun_rel (K : List Key) (N : List String) (x₁ x₂ : Xmd) (md : List MdItem) :
    ∀ (a₁ a₂ : MdAcc) (i : Nat), (∀ kind ∈ mdKinds md, alookup x₁ kind = alookup x₂ kind) → AccRel K N a₁ a₂ →
      (mdRun x₁ a₁ md i).2 = (mdRun x₂ a₂ md i).2 ∧ AccRel K N (mdRun x₁ a₁ md i).1 (mdRun x₂ a₂ md i).1 := by
  induction md with
  | nil => intro a₁ a₂ i _ h; exact ⟨rfl, h⟩
  | cons it rest ih =>
    intro a₁ a₂ i hx h
    simp only [mdKinds_cons it rest, List.mem_append] at hx
    unfold mdRun
    rcases mdStep_rel K N x₁ x₂ a₁ a₂ it (fun k hk => hx k (Or.inl hk)) h with ⟨e1, e2⟩ | ⟨b₁, b₂, e1, e2, hr⟩
    · rw [e1, e2]; exact ⟨rfl, h⟩
    · rw [e1, e2]
      exact ih b₁ b₂ (i + 1) (fun k hk => hx k (Or.inr hk)) hr

theorem mdStep_frame (x : Xmd) (a b : MdAcc) (it : MdItem) (h : mdStep x a it = some b) :
    (∀ k, k ∉ declKeys [it] → alookup b.reg k = alookup a.reg k) ∧
    (∀ t, some t ∉ enumTops [it] → b.ns.restrict t = a.ns.restrict t) := by
  -- all items but `methodType` and `defineEnum` touch `specs` only
  have same : ∀ sp, some { a with specs := sp } = some b →
      (∀ k, k ∉ declKeys [it] → alookup b.reg k = alookup a.reg k) ∧
      (∀ t, some t ∉ enumTops [it] → b.ns.restrict t = a.ns.restrict t) := by
    rintro sp ⟨⟩; exact ⟨fun _ _ => rfl, fun _ _ => rfl⟩
  cases it with
  | methodType ty m info =>
    cases h
    refine ⟨fun k hk => ?_, fun _ _ => rfl⟩
    rw [alookup_ainsert, if_neg fun e => hk (List.mem_singleton.2 e.symm)]
  | defineEnum ns name vals =>
    cases h
    refine ⟨fun _ _ => rfl, fun t ht => ?_⟩
    rw [restrict_define, if_neg fun e => ht (List.mem_singleton.2 e.symm)]
  | inject name body =>
    simp only [mdStep] at h
    split at h
    · exact same _ h
    · split at h
      · exact same _ h
      · cases h
  | extended kind fields =>
    simp only [mdStep] at h
    split at h
    · cases h
    · exact same _ h
  | bad => cases h
  | _ => exact same _ h

theorem mdRun_frame (x : Xmd) (md : List MdItem) :
    ∀ (a : MdAcc) (i : Nat),
      (∀ k, k ∉ declKeys md → alookup (mdRun x a md i).1.reg k = alookup a.reg k) ∧
      (∀ t, some t ∉ enumTops md → (mdRun x a md i).1.ns.restrict t = a.ns.restrict t) := by
  induction md with
  | nil => intro a i; exact ⟨fun _ _ => rfl, fun _ _ => rfl⟩
  | cons it rest ih =>
    intro a i
    simp only [declKeys_cons it rest, enumTops_cons it rest, List.mem_append, not_or]
    unfold mdRun
    cases hs : mdStep x a it with
    | none => exact ⟨fun _ _ => rfl, fun _ _ => rfl⟩
    | some b =>
      obtain ⟨hr, hn⟩ := mdStep_frame x a b it hs
      obtain ⟨ihr, ihn⟩ := ih b (i + 1)
      exact ⟨fun k hk => (ihr k hk.2).trans (hr k hk.1), fun t ht => (ihn t ht.2).trans (hn t ht.1)⟩

theorem getElem?_set_self' {α} {l : List α} {e : Nat} {x y : α} (h : l[e]? = some x) : (l.set e y)[e]? = some y :=
  List.getElem?_set_self (List.getElem?_eq_some_iff.1 h).1

theorem getElem?_set_of {α} {P : α → Prop} {l : List α} {e e₀ : Nat} {x₁ x : α} (y : α)
    (he : l[e]? = some x₁) (h : l[e₀]? = some x) (hx : P x) (hy : e = e₀ → x₁ = x → P y) :
    ∃ x', (l.set e y)[e₀]? = some x' ∧ P x' := by
  by_cases hee : e = e₀
  · subst hee; exact ⟨y, getElem?_set_self' h, hy rfl (Option.some.inj (he.symm.trans h))⟩
  · exact ⟨x, (List.getElem?_set_ne hee).trans h, hx⟩

theorem execAfter_backend (ex : Exec) (st : Stage) (sp : List Spec) : (execAfter ex st sp).backend = ex.backend := by
  cases st <;> rfl

theorem execAfter_found (ex : Exec) (st : Stage) (sp : List Spec) :
    (execAfter ex st sp).found = if st = .transform then ex.found else ex.found ++ xitemsOf sp := by
  cases st <;> rfl

theorem execAfter_xmd (ex : Exec) (st : Stage) (sp : List Spec) (h : st ≠ .done) :
    (execAfter ex st sp).xmd = ex.xmd := by
  cases st <;> first | rfl | exact absurd rfl h

theorem execAfter_job (ex : Exec) (st : Stage) (sp : List Spec) :
    (execAfter ex st sp).job = match st with
      | .transform => ex.job | .finder => ex.job | .write => ex.job ++ jobsOf sp | .done => [] := by
  cases st <;> rfl

theorem addXmd_none {s : HState} {e : Nat} (x : Xmd) (h : s.execs[e]? = none) : addXmd s e x = s := by
  simp only [addXmd, h]

theorem addXmd_some {s : HState} {e : Nat} {ex : Exec} (x : Xmd) (h : s.execs[e]? = some ex) :
    addXmd s e x = { s with execs := s.execs.set e { ex with xmd := ainsertAll ex.xmd x } } := by
  simp only [addXmd, h]

theorem addXmd_reg_ns (s : HState) (e : Nat) (x : Xmd) :
    (addXmd s e x).reg = s.reg ∧ (addXmd s e x).ns = s.ns ∧ (addXmd s e x).execs.length = s.execs.length := by
  unfold addXmd
  cases s.execs[e]? with
  | none => exact ⟨rfl, rfl, rfl⟩
  | some ex => exact ⟨rfl, rfl, List.length_set⟩

/-- the run of `process_metadata` a translation on executor `ex` performs in state `s` -/
def mdOf (s : HState) (ex : Exec) (md : List MdItem) : MdAcc × Option Nat :=
  mdRun (effXmd s ex) ⟨s.reg, s.ns, []⟩ md 0

section Translate
variable (D : Defaults) (o : View → TRes) {s : HState} {e : Nat} (q : Query) (md : List MdItem) (r : TRes)
  {ex : Exec} {i : Nat}

theorem translateWith_noExec (h : s.execs[e]? = none) : translateWith D o s e q md = (s, .noExec) := by
  unfold translateWith; simp only [h]

theorem translateWith_mdFail (h : s.execs[e]? = some ex) (hm : (mdOf s ex md).2 = some i) :
    translateWith D o s e q md =
      ({ s with reg := (mdOf s ex md).1.reg, ns := (mdOf s ex md).1.ns }, .mdError i) := by
  unfold translateWith; unfold mdOf at hm; simp only [h, hm]; rfl

theorem translateWith_run (h : s.execs[e]? = some ex) (hm : (mdOf s ex md).2 = none) :
    translateWith D o s e q md =
      let r := o (mkView ex.backend q (mdOf s ex md).1 (ex.job ++ jobsOf (mdOf s ex md).1.specs))
      let wrong := wrongBackend ex.backend (mdOf s ex md).1.specs
      let st := stageOf r.tag wrong
      ({ s with
          reg := if st = .done then defaultsReg D ex.backend else (mdOf s ex md).1.reg,
          ns := (mdOf s ex md).1.ns,
          execs := s.execs.set e (execAfter ex st (mdOf s ex md).1.specs),
          counter := s.counter + r.ticks },
       outcomeOf r wrong) := by
  unfold translateWith; unfold mdOf at hm; simp only [h, hm]; rfl

theorem stepO_translate_noExec (h : s.execs[e]? = none) : stepO D s (.translate e q md r) = s := by
  simp only [stepO, translateWith_noExec D _ q md h]

theorem reachedStage_none (hm : (mdOf s ex md).2 = some i) : reachedStage s ex md r = none := by
  unfold reachedStage; unfold mdOf at hm; simp only [hm]

theorem reachedStage_some (hm : (mdOf s ex md).2 = none) :
    reachedStage s ex md r = some (stageOf r.tag (wrongBackend ex.backend (mdOf s ex md).1.specs)) := by
  unfold reachedStage; unfold mdOf at hm; simp only [hm]; rfl

theorem stepO_translate_fields (h : s.execs[e]? = some ex) :
    (stepO D s (.translate e q md r)).ns = (mdOf s ex md).1.ns ∧
    (stepO D s (.translate e q md r)).reg =
      (if reachedStage s ex md r = some .done then defaultsReg D ex.backend else (mdOf s ex md).1.reg) ∧
    (stepO D s (.translate e q md r)).execs =
      (match reachedStage s ex md r with
       | none => s.execs
       | some st => s.execs.set e (execAfter ex st (mdOf s ex md).1.specs)) := by
  cases hm : (mdOf s ex md).2 with
  | some i =>
    rw [stepO, translateWith_mdFail D _ q md h hm, reachedStage_none md r hm]
    exact ⟨rfl, rfl, rfl⟩
  | none =>
    rw [stepO, translateWith_run D _ q md h hm, reachedStage_some md r hm]
    refine ⟨rfl, ?_, rfl⟩
    simp only [Option.some.injEq]

theorem stepO_translate_ns (h : s.execs[e]? = some ex) {t : String} (ht : some t ∉ enumTops md) :
    (stepO D s (.translate e q md r)).ns.restrict t = s.ns.restrict t := by
  rw [(stepO_translate_fields D q md r h).1]
  exact (mdRun_frame _ md _ 0).2 t ht

end Translate

theorem stage_of_ok (r : TRes) (w : Bool) (f : String) (h : outcomeOf r w = .ok f) : stageOf r.tag w = .done := by
  obtain ⟨tag, payload, ticks⟩ := r
  cases tag <;> cases w <;> first | rfl | cases h

theorem translateWith_answerOf (D : Defaults) (T : Translator) (s : HState) (e : Nat) (q : Query) (md : List MdItem) :
    translateWith D (fun _ => answerOf T s e q md) s e q md = translateWith D (T q md) s e q md := by
  cases he : s.execs[e]? with
  | none => rw [translateWith_noExec D _ q md he, translateWith_noExec D _ q md he]
  | some ex =>
    cases hm : (mdOf s ex md).2 with
    | some i => rw [translateWith_mdFail D _ q md he hm, translateWith_mdFail D _ q md he hm]
    | none =>
      have ha : answerOf T s e q md =
          T q md (mkView ex.backend q (mdOf s ex md).1 (ex.job ++ jobsOf (mdOf s ex md).1.specs)) := by
        simp only [answerOf, he]; rfl
      rw [translateWith_run D _ q md he hm, translateWith_run D _ q md he hm]
      simp only [ha]

theorem run_eq_runO_record (D : Defaults) (T : Translator) :
    ∀ (h : List Op) (s : HState), run D T h s = runO D (record D T h s) s := by
  intro h
  induction h with
  | nil => intro s; rfl
  | cons o h ih =>
    intro s
    -- the two sides take the same step; for `translate` because the recorded answer is the one `T` gives
    cases o <;> simp only [run, record, runO, step, stepO, translateWith_answerOf] <;> exact ih _

theorem stepO_length (D : Defaults) (s : HState) (o : OpO) :
    (stepO D s o).execs.length = s.execs.length ∨
    ∃ b, o = .new b ∧ (stepO D s o).execs.length = s.execs.length + 1 := by
  cases o with
  | new b => exact Or.inr ⟨b, rfl, List.length_append⟩
  | addXmd e x => exact Or.inl (addXmd_reg_ns s e x).2.2
  | translate e q md r =>
    left
    cases he : s.execs[e]? with
    | none => rw [stepO_translate_noExec D q md r he]
    | some ex =>
      rw [(stepO_translate_fields D q md r he).2.2]
      cases reachedStage s ex md r
      · rfl
      · exact List.length_set

/-- everything `translateWith` reads, seen through the footprint of `(q, md)` and the kinds `X` the
caller asks for afterwards -/
structure SeesSame (q : Query) (md : List MdItem) (X : List String)
    (s₁ : HState) (ex₁ : Exec) (s₂ : HState) (ex₂ : Exec) : Prop where
  backend : ex₁.backend = ex₂.backend
  job : ex₁.job = ex₂.job
  reg : ∀ k ∈ q.keys, alookup s₁.reg k = alookup s₂.reg k
  ns : ∀ t ∈ q.names, s₁.ns.restrict t = s₂.ns.restrict t
  xmd : ∀ kind ∈ mdKinds md, alookup (effXmd s₁ ex₁) kind = alookup (effXmd s₂ ex₂) kind
  found : ex₁.found.filter (fun f => decide (f.1 ∈ X)) = ex₂.found.filter (fun f => decide (f.1 ∈ X))

theorem translate_congr (D : Defaults) (o : View → TRes) (q : Query) (md : List MdItem) (X : List String)
    (s₁ s₂ : HState) (e₁ e₂ : Nat) (ex₁ ex₂ : Exec)
    (h₁ : s₁.execs[e₁]? = some ex₁) (h₂ : s₂.execs[e₂]? = some ex₂) (h : SeesSame q md X s₁ ex₁ s₂ ex₂) :
    (translateWith D o s₁ e₁ q md).2 = (translateWith D o s₂ e₂ q md).2 ∧
    ∃ ex₁' ex₂', (translateWith D o s₁ e₁ q md).1.execs[e₁]? = some ex₁' ∧
      (translateWith D o s₂ e₂ q md).1.execs[e₂]? = some ex₂' ∧
      ex₁'.found.filter (fun f => decide (f.1 ∈ X)) = ex₂'.found.filter (fun f => decide (f.1 ∈ X)) := by
  obtain ⟨hfail, hacc⟩ : (mdOf s₁ ex₁ md).2 = (mdOf s₂ ex₂ md).2 ∧
      AccRel q.keys q.names (mdOf s₁ ex₁ md).1 (mdOf s₂ ex₂ md).1 :=
    mdRun_rel q.keys q.names _ _ md _ _ 0 h.xmd ⟨rfl, h.reg, h.ns⟩
  have hfound : ∀ st sp, (execAfter ex₁ st sp).found.filter (fun f => decide (f.1 ∈ X)) =
      (execAfter ex₂ st sp).found.filter (fun f => decide (f.1 ∈ X)) := by
    intro st sp
    rw [execAfter_found, execAfter_found]
    split
    · exact h.found
    · rw [List.filter_append, List.filter_append, h.found]
  cases hm : (mdOf s₁ ex₁ md).2 with
  | some i =>
    rw [translateWith_mdFail D o q md h₁ hm,
      translateWith_mdFail D o q md h₂ (hfail ▸ hm)]
    exact ⟨rfl, ex₁, ex₂, h₁, h₂, h.found⟩
  | none =>
    -- the translator is asked the same question
    rw [translateWith_run D o q md h₁ hm, translateWith_run D o q md h₂ (hfail ▸ hm),
      hacc.mkView_eq, h.backend, h.job, hacc.specs]
    exact ⟨rfl, _, _, getElem?_set_self' h₁, getElem?_set_self' h₂, hfound _ _⟩

/-- the executor part of `cleanOn` -/
structure ExecClean (p : Probe) (ex : Exec) : Prop where
  backend : ex.backend = p.b
  xmd : ∀ k ∈ mdKinds p.md, k ∈ akeys p.xadd ∨ alookup ex.xmd k = none
  job : ex.job = []
  found : ∀ f ∈ ex.found, f.1 ∉ akeys p.xadd

theorem execClean_new (p : Probe) : ExecClean p ⟨p.b, [], [], [], []⟩ :=
  ⟨rfl, fun _ _ => Or.inr rfl, rfl, fun _ h => nomatch h⟩

theorem ExecClean.addXmd {p : Probe} {ex : Exec} (h : ExecClean p ex) (x : Xmd)
    (hx : ∀ k ∈ mdKinds p.md, k ∉ akeys x) : ExecClean p { ex with xmd := ainsertAll ex.xmd x } :=
  ⟨h.backend, fun k hk => (h.xmd k hk).imp_right ((alookup_ainsertAll_of_not_mem x _ k (hx k hk)).trans ·),
    h.job, h.found⟩

/-- what a translation leaves on the executor: nothing, unless it found extended metadata of a kind
the caller asks for, or stopped in `write_cpp_files` with job-script blocks appended -/
theorem ExecClean.execAfter {p : Probe} {ex : Exec} (h : ExecClean p ex) (st : Stage) (sp : List Spec)
    (hf : st = .transform ∨ ∀ f ∈ xitemsOf sp, f.1 ∉ akeys p.xadd) (hj : st ≠ .write ∨ jobsOf sp = []) :
    ExecClean p (execAfter ex st sp) := by
  have hfound : st ≠ .transform → ∀ f ∈ ex.found ++ xitemsOf sp, f.1 ∉ akeys p.xadd :=
    fun hne f hm => (List.mem_append.1 hm).elim (h.found f) (hf.resolve_left hne f)
  cases st with
  | transform => exact h
  | finder => exact ⟨h.backend, h.xmd, h.job, hfound nofun⟩
  | write =>
    refine ⟨h.backend, h.xmd, ?_, hfound nofun⟩
    show ex.job ++ jobsOf sp = []
    rw [h.job, hj.resolve_left (fun hne => hne rfl)]; rfl
  | done => exact ⟨h.backend, fun _ _ => Or.inr rfl, rfl, hfound nofun⟩

section Invariant
variable (D : Defaults) (p : Probe) (s : HState)

theorem regCleanNew_iff :
    regCleanNew D p s = true ↔ ∀ k ∈ p.q.keys, k ∈ dkeys D p.b ∨ alookup s.reg k = none := by
  simp only [regCleanNew, List.all_eq_true, Bool.or_eq_true, decide_eq_true_eq, Option.isNone_iff_eq_none]

theorem regCleanOn_iff :
    regCleanOn D p s = true ↔ ∀ k ∈ p.q.keys, alookup s.reg k = alookup (defaultsReg D p.b) k := by
  simp only [regCleanOn, List.all_eq_true, decide_eq_true_eq]

theorem nsClean_iff :
    nsClean p s = true ↔ ∀ t ∈ p.q.names, s.ns.restrict t = NsReg.empty := by
  simp only [nsClean, List.all_eq_true, decide_eq_true_eq]

theorem xmdClean_iff (x : Xmd) :
    xmdClean p x = true ↔ ∀ k ∈ mdKinds p.md, k ∈ akeys p.xadd ∨ alookup x k = none := by
  simp only [xmdClean, List.all_eq_true, Bool.or_eq_true, decide_eq_true_eq, Option.isNone_iff_eq_none]

theorem alookup_defaultsReg_of_not_mem (b : Backend) (k : Key) (h : k ∉ dkeys D b) :
    alookup (defaultsReg D b) k = none :=
  alookup_ainsertAll_of_not_mem (D b) [] k h

theorem alookup_newExec_reg {b : Backend} {k : Key}
    (h : k ∉ dkeys D b → alookup s.reg k = alookup (defaultsReg D b) k) :
    alookup (newExec D s b).reg k = alookup (defaultsReg D b) k :=
  alookup_ainsertAll_congr _ _ _ k fun hd => (h hd).trans (alookup_defaultsReg_of_not_mem D b k hd)

/-- Both invariants say that the registry agrees with the defaults of the probe's backend at the
keys the probe looks up: `cleanOn` at all of them, `cleanNew` at those the constructor of the new
executor does not overwrite anyway. -/
theorem cleanNew_iff :
    cleanNew D p s = true ↔
      (∀ k ∈ p.q.keys, k ∉ dkeys D p.b → alookup s.reg k = alookup (defaultsReg D p.b) k) ∧
      ∀ t ∈ p.q.names, s.ns.restrict t = NsReg.empty := by
  rw [cleanNew, Bool.and_eq_true, regCleanNew_iff, nsClean_iff]
  refine and_congr_left fun _ => ⟨fun h k hk hd => ?_, fun h k hk => ?_⟩
  · rw [(h k hk).resolve_left hd, alookup_defaultsReg_of_not_mem D _ k hd]
  · by_cases hd : k ∈ dkeys D p.b
    · exact Or.inl hd
    · exact Or.inr ((h k hk hd).trans (alookup_defaultsReg_of_not_mem D _ k hd))

theorem cleanOn_iff (e : Nat) :
    cleanOn D p s e = true ↔ ∃ ex, s.execs[e]? = some ex ∧
      (∀ k ∈ p.q.keys, alookup s.reg k = alookup (defaultsReg D p.b) k) ∧
      (∀ t ∈ p.q.names, s.ns.restrict t = NsReg.empty) ∧ ExecClean p ex := by
  unfold cleanOn
  cases s.execs[e]? with
  | none => exact ⟨nofun, nofun⟩
  | some ex =>
    simp only [Bool.and_eq_true, decide_eq_true_eq, List.isEmpty_iff, List.all_eq_true]
    constructor
    · rintro ⟨⟨⟨⟨⟨hb, hr⟩, hn⟩, hx⟩, hj⟩, hf⟩
      exact ⟨ex, rfl, (regCleanOn_iff D p s).1 hr, (nsClean_iff p s).1 hn, hb, (xmdClean_iff p _).1 hx, hj, hf⟩
    · rintro ⟨_, ⟨⟩, hr, hn, hb, hx, hj, hf⟩
      exact ⟨⟨⟨⟨⟨hb, (regCleanOn_iff D p s).2 hr⟩, (nsClean_iff p s).2 hn⟩, (xmdClean_iff p _).2 hx⟩, hj⟩, hf⟩

theorem benignNew_new_iff (b' : Backend) :
    benignNew D p s (.new b') = true ↔ b' = p.b ∨ ∀ k ∈ p.q.keys, k ∉ dkeys D b' := by
  simp only [benignNew, Bool.or_eq_true, decide_eq_true_eq, List.all_eq_true]

theorem benignOn_new_iff (e₀ : Nat) (b' : Backend) :
    benignOn D p e₀ s (.new b') = true ↔ s.execs.length ≠ e₀ ∨ b' = p.b := by
  simp only [benignOn, Bool.or_eq_true, decide_eq_true_eq]

theorem benignOn_addXmd_iff (e₀ e : Nat) (x : Xmd) :
    benignOn D p e₀ s (.addXmd e x) = true ↔ e ≠ e₀ ∨ ∀ k ∈ mdKinds p.md, k ∉ akeys x := by
  simp only [benignOn, Bool.or_eq_true, decide_eq_true_eq, List.all_eq_true]

variable {s} {e : Nat} (q : Query) (md : List MdItem) (r : TRes) {ex : Exec}

theorem benignNew_translate_iff (he : s.execs[e]? = some ex) :
    benignNew D p s (.translate e q md r) = true ↔
      (∀ t ∈ enumTops md, t ∉ p.q.names.map some) ∧
      if reachedStage s ex md r = some .done then ex.backend = p.b ∨ ∀ k ∈ p.q.keys, k ∉ dkeys D ex.backend
      else ∀ k ∈ p.q.keys, k ∉ declKeys md := by
  simp only [benignNew, he, Bool.and_eq_true, List.all_eq_true, decide_eq_true_eq]
  split <;> simp only [Bool.or_eq_true, List.all_eq_true, decide_eq_true_eq]

theorem benignOn_translate_iff (e₀ : Nat) {st : Stage} (he : s.execs[e]? = some ex)
    (hst : reachedStage s ex md r = some st) :
    benignOn D p e₀ s (.translate e q md r) = true ↔
      (st ≠ .done ∨ ex.backend = p.b ∨ ∀ k ∈ p.q.keys, k ∉ dkeys D p.b) ∧
      (e ≠ e₀ ∨ (st = .transform ∨ ∀ f ∈ xitemsOf (specsOfRun s ex md), f.1 ∉ akeys p.xadd) ∧
        (st ≠ .write ∨ jobsOf (specsOfRun s ex md) = [])) := by
  simp only [benignOn, he, hst, Bool.and_eq_true, Bool.or_eq_true, decide_eq_true_eq, List.all_eq_true,
    List.isEmpty_iff, or_assoc]

variable {D p} {o : OpO}

theorem stepO_ns (hb : benignNew D p s o = true)
    {t : String} (ht : t ∈ p.q.names) : (stepO D s o).ns.restrict t = s.ns.restrict t := by
  cases o with
  | new b' => rfl
  | addXmd e x => show (addXmd s e x).ns.restrict t = _; rw [(addXmd_reg_ns s e x).2.1]
  | translate e q md r =>
    cases he : s.execs[e]? with
    | none => rw [stepO_translate_noExec D q md r he]
    | some ex =>
      exact stepO_translate_ns D q md r he fun hc =>
        ((benignNew_translate_iff D p q md r he).1 hb).1 _ hc (List.mem_map.2 ⟨t, ht, rfl⟩)

/-- For a key among the defaults of the probe's backend this needs the clause of `benignOn` that
excludes a reset by an executor of another backend (`hd`). -/
theorem stepO_reg (hb : benignNew D p s o = true)
    {k : Key} (hk : k ∈ p.q.keys) (hd : k ∉ dkeys D p.b ∨ ∃ e₀, benignOn D p e₀ s o = true)
    (h : alookup s.reg k = alookup (defaultsReg D p.b) k) :
    alookup (stepO D s o).reg k = alookup (defaultsReg D p.b) k := by
  cases o with
  | new b' =>
    show alookup (ainsertAll s.reg (D b')) k = _
    rcases (benignNew_new_iff D p s b').1 hb with hb' | hb'
    · subst hb'
      exact alookup_newExec_reg D s fun _ => h
    · rw [alookup_ainsertAll_of_not_mem (D b') _ k (hb' k hk)]; exact h
  | addXmd e x => show alookup (addXmd s e x).reg k = _; rw [(addXmd_reg_ns s e x).1]; exact h
  | translate e q md r =>
    cases he : s.execs[e]? with
    | none => rw [stepO_translate_noExec D q md r he]; exact h
    | some ex =>
      have hb' := ((benignNew_translate_iff D p q md r he).1 hb).2
      rw [(stepO_translate_fields D q md r he).2.1]
      by_cases hdone : reachedStage s ex md r = some .done
      · rw [if_pos hdone] at hb' ⊢
        -- `reset()` has installed the defaults of the executor's backend
        have hother : (∀ k ∈ p.q.keys, k ∉ dkeys D ex.backend) → k ∉ dkeys D p.b →
            alookup (defaultsReg D ex.backend) k = alookup (defaultsReg D p.b) k := fun h1 h2 => by
          rw [alookup_defaultsReg_of_not_mem D _ k (h1 k hk), alookup_defaultsReg_of_not_mem D _ k h2]
        rcases hb' with hbk | hbk
        · rw [hbk]
        · rcases hd with hd | ⟨e₀, hb2⟩
          · exact hother hbk hd
          · rcases ((benignOn_translate_iff D p q md r e₀ he hdone).1 hb2).1 with h' | h' | h'
            · exact absurd rfl h'
            · rw [h']
            · exact hother hbk (h' k hk)
      · rw [if_neg hdone] at hb' ⊢
        exact ((mdRun_frame _ md _ 0).1 k (hb' k hk)).trans h

theorem stepO_execClean {e₀ : Nat} {ex₀ : Exec}
    (he₀ : s.execs[e₀]? = some ex₀) (hx : ExecClean p ex₀) (hb : benignOn D p e₀ s o = true) :
    ∃ ex', (stepO D s o).execs[e₀]? = some ex' ∧ ExecClean p ex' := by
  cases o with
  | new b' =>
    exact ⟨ex₀, (List.getElem?_append_left (List.getElem?_eq_some_iff.1 he₀).1).trans he₀, hx⟩
  | addXmd e x =>
    show ∃ ex', (addXmd s e x).execs[e₀]? = some ex' ∧ _
    cases he : s.execs[e]? with
    | none => rw [addXmd_none x he]; exact ⟨ex₀, he₀, hx⟩
    | some ex =>
      rw [addXmd_some x he]
      refine getElem?_set_of _ he he₀ hx ?_
      rintro rfl rfl
      exact hx.addXmd x (((benignOn_addXmd_iff D p s e e x).1 hb).resolve_left (fun hne => hne rfl))
  | translate e q md r =>
    cases he : s.execs[e]? with
    | none => rw [stepO_translate_noExec D q md r he]; exact ⟨ex₀, he₀, hx⟩
    | some ex =>
      rw [(stepO_translate_fields D q md r he).2.2]
      cases hst : reachedStage s ex md r with
      | none => exact ⟨ex₀, he₀, hx⟩
      | some st =>
        refine getElem?_set_of _ he he₀ hx ?_
        rintro rfl rfl
        obtain ⟨hf, hj⟩ := ((benignOn_translate_iff D p q md r e he hst).1 hb).2.resolve_left
          (fun hne => hne rfl)
        -- `specsOfRun s ex md` in `hf`, `hj` unfolds to `(mdOf s ex md).1.specs`
        exact hx.execAfter st _ hf hj

end Invariant

theorem cleanOn_of_new (D : Defaults) (p : Probe) (s : HState) (hc : cleanNew D p s = true) :
    cleanOn D p (newExec D s p.b) s.execs.length = true := by
  obtain ⟨hr, hn⟩ := (cleanNew_iff D p s).1 hc
  exact (cleanOn_iff D p _ _).2 ⟨_, List.getElem?_concat_length, fun k hk => alookup_newExec_reg D s (hr k hk),
    hn, execClean_new p⟩

theorem s₀_cleanNew (D : Defaults) (p : Probe) : cleanNew D p s₀ = true :=
  (cleanNew_iff D p s₀).2 ⟨fun k _ hd => (alookup_defaultsReg_of_not_mem D _ k hd).symm, fun _ _ => rfl⟩

def IdMap (m : List (String × String)) : Prop := ∀ e ∈ m, e.1 = e.2

theorem stepMap_refl (m : List (String × String)) (a : String) (h : IdMap m) :
    ∃ m', stepMap m a a = some m' ∧ IdMap m' := by
  unfold stepMap
  split
  · cases hf : m.find? (fun e => e.1 == a) with
    | some e =>
      have h1 := List.find?_some hf
      rw [h e (List.mem_of_find?_eq_some hf)] at h1
      exact ⟨m, if_pos h1, h⟩
    | none =>
      -- no pair has `a` on the left, hence none has it on the right
      have hg : m.find? (fun e => e.2 == a) = none :=
        List.find?_eq_none.2 fun e he => by rw [← h e he]; exact List.find?_eq_none.1 hf e he
      refine ⟨(a, a) :: m, ?_, List.forall_mem_cons.2 ⟨rfl, h⟩⟩
      dsimp only
      rw [hg]
      exact if_pos (beq_self_eq_true _)
  · exact ⟨m, if_pos (beq_self_eq_true a), h⟩

theorem agreeTokens_refl (ts : List String) : ∀ m, IdMap m → ∃ m', agreeTokens ts ts m = some m' ∧ IdMap m' := by
  induction ts with
  | nil => intro m h; exact ⟨m, rfl, h⟩
  | cons a t ih =>
    intro m h
    obtain ⟨m1, e1, h1⟩ := stepMap_refl m a h
    rw [agreeTokens, e1]
    exact ih m1 h1

theorem agreeLines_refl (ls : List String) : ∀ m, IdMap m → ∃ m', agreeLines ls ls m = some m' ∧ IdMap m' := by
  induction ls with
  | nil => intro m h; exact ⟨m, rfl, h⟩
  | cons a t ih =>
    intro m h
    rw [agreeLines]
    split
    · exact ih m h
    · obtain ⟨m1, e1, h1⟩ := agreeTokens_refl (tokens a) m h
      rw [e1]
      exact ih m1 h1

theorem agreeFiles_refl (fs : List FileObs) : ∀ m, IdMap m → ∃ m', agreeFiles fs fs m = some m' ∧ IdMap m' := by
  induction fs with
  | nil => intro m h; exact ⟨m, rfl, h⟩
  | cons f t ih =>
    intro m h
    obtain ⟨m1, e1, h1⟩ := agreeLines_refl f.2 m h
    rw [agreeFiles, if_pos (beq_self_eq_true f.1), e1]
    exact ih m1 h1

end FaxVerif.C07
