/-
Fuel — ONE notion for proofs about fuel-driven recursive functions: `Settles n p v`, "the fuelled computation `p`
returns `v` for every fuel from `n` on".  The lemmas below are the shapes an arm `p (f + 1) = …` of such a
function can have (returns at once / tail call / inner call(s), then return / inner call, then tail call).  Where an
arm has two calls, each comes with its own threshold and the lemma takes the larger.  Written with these shapes
(C13/TextParse, C18/ProofsContext, ProofsParse, ProofsExpr, Cpp/ParseExprProofs) a proof never holds a fuel `f` against a
threshold: what is left to it is `mono`'s `n ≤ m` between two thresholds (what the frames of an induction add up to
against a closed form such as `5 * e.depth`) and, at the very end, `h f (_ : n ≤ f)` for the fuel the function is run
with (in Cpp/ParseExprProofs also where `args_main` / `more_main`, stated for a plain `f`, meet these lemmas).  `succ` is
what the shapes are made of and has no other user.  One statement of that file is not an arm: `pPrimPost_of`, two calls
at the SAME fuel (`Settles (max n m)`, no `+ 1`), proved from the definition.
-/
namespace FaxVerif

/-- the fuelled computation `p` returns `v` for every fuel from `n` on -/
def Settles {α : Type} (n : Nat) (p : Nat → α) (v : α) : Prop := ∀ f, n ≤ f → p f = v

namespace Settles
variable {α β γ : Type} {n m : Nat} {p q r : Nat → α} {v : α} {q₁ : Nat → β} {v₁ : β} {q₂ : Nat → γ} {v₂ : γ}

/-- more fuel does not hurt -/
theorem mono (h : Settles n p v) (hnm : n ≤ m) : Settles m p v := fun f hf => h f (Nat.le_trans hnm hf)

/-- the primitive arm: `p` at fuel `f + 1`, for `f` from `n` on (every shape below is an instance) -/
theorem succ (hp : ∀ f, n ≤ f → p (f + 1) = v) : Settles (n + 1) p v := fun f hf => by
  obtain ⟨f, rfl⟩ : ∃ f', f = f' + 1 := ⟨f - 1, by omega⟩
  exact hp f (Nat.le_of_succ_le_succ hf)

/-- an arm that returns at once settles from any positive threshold: the one of the call it stands beside -/
theorem ret_succ (hp : ∀ f, p (f + 1) = v) : Settles (n + 1) p v := succ fun f _ => hp f

/-- an arm that returns at once -/
theorem ret (hp : ∀ f, p (f + 1) = v) : Settles 1 p v := ret_succ (n := 0) hp

/-- an arm that is a tail call -/
theorem step (hpq : ∀ f, p (f + 1) = q f) (h : Settles n q v) : Settles (n + 1) p v :=
  succ fun f hf => by rw [hpq f, h f hf]

/-- an arm that makes an inner call and returns -/
theorem call (h₁ : Settles n q₁ v₁) (hp : ∀ f, q₁ f = v₁ → p (f + 1) = v) : Settles (n + 1) p v :=
  succ fun f hf => hp f (h₁ f hf)

/-- an arm that makes two inner calls and returns: one above the larger of their thresholds -/
theorem call₂ (h₁ : Settles n q₁ v₁) (h₂ : Settles m q₂ v₂) (hp : ∀ f, q₁ f = v₁ → q₂ f = v₂ → p (f + 1) = v) :
    Settles (max n m + 1) p v :=
  succ fun f hf => hp f (h₁ f (Nat.max_le.mp hf).1) (h₂ f (Nat.max_le.mp hf).2)

/-- an arm that makes an inner call and goes on with a tail call: one above the larger of their thresholds -/
theorem bind_max (h₁ : Settles n q₁ v₁) (hpq : ∀ f, q₁ f = v₁ → p (f + 1) = r f) (h : Settles m r v) :
    Settles (max n m + 1) p v :=
  succ fun f hf => by rw [hpq f (h₁ f (Nat.max_le.mp hf).1), h f (Nat.max_le.mp hf).2]

/-- `bind_max` when the two thresholds are one, as they are when one of the two is a `ret_succ` -/
theorem bind (h₁ : Settles n q₁ v₁) (hpq : ∀ f, q₁ f = v₁ → p (f + 1) = r f) (h : Settles n r v) :
    Settles (n + 1) p v :=
  succ fun f hf => by rw [hpq f (h₁ f hf), h f hf]

end Settles
end FaxVerif
