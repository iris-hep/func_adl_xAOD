/-
C06 — the model characterised once. Word substitution in a text and the names `unique_name` draws. `HandleOk` / `ClassOk`:
a class writes the handle the property expects, said of its `__str__` pieces; under it one retrieval block is the
property's (`frag_any`), and the built-in tables satisfy it (`builtins_classOk`). `process_metadata` inverted stage by
stage (`validate_sound`, `validate_complete`) and lifted to `declare`; what the finder and the emission make of a list of
calls (`findAll_ok`, `emit_spec`), and what an accepted job is made of (`runJob_ok`).
-/
import FaxVerif.C06.Spec
import FaxVerif.Common.CounterNames
import FaxVerif.Common.Dict
import FaxVerif.Common.AddNew
namespace FaxVerif.C06

def startsNonWord : Text → Bool
  | [] => true
  | c :: _ => !isWordChar c

def endsNonWord (a : Text) : Bool := startsNonWord a.reverse

theorem endsNonWord_append (a b : Text) (hb : b ≠ []) : endsNonWord (a ++ b) = endsNonWord b := by
  cases hr : b.reverse with
  | nil => simp at hr; exact absurd hr hb
  | cons c t => simp [endsNonWord, hr, startsNonWord]

theorem tokGo_word {c : Char} (h : isWordChar c = true) (acc cs : Text) :
    tokGo acc (c :: cs) = tokGo (acc ++ [c]) cs := by
  simp [tokGo, h]

theorem tokGo_nonword {c : Char} (h : isWordChar c = false) (acc cs : Text) :
    tokGo acc (c :: cs) = flushTok acc ++ ([c] :: tokGo [] cs) := by
  simp [tokGo, h]

theorem tokGo_append_nonword {c : Char} (hc : isWordChar c = false) (a t : Text) :
    ∀ acc, tokGo acc (a ++ c :: t) = tokGo acc a ++ ([c] :: tokGo [] t) := by
  induction a with
  | nil => intro acc; simp [tokGo, hc]
  | cons d a ih =>
    intro acc
    by_cases hd : isWordChar d = true
    · simp only [List.cons_append, tokGo_word hd]; exact ih _
    · have hd' : isWordChar d = false := by simpa using hd
      simp only [List.cons_append, tokGo_nonword hd', ih, List.append_assoc, List.cons_append]

theorem tokens_append (a b : Text) (h : endsNonWord a = true ∨ startsNonWord b = true) :
    tokens (a ++ b) = tokens a ++ tokens b := by
  rcases h with h | h
  · rcases List.eq_nil_or_concat a with rfl | ⟨a', c, rfl⟩
    · simp [tokens, tokGo, flushTok]
    · have hc : isWordChar c = false := by simpa [endsNonWord, startsNonWord] using h
      simp only [List.concat_eq_append, List.append_assoc, List.singleton_append, tokens,
        tokGo_append_nonword hc]
      simp [tokGo, flushTok]
  · cases b with
    | nil => simp [tokens, tokGo, flushTok]
    | cons c t =>
      have hc : isWordChar c = false := by simpa [startsNonWord] using h
      simp only [tokens, tokGo_append_nonword hc, tokGo_nonword hc, flushTok, List.nil_append]

theorem tokGo_allWord (u : Text) (hu : u.all isWordChar = true) : ∀ acc, tokGo acc u = flushTok (acc ++ u) := by
  induction u with
  | nil => intro acc; simp [tokGo]
  | cons c u ih =>
    intro acc
    simp only [List.all_cons, Bool.and_eq_true] at hu
    rw [tokGo_word hu.1, ih hu.2]; simp

theorem tokens_word (u : Text) (hu : u.all isWordChar = true) (hne : u ≠ []) : tokens u = [u] := by
  simp only [tokens, tokGo_allWord u hu, List.nil_append]
  cases u with
  | nil => exact absurd rfl hne
  | cons c u => rfl

theorem flushTok_flatten (acc : Text) : (flushTok acc).flatten = acc := by
  cases acc <;> simp [flushTok]

theorem tokGo_flatten (s : Text) : ∀ acc, (tokGo acc s).flatten = acc ++ s := by
  induction s with
  | nil => intro acc; simp [tokGo, flushTok_flatten]
  | cons c s ih =>
    intro acc
    by_cases hc : isWordChar c = true
    · rw [tokGo_word hc, ih]; simp
    · have hc' : isWordChar c = false := by simpa using hc
      rw [tokGo_nonword hc']; simp [flushTok_flatten, ih]

theorem tokens_flatten (s : Text) : (tokens s).flatten = s := by
  simpa [tokens] using tokGo_flatten s []

theorem fill_append (r : Text) (l₁ l₂ : List (Option Text)) : fill r (l₁ ++ l₂) = fill r l₁ ++ fill r l₂ := by
  induction l₁ with
  | nil => rfl
  | cons x l ih => cases x <;> simp [fill, ih]

theorem substWord_append (w r a b : Text) (h : endsNonWord a = true ∨ startsNonWord b = true) :
    substWord w r (a ++ b) = substWord w r a ++ substWord w r b := by
  simp [substWord, holes, tokens_append a b h, fill_append]

theorem fill_map_some (r : Text) (l : List Text) : fill r (l.map some) = l.flatten := by
  induction l with
  | nil => rfl
  | cons x l ih => simp [fill, ih]

theorem hasWord_false_iff (w s : Text) : hasWord w s = false ↔ w ∉ tokens s := by
  simp [hasWord]

theorem substWord_noWord (w r s : Text) (h : hasWord w s = false) : substWord w r s = s := by
  have hw : w ∉ tokens s := (hasWord_false_iff w s).1 h
  have : holes w s = (tokens s).map some := by
    simp only [holes]
    apply List.map_congr_left
    intro t ht
    have : t ≠ w := fun e => hw (e ▸ ht)
    simp [this]
  rw [substWord, this, fill_map_some, tokens_flatten]

theorem substWord_self (w r : Text) (hw : w.all isWordChar = true) (hne : w ≠ []) : substWord w r w = r := by
  simp [substWord, holes, tokens_word w hw hne, fill]

theorem hasWord_append (w a b : Text) (h : endsNonWord a = true ∨ startsNonWord b = true) :
    hasWord w (a ++ b) = (hasWord w a || hasWord w b) := by
  simp [hasWord, tokens_append a b h]

/-- the substitution law: a whole-word occurrence of `w` is replaced by `r`, and `r` is not
looked at again -/
theorem substWord_around (w r pre post : Text) (hw : w.all isWordChar = true) (hne : w ≠ [])
    (h1 : endsNonWord pre = true) (h2 : startsNonWord post = true) :
    substWord w r (pre ++ w ++ post) = substWord w r pre ++ r ++ substWord w r post := by
  rw [List.append_assoc, substWord_append _ _ _ _ (Or.inl h1), substWord_append _ _ _ _ (Or.inr h2),
    substWord_self _ _ hw hne, List.append_assoc]

theorem substWord_sandwich (w r pre post : Text) (hw : w.all isWordChar = true) (hne : w ≠ [])
    (h1 : endsNonWord pre = true) (h2 : startsNonWord post = true)
    (hp : hasWord w pre = false) (hq : hasWord w post = false) :
    substWord w r (pre ++ w ++ post) = pre ++ r ++ post := by
  rw [substWord_around _ _ _ _ hw hne h1 h2, substWord_noWord _ _ _ hp, substWord_noWord _ _ _ hq]

/-- The facts about the concrete texts come as one conjunction (also in `line_type_rest` and
`line_param`), so that a caller has them evaluated in one go. -/
theorem hasWord_sandwich (w pre mid post : Text)
    (h : endsNonWord pre = true ∧ startsNonWord post = true ∧ hasWord w pre = false ∧ hasWord w post = false)
    (hm : hasWord w mid = false) : hasWord w (pre ++ mid ++ post) = false := by
  rw [List.append_assoc, hasWord_append _ _ _ (Or.inl h.1), hasWord_append _ _ _ (Or.inr h.2.1), h.2.2.1, h.2.2.2, hm]; rfl

theorem stmtLine_append (a b : Text) (h : b.getLast? = some ';') : stmtLine (a ++ b) = a ++ b := by
  simp [stmtLine, List.getLast?_append, h]

theorem stmtLine_semicolon (a : Text) : stmtLine (a ++ [';']) = a ++ [';'] :=
  stmtLine_append a [';'] rfl

theorem stripPrefix?_append (p r : Text) : stripPrefix? p (p ++ r) = some r := by
  simp [stripPrefix?]

theorem stripSuffix?_append (r s : Text) : stripSuffix? s (r ++ s) = some r := by
  have h : s.isSuffixOf (r ++ s) = true := List.isSuffixOf_iff_suffix.2 (List.suffix_append r s)
  simp [stripSuffix?, h]

theorem isWordChar_of_isDigit {c : Char} (h : c.isDigit = true) : isWordChar c = true := by
  simp [isWordChar, Char.isAlphanum, h]

theorem digits_all_digit (n : Nat) : ∀ c ∈ digits n, c.isDigit = true :=
  fun _ hc => Nat.isDigit_of_mem_toDigits (by omega) (by omega) hc

theorem digits_all_word (n : Nat) : (digits n).all isWordChar = true :=
  List.all_eq_true.2 fun c hc => isWordChar_of_isDigit (digits_all_digit n c hc)

theorem digits_ne_nil (n : Nat) : digits n ≠ [] := Nat.toDigits_ne_nil

theorem noDigitTail_of_endsInDigit {p : Text} (h : endsInDigit p = false) : CounterNames.NoDigitTail p := by
  intro c hc; simpa [endsInDigit, hc] using h

theorem uniqueName_inj {p q : Text} {a b : Nat} (hp : endsInDigit p = false) (hq : endsInDigit q = false)
    (h : uniqueName p a = uniqueName q b) : a = b :=
  (CounterNames.append_toDigits_inj (noDigitTail_of_endsInDigit hp) (noDigitTail_of_endsInDigit hq) h).2

/-- pairwise different names `uniqueName p k`, each drawn at a position `k ≥ m` for a prefix that
does not end in a digit: a name drawn before `m` differs from all of them (`FreshFrom.cons`) -/
def FreshFrom (m : Nat) (l : List Text) : Prop :=
  l.Nodup ∧ ∀ x ∈ l, ∃ p k, endsInDigit p = false ∧ m ≤ k ∧ x = uniqueName p k

theorem FreshFrom.nil (m : Nat) : FreshFrom m [] := ⟨List.nodup_nil, nofun⟩

theorem FreshFrom.cons {m k m' : Nat} {p : Text} {l : List Text} (h : FreshFrom m' l) (hp : endsInDigit p = false)
    (hm : m ≤ k) (hk : k < m') : FreshFrom m (uniqueName p k :: l) := by
  refine ⟨List.nodup_cons.2 ⟨fun hmem => ?_, h.1⟩, List.forall_mem_cons.2 ⟨⟨p, k, hp, hm, rfl⟩, fun x hx => ?_⟩⟩
  · obtain ⟨q, j, hq, hj, e⟩ := h.2 _ hmem
    have := uniqueName_inj hp hq e
    omega
  · obtain ⟨q, j, hq, hj, e⟩ := h.2 x hx
    exact ⟨q, j, hq, by omega, e⟩

def tokenName (n : Nat) : Text := uniqueName (t!"token") n

theorem tokenName_word (n : Nat) : (tokenName n).all isWordChar = true := by
  simp only [tokenName, uniqueName, List.all_append, digits_all_word, Bool.and_true]; decide

theorem hasWord_tokenName (n : Nat) : hasWord paramName (tokenName n) = false := by
  have h1 : tokenName n = 't' :: (['o', 'k', 'e', 'n'] ++ digits n) := by
    simp only [tokenName, uniqueName, List.cons_append, List.nil_append]
  have h2 : paramName = 'c' :: t!"ollection_name" := by decide
  have hne : tokenName n ≠ [] := by rw [h1]; exact List.cons_ne_nil _ _
  rw [hasWord_false_iff, tokens_word _ (tokenName_word n) hne, List.mem_singleton, h1, h2]
  intro h
  exact absurd (List.cons.inj h).1 (by decide)

theorem paramName_word : paramName.all isWordChar = true := by decide
theorem paramName_ne : paramName ≠ [] := by decide
theorem paramName_eq : paramName = t!"collection_name" := rfl
theorem resultName_eq : resultName = t!"result" := rfl

/-- what `get_collection` builds for a well-shaped call -/
def mkCV (cd : CoderInfo) (c : CollSpec) (bank : Text) (n : Nat) : CodeValue :=
  let tok : Text := match cd.tokenPrefix with
    | none => []
    | some p => if cd.tokenPerUse then uniqueName p n else uniqueName p 0
  { spec := c, bank,
    runningCode := cd.runningCode.map (render [(t!"container_type", c.tyStr), (t!"self.t_name", tok)]),
    fields := match cd.tokenInit, c.tokenTypeStr with
      | some init, some tt => [(tt, tok, render [(t!"md.container_type.type", c.container)] init)]
      | some init, none => [(t!"None", tok, render [(t!"md.container_type.type", c.container)] init)]
      | none, _ => [],
    token := tok }

theorem getCollection_str (cd : CoderInfo) (c : CollSpec) (s : Text) (n : Nat) :
    getCollection cd c [.str s] n = .ok (mkCV cd c s n, if cd.tokenPerUse then n + 1 else n) := rfl

theorem getCollection_ok_iff (cd : CoderInfo) (c : CollSpec) (args : List Arg) (n : Nat) :
    (∃ r, getCollection cd c args n = .ok r) ↔ CallOk args := by
  constructor
  · rintro ⟨r, h⟩
    match args, h with
    | [.str s], _ => exact ⟨s, rfl⟩
    | [], h => simp [getCollection] at h
    | [.other], h => simp [getCollection] at h
    | _ :: _ :: _, h => simp [getCollection] at h
  · rintro ⟨s, rfl⟩; exact ⟨_, getCollection_str cd c s n⟩

/-- what the property writes around the container type to get the handle -/
def tyAround : Backend → Bool → Text × Text
  | .atlas, true => (t!"const ", t!"*")
  | .atlas, false => (t!"const ", t!" *")
  | .cmsAod, _ => (t!"edm::Handle<", t!">")
  | .cmsMiniaod, _ => (t!"Handle<", t!">")

theorem expectedTy_eq (b : Backend) (d : Decl) :
    expectedTy b d = (tyAround b d.element.isSome).1 ++ d.container ++ (tyAround b d.element.isSome).2 := by
  unfold expectedTy; cases b <;> cases d.element <;> rfl

/-- a `__str__`, a token type and a pointer depth that write the handle (and the token type) as the property
does — said of the pieces, which is what the generated classes and branches show -/
def HandleOk (b : Backend) (elem : Bool) (str : List Piece) (tokenType : Option (List Piece)) (depthType : Nat) : Prop :=
  str = [.lit (tyAround b elem).1, .hole t!"self.type", .lit (tyAround b elem).2] ∧
  (b = .cmsMiniaod → tokenType = some [.lit t!"edm::EDGetTokenT<", .hole t!"self.type", .lit t!">"]) ∧ depthType = 1

instance (b : Backend) (elem : Bool) (str : List Piece) (tt : Option (List Piece)) (n : Nat) : Decidable (HandleOk b elem str tt n) := by
  unfold HandleOk; exact inferInstance

/-- the specification is fetched into the handle the property expects -/
abbrev ClassOk (b : Backend) (c : CollSpec) : Prop := HandleOk b c.element.isSome c.str c.tokenType c.depthType

theorem lookupHole_head (n : Text) (t : Text) (env : List (Text × Text)) : lookupHole ((n, t) :: env) n = t := by
  simp [lookupHole, List.find?]

theorem lookupHole_tail (n n' : Text) (t : Text) (env : List (Text × Text)) (h : (n' == n) = false) :
    lookupHole ((n', t) :: env) n = lookupHole env n := by
  simp [lookupHole, List.find?, h]

theorem render_three (t a b : Text) : render [(t!"self.type", t)] [.lit a, .hole t!"self.type", .lit b] = a ++ t ++ b := by
  simp [render, lookupHole_head]

theorem ClassOk.ty {b : Backend} {c : CollSpec} (h : ClassOk b c) : c.tyStr = expectedTy b (declOf c) := by
  rw [CollSpec.tyStr, h.1, render_three, expectedTy_eq]; rfl

theorem ClassOk.tok {b : Backend} {c : CollSpec} (h : ClassOk b c) (hb : b = .cmsMiniaod) :
    c.tokenTypeStr = some (t!"edm::EDGetTokenT<" ++ c.container ++ t!">") := by
  rw [CollSpec.tokenTypeStr, h.2.1 hb, Option.map_some, render_three]

theorem line_type_rest (lit ty rest : Text) (hty : hasWord paramName ty = false)
    (h : startsNonWord rest = true ∧ hasWord paramName rest = false ∧ rest.getLast? = some ';') :
    stmtLine (substWord paramName lit (ty ++ rest)) = ty ++ rest := by
  rw [substWord_append _ _ _ _ (Or.inr h.1), substWord_noWord _ _ _ hty, substWord_noWord _ _ _ h.2.1,
    stmtLine_append _ _ h.2.2]

theorem line_param (lit l pre post : Text)
    (h : l = pre ++ paramName ++ post ∧ endsNonWord pre = true ∧ startsNonWord post = true ∧
      hasWord paramName pre = false ∧ hasWord paramName post = false ∧ post.getLast? = some ';') :
    stmtLine (substWord paramName lit l) = pre ++ lit ++ post := by
  rw [h.1, substWord_sandwich _ _ _ _ paramName_word paramName_ne h.2.1 h.2.2.1 h.2.2.2.1 h.2.2.2.2.1,
    stmtLine_append _ _ h.2.2.2.2.2]

theorem assign_line (x : Text) : x ++ t!" = " ++ resultName ++ [';'] = x ++ t!" = result;" := by
  rw [List.append_assoc, List.append_assoc]
  congr 1

theorem hasWord_expectedTy (b : Backend) (d : Decl) (h : hasWord paramName d.container = false) :
    hasWord paramName (expectedTy b d) = false := by
  rw [expectedTy_eq]
  generalize d.element.isSome = e
  exact hasWord_sandwich _ _ _ _ (by cases b <;> cases e <;> decide +kernel) h

theorem coder_lines (b : Backend) (ty lit tok x : Text) (hty : hasWord paramName ty = false)
    (htok : hasWord paramName tok = false) :
    (b.coder.runningCode.map (render [(t!"container_type", ty), (t!"self.t_name", tok)])).map
        (fun l => stmtLine (substWord paramName lit l)) ++ [x ++ t!" = " ++ resultName ++ [';']] =
      expectedLines b ty lit tok x := by
  rw [assign_line]
  -- every `decide` evaluates the side conditions of `line_type_rest` / `line_param` / `hasWord_sandwich` on the literal pieces
  -- of the coder's line: the text in front of and behind the type, the parameter, the token
  cases b with
  | atlas =>
    simp only [Backend.coder, Gen.atlasCoder, List.map_cons, List.map_nil, render, lookupHole_head, List.append_nil]
    rw [line_type_rest _ _ _ hty (by decide +kernel),
      line_param _ _ t!"ANA_CHECK (evtStore()->retrieve(result, " t!"));" (by decide +kernel)]
    rfl
  | cmsAod =>
    simp only [Backend.coder, Gen.cmsAodCoder, List.map_cons, List.map_nil, render, lookupHole_head, List.append_nil]
    rw [line_type_rest _ _ _ hty (by decide +kernel),
      line_param _ _ t!"iEvent.getByLabel(" t!", result);" (by decide +kernel)]
    rfl
  | cmsMiniaod =>
    simp only [Backend.coder, Gen.cmsMiniaodCoder, List.map_cons, List.map_nil, render, lookupHole_head,
      lookupHole_tail _ _ _ _ (show (t!"container_type" == t!"self.t_name") = false from rfl), List.append_nil]
    rw [line_type_rest _ _ _ hty (by decide +kernel), ← List.append_assoc,
      substWord_noWord _ _ _ (hasWord_sandwich _ _ _ _ (by decide +kernel) htok),
      stmtLine_append _ _ (by decide +kernel)]
    rfl

theorem frag_tokens_miniaod (c : CollSpec) (bank : Text) (n : Nat) (st : GenState) (hc : ClassOk .cmsMiniaod c)
    (hclean : hasWord paramName c.container = false) :
    let r := processNode (mkCV Gen.cmsMiniaodCoder c bank n) st
    r.2.classDecls = st.classDecls ++ [expectedTokenDecl (declOf c) (tokenName n)] ∧
    r.2.book = st.book ++ [expectedTokenInit (declOf c) (cppLit bank) (tokenName n)] := by
  simp only [processNode, mkCV, Gen.cmsMiniaodCoder, List.map_cons, List.map_nil, render, lookupHole_head,
    List.append_nil, hc.tok rfl, if_true]
  refine ⟨?_, ?_⟩
  · simp only [expectedTokenDecl, declOf, tokenName, List.append_assoc]; rfl
  · have e : t!"consumes<" ++ (c.container ++ t!">(edm::InputTag(collection_name))") =
        (t!"consumes<" ++ c.container ++ t!">(edm::InputTag(") ++ paramName ++ t!"))" := by
      simp only [List.append_assoc]; rfl
    have hpre : hasWord paramName (t!"consumes<" ++ c.container ++ t!">(edm::InputTag(") = false :=
      hasWord_sandwich _ _ _ _ (by decide +kernel) hclean
    rw [e, substWord_sandwich _ _ _ _ paramName_word paramName_ne
      (by rw [endsNonWord_append _ _ (by decide +kernel)]; decide +kernel) (by decide +kernel) hpre (by decide +kernel)]
    simp only [expectedTokenInit, declOf, tokenName, List.append_assoc]; rfl

theorem frag_any (b : Backend) (c : CollSpec) (bank : Text) (n : Nat) (st : GenState) (hc : ClassOk b c)
    (hclean : hasWord paramName c.container = false) :
    let r := processNode (mkCV b.coder c bank n) st
    r.1.lines = expectedLines b (expectedTy b (declOf c)) (cppLit bank) r.1.tok r.1.var ∧
    r.1.decl = expectedDecl (expectedTy b (declOf c)) r.1.var ∧
    r.1.rep = repOf c r.1.var ∧ r.1.var = uniqueName (lowerText c.name) st.counter ∧ r.2.counter = st.counter + 1 ∧
    (match b with
     | .cmsMiniaod => r.1.tok = tokenName n ∧
        r.2.classDecls = st.classDecls ++ [expectedTokenDecl (declOf c) (tokenName n)] ∧
        r.2.book = st.book ++ [expectedTokenInit (declOf c) (cppLit bank) (tokenName n)]
     | _ => r.1.tok = [] ∧ r.2.classDecls = st.classDecls ∧ r.2.book = st.book) := by
  have htok : hasWord paramName (mkCV b.coder c bank n).token = false := by
    cases b
    · rfl
    · rfl
    · exact hasWord_tokenName n
  refine ⟨?_, by rw [← hc.ty]; rfl, rfl, rfl, rfl, ?_⟩
  · rw [← hc.ty]
    exact coder_lines b c.tyStr (cppLit bank) _ _ (hc.ty ▸ hasWord_expectedTy b (declOf c) hclean) htok
  · cases b with
    | cmsMiniaod => exact ⟨rfl, frag_tokens_miniaod c bank n st hc hclean⟩
    | atlas | cmsAod => exact ⟨rfl, List.append_nil _, List.append_nil _⟩

theorem builtins_classOk (b : Backend) : ∀ c ∈ builtins b, ClassOk b c := by
  cases b <;> decide +kernel

theorem rows_agree (b : Backend) : ∀ r ∈ b.rows, (findClass b.classes r.cls).isSome = true ∧
    (r.element.isSome && r.depthElem != 0) = (r.element.isSome && b.elemPtrDefault) := by
  cases b <;> decide +kernel

theorem builtins_declOf (b : Backend) : (builtins b).map declOf = builtinDecls b := by
  unfold builtins builtinDecls
  have h := rows_agree b
  generalize b.rows = rows at h ⊢
  induction rows with
  | nil => rfl
  | cons r rows ih =>
    obtain ⟨h1, h2⟩ := h r List.mem_cons_self
    obtain ⟨ci, hci⟩ := Option.isSome_iff_exists.1 h1
    simp only [List.filterMap_cons, Row.toSpec, hci, List.map_cons, ih fun r hr => h r (List.mem_cons_of_mem _ hr)]
    congr 1
    simp only [declOf, Row.toDecl, h2]

def branchOf (b : Backend) : MdBranch := (findBranch b.mdType).getD default

theorem findBranch_mdType (b : Backend) : findBranch b.mdType = some (branchOf b) := by
  have h : (findBranch b.mdType).isSome = true := by cases b <;> decide +kernel
  obtain ⟨br, hbr⟩ := Option.isSome_iff_exists.1 h
  rw [branchOf, hbr]; rfl

theorem findBranch_some (t : Text) (br : MdBranch) (h : findBranch t = some br) :
    ∃ b : Backend, t = b.mdType ∧ br = branchOf b := by
  have hm : br.mdType = t := by simpa using List.find?_some h
  have hall : ∀ br ∈ Gen.mdBranches, br.mdType = Backend.mdType .atlas ∨ br.mdType = Backend.mdType .cmsAod ∨
      br.mdType = Backend.mdType .cmsMiniaod := by decide +kernel
  have hb : ∃ b : Backend, t = b.mdType := by
    rcases hall br (List.mem_of_find?_eq_some h) with e | e | e <;> exact ⟨_, hm ▸ e⟩
  obtain ⟨b, rfl⟩ := hb
  exact ⟨b, rfl, Option.some.inj (h.symm.trans (findBranch_mdType b))⟩

theorem validateWith_ok {br : MdBranch} {md : Md} {c : CollSpec} (h : validateWith br md = .ok c) :
    firstUnexpected br.whitelist md.keys = none ∧ flagStage br md = .ok () ∧
    ∃ ci ct et libs name incs, containerStage br md = .ok (ci, ct, et) ∧ libsStage br md = .ok libs ∧
      md.reqStr t!"name" = .ok name ∧ md.reqStrs t!"include_files" = .ok incs ∧
      c = mkSpec br.specBackend name incs ci ct et libs := by
  unfold validateWith at h
  -- one goal per branch of the nested matches: `h` is absurd in the error branches and names the
  -- result in the last, where every stage's equation is in the context
  repeat' split at h
  all_goals cases h
  exact ⟨by assumption, by assumption, _, _, _, _, _, _, by assumption, by assumption, by assumption, by assumption, rfl⟩

theorem validateWith_of {br : MdBranch} {md : Md} {ci ct et libs name incs}
    (h1 : firstUnexpected br.whitelist md.keys = none) (h2 : flagStage br md = .ok ())
    (h3 : containerStage br md = .ok (ci, ct, et)) (h4 : libsStage br md = .ok libs)
    (h5 : md.reqStr t!"name" = .ok name) (h6 : md.reqStrs t!"include_files" = .ok incs) :
    validateWith br md = .ok (mkSpec br.specBackend name incs ci ct et libs) := by
  unfold validateWith; simp [h1, h2, h3, h4, h5, h6]

theorem firstUnexpected_none_iff (wl ks : List Text) : firstUnexpected wl ks = none ↔ ∀ k ∈ ks, k ∈ wl := by
  induction ks with
  | nil => simp [firstUnexpected]
  | cons k ks ih =>
    by_cases hk : k ∈ wl
    · simp [firstUnexpected, hk, ih]
    · simp [firstUnexpected, hk]

theorem reqStr_ok_iff (md : Md) (k s : Text) : md.reqStr k = .ok s ↔ md.get? k = some (.str s) := by
  unfold Md.reqStr
  cases h : md.get? k with
  | none => simp
  | some v => cases v <;> simp

theorem reqStrs_ok_iff (md : Md) (k : Text) (l : List Text) : md.reqStrs k = .ok l ↔ md.get? k = some (.strs l) := by
  unfold Md.reqStrs
  cases h : md.get? k with
  | none => simp
  | some v => cases v <;> simp

theorem flagStage_ok_iff (br : MdBranch) (md : Md) (hf : br.flagCheck = true) :
    flagStage br md = .ok () ↔ md.has t!"contains_collection" = true ∧ (md.flag = true ↔ md.has t!"element_type" = true) := by
  unfold flagStage Md.flag Md.has
  simp only [hf, if_true]
  cases h : md.get? t!"contains_collection" with
  | none => simp
  | some v =>
    cases hv : v.truthy <;> cases he : (md.get? t!"element_type").isSome <;> simp

theorem branch_flagCheck (b : Backend) : (branchOf b).flagCheck = true := by cases b <;> decide +kernel
theorem branch_specBackend (b : Backend) : (branchOf b).specBackend = b.execName := by cases b <;> decide +kernel
theorem branch_whitelist (b : Backend) : (branchOf b).whitelist = b.whitelist := by
  rw [Backend.whitelist, findBranch_mdType]
theorem execName_injective (b b' : Backend) (h : b.execName = b'.execName) : b = b' := by
  cases b <;> cases b' <;> first | rfl | (exact absurd h (by decide))

theorem branch_atlas : ∃ cc sc ciC ciS, (branchOf .atlas).build = .byFlag cc sc ∧
    classStage cc = .ok ciC ∧ classStage sc = .ok ciS ∧ (branchOf .atlas).librariesKey = some t!"link_libraries" ∧
    HandleOk .atlas true ciC.str ciC.tokenType ciC.depthType ∧ ciC.depthElem = 1 ∧
    HandleOk .atlas false ciS.str ciS.tokenType ciS.depthType :=
  ⟨_, _, _, _, rfl, rfl, rfl, by decide, by decide +kernel, by decide, by decide +kernel⟩

theorem branch_cms (b : Backend) (hb : b ≠ .atlas) : ∃ cc ciC, (branchOf b).build = .alwaysPtr cc t!"element_pointer" ∧
    classStage cc = .ok ciC ∧ (branchOf b).librariesKey = none ∧
    HandleOk b true ciC.str ciC.tokenType ciC.depthType := by
  cases b with
  | atlas => exact absurd rfl hb
  | cmsAod => exact ⟨_, _, rfl, rfl, by decide, by decide +kernel⟩
  | cmsMiniaod => exact ⟨_, _, rfl, rfl, by decide, by decide +kernel⟩

theorem get?_mem_keys {md : Md} {k : Text} {v : MdVal} (h : md.get? k = some v) : k ∈ md.keys := by
  unfold Md.get? at h
  cases hf : md.fields.find? (fun p => p.1 == k) with
  | none => simp [hf] at h
  | some p =>
    have hm := List.mem_of_find?_eq_some hf
    have hk := List.find?_some hf
    simp only [beq_iff_eq] at hk
    simp only [Md.keys, List.mem_cons, List.mem_map]
    exact Or.inr ⟨p, hm, hk⟩

theorem get?_none_of_not_whitelisted {md : Md} {wl : List Text} (hk : ∀ k ∈ md.keys, k ∈ wl) {k : Text} (h : k ∉ wl) :
    md.get? k = none := by
  cases hg : md.get? k with
  | none => rfl
  | some v => exact absurd (hk k (get?_mem_keys hg)) h

theorem collStage_ok {md : Md} {cls : Text} {r} (h : collStage md cls = .ok r) :
    ∃ ci ct et, r = (ci, ct, some et) ∧ md.get? t!"container_type" = some (.str ct) ∧
      md.get? t!"element_type" = some (.str et) ∧ classStage cls = .ok ci := by
  unfold collStage at h
  repeat' split at h
  all_goals cases h
  exact ⟨_, _, _, rfl, (reqStr_ok_iff _ _ _).1 (by assumption), (reqStr_ok_iff _ _ _).1 (by assumption), by assumption⟩

theorem singleStage_ok {md : Md} {cls : Text} {r} (h : singleStage md cls = .ok r) :
    ∃ ci ct, r = (ci, ct, none) ∧ md.get? t!"container_type" = some (.str ct) ∧ classStage cls = .ok ci := by
  unfold singleStage at h
  repeat' split at h
  all_goals cases h
  exact ⟨_, _, rfl, (reqStr_ok_iff _ _ _).1 (by assumption), by assumption⟩

theorem has_of_get? {md : Md} {k : Text} {v : MdVal} (h : md.get? k = some v) : md.has k = true := by
  simp [Md.has, h]

theorem getStr_of {md : Md} {k s : Text} (h : md.get? k = some (.str s)) : getStr md k = s := by simp [getStr, h]
theorem getStrs_of {md : Md} {k : Text} {l : List Text} (h : md.get? k = some (.strs l)) : getStrs md k = l := by simp [getStrs, h]
theorem getStrs_none {md : Md} {k : Text} (h : md.get? k = none) : getStrs md k = [] := by simp [getStrs, h]

theorem required_iff (md : Md) : (∀ k ∈ requiredKeys, md.has k = true) ↔
    md.has t!"name" = true ∧ md.has t!"include_files" = true ∧ md.has t!"container_type" = true ∧
      md.has t!"contains_collection" = true := by
  simp only [requiredKeys, List.forall_mem_cons, List.not_mem_nil, false_imp_iff, implies_true, and_true]

theorem containerStage_byFlag {br : MdBranch} {md : Md} {cc sc : Text} (hb : br.build = .byFlag cc sc)
    (hcc : md.has t!"contains_collection" = true) :
    containerStage br md = if md.flag = true then collStage md cc else singleStage md sc := by
  unfold containerStage Md.flag
  rw [hb]
  cases hg : md.get? t!"contains_collection" with
  | none => simp [Md.has, hg] at hcc
  | some flag => rfl

theorem containerStage_sound {b : Backend} {md : Md} {ci : ClassInfo} {ct : Text} {et : Option Text}
    (hkeys : ∀ k ∈ md.keys, k ∈ b.whitelist) (hcc : md.has t!"contains_collection" = true)
    (hflag : md.flag = true ↔ md.has t!"element_type" = true)
    (h : containerStage (branchOf b) md = .ok (ci, ct, et)) :
    md.get? t!"container_type" = some (.str ct) ∧
    et = (intended b md).element ∧
    HandleOk b et.isSome ci.str ci.tokenType ci.depthType ∧
    (et.isSome && ci.depthElem != 0) = (intended b md).elemPtr ∧
    (b ≠ .atlas → md.flag = true) := by
  by_cases hb : b = .atlas
  · subst hb
    obtain ⟨cc, sc, ciC, ciS, hbld, hcC, hcS, -, fC, fe, fS⟩ := branch_atlas
    rw [containerStage_byFlag hbld hcc] at h
    have hnoep : md.get? t!"element_pointer" = none := get?_none_of_not_whitelisted hkeys (by decide +kernel)
    cases hfl : md.flag with
    | true =>
      rw [hfl, if_pos rfl] at h
      obtain ⟨ci', ct', et', e, g1, g2, g3⟩ := collStage_ok h
      rw [hcC] at g3
      cases e; cases g3
      exact ⟨g1, by simp [intended, hfl, getStr_of g2], fC, by simp [intended, hfl, fe, hnoep, Backend.elemPtrDefault],
        fun hh => absurd rfl hh⟩
    | false =>
      rw [hfl, if_neg (by decide)] at h
      obtain ⟨ci', ct', e, g1, g3⟩ := singleStage_ok h
      rw [hcS] at g3
      cases e; cases g3
      exact ⟨g1, by simp [intended, hfl], fS, by simp [intended, hfl], fun hh => absurd rfl hh⟩
  · obtain ⟨cc, ciC, hbld, hcC, -, fC⟩ := branch_cms b hb
    unfold containerStage at h
    rw [hbld] at h
    simp only [] at h
    cases hcs : collStage md cc with
    | error e0 => rw [hcs] at h; cases h
    | ok r0 =>
      obtain ⟨ci', ct', et', e, g1, g2, g3⟩ := collStage_ok hcs
      rw [hcC] at g3
      cases g3
      rw [hcs, e] at h
      cases h
      have hfl : md.flag = true := hflag.2 (has_of_get? g2)
      refine ⟨g1, by simp [intended, hfl, getStr_of g2], fC, ?_, fun _ => hfl⟩
      have hdef : b.elemPtrDefault = false := by cases b <;> first | rfl | exact absurd rfl hb
      cases hep : md.get? t!"element_pointer" with
      | none => simp [intended, hfl, hep, hdef]
      | some v => cases hv : v.truthy <;> simp [intended, hfl, hep, hv]

theorem libsStage_eq {b : Backend} {md : Md} (hkeys : ∀ k ∈ md.keys, k ∈ b.whitelist) :
    libsStage (branchOf b) md =
      if md.has t!"link_libraries" = true then md.reqStrs t!"link_libraries" else .ok [] := by
  unfold libsStage
  by_cases hb : b = .atlas
  · subst hb
    obtain ⟨_, _, _, _, -, -, -, hlk, -⟩ := branch_atlas
    rw [hlk]
  · obtain ⟨_, _, -, -, hlk, -⟩ := branch_cms b hb
    have hno : md.get? t!"link_libraries" = none :=
      get?_none_of_not_whitelisted hkeys (by cases b <;> first | decide +kernel | exact absurd rfl hb)
    rw [hlk, Md.has, hno]
    rfl

theorem libsStage_sound {b : Backend} {md : Md} {libs : List Text} (hkeys : ∀ k ∈ md.keys, k ∈ b.whitelist)
    (h : libsStage (branchOf b) md = .ok libs) : libs = getStrs md t!"link_libraries" := by
  rw [libsStage_eq hkeys] at h
  cases hl : md.has t!"link_libraries" with
  | true =>
    rw [hl, if_pos rfl] at h
    rw [getStrs_of ((reqStrs_ok_iff _ _ _).1 h)]
  | false =>
    rw [hl, if_neg (by decide)] at h
    cases h
    rw [getStrs_none (by simpa [Md.has] using hl)]

theorem validate_of_mdType (b : Backend) (md : Md) (h : md.mdType = b.mdType) :
    validate md = validateWith (branchOf b) md := by
  unfold validate; rw [h, findBranch_mdType]

theorem validate_mdType {md : Md} {c : CollSpec} (h : validate md = .ok c) : ∃ b : Backend, md.mdType = b.mdType := by
  unfold validate at h
  cases hf : findBranch md.mdType with
  | none => simp [hf] at h
  | some br => exact (findBranch_some _ _ hf).imp fun _ h => h.1

theorem validate_sound (b : Backend) (md : Md) (c : CollSpec) (hty : md.mdType = b.mdType) (h : validate md = .ok c) :
    ValidMd b md ∧ c.backend = b.execName ∧ ClassOk b c ∧ declOf c = intended b md ∧ (b ≠ .atlas → md.flag = true) := by
  rw [validate_of_mdType b md hty] at h
  obtain ⟨h1, h2, ci, ct, et, libs, name, incs, h3, h4, h5, h6, rfl⟩ := validateWith_ok h
  rw [branch_whitelist] at h1
  have hkeys := (firstUnexpected_none_iff _ _).1 h1
  obtain ⟨hcc, hflag⟩ := (flagStage_ok_iff _ _ (branch_flagCheck b)).1 h2
  have hname := (reqStr_ok_iff _ _ _).1 h5
  have hincs := (reqStrs_ok_iff _ _ _).1 h6
  obtain ⟨g1, g2, g3, g5, g7⟩ := containerStage_sound hkeys hcc hflag h3
  refine ⟨⟨hty, hkeys, (required_iff md).2 ⟨has_of_get? hname, has_of_get? hincs, has_of_get? g1, hcc⟩, hflag⟩,
    branch_specBackend b, g3, ?_, g7⟩
  · show Decl.mk name incs ct et (et.isSome && ci.depthElem != 0) libs = intended b md
    rw [g5, g2, libsStage_sound hkeys h4]
    simp only [intended, getStr_of hname, getStrs_of hincs, getStr_of g1]

theorem str_of_has {md : Md} {k : Text} (hh : md.has k = true) (ht : md.has k = true → isStr (md.get? k) = true) :
    ∃ s, md.get? k = some (.str s) := by
  have := ht hh
  cases hg : md.get? k with
  | none => simp [hg, isStr] at this
  | some v => cases v <;> simp_all [isStr]

theorem strs_of_has {md : Md} {k : Text} (hh : md.has k = true) (ht : md.has k = true → isStrs (md.get? k) = true) :
    ∃ l, md.get? k = some (.strs l) := by
  have := ht hh
  cases hg : md.get? k with
  | none => simp [hg, isStrs] at this
  | some v => cases v <;> simp_all [isStrs]

theorem collStage_of {md : Md} {cls : Text} {ci ct et} (h1 : md.get? t!"container_type" = some (.str ct))
    (h2 : md.get? t!"element_type" = some (.str et)) (h3 : classStage cls = .ok ci) :
    collStage md cls = .ok (ci, ct, some et) := by
  simp [collStage, (reqStr_ok_iff _ _ _).2 h1, (reqStr_ok_iff _ _ _).2 h2, h3]

theorem singleStage_of {md : Md} {cls : Text} {ci ct} (h1 : md.get? t!"container_type" = some (.str ct))
    (h3 : classStage cls = .ok ci) : singleStage md cls = .ok (ci, ct, none) := by
  simp [singleStage, (reqStr_ok_iff _ _ _).2 h1, h3]

theorem containerStage_complete {b : Backend} {md : Md} {ct : Text} (hcms : CmsIsCollection b md)
    (hcc : md.has t!"contains_collection" = true) (hflag : md.flag = true ↔ md.has t!"element_type" = true)
    (hct : md.get? t!"container_type" = some (.str ct))
    (het : md.has t!"element_type" = true → isStr (md.get? t!"element_type") = true) :
    ∃ r, containerStage (branchOf b) md = .ok r := by
  by_cases hb : b = .atlas
  · subst hb
    obtain ⟨cc, sc, ciC, ciS, hbld, hcC, hcS, -⟩ := branch_atlas
    rw [containerStage_byFlag hbld hcc]
    cases hfl : md.flag with
    | true =>
      obtain ⟨et, het⟩ := str_of_has (hflag.1 hfl) het
      exact ⟨_, collStage_of hct het hcC⟩
    | false => exact ⟨_, singleStage_of hct hcS⟩
  · obtain ⟨cc, ciC, hbld, hcC, -⟩ := branch_cms b hb
    unfold containerStage
    have hfl : md.flag = true := by
      rcases hcms with h | h | h
      · exact absurd h hb
      · exact h
      · rw [hcc] at h; cases h
    obtain ⟨et, het⟩ := str_of_has (hflag.1 hfl) het
    rw [hbld]
    simp only [collStage_of hct het hcC]
    exact ⟨_, rfl⟩

theorem libsStage_complete {b : Backend} {md : Md} (hkeys : ∀ k ∈ md.keys, k ∈ b.whitelist)
    (hll : md.has t!"link_libraries" = true → isStrs (md.get? t!"link_libraries") = true) :
    ∃ libs, libsStage (branchOf b) md = .ok libs := by
  rw [libsStage_eq hkeys]
  cases hl : md.has t!"link_libraries" with
  | true =>
    obtain ⟨l, hl'⟩ := strs_of_has hl hll
    exact ⟨l, (if_pos rfl).trans ((reqStrs_ok_iff _ _ _).2 hl')⟩
  | false => exact ⟨[], rfl⟩

theorem validate_complete (b : Backend) (md : Md) (hv : ValidMd b md) (hwt : md.WellTyped)
    (hcms : CmsIsCollection b md) : ∃ c, validate md = .ok c := by
  rw [validate_of_mdType b md hv.1]
  obtain ⟨_, hkeys, hreq, hflag⟩ := hv
  obtain ⟨w1, w2, w3, w4, -, w6, -⟩ := hwt
  have h1 : firstUnexpected (branchOf b).whitelist md.keys = none := by
    rw [branch_whitelist]; exact (firstUnexpected_none_iff _ _).2 hkeys
  obtain ⟨r1, r2, r3, hcc⟩ := (required_iff md).1 hreq
  have h2 : flagStage (branchOf b) md = .ok () := (flagStage_ok_iff _ _ (branch_flagCheck b)).2 ⟨hcc, hflag⟩
  obtain ⟨name, hname⟩ := str_of_has r1 w1
  obtain ⟨incs, hincs⟩ := strs_of_has r2 w2
  obtain ⟨ct, hct⟩ := str_of_has r3 w3
  obtain ⟨⟨ci, ct', et⟩, h3⟩ := containerStage_complete hcms hcc hflag hct w4
  obtain ⟨libs, h4⟩ := libsStage_complete hkeys w6
  exact ⟨_, validateWith_of h1 h2 h3 h4 ((reqStr_ok_iff _ _ _).2 hname) ((reqStrs_ok_iff _ _ _).2 hincs)⟩

theorem mdType_injective (b b' : Backend) (h : b.mdType = b'.mdType) : b = b' := by
  cases b <;> cases b' <;> first | rfl | (exact absurd h (by decide))

theorem checkBackends_ok_iff (b : Backend) (cs : List CollSpec) :
    checkBackends b cs = .ok () ↔ ∀ c ∈ cs, c.backend = b.execName := by
  induction cs with
  | nil => simp [checkBackends]
  | cons c cs ih =>
    by_cases hc : c.backend = b.execName
    · simp [checkBackends, hc, ih]
    · simp [checkBackends, hc]

theorem validateAll_cons {md : Md} {mds : List Md} {cs : List CollSpec} :
    validateAll (md :: mds) = .ok cs ↔ ∃ c cs', validate md = .ok c ∧ validateAll mds = .ok cs' ∧ c :: cs' = cs := by
  cases h1 : validate md with
  | error e => simp [validateAll, h1]
  | ok c => cases h2 : validateAll mds <;> simp [validateAll, h1, h2]

theorem validateAll_ok_iff (P : CollSpec → Prop) (mds : List Md) :
    (∃ cs, validateAll mds = .ok cs ∧ ∀ c ∈ cs, P c) ↔ ∀ md ∈ mds, ∃ c, validate md = .ok c ∧ P c := by
  induction mds with
  | nil => simp [validateAll]
  | cons md mds ih =>
    simp only [validateAll_cons, List.forall_mem_cons, ← ih]
    constructor
    · rintro ⟨_, ⟨c, cs, hc, hcs, rfl⟩, hp⟩
      exact ⟨⟨c, hc, hp c (by simp)⟩, cs, hcs, fun x hx => hp x (by simp [hx])⟩
    · rintro ⟨⟨c, hc, hpc⟩, cs, hcs, hp⟩
      exact ⟨c :: cs, ⟨c, cs, hc, hcs, rfl⟩, by simpa [hpc] using hp⟩

theorem declare_ok {b : Backend} {mds : List Md} {table : List CollSpec} :
    declare b mds = .ok table ↔
      ∃ cs, validateAll mds = .ok cs ∧ (∀ c ∈ cs, c.backend = b.execName) ∧ builtins b ++ cs = table := by
  unfold declare
  cases validateAll mds with
  | error e => simp
  | ok cs =>
    simp only [← checkBackends_ok_iff]
    cases h : checkBackends b cs <;> simp [h]

theorem declare_ok_iff (b : Backend) (mds : List Md) :
    (∃ table, declare b mds = .ok table) ↔ ∀ md ∈ mds, ∃ c, validate md = .ok c ∧ c.backend = b.execName := by
  rw [← validateAll_ok_iff]
  simp only [declare_ok]
  exact ⟨fun ⟨_, cs, h1, h2, _⟩ => ⟨cs, h1, h2⟩, fun ⟨cs, h1, h2⟩ => ⟨_, cs, h1, h2, rfl⟩⟩

theorem declare_sound {b : Backend} {mds : List Md} {table : List CollSpec} (h : declare b mds = .ok table) :
    (∀ md ∈ mds, ValidMd b md) ∧ (∀ c ∈ table, ClassOk b c) ∧
    table.map declOf = builtinDecls b ++ mds.map (intended b) := by
  obtain ⟨cs, hcs, hb, rfl⟩ := declare_ok.1 h
  clear h
  have key : (∀ md ∈ mds, ValidMd b md) ∧ (∀ c ∈ cs, ClassOk b c) ∧ cs.map declOf = mds.map (intended b) := by
    induction mds generalizing cs with
    | nil => cases hcs; simp
    | cons md mds ih =>
      obtain ⟨c, cs', hv, hcs', rfl⟩ := validateAll_cons.1 hcs
      obtain ⟨b', hty⟩ := validate_mdType hv
      obtain ⟨v1, v2, v3, v4, -⟩ := validate_sound b' md c hty hv
      cases execName_injective _ _ (v2.symm.trans (hb c (by simp)))
      obtain ⟨i1, i2, i3⟩ := ih cs' hcs' (fun c hc => hb c (by simp [hc]))
      exact ⟨by simpa [v1] using i1, by simpa [v3] using i2, by rw [List.map_cons, List.map_cons, v4, i3]⟩
  obtain ⟨k1, k2, k3⟩ := key
  refine ⟨k1, ?_, by rw [List.map_append, builtins_declOf, k3]⟩
  intro c hc
  rcases List.mem_append.1 hc with hc | hc
  · exact builtins_classOk b c hc
  · exact k2 c hc

theorem declare_refuses_foreign (b : Backend) {mds : List Md} {md : Md} (hm : md ∈ mds) (hother : md.mdType ≠ b.mdType) :
    ∃ e, declare b mds = .error e := by
  cases hd : declare b mds with
  | error e => exact ⟨e, rfl⟩
  | ok table => exact absurd ((declare_sound hd).1 md hm).1 hother

theorem declare_complete {b : Backend} {mds : List Md} (hv : ∀ md ∈ mds, ValidMd b md) (hwt : ∀ md ∈ mds, md.WellTyped)
    (hcms : ∀ md ∈ mds, CmsIsCollection b md) : ∃ table, declare b mds = .ok table := by
  refine (declare_ok_iff b mds).2 fun md hm => ?_
  obtain ⟨c, hc⟩ := validate_complete b md (hv md hm) (hwt md hm) (hcms md hm)
  exact ⟨c, hc, (validate_sound b md c (hv md hm).1 hc).2.1⟩

theorem lookup_eq (l : List CollSpec) (n : Text) : lookup l n = Dict.lastBy (·.name) l n := by
  induction l with
  | nil => rfl
  | cons c l ih => rw [lookup, Dict.lastBy_cons, ih]; cases Dict.lastBy (·.name) l n <;> rfl

theorem lookupDecl_eq (l : List Decl) (n : Text) : lookupDecl l n = Dict.lastBy (·.name) l n := by
  induction l with
  | nil => rfl
  | cons d l ih => rw [lookupDecl, Dict.lastBy_cons, ih]; cases Dict.lastBy (·.name) l n <;> rfl

def tokStep (cd : CoderInfo) : Nat := if cd.tokenPerUse then 1 else 0

/-- the rewritten calls on the success path of `findAll` -/
def cvsOf (cd : CoderInfo) (table : List CollSpec) : List Use → Nat → List (CodeValue × Nat)
  | [], _ => []
  | u :: us, n =>
    match lookup table u.name with
    | some c => (mkCV cd c (bankOf u.args) n, u.skip) :: cvsOf cd table us (n + tokStep cd)
    | none => cvsOf cd table us n

/-- the collections the calls mean, read off the model's table -/
def dsOf (table : List CollSpec) : List Use → List (Decl × Text)
  | [] => []
  | u :: us =>
    match lookup table u.name with
    | some c => (declOf c, bankOf u.args) :: dsOf table us
    | none => dsOf table us

def UseOk (table : List CollSpec) (u : Use) : Prop := CallOk u.args ∧ (lookup table u.name).isSome = true

theorem findAll_ok {cd : CoderInfo} {table : List CollSpec} {uses : List Use} {n : Nat} {r}
    (h : findAll cd table uses n = .ok r) :
    (∀ u ∈ uses, UseOk table u) ∧ r.1 = cvsOf cd table uses n := by
  induction uses generalizing n r with
  | nil => cases h; exact ⟨nofun, rfl⟩
  | cons u us ih =>
    unfold findAll at h
    repeat' split at h
    all_goals cases h
    -- as in `validateWith_ok`; the names follow `findAll`'s matches: the specification looked up, the call's value, the tail's result
    rename_i c hl _ cv n' hg _ rest n'' hr
    obtain ⟨s, hs⟩ := (getCollection_ok_iff cd c u.args n).1 ⟨_, hg⟩
    rw [hs, getCollection_str] at hg
    cases hg
    obtain ⟨i1, rfl⟩ := ih hr
    refine ⟨List.forall_mem_cons.2 ⟨⟨⟨s, hs⟩, by rw [hl]; rfl⟩, i1⟩, ?_⟩
    simp only [cvsOf, hl, hs, bankOf, tokStep]
    split <;> rfl

theorem findAll_of {cd : CoderInfo} {table : List CollSpec} {uses : List Use} (n : Nat)
    (h : ∀ u ∈ uses, UseOk table u) : ∃ r, findAll cd table uses n = .ok r := by
  induction uses generalizing n with
  | nil => exact ⟨_, rfl⟩
  | cons u us ih =>
    obtain ⟨⟨s, hs⟩, hl⟩ := h u (by simp)
    cases hl' : lookup table u.name with
    | none => simp [hl'] at hl
    | some c =>
      obtain ⟨r, hr⟩ := ih (if cd.tokenPerUse then n + 1 else n) (fun x hx => h x (by simp [hx]))
      exact ⟨((mkCV cd c s n, u.skip) :: r.1, r.2), by simp [findAll, hl', hs, getCollection_str, hr]⟩

theorem cvsOf_flat (cd : CoderInfo) (table : List CollSpec) (uses : List Use) : ∀ n,
    (cvsOf cd table uses n).flatMap (·.1.spec.includes) = (dsOf table uses).flatMap (·.1.includes) ∧
    (cvsOf cd table uses n).flatMap (·.1.spec.libraries) = (dsOf table uses).flatMap (·.1.libraries) := by
  induction uses with
  | nil => intro n; exact ⟨rfl, rfl⟩
  | cons u us ih =>
    intro n
    simp only [cvsOf, dsOf]
    cases lookup table u.name with
    | none => exact ih n
    | some c =>
      simp only [List.flatMap_cons, (ih _).1, (ih _).2]
      exact ⟨rfl, rfl⟩

theorem addAll_nil (xs : List Text) : addAll [] xs = xs.eraseDups :=
  AddNew.foldl_nil xs

theorem dedupSpec_eraseDups (xs : List Text) : DedupSpec xs xs.eraseDups :=
  ⟨fun _ => List.mem_eraseDups.1, fun _ => List.mem_eraseDups.2, List.pairwise_idxOf_eraseDups xs⟩

theorem addAll_nil_dedup (xs : List Text) : DedupSpec xs (addAll [] xs) :=
  addAll_nil xs ▸ dedupSpec_eraseDups xs

theorem addAll_append (l a b : List Text) : addAll l (a ++ b) = addAll (addAll l a) b := by
  simp [addAll, List.foldl_append]

theorem emitAll_includes (cvs : List (CodeValue × Nat)) : ∀ st : GenState,
    (emitAll cvs st).2.includes = addAll st.includes (cvs.flatMap (·.1.spec.includes)) ∧
    (emitAll cvs st).2.libs = addAll st.libs (cvs.flatMap (·.1.spec.libraries)) := by
  induction cvs with
  | nil => intro st; simp [emitAll, addAll]
  | cons p cvs ih =>
    intro st
    obtain ⟨cv, skip⟩ := p
    simp only [emitAll, List.flatMap_cons, addAll_append]
    exact ih _

theorem memberOp_eq (n : Nat) : memberOp n = if (n != 0) = true then t!"->" else t!"." := by
  unfold memberOp; cases n <;> simp

theorem observe_fragSpec (b : Backend) (c : CollSpec) (bank : Text) (f : Frag) (k : Consumer) (hc : ClassOk b c)
    (hl : f.lines = expectedLines b (expectedTy b (declOf c)) (cppLit bank) f.tok f.var)
    (hd : f.decl = expectedDecl (expectedTy b (declOf c)) f.var) (hr : f.rep = repOf c f.var) :
    FragSpec b (declOf c) bank (f.observe k) := by
  have hE : (declOf c).element = c.element := rfl
  have hP : (declOf c).elemPtr = (c.element.isSome && c.depthElem != 0) := rfl
  generalize declOf c = d at *
  unfold FragSpec Frag.observe
  rw [hr, hE]
  unfold repOf
  cases he : c.element with
  | none =>
    simp only []
    refine ⟨hl, by rw [hd], trivial, trivial, ?_⟩
    intro o ho
    rw [List.eq_of_mem_replicate ho, hc.2.2]; rfl
  | some e =>
    simp only []
    refine ⟨hl, by rw [hd], ?_, ?_, trivial⟩
    · intro x hx
      rw [List.eq_of_mem_replicate hx, hc.2.2]; rfl
    · intro o ho
      rw [List.eq_of_mem_replicate ho, memberOp_eq, hP, he]
      simp

theorem observeFrags_cons (f : Frag) (fs : List Frag) (ks : List Consumer) :
    observeFrags (f :: fs) ks = f.observe (ks.headD ⟨0, 0, 0⟩) :: observeFrags fs ks.tail := by
  cases ks <;> rfl

theorem observe_var (f : Frag) (k : Consumer) : (f.observe k).var = f.var ∧ (f.observe k).tok = f.tok := by
  unfold Frag.observe; cases f.rep <;> exact ⟨rfl, rfl⟩

theorem observeFrags_map (fs : List Frag) : ∀ ks, (observeFrags fs ks).map (·.var) = fs.map (·.var) ∧
    (observeFrags fs ks).map (·.tok) = fs.map (·.tok) := by
  induction fs with
  | nil => intro ks; exact ⟨rfl, rfl⟩
  | cons f fs ih =>
    intro ks
    rw [observeFrags_cons]
    simp only [List.map_cons, (observe_var f _).1, (observe_var f _).2, (ih ks.tail).1, (ih ks.tail).2, and_self]

theorem zip_observe_map {γ : Type} (g : Decl × Text → Text → γ) (ds : List (Decl × Text)) (fs : List Frag) : ∀ ks,
    (ds.zip (observeFrags fs ks)).map (fun p => g p.1 p.2.tok) = (ds.zip fs).map (fun p => g p.1 p.2.tok) := by
  induction fs generalizing ds with
  | nil => intro ks; simp [observeFrags]
  | cons f fs ih =>
    intro ks
    rw [observeFrags_cons]
    cases ds with
    | nil => rfl
    | cons d ds => simp only [List.zip_cons_cons, List.map_cons, (observe_var f _).2, ih ds ks.tail]

/-- the token clause of `emit_spec`: what emitting the calls with declarations `ds` from state `st`, the name counter at `n`,
gives (`r`) — in miniAOD one fresh token per call, declared and initialised in the class; elsewhere no token at all -/
def TokPart (b : Backend) (n : Nat) (st : GenState) (r : List Frag × GenState) (ds : List (Decl × Text)) : Prop :=
  match b with
  | .cmsMiniaod =>
    FreshFrom n (r.1.map (·.tok)) ∧
    r.2.classDecls = st.classDecls ++ (ds.zip r.1).map (fun p => expectedTokenDecl p.1.1 p.2.tok) ∧
    r.2.book = st.book ++ (ds.zip r.1).map (fun p => expectedTokenInit p.1.1 (cppLit p.1.2) p.2.tok)
  | _ => (∀ f ∈ r.1, f.tok = []) ∧ r.2.classDecls = st.classDecls ∧ r.2.book = st.book

theorem emit_spec (b : Backend) (table : List CollSpec) (hcl : ∀ c ∈ table, ClassOk b c) (uses : List Use) :
    ∀ (n : Nat) (st : GenState) (ks : List Consumer),
    (∀ u ∈ uses, UseOk table u) → (∀ p ∈ dsOf table uses, TypeClean p.1) → (∀ u ∈ uses, NameClean u.name) →
    let r := emitAll (cvsOf b.coder table uses n) st
    let ds := dsOf table uses
    r.1.length = ds.length ∧
    (∀ p ∈ ds.zip (observeFrags r.1 ks), FragSpec b p.1.1 p.1.2 p.2) ∧
    FreshFrom st.counter (r.1.map (·.var)) ∧
    TokPart b n st r ds := by
  induction uses with
  | nil =>
    intro n st ks _ _ _
    refine ⟨rfl, by simp [dsOf, cvsOf, emitAll, observeFrags], FreshFrom.nil _, ?_⟩
    cases b <;> simp [TokPart, cvsOf, emitAll, dsOf, FreshFrom.nil]
  | cons u us ih =>
    intro n st ks hok hclean hnames
    obtain ⟨⟨s, hs⟩, hl⟩ := hok u (by simp)
    cases hlk : lookup table u.name with
    | none => simp [hlk] at hl
    | some c =>
      obtain ⟨hcmem, hname⟩ := Dict.lastBy_some _ (lookup_eq table u.name ▸ hlk)
      have hc := hcl c hcmem
      have hds : dsOf table (u :: us) = (declOf c, s) :: dsOf table us := by simp [dsOf, hlk, hs, bankOf]
      have hcv : cvsOf b.coder table (u :: us) n = (mkCV b.coder c s n, u.skip) :: cvsOf b.coder table us (n + tokStep b.coder) := by
        simp [cvsOf, hlk, hs, bankOf]
      have hcl0 : hasWord paramName c.container = false := hclean (declOf c, s) (by rw [hds]; simp)
      simp only [hds, hcv, emitAll]
      obtain ⟨f1, f2, f3, f4, f5, f6⟩ := frag_any b c s n { st with counter := st.counter + u.skip } hc hcl0
      generalize hr0 : processNode (mkCV b.coder c s n) { st with counter := st.counter + u.skip } = r0 at f1 f2 f3 f4 f5 f6
      obtain ⟨i1, i2, i3, i4⟩ := ih (n + tokStep b.coder) r0.2 ks.tail (fun x hx => hok x (by simp [hx]))
        (fun p hp => hclean p (by rw [hds]; simp [hp])) (fun x hx => hnames x (by simp [hx]))
      generalize hrs : emitAll (cvsOf b.coder table us (n + tokStep b.coder)) r0.2 = rs at i1 i2 i3 i4
      have hnc : NameClean c.name := by rw [hname]; exact hnames u (by simp)
      refine ⟨by simp [i1], ?_, ?_, ?_⟩
      · rw [observeFrags_cons, List.zip_cons_cons]
        exact List.forall_mem_cons.2 ⟨observe_fragSpec b c s r0.1 _ hc f1 f2 f3, i2⟩
      · rw [List.map_cons, f4]
        exact i3.cons hnc (Nat.le_add_right _ _) (f5 ▸ Nat.lt_succ_self _)
      · cases b with
        | cmsMiniaod =>
          simp only [TokPart] at f6 i4 ⊢
          rw [show tokStep (Backend.coder .cmsMiniaod) = 1 from rfl] at i4
          obtain ⟨t1, t2, t3⟩ := f6
          obtain ⟨j1, j2, j3⟩ := i4
          refine ⟨?_, ?_, ?_⟩
          · rw [List.map_cons, t1]
            exact j1.cons (by decide) (Nat.le_refl n) (Nat.lt_succ_self n)
          · rw [j2, t2, List.zip_cons_cons, List.map_cons, t1]; simp
          · rw [j3, t3, List.zip_cons_cons, List.map_cons, t1]; simp
        | atlas | cmsAod =>
          simp only [TokPart] at f6 i4 ⊢
          obtain ⟨t1, t2, t3⟩ := f6
          obtain ⟨j1, j2, j3⟩ := i4
          exact ⟨List.forall_mem_cons.2 ⟨t1, j1⟩, by rw [j2, t2], by rw [j3, t3]⟩

theorem resolve_eq {b : Backend} {mds : List Md} {table : List CollSpec}
    (ht : table.map declOf = builtinDecls b ++ mds.map (intended b)) (n : Text) :
    resolve b mds n = (lookup table n).map declOf := by
  unfold resolve; rw [← ht, lookupDecl_eq, lookup_eq, Dict.lastBy_map (·.name) declOf (·.name) fun _ => rfl]

theorem resolveAll_eq {b : Backend} {mds : List Md} {table : List CollSpec}
    (ht : table.map declOf = builtinDecls b ++ mds.map (intended b)) (uses : List Use) :
    resolveAll b mds uses = dsOf table uses := by
  induction uses with
  | nil => rfl
  | cons u us ih =>
    simp only [resolveAll, dsOf, resolve_eq ht, ih]
    cases lookup table u.name <;> rfl

theorem emit_dedup (cd : CoderInfo) (table : List CollSpec) (uses : List Use) (n c : Nat) :
    let r := emitAll (cvsOf cd table uses n) ⟨c, [], [], [], []⟩
    DedupSpec ((dsOf table uses).flatMap (·.1.includes)) r.2.includes ∧
    DedupSpec ((dsOf table uses).flatMap (·.1.libraries)) r.2.libs := by
  obtain ⟨g1, g2⟩ := emitAll_includes (cvsOf cd table uses n) ⟨c, [], [], [], []⟩
  intro r
  rw [g1, g2, (cvsOf_flat cd table uses n).1, (cvsOf_flat cd table uses n).2]
  exact ⟨addAll_nil_dedup _, addAll_nil_dedup _⟩

theorem sameLines_refl (a : List Text) : SameLines a a := fun _ _ => rfl

theorem runJob_ok {b : Backend} {mds : List Md} {uses : List Use} {c0 gap : Nat} {out : JobOut}
    (h : runJob b mds uses c0 gap = .ok out) :
    ∃ table n, declare b mds = .ok table ∧ (∀ u ∈ uses, UseOk table u) ∧
      ∃ r, r = emitAll (cvsOf b.coder table uses c0) ⟨n + gap, [], [], [], []⟩ ∧
        out = ⟨r.1, r.2.classDecls, r.2.book, r.2.includes, r.2.libs⟩ := by
  unfold runJob at h
  repeat' split at h
  all_goals cases h
  rename_i table hd _ cvs n hf
  obtain ⟨u1, u2⟩ := findAll_ok hf
  exact ⟨table, n, hd, u1, _, by rw [← u2], rfl⟩

theorem useOk_iff {b : Backend} {mds : List Md} {table : List CollSpec}
    (ht : table.map declOf = builtinDecls b ++ mds.map (intended b)) (u : Use) :
    UseOk table u ↔ CallOk u.args ∧ (resolve b mds u.name).isSome = true := by
  rw [resolve_eq ht, Option.isSome_map]; rfl

end FaxVerif.C06
