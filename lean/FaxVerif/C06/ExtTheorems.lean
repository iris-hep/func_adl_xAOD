/-
C06 — property theorems of the extension: the finder reaches every position of a query, which
declaration lists are refused, what the rendered files include.
-/
import FaxVerif.C06.Theorems
import FaxVerif.C06.ExtModel
namespace FaxVerif.C06

/-- **C06.render_source_recognised** — the translator read `write_cpp_files`' include / library
lists as plain concatenations of the visitor's lists and the inject blocks' lists, and found the
`#include` loops of every template. -/
theorem render_source_recognised : GenR.unrecognised = [] := by decide

theorem argShape_visit (known : Text → Bool) (e : PExpr) : argShape (visit known e) = argShape e := by
  cases e with
  | callAttr r a args => simp only [visit]; split <;> rfl
  | callName f args => simp only [visit]; split <;> rfl
  | _ => simp [visit, argShape]

theorem shapes_visitAll (known : Text → Bool) : ∀ es : PExprs, (visitAll known es).shapes = es.shapes
  | .nil => by simp [visitAll, PExprs.shapes]
  | .cons e es => by simp [visitAll, PExprs.shapes, argShape_visit, shapes_visitAll known es]

mutual
theorem visit_found (known : Text → Bool) : ∀ e : PExpr, e.raw = true →
    found (visit known e) = sites known e ∧ sites known (visit known e) = []
  | .atom t, _ => by simp [visit, found, sites]
  | .str s, _ => by simp [visit, found, sites]
  | .node ks, h => by
    have ih := visitAll_found known ks (by simpa [PExpr.raw] using h)
    simp [visit, found, sites, ih]
  | .callAttr r a args, h => by
    have ih := visitAll_found known args (by simpa [PExpr.raw] using h)
    by_cases hk : known a = true
    · simp [visit, hk, found, sites, ih, shapes_visitAll]
    · simp [visit, hk, found, sites, ih]
  | .callName f args, h => by
    have ih := visitAll_found known args (by simpa [PExpr.raw] using h)
    by_cases hk : known f = true
    · simp [visit, hk, found, sites, ih, shapes_visitAll]
    · simp [visit, hk, found, sites, ih]
  | .callOther f args, h => by
    have h' : f.raw = true ∧ args.raw = true := by simpa [PExpr.raw] using h
    have ih1 := visit_found known f h'.1
    have ih2 := visitAll_found known args h'.2
    simp [visit, found, sites, ih1, ih2]
  | .rewritten n args, h => by simp [PExpr.raw] at h
theorem visitAll_found (known : Text → Bool) : ∀ es : PExprs, es.raw = true →
    foundAll (visitAll known es) = sitesAll known es ∧ sitesAll known (visitAll known es) = []
  | .nil, _ => by simp [visitAll, foundAll, sitesAll]
  | .cons e es, h => by
    have h' : e.raw = true ∧ es.raw = true := by simpa [PExprs.raw] using h
    have ih1 := visit_found known e h'.1
    have ih2 := visitAll_found known es h'.2
    simp [visitAll, foundAll, sitesAll, ih1, ih2]
end

/-- **C06.every_collection_call_found** — for EVERY expression tree as the user writes it (`e.raw`: no node is
already `rewritten`) and every table of method names: each call that names a known function — at whatever position: inside the arguments of
another rewritten call (`DeltaR(e.Jets("a")…)`, a declared function), of a method, in a
conditional, a tuple / dict element, a lambda body, at any depth — is rewritten exactly once
(`found` lists the rewritten calls in post-order: it IS the list of call sites, same names, same
argument shapes, same multiplicity), and no call naming a known function is left anywhere in
the result. -/
theorem every_collection_call_found (known : Text → Bool) (e : PExpr) (h : e.raw = true) :
    found (visit known e) = sites known e ∧ sites known (visit known e) = [] ∧
    (found (visit known e)).length = (sites known e).length := by
  obtain ⟨h1, h2⟩ := visit_found known e h
  exact ⟨h1, h2, by rw [h1]⟩

/-- `DeltaR(e.Jets("a").eta…, 1.0)` with both names known: both calls are sites -/
example :
    let known : Text → Bool := fun n => n == t!"DeltaR" || n == t!"Jets"
    let e : PExpr := .callName t!"DeltaR" (.cons (.callOther (.node (.cons (.callAttr t!"e" t!"Jets" (.cons (.str t!"a") .nil)) .nil)) .nil) (.cons (.atom t!"1.0") .nil))
    e.raw = true ∧ sites known e = [(t!"Jets", [.str t!"a"]), (t!"DeltaR", [.other, .other])] ∧
      found (visit known e) = [(t!"Jets", [.str t!"a"]), (t!"DeltaR", [.other, .other])] := by
  decide +kernel

/-- **C06.finder_without_descent_counterexample** — the traversal that visits the children only of
calls that did not match (seeded change C06-e3) leaves the collection call inside the argument
list of a rewritten call unrewritten: the statement above is false of it. -/
theorem finder_without_descent_counterexample :
    ∃ (known : Text → Bool) (e : PExpr), e.raw = true ∧ sites known (visitNoDescent known e) ≠ [] ∧
      (found (visitNoDescent known e)).length < (sites known e).length := by
  refine ⟨fun n => n == t!"DeltaR" || n == t!"Jets",
    .callName t!"DeltaR" (.cons (.callAttr t!"e" t!"Jets" (.cons (.str t!"a") .nil)) (.cons (.atom t!"1.0") .nil)), ?_⟩
  decide +kernel

/-- **C06.run_spec_tree_partial** — the whole-job statement for query TREES: the collection calls of
the tree (every position) are what the job model translates, so `RunSpec` holds of the tree's
job under the hypotheses of `run_spec_partial`. -/
theorem run_spec_tree_partial (b : Backend) (mds : List Md) (table : List CollSpec) (known : Text → Bool) (e : PExpr)
    (c0 gap : Nat) (ks : List Consumer)
    (hwt : ∀ md ∈ mds, md.WellTyped)
    (hcms : ∀ md ∈ mds, md.mdType = b.mdType → CmsIsCollection b md)
    (hclean : ∀ p ∈ resolveAll b mds (usesOfTree table known e), TypeClean p.1)
    (hnames : ∀ u ∈ usesOfTree table known e, NameClean u.name) :
    RunSpec b mds (usesOfTree table known e) (outcomeOf (runJob b mds (usesOfTree table known e) c0 gap) ks) :=
  run_spec_partial b mds (usesOfTree table known e) c0 gap ks hwt hcms hclean hnames

/-- **C06.decl_refused_iff** — for ANY list of declarations: the executor of backend `b` refuses
the list exactly when some declaration — at whatever position, whatever precedes or follows it,
repeated or not — is refused by `process_metadata` or is accepted as a declaration for another
backend.  (No declaration is ever dropped before the backend test.) -/
theorem decl_refused_iff (b : Backend) (mds : List Md) :
    (∃ e, declare b mds = .error e) ↔
      ∃ md ∈ mds, (∃ e, validate md = .error e) ∨ (∃ c, validate md = .ok c ∧ c.backend ≠ b.execName) := by
  have hgood : ∀ md, (∃ c, validate md = .ok c ∧ c.backend = b.execName) ↔
      ¬ ((∃ e, validate md = .error e) ∨ (∃ c, validate md = .ok c ∧ c.backend ≠ b.execName)) := by
    intro md; cases validate md <;> simp
  have hd : (∃ e, declare b mds = .error e) ↔ ¬ ∃ table, declare b mds = .ok table := by
    cases declare b mds <;> simp
  simp only [hd, declare_ok_iff, hgood, Classical.not_forall, Classical.not_not, exists_prop]

/-- **C06.foreign_decl_refused_any_position** — a declaration that `process_metadata` accepts for
ANOTHER backend makes the executor refuse the list wherever it stands — also after a
declaration `own`, whatever it is, for instance an identical one for the executor's own backend
(`pre ++ [own] ++ mid ++ [foreign] ++ post`). -/
theorem foreign_decl_refused_any_position (b b' : Backend) (hbb : b' ≠ b) (pre mid post : List Md) (own foreign : Md)
    (hf : foreign.mdType = b'.mdType) :
    (∃ e, declare b (pre ++ [own] ++ mid ++ [foreign] ++ post) = .error e) ∧
    (∃ e, declare b (pre ++ [foreign] ++ mid ++ [own] ++ post) = .error e) := by
  have hne : foreign.mdType ≠ b.mdType := fun h => hbb (mdType_injective _ _ (hf.symm.trans h))
  exact ⟨declare_refuses_foreign b (by simp) hne, declare_refuses_foreign b (by simp) hne⟩

/-- own declaration, then the same fields declared for CMS AOD: refused on ATLAS in both orders -/
example :
    let f (ty : Text) : Md := ⟨ty, [(t!"name", .str t!"V"), (t!"include_files", .strs [t!"V.h"]), (t!"container_type", .str t!"my::VC"),
      (t!"element_type", .str t!"my::V"), (t!"contains_collection", .bool true)]⟩
    (declare .atlas [f (Backend.mdType .atlas), f (Backend.mdType .cmsAod)]).toOption = none ∧
    (declare .atlas [f (Backend.mdType .cmsAod), f (Backend.mdType .atlas)]).toOption = none ∧
    (declare .atlas [f (Backend.mdType .atlas), f (Backend.mdType .atlas)]).toOption.isSome = true := by
  decide +kernel

/-- the parts of `write_cpp_files`' list expressions that reach the template variable `v` -/
def varParts (v : Text) : List Text :=
  if v = t!"body_include_files" then GenR.bodyListParts
  else if v = t!"header_include_files" then GenR.headerListParts
  else if v = t!"link_libraries" then GenR.linkListParts
  else []

def fileParts (b : Backend) (file : Text) : List Text :=
  (GenR.includeLoops.filter (fun r => r.1 = b.execName && r.2.1 = file)).flatMap (fun r => r.2.2.flatMap varParts)

/-- the parts that reach the include closure of the main source (`fileParts`: those of one rendered
file; `linkParts`: those of the link line) -/
def closureParts (b : Backend) : List Text :=
  (GenR.mainIncludes.filter (fun r => r.1 = b.execName)).flatMap fun r =>
    fileParts b r.2.1 ++ r.2.2.flatMap (fileParts b)

def linkParts (b : Backend) : List Text :=
  (GenR.linkLoops.filter (fun r => r.1 = b.execName)).flatMap (fun r => r.2.2.flatMap varParts)

section
variable (qvIncs qvLibs : List Text) (blocks : List Inject)

theorem templateVar_eq :
    templateVar qvIncs qvLibs blocks = fun v => (varParts v).flatMap (partValue qvIncs qvLibs blocks) := by
  funext v
  simp only [templateVar, varParts, apply_ite (fun l : List Text => l.flatMap (partValue qvIncs qvLibs blocks)),
    List.flatMap_nil]

theorem fileIncludes_eq (b : Backend) (file : Text) :
    fileIncludes b file qvIncs qvLibs blocks = (fileParts b file).flatMap (partValue qvIncs qvLibs blocks) := by
  simp only [fileIncludes, fileParts, templateVar_eq, List.flatMap_assoc]

/-- The include closure is the concatenation of the values of its parts: which files, loops and
template variables lead there is a matter of the generated lists alone. -/
theorem includeClosure_eq (b : Backend) :
    includeClosure b qvIncs qvLibs blocks = (closureParts b).flatMap (partValue qvIncs qvLibs blocks) := by
  simp only [includeClosure, closureParts, fileIncludes_eq, List.flatMap_assoc, List.flatMap_append]

theorem linkLine_eq (b : Backend) :
    linkLine b qvIncs qvLibs blocks = (linkParts b).flatMap (partValue qvIncs qvLibs blocks) := by
  simp only [linkLine, linkParts, templateVar_eq, List.flatMap_assoc]

theorem partValue_qvIncs : partValue qvIncs qvLibs blocks t!"qv.include_files()" = qvIncs := if_pos rfl

theorem partValue_qvLibs : partValue qvIncs qvLibs blocks t!"qv.link_libraries()" = qvLibs :=
  (if_neg (by decide +kernel)).trans (if_pos rfl)

theorem partValue_body : partValue qvIncs qvLibs blocks t!"self.body_include_files" = blocks.flatMap (·.bodyIncludes) := by
  unfold partValue
  rw [if_neg (by decide +kernel), if_neg (by decide +kernel), if_pos rfl]

theorem partValue_header :
    partValue qvIncs qvLibs blocks t!"self.header_include_files" = blocks.flatMap (·.headerIncludes) := by
  unfold partValue
  rw [if_neg (by decide +kernel), if_neg (by decide +kernel), if_neg (by decide +kernel), if_pos rfl]

end

theorem closureParts_eval (b : Backend) :
    closureParts b = t!"qv.include_files()" :: t!"self.body_include_files" ::
      (if b = .atlas then [t!"self.header_include_files"] else []) := by
  cases b <;> decide +kernel

theorem linkParts_atlas : linkParts .atlas = [t!"qv.link_libraries()", t!"self.link_libraries"] := by
  decide +kernel

/-- **C06.include_closure_covers** — on every backend, whatever `inject_code` blocks accompany the
query (also blocks that name the very same headers in `header_includes` or `body_includes`): every
header the visitor collected (`qv.include_files()`, which holds the headers of every used
collection — `job_includes`) is an `#include` line of the include closure of the main source. -/
theorem include_closure_covers (b : Backend) (qvIncs qvLibs : List Text) (blocks : List Inject) :
    ∀ h ∈ qvIncs, h ∈ includeClosure b qvIncs qvLibs blocks := by
  intro h hh
  rw [includeClosure_eq, closureParts_eval, List.flatMap_cons, partValue_qvIncs]
  exact List.mem_append_left _ hh

/-- **C06.link_line_covers** — ATLAS: every library the visitor collected is on the link line,
whatever the inject blocks add. -/
theorem link_line_covers (qvIncs qvLibs : List Text) (blocks : List Inject) :
    ∀ l ∈ qvLibs, l ∈ linkLine .atlas qvIncs qvLibs blocks := by
  intro l hl
  rw [linkLine_eq, linkParts_atlas, List.flatMap_cons, partValue_qvLibs]
  exact List.mem_append_left _ hl

/-- **C06.header_includes_only_atlas** — the CMS templates render no header includes: a header named
only in an inject block's `header_includes` reaches no CMS file (so nothing may be dropped from
the body list on the ground that "the header has it"), while ATLAS renders it through `query.h`. -/
theorem header_includes_only_atlas (qvIncs qvLibs : List Text) (blocks : List Inject) :
    includeClosure .cmsAod qvIncs qvLibs blocks = qvIncs ++ blocks.flatMap (·.bodyIncludes) ∧
    includeClosure .cmsMiniaod qvIncs qvLibs blocks = qvIncs ++ blocks.flatMap (·.bodyIncludes) ∧
    includeClosure .atlas qvIncs qvLibs blocks =
      qvIncs ++ blocks.flatMap (·.bodyIncludes) ++ blocks.flatMap (·.headerIncludes) := by
  simp only [includeClosure_eq, closureParts_eval, List.flatMap_cons, List.flatMap_nil, partValue_qvIncs, partValue_body,
    partValue_header, reduceCtorEq, if_true, if_false, List.append_nil, List.append_assoc, and_self]

example : includeClosure .cmsAod [t!"A.h"] [] [⟨[t!"B.h"], [t!"A.h"], []⟩] = [t!"A.h", t!"B.h"] := by decide +kernel

theorem incSpec_of_dedup (m : IncMode) {wanted out : List Text} (h : DedupSpec wanted out) : IncSpec m wanted out := by
  cases m with
  | exact => exact h
  | restricted =>
    have : out.filter (fun x => decide (x ∈ wanted)) = out :=
      List.filter_eq_self.2 fun x hx => by simpa using h.1 x hx
    unfold IncSpec; simp only []; rw [this]; exact h
  | cover => exact h.2.1

/-- **C06.run_spec_modes** — `RunSpec` (the exact reading) implies the two weaker readings of the
include / library clause that the harness uses when other sources of headers are present. -/
theorem run_spec_modes (m : IncMode) (b : Backend) (mds : List Md) (uses : List Use) (r : Outcome)
    (h : RunSpec b mds uses r) : RunSpecM m b mds uses r := by
  cases r with
  | rejected => exact h
  | ok o =>
    obtain ⟨ha, h1, h2, h3, h4, h5, h6⟩ := h
    exact ⟨ha, h1, h2, h3, h4, incSpec_of_dedup m h5, incSpec_of_dedup m h6⟩

/-- **C06.run_spec_closure** — the whole-job statement on the rendered files: under the hypotheses of
`run_spec_partial`, with ANY inject blocks beside the query, the `cover` reading holds of the
model's job observed through the include closure of the rendered main source (and, on ATLAS,
through the link line). -/
theorem run_spec_closure (b : Backend) (mds : List Md) (uses : List Use) (c0 gap : Nat) (ks : List Consumer)
    (blocks : List Inject) (out : JobOut)
    (hwt : ∀ md ∈ mds, md.WellTyped)
    (hcms : ∀ md ∈ mds, md.mdType = b.mdType → CmsIsCollection b md)
    (hclean : ∀ p ∈ resolveAll b mds uses, TypeClean p.1) (hnames : ∀ u ∈ uses, NameClean u.name)
    (h : runJob b mds uses c0 gap = .ok out) :
    RunSpecM .cover b mds uses
      (.ok { out.observe ks with
        includes := includeClosure b out.includes out.libs blocks,
        libs := if b = .atlas then linkLine .atlas out.includes out.libs blocks else out.libs }) := by
  have hs := run_spec_partial b mds uses c0 gap ks hwt hcms hclean hnames
  rw [h] at hs
  obtain ⟨ha, h1, h2, h3, h4, h5, h6⟩ := hs
  refine ⟨ha, h1, h2, h3, h4, ?_, ?_⟩
  · exact fun x hx => include_closure_covers b _ _ blocks x (h5.2.1 x hx)
  · intro x hx
    show x ∈ if b = .atlas then _ else _
    split
    · exact link_line_covers _ _ blocks x (h6.2.1 x hx)
    · exact h6.2.1 x hx

end FaxVerif.C06
