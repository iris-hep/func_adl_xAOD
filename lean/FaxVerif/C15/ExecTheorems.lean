/-
C15 — property theorems, part 4: the executor-level path (several `MetaData` calls, several
`apply_ast_transformations` calls, merging before the graph is built) and the rendering into
`ATestRun_eljob.py`.
-/
import FaxVerif.C15.RefusalTheorems
import FaxVerif.C15.ModelExec
namespace FaxVerif.C15

theorem processMd_eq (mds : List Md) :
    processMd mds = if .bad ∈ mds then .error .metadata else .ok (jobBlocks mds) := by
  induction mds with
  | nil => rfl
  | cons md mds ih =>
    cases md with
    | bad => simp [processMd]
    | other => simpa [processMd, show jobBlocks (.other :: mds) = jobBlocks mds from rfl] using ih
    | jobScript n s d => by_cases h : .bad ∈ mds <;> simp [processMd, ih, h, jobBlocks, Md.toJB?]

theorem jobBlocks_append (a b : List Md) : jobBlocks (a ++ b) = jobBlocks a ++ jobBlocks b := by
  simp [jobBlocks, List.filterMap_append]

theorem applyAll_ok (qs : List Q) (x : Exec) (h : .bad ∉ allMd qs) :
    x.applyAll qs = (none, ⟨x.blocks ++ jobBlocks (allMd qs)⟩) := by
  induction qs generalizing x with
  | nil => simp [Exec.applyAll, allMd, jobBlocks]
  | cons q qs ih =>
    simp only [allMd, List.flatMap_cons, List.mem_append, not_or] at h
    rw [Exec.applyAll, Exec.apply, processMd_eq, if_neg h.1]
    simp only
    rw [ih _ h.2]
    simp [allMd, jobBlocks_append, List.append_assoc]

theorem applyAll_bad (qs : List Q) (x : Exec) (h : .bad ∈ allMd qs) :
    ∃ x', x.applyAll qs = (some .metadata, x') := by
  induction qs generalizing x with
  | nil => simp [allMd] at h
  | cons q qs ih =>
    rw [Exec.applyAll, Exec.apply, processMd_eq]
    by_cases hq : .bad ∈ extract q
    · rw [if_pos hq]; exact ⟨x, rfl⟩
    · rw [if_neg hq]; exact ih _ (by simpa [allMd, hq] using h)

theorem renderLoop_std (v a b : String) (adds : List String) :
    renderLoop v [.text a, .var v, .text b] adds = some (adds.flatMap fun l => [a, l, b]) := by
  induction adds with
  | nil => rfl
  | cons l ls ih => simp [renderLoop, renderBody, ih]

/-- **C15.template_shape** (tie T, re-checked on every run against the template's source): the job
options template is text, one filter-free loop over `job_option_additions` whose body prints the
loop variable between two pieces of text, text. -/
theorem template_shape :
    Gen.eljobItems = [.text P.pre, .forEach P.var "job_option_additions" [.text P.a, .var P.var, .text P.b], .text P.post] := by
  rfl

/-- **C15.template_separators** — what the template puts around each line is a line break at
most (so lines stay whole lines and nothing but blank lines comes between them). -/
theorem template_separators :
    (P.a = "\n" ∨ P.a = "") ∧ (P.b = "\n" ∨ P.b = "") ∧ ¬ (P.a = "" ∧ P.b = "") := by decide +kernel

/-- **C15.render_exact** — the rendered file is: the text before the loop, then for every line of
the script, in order, the separator, the line unaltered, the separator; then the text after the
loop.  Nothing is dropped, repeated, reordered or inserted. -/
theorem render_exact (adds : List String) :
    renderT adds Gen.eljobItems = some ([P.pre] ++ (adds.flatMap fun l => [P.a, l, P.b]) ++ [P.post]) := by
  rw [template_shape]
  simp [renderT, renderLoop_std]

theorem write_ok (bs : List JB) (π lines : List String) (h : genScriptOrder bs = .ok (π, lines)) :
    (⟨bs⟩ : Exec).write = (.ok ⟨π, lines, [P.pre] ++ (lines.flatMap fun l => [P.a, l, P.b]) ++ [P.post]⟩, ⟨[]⟩) := by
  unfold Exec.write
  rw [h]
  simp only [render_exact]

theorem write_err (bs : List JB) (e : Err) (h : genScriptOrder bs = .error e) :
    (⟨bs⟩ : Exec).write = (.error (.script e), ⟨bs⟩) := by
  unfold Exec.write
  rw [h]

theorem translate_fresh (qs : List Q) (h : .bad ∉ allMd qs) :
    (⟨[]⟩ : Exec).translate qs = (⟨jobBlocks (allMd qs)⟩ : Exec).write := by
  unfold Exec.translate
  rw [applyAll_ok qs ⟨[]⟩ h]; simp

/-- **C15.exec_bad_metadata** — a rejected metadata item anywhere refuses the translation. -/
theorem exec_bad_metadata (qs : List Q) (h : .bad ∈ allMd qs) : translate qs = .error .metadata := by
  obtain ⟨x', hx⟩ := applyAll_bad qs ⟨[]⟩ h
  simp [translate, Exec.translate, hx]

theorem translate_spec (qs : List Q) : translate qs =
    if .bad ∈ allMd qs then .error .metadata else
    match genScriptOrder (jobBlocks (allMd qs)) with
    | .error e => .error (.script e)
    | .ok (π, lines) => .ok ⟨π, lines, [P.pre] ++ (lines.flatMap fun l => [P.a, l, P.b]) ++ [P.post]⟩ := by
  split
  next hb => exact exec_bad_metadata qs hb
  next hb =>
    rw [translate, translate_fresh qs hb]
    cases hg : genScriptOrder (jobBlocks (allMd qs)) with
    | error e => rw [write_err _ e hg]
    | ok r => rw [write_ok _ r.1 r.2 hg]

theorem translate_ok (qs : List Q) (w : Written) (h : translate qs = .ok w) :
    .bad ∉ allMd qs ∧ genScriptOrder (jobBlocks (allMd qs)) = .ok (w.order, w.lines) ∧
    w.chunks = [P.pre] ++ (w.lines.flatMap fun l => [P.a, l, P.b]) ++ [P.post] := by
  rw [translate_spec] at h
  split at h
  · cases h
  next hb =>
    refine ⟨hb, ?_⟩
    cases hg : genScriptOrder (jobBlocks (allMd qs)) with
    | error e => rw [hg] at h; cases h
    | ok r => rw [hg] at h; cases h; exact ⟨rfl, rfl⟩

/-- **C15.exec_sound** — end to end: when the translation of one or several queries on a fresh
executor succeeds, the blocks of *all* `add_job_script` items of *all* `MetaData` calls (outermost
call first, query after query) were merged as one list: the emitted order satisfies the
specification with respect to that list, is its FIFO order, the lines are the scripts along it, and
the job-options file holds exactly these lines, in this order, between the fixed texts. -/
theorem exec_sound (qs : List Q) (w : Written) (h : translate qs = .ok w) :
    let bs := jobBlocks (allMd qs)
    SpecOk bs w.order w.lines ∧ Fifo (depsOf bs) [] (arrival bs) w.order ∧
    w.chunks = [P.pre] ++ (w.lines.flatMap fun l => [P.a, l, P.b]) ++ [P.post] := by
  obtain ⟨_, hg, hch⟩ := translate_ok qs w h
  exact ⟨sound _ _ _ hg, order_fifo _ _ _ hg, hch⟩

/-- **C15.exec_refused_iff** — with well-formed metadata, a translation is refused exactly when
the merged list of blocks has a name with two different scripts, a dangling dependency or a
dependency cycle — whichever `MetaData` calls or queries the blocks came from. -/
theorem exec_refused_iff (qs : List Q) (h : ∀ md ∈ allMd qs, md ≠ .bad) :
    let bs := jobBlocks (allMd qs)
    (∃ e, translate qs = .error e) ↔ (Conflict bs ∨ Missing bs ∨ HasCycle bs) := by
  intro bs
  rw [translate_spec, if_neg (fun hb => h _ hb rfl), ← refused_iff]
  cases genScriptOrder bs <;> simp

/-- **C15.template_never** — the model's artificial template error is never produced. -/
theorem template_never (qs : List Q) : translate qs ≠ .error .template := by
  rw [translate_spec]
  split
  · simp
  · cases genScriptOrder (jobBlocks (allMd qs)) <;> simp

theorem mem_jobBlocks (mds : List Md) (n : String) (s : List String) (d : Option (List String))
    (h : Md.jobScript n s d ∈ mds) : (⟨n, s, d.getD []⟩ : JB) ∈ jobBlocks mds := by
  simp only [jobBlocks, List.mem_filterMap]
  exact ⟨_, h, rfl⟩

/-- **C15.exec_conflict** — the same name with two different scripts, in whichever two `MetaData`
calls of whichever queries, is refused with the conflict error. -/
theorem exec_conflict (qs : List Q) (h : ∀ md ∈ allMd qs, md ≠ .bad) (n : String) (s s' : List String)
    (d d' : Option (List String)) (h1 : Md.jobScript n s d ∈ allMd qs) (h2 : Md.jobScript n s' d' ∈ allMd qs)
    (hne : s ≠ s') : ∃ m, translate qs = .error (.script (.conflict m)) := by
  have hc : Conflict (jobBlocks (allMd qs)) :=
    ⟨_, mem_jobBlocks _ n s d h1, _, mem_jobBlocks _ n s' d' h2, rfl, hne⟩
  obtain ⟨m, hm⟩ := gso_of_conflict _ hc
  exact ⟨m, by rw [translate_spec, if_neg (fun hb => h _ hb rfl), hm]⟩

/-- **C15.exec_union** — the same name with the same script and different `depends_on` lists in
different `MetaData` calls: the block is emitted once, after every dependency of every copy. -/
theorem exec_union (qs : List Q) (w : Written) (h : translate qs = .ok w) (n : String) (s : List String)
    (ds : List String) (hmd : Md.jobScript n s (some ds) ∈ allMd qs) (d : String) (hd : d ∈ ds) :
    w.order.count n = 1 ∧ d ∈ w.order ∧ w.order.idxOf d < w.order.idxOf n ∧
    w.lines = w.order.flatMap (scriptOf (jobBlocks (allMd qs))) := by
  obtain ⟨_, hg, _⟩ := translate_ok qs w h
  have := merge _ _ _ hg ⟨n, s, ds⟩ (mem_jobBlocks _ n s (some ds) hmd) d hd
  exact ⟨this.1, this.2.1, this.2.2, (sound _ _ _ hg).2.2.2.1⟩

/-- **C15.session_ok** — a successful translation leaves the executor empty: the next translation
on the same executor behaves like one on a fresh executor. -/
theorem session_ok (qs : List Q) (rest : List (List Q)) (w : Written) (h : translate qs = .ok w) :
    session ⟨[]⟩ (qs :: rest) = .ok w :: session ⟨[]⟩ rest := by
  obtain ⟨hnb, hg, hch⟩ := translate_ok qs w h
  rw [session, translate_fresh qs hnb, write_ok _ _ _ hg, ← hch]

/-- **C15.session_refused_keeps_blocks** — the code as it stands: a refused script leaves before
`reset()`, so the blocks stay on the executor and the next translation on it starts from them. -/
theorem session_refused_keeps_blocks (qs : List Q) (rest : List (List Q)) (e : Err)
    (hnb : ∀ md ∈ allMd qs, md ≠ .bad) (hg : genScriptOrder (jobBlocks (allMd qs)) = .error e) :
    session ⟨[]⟩ (qs :: rest) = .error (.script e) :: session ⟨jobBlocks (allMd qs)⟩ rest := by
  rw [session, translate_fresh qs (fun hb => hnb _ hb rfl), write_err _ e hg]

/-- two queries; the first carries two nested `MetaData` calls (the outer one repeats block `b`
with another dependency and leaves `depends_on` out for `a`), the second one sits inside a call -/
def exQs : List Q :=
  [.metaData (.jobScript "b" ["run b"] (some ["a"])) (.metaData .other (.metaData (.jobScript "a" ["run a"] none) .ds)),
   .call [.ds, .metaData (.jobScript "b" ["run b"] (some ["c"])) (.call [.metaData (.jobScript "c" [] none) .ds])]]

example : allMd exQs = [.jobScript "b" ["run b"] (some ["a"]), .other, .jobScript "a" ["run a"] none,
    .jobScript "b" ["run b"] (some ["c"]), .jobScript "c" [] none] := by decide +kernel
example : (translate exQs).toOption.map (fun w => (w.order, w.lines)) = some (["a", "c", "b"], ["run a", "run b"]) := by
  decide +kernel
example : ∃ m, translate [.metaData (.jobScript "a" ["x"] none) (.metaData (.jobScript "a" ["y"] none) .ds)]
    = .error (.script (.conflict m)) := ⟨"a", by rfl⟩

end FaxVerif.C15
