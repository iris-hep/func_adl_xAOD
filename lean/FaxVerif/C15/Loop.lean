/-
C15 — the emission loop on a table `mkTbl ns sc dp`: a run that returns has carried out the work list
`Fifo dp [] ns` and its text is the scripts along the emitted order; a run that refuses has met a
dangling dependency or a state in which every pending name waits for a pending name; and every work-list
run that ends is returned (`runTbl_of_fifo`).
-/
import FaxVerif.C15.Fifo
import FaxVerif.C15.Proofs
namespace FaxVerif.C15

structure SeenInv (ns : List String) (sc : String → List String) (seen out : List String) : Prop where
  nodup : seen.Nodup
  sub : ∀ n ∈ seen, n ∈ ns
  text : out = seen.flatMap sc

/-- the loop for every amount of fuel that is at least what `runTbl` supplies -/
theorem loop_spec (ns : List String) (sc dp : String → List String) (hnd : ns.Nodup) (fuel : Nat)
    (seen out : List String) (h : SeenInv ns sc seen out) (hf : ns.length + 1 ≤ fuel + seen.length) :
    (∀ π o, loop (mkTbl ns sc dp) fuel seen out = .ok (π, o) →
      Fifo dp seen (pendingOf ns seen) π ∧ o = π.flatMap sc) ∧
    (∀ e, loop (mkTbl ns sc dp) fuel seen out = .error e → ∃ seen' : List String,
      e = .cycle (ns.filter (· ∉ seen')) ∧ seen'.length < ns.length ∧
      ∀ n ∈ ns, n ∉ seen' → ∃ d ∈ dp n, d ∉ seen') := by
  have hnames := mkTbl_names ns sc dp
  have hlen := mkTbl_length ns sc dp
  have hndt : (mkTbl ns sc dp).names.Nodup := by rw [hnames]; exact hnd
  have hes : ∀ e ∈ mkTbl ns sc dp, e.script = sc e.name ∧ e.deps = dp e.name := fun e he => by
    obtain ⟨n, _, rfl⟩ := List.mem_map.1 he; exact ⟨rfl, rfl⟩
  fun_induction loop (mkTbl ns sc dp) fuel seen out with
  | case1 => have := h.nodup.length_le_of_subset h.sub; omega
  | case2 fuel seen out hlt s hem ih =>
    obtain ⟨E, hE, hsub, hndE, _, hfifo⟩ := pass_shape sc dp (mkTbl ns sc dp) ⟨seen, out, false⟩ hndt hes
    have hs : s = ⟨seen ++ E, out ++ E.flatMap sc, !E.isEmpty⟩ := by simpa using hE
    have hpos : 0 < E.length := List.length_pos_iff.2 fun h0 => by simp [hs, h0] at hem
    have hinv : SeenInv ns sc s.seen s.out := by
      rw [hs]
      exact ⟨hndE h.nodup, fun n hn => (List.mem_append.1 hn).elim (h.sub n) fun hn => hnames ▸ hsub n hn,
        by simp [h.text]⟩
    obtain ⟨ih1, ih2⟩ := ih hinv (by simp only [hs, List.length_append]; omega)
    refine ⟨fun π o hr => ⟨?_, (ih1 π o hr).2⟩, ih2⟩
    simpa [hnames] using hfifo [] π (by simpa [hs, hnames] using (ih1 π o hr).1)
  | case3 fuel seen out hlt s hem =>
    refine ⟨fun _ _ hc => (nomatch hc), fun e he => ?_⟩
    cases he
    obtain ⟨E, hE, _, _, hstuck, _⟩ := pass_shape sc dp (mkTbl ns sc dp) ⟨seen, out, false⟩ hndt hes
    have hs : s = ⟨seen ++ E, out ++ E.flatMap sc, !E.isEmpty⟩ := by simpa using hE
    have h0 : E = [] := by cases E with | nil => rfl | cons => simp [hs] at hem
    exact ⟨seen, by rw [hnames], hlen ▸ hlt, fun n hn hns =>
      hstuck h0 ⟨n, sc n, dp n⟩ (List.mem_map.2 ⟨n, hn, rfl⟩) hns⟩
  | case4 fuel seen out hlt =>
    refine ⟨fun π o hc => ?_, fun _ he => (nomatch he)⟩
    cases hc
    have hcov : ∀ n ∈ ns, n ∈ seen := covers_of_length ns seen h.nodup h.sub (by omega)
    rw [show pendingOf ns seen = [] from List.filter_eq_nil_iff.2 (by simpa using hcov)]
    exact ⟨.done _, h.text⟩

theorem runTbl_mk_ok (ns : List String) (sc dp : String → List String) (hnd : ns.Nodup) (π out : List String)
    (h : runTbl (mkTbl ns sc dp) = .ok (π, out)) :
    (∀ n ∈ ns, ∀ d ∈ dp n, d ∈ ns) ∧ Fifo dp [] ns π ∧ out = π.flatMap sc := by
  rw [runTbl, mkTbl_names, mkTbl_length] at h
  split at h
  · cases h
  next hm =>
    have := (loop_spec ns sc dp hnd _ [] [] ⟨.nil, by simp, rfl⟩ (by simp)).1 π out h
    rw [pendingOf_nil] at this
    exact ⟨(firstMissing_mk_none ns ns sc dp).1 hm, this⟩

theorem runTbl_mk_error (ns : List String) (sc dp : String → List String) (hnd : ns.Nodup) (e : Err)
    (h : runTbl (mkTbl ns sc dp) = .error e) :
    (∃ n ∈ ns, ∃ d ∈ dp n, d ∉ ns ∧ e = .missing d n) ∨
    ((∀ n ∈ ns, ∀ d ∈ dp n, d ∈ ns) ∧ ∃ seen : List String, e = .cycle (ns.filter (· ∉ seen)) ∧
      seen.length < ns.length ∧ ∀ n ∈ ns, n ∉ seen → ∃ d ∈ dp n, d ∉ seen) := by
  rw [runTbl, mkTbl_names, mkTbl_length] at h
  split at h
  next e0 hm =>
    cases h
    obtain ⟨e', he', d, hd, hn, rfl⟩ := firstMissing_some _ _ _ hm
    obtain ⟨n, hn', rfl⟩ := List.mem_map.1 he'
    exact .inl ⟨n, hn', d, hd, hn, rfl⟩
  next hm =>
    exact .inr ⟨(firstMissing_mk_none ns ns sc dp).1 hm,
      (loop_spec ns sc dp hnd _ [] [] ⟨.nil, by simp, rfl⟩ (by simp)).2 e h⟩

theorem runTbl_of_fifo (ns : List String) (sc dp : String → List String) (hnd : ns.Nodup)
    (hm : ∀ n ∈ ns, ∀ d ∈ dp n, d ∈ ns) (π : List String) (h : Fifo dp [] ns π) :
    runTbl (mkTbl ns sc dp) = .ok (π, π.flatMap sc) := by
  cases hr : runTbl (mkTbl ns sc dp) with
  | ok r =>
    obtain ⟨_, hf, ho⟩ := runTbl_mk_ok ns sc dp hnd r.1 r.2 hr
    rw [← fifo_unique dp _ _ _ _ hf h, ← ho]
  | error e =>
    exfalso
    rcases runTbl_mk_error ns sc dp hnd e hr with ⟨n, hn, d, hd, hdn, _⟩ | ⟨_, seen, _, hlt, hstuck⟩
    · exact hdn (hm n hn d hd)
    · -- the run emitted every name in dependency order, so no set of names waits for itself
      obtain ⟨_, hmem, hord⟩ := h.sound (by simpa using hnd) (fun _ hn => nomatch hn)
      have hπ : ∀ n, n ∈ π ↔ n ∈ ns := by simpa using hmem
      have hall : ∀ n ∈ ns, n ∈ seen := fun n hn => Decidable.byContradiction fun hns =>
        hord.not_closed (· ∉ seen) (fun m hm' hms => hstuck m ((hπ m).1 hm') hms) n ((hπ n).2 hn) hns
      have := hnd.length_le_of_subset hall
      omega

theorem runTbl_mk_sorted (ns : List String) (sc dp : String → List String) (hnd : ns.Nodup) (ho : Ordered dp ns) :
    runTbl (mkTbl ns sc dp) = .ok (ns, ns.flatMap sc) :=
  runTbl_of_fifo ns sc dp hnd (fun n hn d hd => (ho n hn d hd).1) ns
    (by simpa using fifo_sorted dp ns [] (by simpa using hnd) (by simpa using fun n hn d hd => (ho n hn d hd).2))

def SameOn (ns : List String) (sc dp sc' dp' : String → List String) : Prop :=
  ∀ n ∈ ns, sc n = sc' n ∧ ∀ d, d ∈ dp n ↔ d ∈ dp' n

theorem SameOn.symm {ns : List String} {sc dp sc' dp' : String → List String} (h : SameOn ns sc dp sc' dp') :
    SameOn ns sc' dp' sc dp := fun n hn => ⟨(h n hn).1.symm, fun d => ((h n hn).2 d).symm⟩

theorem runTbl_congr_ok (ns : List String) (sc dp sc' dp' : String → List String) (hnd : ns.Nodup)
    (h : SameOn ns sc dp sc' dp') (r : List String × List String) (hr : runTbl (mkTbl ns sc dp) = .ok r) :
    runTbl (mkTbl ns sc' dp') = .ok r := by
  obtain ⟨hm, hf, ho⟩ := runTbl_mk_ok ns sc dp hnd r.1 r.2 hr
  obtain ⟨_, hmem, _⟩ := hf.sound (by simpa using hnd) (fun _ hn => nomatch hn)
  rw [runTbl_of_fifo ns sc' dp' hnd (fun n hn d hd => hm n hn d (((h n hn).2 d).2 hd)) r.1
    (hf.congr fun n hn => (h n hn).2)]
  have : r.1.flatMap sc' = r.1.flatMap sc :=
    flatMap_congr' _ _ _ fun n hn => ((h n (by simpa using (hmem n).1 hn)).1).symm
  rw [this, ← ho]

theorem runTbl_mk_congr (ns : List String) (sc dp sc' dp' : String → List String) (hnd : ns.Nodup)
    (h : SameOn ns sc dp sc' dp') :
    outcome (runTbl (mkTbl ns sc dp)) = outcome (runTbl (mkTbl ns sc' dp')) := by
  cases hr : runTbl (mkTbl ns sc dp) with
  | ok r => rw [runTbl_congr_ok ns sc dp sc' dp' hnd h r hr]
  | error e =>
    cases hr' : runTbl (mkTbl ns sc' dp') with
    | ok r => rw [runTbl_congr_ok ns sc' dp' sc dp hnd h.symm r hr'] at hr; cases hr
    | error e' =>
      -- both refuse: with the dangling-dependency error exactly when a dependency is dangling
      rcases runTbl_mk_error ns sc dp hnd e hr with ⟨n, hn, d, hd, hdn, rfl⟩ | ⟨hm, _, rfl, _⟩ <;>
        rcases runTbl_mk_error ns sc' dp' hnd e' hr' with ⟨n', hn', d', hd', hdn', rfl⟩ | ⟨hm', _, rfl, _⟩
      · rfl
      · exact absurd (hm' n hn d (((h n hn).2 d).1 hd)) hdn
      · exact absurd (hm n' hn' d' (((h n' hn').2 d').2 hd')) hdn'
      · rfl

end FaxVerif.C15
