/-
C15 — property theorems, part 2: determinism and stability of the emitted order.
All statements are over *all* finite lists of blocks.
-/
import FaxVerif.C15.Theorems
namespace FaxVerif.C15

/-- **C15.order_fifo** — *which* topological order is emitted: exactly the order of a first-in
first-out work list started with the distinct names in order of first arrival — take the head; if
all its (merged) dependencies have been emitted, emit it, otherwise put it back at the end. -/
theorem order_fifo (bs : List JB) (π out : List String) (h : genScriptOrder bs = .ok (π, out)) :
    Fifo (depsOf bs) [] (arrival bs) π :=
  (gso_ok bs π out h).2.1

/-- **C15.order_unique** — the FIFO characterisation is exact: it admits one order only, so the
emitted order is a function of the arrival order and the merged dependency sets. -/
theorem order_unique (bs : List JB) (π out π' : List String) (h : genScriptOrder bs = .ok (π, out))
    (h' : Fifo (depsOf bs) [] (arrival bs) π') : π' = π :=
  fifo_unique _ _ _ _ _ h' (order_fifo bs π out h)

/-- **C15.canonical** — merging at full strength: a conflict-free list behaves exactly like the
list with one block per distinct name, in order of first arrival, carrying the script of the name
and *all* dependencies sent under the name. -/
theorem canonical (bs : List JB) (h : ¬ Conflict bs) :
    genScriptOrder bs = genScriptOrder ((arrival bs).map (canonBlock bs)) := by
  rw [gso_canon bs h]
  have := gso_mk (arrival bs) (scriptOf bs) (depsOf bs) (arrival_nodup bs)
  unfold canonBlock
  rw [this]; rfl

/-- **C15.order_congr** — determinism: the outcome (emitted order, text, kind of refusal) depends
on the blocks only through the order of first arrival of the names, whether two blocks of one name conflict, the
script of each name and the *set* of dependencies of each name. -/
theorem order_congr (bs bs' : List JB) (ha : arrival bs = arrival bs')
    (hc : Conflict bs ↔ Conflict bs')
    (hs : ¬ Conflict bs → ∀ n ∈ arrival bs, scriptOf bs n = scriptOf bs' n)
    (hd : ∀ n ∈ arrival bs, ∀ d, d ∈ depsOf bs n ↔ d ∈ depsOf bs' n) :
    outcome (genScriptOrder bs) = outcome (genScriptOrder bs') := by
  by_cases hcf : Conflict bs
  · obtain ⟨n, hn⟩ := gso_of_conflict bs hcf
    obtain ⟨n', hn'⟩ := gso_of_conflict bs' (hc.1 hcf)
    rw [hn, hn']; rfl
  · rw [gso_canon bs hcf, gso_canon bs' (fun hh => hcf (hc.2 hh))]
    unfold canonT
    rw [← ha]
    exact runTbl_mk_congr _ _ _ _ _ (arrival_nodup bs) (fun n hn => ⟨hs hcf n hn, hd n hn⟩)

/-- **C15.set_arrival_invariant** — two lists holding the same blocks (as sets: any number of
copies of each) whose names arrive in the same order have the same outcome. -/
theorem set_arrival_invariant (bs bs' : List JB) (hm : ∀ x, x ∈ bs ↔ x ∈ bs')
    (ha : arrival bs = arrival bs') : outcome (genScriptOrder bs) = outcome (genScriptOrder bs') := by
  apply order_congr bs bs' ha (conflict_of_mem_iff bs bs' hm)
  · intro hc n hn
    exact scriptOf_of_mem_iff bs bs' hm hc n ((mem_arrival bs n).1 hn)
  · intro n _ d
    exact depsOf_of_mem_iff bs bs' hm n d

/-- **C15.dup_invariant** — sending a block again (an identical copy, anywhere after a first
copy) changes nothing. -/
theorem dup_invariant (pre post : List JB) (b : JB) (hb : b ∈ pre) :
    outcome (genScriptOrder (pre ++ b :: post)) = outcome (genScriptOrder (pre ++ post)) := by
  apply set_arrival_invariant
  · intro x
    simp only [List.mem_append, List.mem_cons]
    constructor
    · rintro (h | rfl | h)
      · exact Or.inl h
      · exact Or.inl hb
      · exact Or.inr h
    · rintro (h | h)
      · exact Or.inl h
      · exact Or.inr (Or.inr h)
  · -- the first occurrences after `pre` leave out what `pre` names, `b.name` among it
    have : b.name ∈ names pre := List.mem_map.2 ⟨b, hb, rfl⟩
    rw [arrival_eq, arrival_eq, names_append, names_append, List.eraseDups_append, List.eraseDups_append, names_cons]
    simp [List.removeAll, this]

/-- what may change in a block without any effect: its dependency list, as long as the same
names occur in it (permutation, repetition) -/
def SameBlock (b b' : JB) : Prop :=
  b.name = b'.name ∧ b.script = b'.script ∧ ∀ d, d ∈ b.deps ↔ d ∈ b'.deps

theorem sameBlock_facts (bs bs' : List JB) (h : List.Forall₂ SameBlock bs bs') :
    names bs = names bs' ∧
    bs.map (fun b => (b.name, b.script)) = bs'.map (fun b => (b.name, b.script)) ∧
    (∀ n, scriptOf bs n = scriptOf bs' n) ∧ (∀ n d, d ∈ depsOf bs n ↔ d ∈ depsOf bs' n) := by
  induction h with
  | nil => simp
  | @cons b b' bs bs' hb _ ih =>
    obtain ⟨h1, h2, h3, h4⟩ := ih
    obtain ⟨hn, hs, hd⟩ := hb
    refine ⟨?_, ?_, fun n => ?_, fun n d => ?_⟩
    · simp only [names, List.map_cons] at h1 ⊢; rw [hn, h1]
    · rw [List.map_cons, List.map_cons, hn, hs, h2]
    · rw [scriptOf_cons, scriptOf_cons, hn, hs, h3 n]
    · rw [depsOf_cons, depsOf_cons, List.mem_append, List.mem_append, h4 n d, hn]
      by_cases hh : b'.name = n <;> simp [hh, hd d]

theorem conflict_iff_pairs (bs : List JB) :
    Conflict bs ↔ ∃ p ∈ bs.map (fun b => (b.name, b.script)), ∃ q ∈ bs.map (fun b => (b.name, b.script)),
      p.1 = q.1 ∧ p.2 ≠ q.2 := by
  unfold Conflict
  simp only [List.mem_map]
  constructor
  · rintro ⟨a, ha, b, hb, r⟩; exact ⟨_, ⟨a, ha, rfl⟩, _, ⟨b, hb, rfl⟩, r⟩
  · rintro ⟨_, ⟨a, ha, rfl⟩, _, ⟨b, hb, rfl⟩, r⟩; exact ⟨a, ha, b, hb, r⟩

/-- **C15.deps_invariant** — the `depends_on` lists may be permuted, and entries repeated or
un-repeated, block by block, without changing the outcome. -/
theorem deps_invariant (bs bs' : List JB) (h : List.Forall₂ SameBlock bs bs') :
    outcome (genScriptOrder bs) = outcome (genScriptOrder bs') := by
  obtain ⟨h1, h2, h3, h4⟩ := sameBlock_facts bs bs' h
  apply order_congr bs bs' (arrival_of_names bs bs' h1)
  · rw [conflict_iff_pairs, conflict_iff_pairs, h2]
  · intro _ n _; exact h3 n
  · intro n _ d; exact h4 n d

/-- **C15.deps_perm_invariant** — the special case: every `depends_on` list
replaced by a permutation of itself. -/
theorem deps_perm_invariant (bs : List JB) (σ : JB → List String) (hσ : ∀ b ∈ bs, (σ b).Perm b.deps) :
    outcome (genScriptOrder (bs.map fun b => { b with deps := σ b })) = outcome (genScriptOrder bs) := by
  apply deps_invariant
  induction bs with
  | nil => exact List.Forall₂.nil
  | cons b bs ih =>
    simp only [List.map_cons]
    refine List.Forall₂.cons ⟨rfl, rfl, fun d => (hσ b (by simp)).mem_iff⟩ (ih ?_)
    intro x hx; exact hσ x (by simp [hx])

/-- **C15.sorted_fixed** — stability: if the names already arrive in an order in which every
block comes after all its dependencies, that order is emitted unchanged. -/
theorem sorted_fixed (bs : List JB) (hc : ¬ Conflict bs)
    (hord : ∀ n ∈ arrival bs, ∀ d ∈ depsOf bs n,
      d ∈ arrival bs ∧ (arrival bs).idxOf d < (arrival bs).idxOf n) :
    genScriptOrder bs = .ok (arrival bs, (arrival bs).flatMap (scriptOf bs)) := by
  rw [gso_canon bs hc]
  exact runTbl_mk_sorted (arrival bs) (scriptOf bs) (depsOf bs) (arrival_nodup bs) hord

/-- **C15.idempotent** — feeding the emitted order back (one merged block per name, in the order
just emitted) yields the same order and the same text. -/
theorem idempotent (bs : List JB) (π out : List String) (h : genScriptOrder bs = .ok (π, out)) :
    genScriptOrder (π.map (canonBlock bs)) = .ok (π, out) := by
  obtain ⟨hnd, _, _, htext, hord⟩ := sound bs π out h
  have := gso_mk π (scriptOf bs) (depsOf bs) hnd
  unfold canonBlock
  rw [this, htext]
  exact runTbl_mk_sorted π (scriptOf bs) (depsOf bs) hnd hord

/-- the kind of refusal the property prescribes for a list (priority: conflict, dangling, cycle) -/
def KindIs (bs : List JB) : Kind → Prop
  | .conflict => Conflict bs
  | .missing => ¬ Conflict bs ∧ Missing bs
  | .cycle => ¬ Conflict bs ∧ ¬ Missing bs ∧ Cyclic bs
  | .fuel => False

/-- **C15.refusal_kind_iff** — the model refuses with kind `k` exactly when the property
prescribes kind `k`. -/
theorem refusal_kind_iff (bs : List JB) (k : Kind) :
    (∃ e, genScriptOrder bs = .error e ∧ e.kind = k) ↔ KindIs bs k := by
  constructor
  · rintro ⟨e, he, rfl⟩
    rcases error_justified bs e he with ⟨n, rfl, h⟩ | ⟨d, f, rfl, h⟩ | ⟨r, rfl, h⟩ <;> exact h
  · intro hk
    have hbad : Conflict bs ∨ Missing bs ∨ Cyclic bs := by
      cases k with
      | conflict => exact .inl hk
      | missing => exact .inr (.inl hk.2)
      | cycle => exact .inr (.inr hk.2.2)
      | fuel => exact hk.elim
    obtain ⟨e, he⟩ := (complete bs).2 hbad
    refine ⟨e, he, ?_⟩
    -- the clauses of `KindIs` exclude one another, so the kind the run reports is `k`
    rcases error_justified bs e he with ⟨n, rfl, h⟩ | ⟨d, f, rfl, h⟩ | ⟨r, rfl, h⟩ <;>
      cases k <;> simp_all [KindIs, Err.kind]

theorem refusal_of_mem_iff (bs bs' : List JB) (hm : ∀ x, x ∈ bs ↔ x ∈ bs') (k : Kind) :
    (∃ e, genScriptOrder bs = .error e ∧ e.kind = k) ↔ (∃ e, genScriptOrder bs' = .error e ∧ e.kind = k) := by
  rw [refusal_kind_iff, refusal_kind_iff]
  cases k <;> simp only [KindIs, conflict_of_mem_iff bs bs' hm, missing_of_mem_iff bs bs' hm,
    cyclic_of_mem_iff bs bs' hm]

/-- **C15.perm_refusal_invariant** — whether a list is refused, and with which of the three
errors, does not depend on the arrival order (nor, by `refusal_of_mem_iff` behind it, on the number of copies of a block). -/
theorem perm_refusal_invariant (bs bs' : List JB) (h : bs.Perm bs') (k : Kind) :
    (∃ e, genScriptOrder bs = .error e ∧ e.kind = k) ↔ (∃ e, genScriptOrder bs' = .error e ∧ e.kind = k) :=
  refusal_of_mem_iff bs bs' (fun _ => h.mem_iff) k

/-- **C15.perm_ok** — how the order changes when the blocks arrive in another order: the same
blocks are emitted (the new order is a permutation of the old one and again satisfies the
specification); *which* permutation is fixed by `order_fifo` for the new arrival order.  It is in
general a different one: `arrival_order_matters_counterexample`. -/
theorem perm_ok (bs bs' : List JB) (h : bs.Perm bs') (π out : List String)
    (hg : genScriptOrder bs = .ok (π, out)) :
    ∃ π' out', genScriptOrder bs' = .ok (π', out') ∧ π.Perm π' ∧ SpecOk bs' π' out' ∧
      Fifo (depsOf bs') [] (arrival bs') π' := by
  cases hg' : genScriptOrder bs' with
  | error e =>
    exfalso
    obtain ⟨e0, he0, _⟩ := (perm_refusal_invariant bs bs' h e.kind).2 ⟨e, hg', rfl⟩
    rw [hg] at he0; simp at he0
  | ok r =>
    obtain ⟨π', out'⟩ := r
    have hs := sound bs π out hg
    have hs' := sound bs' π' out' hg'
    refine ⟨π', out', rfl, ?_, hs', order_fifo bs' π' out' hg'⟩
    rw [List.perm_ext_iff_of_nodup hs.1 hs'.1]
    intro a
    have hm : ∀ x, x ∈ bs ↔ x ∈ bs' := fun x => h.mem_iff
    constructor
    · intro ha; exact hs'.2.2.1 a ((names_of_mem_iff bs bs' hm a).1 (hs.2.1 a ha))
    · intro ha; exact hs.2.2.1 a ((names_of_mem_iff bs bs' hm a).2 (hs'.2.1 a ha))

/-- **C15.arrival_order_matters_counterexample** — the emitted order is *not* invariant under
permutation of the arrival order: two independent blocks are emitted in the order they arrive. -/
theorem arrival_order_matters_counterexample :
    ∃ bs bs' : List JB, bs.Perm bs' ∧
      (genScriptOrder bs).toOption = some (["a", "b"], ["run a", "run b"]) ∧
      (genScriptOrder bs').toOption = some (["b", "a"], ["run b", "run a"]) :=
  ⟨[⟨"a", ["run a"], []⟩, ⟨"b", ["run b"], []⟩], [⟨"b", ["run b"], []⟩, ⟨"a", ["run a"], []⟩],
    List.Perm.swap _ _ _, by decide +kernel, by decide +kernel⟩

/-- **C15.dup_before_first_counterexample** — the side condition of `dup_invariant` (the copy
comes after a first copy) is needed: a copy put in front changes the arrival order of the names
and with it the emitted order. -/
theorem dup_before_first_counterexample :
    (genScriptOrder [⟨"a", ["run a"], []⟩, ⟨"b", ["run b"], []⟩]).toOption = some (["a", "b"], ["run a", "run b"]) ∧
    (genScriptOrder [⟨"b", ["run b"], []⟩, ⟨"a", ["run a"], []⟩, ⟨"b", ["run b"], []⟩]).toOption
      = some (["b", "a"], ["run b", "run a"]) := by
  constructor <;> decide +kernel

/-- **C15.not_kahn_counterexample** — the order is not "always the earliest-arrived ready block":
after `y` the scan goes on to `w` although `x` (arrived first) has just become ready. -/
theorem not_kahn_counterexample :
    (genScriptOrder [⟨"x", ["X"], ["y"]⟩, ⟨"y", ["Y"], []⟩, ⟨"w", ["W"], []⟩]).toOption
      = some (["y", "w", "x"], ["Y", "W", "X"]) := by decide +kernel

example : Fifo (depsOf ex1) [] (arrival ex1) ["a", "b", "c", "d"] := by
  have h : (genScriptOrder ex1).toOption = some (["a", "b", "c", "d"], ["run a", "run b1", "run b2", "run d"]) := by decide +kernel
  cases hr : genScriptOrder ex1 with
  | error e => rw [hr] at h; cases h
  | ok r => rw [hr] at h; cases h; exact order_fifo _ _ _ hr
example : arrival ex1 = ["d", "b", "c", "a"] := by decide +kernel
example : ¬ Conflict ex1 := by decide +kernel
example : fifoOrder ex1 = some ["a", "b", "c", "d"] := by decide +kernel
/-- an input meeting the hypotheses of `sorted_fixed` with a repeated block -/
example : let bs : List JB := [⟨"a", ["x"], []⟩, ⟨"b", ["y"], ["a"]⟩, ⟨"a", ["x"], []⟩, ⟨"c", [], ["b", "a"]⟩]
    ¬ Conflict bs ∧ ∀ n ∈ arrival bs, ∀ d ∈ depsOf bs n,
      d ∈ arrival bs ∧ (arrival bs).idxOf d < (arrival bs).idxOf n := by decide +kernel
example : List.Forall₂ SameBlock [⟨"a", ["x"], ["b", "c"]⟩] [⟨"a", ["x"], ["c", "b", "c"]⟩] :=
  List.Forall₂.cons ⟨rfl, rfl, by intro d; simp only [List.mem_cons, List.mem_nil_iff, or_false]; grind⟩ List.Forall₂.nil
example : KindIs [⟨"a", ["x"], ["b"]⟩, ⟨"b", ["y"], ["a"]⟩] .cycle :=
  ⟨by decide +kernel, by decide +kernel, ["a", "b"], by simp, by decide +kernel⟩

end FaxVerif.C15
