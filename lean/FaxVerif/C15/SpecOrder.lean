/-
C15 — specification-level notions for the extension theorems (determinism / stability of the
emitted order, exact refusal condition).  No Mathlib; everything is stated on the list of blocks,
independently of the model's table.
-/
import FaxVerif.C15.Spec
namespace FaxVerif.C15

/-- The distinct names in order of first arrival. -/
def arrival (bs : List JB) : List String :=
  bs.foldl (fun acc b => if b.name ∈ acc then acc else acc ++ [b.name]) []

/-- One block per distinct name: the first script seen under the name and all dependencies sent
under the name. -/
def canonBlock (bs : List JB) (n : String) : JB := ⟨n, scriptOf bs n, depsOf bs n⟩

/-- A table given by its names, in order, and a script and a dependency list per name.  `canonT bs` is the one a
conflict-free block list `bs` is reduced to (theorem `gso_cases`). -/
def mkTbl (ns : List String) (sc dp : String → List String) : Tbl :=
  ns.map fun n => ⟨n, sc n, dp n⟩

def canonT (bs : List JB) : Tbl := mkTbl (arrival bs) (scriptOf bs) (depsOf bs)

/-- What `generate_script_block` does once the table is there: dangling check, emission loop. -/
def runTbl (t : Tbl) : Except Err (List String × List String) :=
  match firstMissing t.names t with
  | some e => .error e
  | none => loop t (t.length + 1) [] []

/-- The observable part of a refusal: which of the three documented errors (the Python raises
`ValueError` for all three; the texts of the messages are not part of the property). -/
inductive Kind where
  | conflict | missing | cycle | fuel
deriving Repr, DecidableEq

def Err.kind : Err → Kind
  | .conflict _ => .conflict | .missing _ _ => .missing | .cycle _ => .cycle | .fuel => .fuel

/-- Result with the payload of the error forgotten. -/
def outcome {α : Type} : Except Err α → Except Kind α
  | .ok a => .ok a
  | .error e => .error e.kind

/-- `n` can be emitted now: not yet emitted, all its dependencies emitted. -/
def Ready (dp : String → List String) (seen : List String) (n : String) : Prop :=
  n ∉ seen ∧ ∀ d ∈ dp n, d ∈ seen

instance (dp : String → List String) (seen : List String) (n : String) : Decidable (Ready dp seen n) := by
  unfold Ready; exact inferInstance

/-- **The exact emission order**, as a first-in-first-out work list over the arrival order:
take the head of the queue; if all its dependencies have been emitted, emit it, otherwise put it
back at the end of the queue.  `Fifo dp seen queue π`: starting with `seen` emitted and `queue`
pending, the run ends with exactly `π` emitted.  The relation is functional (`fifo_unique`). -/
inductive Fifo (dp : String → List String) : List String → List String → List String → Prop where
  | done (seen : List String) : Fifo dp seen [] seen
  | emit (seen : List String) (n : String) (q π : List String) :
      Ready dp seen n → Fifo dp (seen ++ [n]) q π → Fifo dp seen (n :: q) π
  | defer (seen : List String) (n : String) (q π : List String) :
      ¬ Ready dp seen n → Fifo dp seen (q ++ [n]) π → Fifo dp seen (n :: q) π

/-- Executable FIFO work list (for the oracle on the implementation's output): `idle` counts the
consecutive deferrals; a full round of deferrals means that nothing can be emitted any more. -/
def fifoRun (dp : String → List String) : Nat → List String → List String → Nat → Option (List String)
  | 0, _, _, _ => none
  | _ + 1, seen, [], _ => some seen
  | fuel + 1, seen, n :: q, idle =>
    if idle > q.length then none
    else if decide (Ready dp seen n) then fifoRun dp fuel (seen ++ [n]) q 0
    else fifoRun dp fuel seen (q ++ [n]) (idle + 1)

/-- the FIFO order of a block list, computed independently of the model -/
def fifoOrder (bs : List JB) : Option (List String) :=
  let ns := arrival bs
  fifoRun (depsOf bs) ((ns.length + 1) * (ns.length + 1) + 1) [] ns 0

/-! ### dependency graph restricted to the blocks that were sent -/

/-- `n → d`: a block named `n` was sent and some block named `n` lists `d`. -/
def Edge (bs : List JB) (n d : String) : Prop := n ∈ names bs ∧ d ∈ depsOf bs n

instance (bs : List JB) (n d : String) : Decidable (Edge bs n d) := by unfold Edge; exact inferInstance

/-- a non-empty walk along dependency edges -/
inductive Path (bs : List JB) : String → String → Prop where
  | single (n d : String) : Edge bs n d → Path bs n d
  | cons (n m d : String) : Edge bs n m → Path bs m d → Path bs n d

/-- a dependency cycle of any length ≥ 1 (length 1: a block depending on itself) -/
def HasCycle (bs : List JB) : Prop := ∃ n, Path bs n n

/-- a closed walk given as the list of its vertices: `c = [n₀, n₁, …, n_k]`, edges
`n₀ → n₁ → … → n_k → n₀` -/
def IsCycleList (bs : List JB) : List String → Prop
  | [] => False
  | n :: rest => go n n rest
where
  go (first : String) : String → List String → Prop
    | cur, [] => Edge bs cur first
    | cur, m :: rest => Edge bs cur m ∧ go first m rest

instance (bs : List JB) : (first cur : String) → (l : List String) → Decidable (IsCycleList.go bs first cur l)
  | first, cur, [] => by unfold IsCycleList.go; exact inferInstance
  | first, cur, m :: rest => by
    unfold IsCycleList.go
    have := instDecidableGo bs first m rest
    exact inferInstance

instance (bs : List JB) (c : List String) : Decidable (IsCycleList bs c) := by
  cases c with
  | nil => unfold IsCycleList; exact inferInstance
  | cons n rest => unfold IsCycleList; exact inferInstance

end FaxVerif.C15
