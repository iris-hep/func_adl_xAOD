/-
C15 — the work list `Fifo` (defined in `SpecOrder`) on its own, no statement mentions the table or the loop:
a run is unique, emits every queued name once and after its dependencies, depends on the dependency lists
only as sets, and leaves a queue that is already in dependency order unchanged.  `Ordered.not_closed` is the
one graph argument of the property: in a list in dependency order nothing waits for itself.
-/
import FaxVerif.C15.Lists
import FaxVerif.C15.SpecOrder
namespace FaxVerif.C15

theorem fifo_unique (dp : String → List String) (seen q π π' : List String)
    (h : Fifo dp seen q π) (h' : Fifo dp seen q π') : π = π' := by
  induction h with
  | done seen => cases h'; rfl
  | emit seen n q π hr _ ih =>
    cases h' with
    | emit _ _ _ _ _ h2 => exact ih h2
    | defer _ _ _ _ hn _ => exact absurd hr hn
  | defer seen n q π hn _ ih =>
    cases h' with
    | emit _ _ _ _ hr _ => exact absurd hr hn
    | defer _ _ _ _ _ h2 => exact ih h2

/-- `SpecOk`'s last clause is `Ordered (depsOf bs) π`, by definition -/
def Ordered (dp : String → List String) (π : List String) : Prop :=
  ∀ n ∈ π, ∀ d ∈ dp n, d ∈ π ∧ π.idxOf d < π.idxOf n

theorem Ordered.snoc {dp : String → List String} {seen : List String} {n : String} (h : Ordered dp seen)
    (hr : Ready dp seen n) : Ordered dp (seen ++ [n]) := by
  intro m hm d hd
  rw [List.mem_append, List.mem_singleton] at hm
  rcases hm with hm | rfl
  · obtain ⟨h1, h2⟩ := h m hm d hd
    exact ⟨List.mem_append_left _ h1, by rwa [idxOf_append_of_mem' _ _ _ h1, idxOf_append_of_mem' _ _ _ hm]⟩
  · have h1 := hr.2 d hd
    exact ⟨List.mem_append_left _ h1, by
      rw [idxOf_append_of_mem' _ _ _ h1, idxOf_append_singleton_self _ _ hr.1]
      exact List.idxOf_lt_length_of_mem h1⟩

theorem Fifo.sound {dp : String → List String} {seen q π : List String} (h : Fifo dp seen q π)
    (hnd : (seen ++ q).Nodup) (ho : Ordered dp seen) :
    π.Nodup ∧ (∀ n, n ∈ π ↔ n ∈ seen ∨ n ∈ q) ∧ Ordered dp π := by
  induction h with
  | done seen => exact ⟨by simpa using hnd, by simp, ho⟩
  | emit seen n q π hr _ ih =>
    obtain ⟨h1, h2, h3⟩ := ih (by simpa using hnd) (ho.snoc hr)
    exact ⟨h1, fun m => by rw [h2]; simp [or_assoc], h3⟩
  | defer seen n q π _ _ ih =>
    have hp : (seen ++ (q ++ [n])).Perm (seen ++ n :: q) := (List.perm_append_singleton n q).append_left seen
    obtain ⟨h1, h2, h3⟩ := ih (hp.nodup_iff.2 hnd) ho
    exact ⟨h1, fun m => by rw [h2]; simp [or_comm], h3⟩

theorem Fifo.congr {dp dp' : String → List String} {seen q π : List String} (h : Fifo dp seen q π)
    (hq : ∀ n ∈ q, ∀ d, d ∈ dp n ↔ d ∈ dp' n) : Fifo dp' seen q π := by
  induction h with
  | done seen => exact .done seen
  | emit seen n q π hr _ ih =>
    exact .emit _ _ _ _ ⟨hr.1, fun d hd => hr.2 d ((hq n List.mem_cons_self d).2 hd)⟩
      (ih fun m hm => hq m (List.mem_cons_of_mem _ hm))
  | defer seen n q π hn _ ih =>
    exact .defer _ _ _ _ (fun hr => hn ⟨hr.1, fun d hd => hr.2 d ((hq n List.mem_cons_self d).1 hd)⟩)
      (ih fun m hm => hq m (by simpa [or_comm] using hm))

theorem fifo_sorted (dp : String → List String) : ∀ (rest pre : List String), (pre ++ rest).Nodup →
    (∀ n ∈ rest, ∀ d ∈ dp n, (pre ++ rest).idxOf d < (pre ++ rest).idxOf n) → Fifo dp pre rest (pre ++ rest) := by
  intro rest
  induction rest with
  | nil => intro pre _ _; simpa using Fifo.done pre
  | cons n rest ih =>
    intro pre hnd hord
    have hn : n ∉ pre := not_mem_of_nodup_middle hnd
    have hassoc : pre ++ [n] ++ rest = pre ++ n :: rest := by simp
    refine .emit _ _ _ _ ⟨hn, fun d hd => idxOf_lt_length_append_left pre (n :: rest) d ?_⟩ ?_
    · have hidx : (pre ++ n :: rest).idxOf n = pre.length := by rw [List.idxOf_append]; simp [hn]
      exact hidx ▸ hord n List.mem_cons_self d hd
    · rw [← hassoc]
      exact ih (pre ++ [n]) (hassoc ▸ hnd) fun m hm d hd => hassoc ▸ hord m (List.mem_cons_of_mem _ hm) d hd

/-- in a list in dependency order no set of names is closed under "has a dependency in the set" -/
theorem Ordered.not_closed {dp : String → List String} {π : List String} (ho : Ordered dp π) (P : String → Prop)
    (hP : ∀ n ∈ π, P n → ∃ d ∈ dp n, P d) : ∀ n ∈ π, ¬ P n := by
  have key : ∀ k, ∀ n ∈ π, π.idxOf n = k → ¬ P n := by
    intro k
    induction k using Nat.strongRecOn with
    | _ k ih =>
      intro n hn hk hp
      obtain ⟨d, hd, hpd⟩ := hP n hn hp
      obtain ⟨hdπ, hlt⟩ := ho n hn d hd
      exact ih (π.idxOf d) (hk ▸ hlt) d hdπ rfl hpd
  exact fun n hn => key _ n hn rfl

end FaxVerif.C15
