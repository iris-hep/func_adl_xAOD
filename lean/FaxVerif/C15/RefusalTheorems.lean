/-
C15 — property theorems, part 3: the exact refusal condition in terms of real dependency cycles
(of any length, including a block depending on itself) in the graph of the blocks that were sent.
-/
import FaxVerif.C15.OrderTheorems
namespace FaxVerif.C15

theorem path_snoc (bs : List JB) (a b c : String) (h : Path bs a b) (e : Edge bs b c) : Path bs a c := by
  induction h with
  | single n d hnd => exact Path.cons _ _ _ hnd (Path.single _ _ e)
  | cons n m d hnm _ ih => exact Path.cons _ _ _ hnm (ih e)

theorem path_src_mem (bs : List JB) (a b : String) (h : Path bs a b) : a ∈ names bs := by
  cases h with
  | single _ _ e => exact e.1
  | cons _ _ _ e _ => exact e.1

/-- a walk inside a set in which every vertex has a successor either closes a cycle or can be
prolonged by a fresh vertex -/
theorem walk_or_cycle (bs : List JB) (R : List String)
    (hR : ∀ n ∈ R, n ∈ names bs ∧ ∃ d ∈ depsOf bs n, d ∈ R) (n0 : String) (hn0 : n0 ∈ R) :
    ∀ k : Nat, HasCycle bs ∨ ∃ (w : List String) (hd : String), w.length = k + 1 ∧ w.Nodup ∧
      (∀ x ∈ w, x ∈ R) ∧ hd ∈ w ∧ ∀ x ∈ w, x = hd ∨ Path bs x hd := by
  intro k
  induction k with
  | zero => exact Or.inr ⟨[n0], n0, rfl, by simp, by simpa using hn0, by simp, by simp⟩
  | succ k ih =>
    rcases ih with hc | ⟨w, hd, hlen, hnd, hsub, hhd, hpath⟩
    · exact Or.inl hc
    · obtain ⟨hnames, d, hdep, hdR⟩ := hR hd (hsub hd hhd)
      have hedge : Edge bs hd d := ⟨hnames, hdep⟩
      by_cases hdw : d ∈ w
      · left
        rcases hpath d hdw with rfl | hp
        · exact ⟨d, Path.single _ _ hedge⟩
        · exact ⟨d, path_snoc bs _ _ _ hp hedge⟩
      · right
        refine ⟨d :: w, d, by simp [hlen], List.nodup_cons.2 ⟨hdw, hnd⟩, ?_, by simp, ?_⟩
        · intro x hx
          rcases List.mem_cons.1 hx with rfl | hx
          · exact hdR
          · exact hsub x hx
        · intro x hx
          rcases List.mem_cons.1 hx with rfl | hx
          · exact Or.inl rfl
          · right
            rcases hpath x hx with rfl | hp
            · exact Path.single _ _ hedge
            · exact path_snoc bs _ _ _ hp hedge

/-- **C15.cyclic_iff_hasCycle** — the closed-set formulation used by `complete` is the existence
of a genuine dependency cycle (a closed walk of length ≥ 1 through blocks that were sent). -/
theorem cyclic_iff_hasCycle (bs : List JB) : Cyclic bs ↔ HasCycle bs := by
  constructor
  · rintro ⟨R, hne, hR⟩
    cases R with
    | nil => exact absurd rfl hne
    | cons n0 R' =>
      rcases walk_or_cycle bs (n0 :: R') hR n0 (by simp) (n0 :: R').length with hc | ⟨w, _, hlen, hnd, hsub, _, _⟩
      · exact hc
      · have := hnd.length_le_of_subset hsub
        omega
  · rintro ⟨n, hn⟩
    classical
    refine ⟨(names bs).filter (fun m => decide (Path bs m n)), ?_, ?_⟩
    · intro hnil
      have : n ∈ (names bs).filter (fun m => decide (Path bs m n)) := by
        simp [path_src_mem bs n n hn, hn]
      rw [hnil] at this; simp at this
    · intro m hm
      simp only [List.mem_filter, decide_eq_true_eq] at hm
      obtain ⟨hmn, hp⟩ := hm
      refine ⟨hmn, ?_⟩
      cases hp with
      | single _ _ e =>
        exact ⟨n, e.2, by simp [path_src_mem bs n n hn, hn]⟩
      | cons _ m' _ e hp' =>
        exact ⟨m', e.2, by simp [path_src_mem bs m' n hp', hp']⟩

/-- **C15.refused_iff** — the generator refuses a list of blocks if and only if two blocks share
a name with different scripts, or some block names a dependency that was not sent (dangling), or
the dependency graph of the blocks that were sent has a cycle. -/
theorem refused_iff (bs : List JB) :
    (∃ e, genScriptOrder bs = .error e) ↔ (Conflict bs ∨ Missing bs ∨ HasCycle bs) := by
  rw [complete, cyclic_iff_hasCycle]

/-- **C15.accepted_iff** — and it returns a script exactly on the other lists. -/
theorem accepted_iff (bs : List JB) :
    (∃ π out, genScriptOrder bs = .ok (π, out)) ↔ (¬ Conflict bs ∧ ¬ Missing bs ∧ ¬ HasCycle bs) := by
  rw [← not_or, ← not_or, ← refused_iff]
  cases genScriptOrder bs with
  | error e => simp
  | ok r => simpa using ⟨r.1, r.2, rfl⟩

/-- **C15.self_dep_refused** — a block that lists itself is a cycle of length one. -/
theorem self_dep_refused (bs : List JB) (b : JB) (hb : b ∈ bs) (hself : b.name ∈ b.deps) :
    ∃ e, genScriptOrder bs = .error e := by
  rw [refused_iff]
  refine Or.inr (Or.inr ⟨b.name, Path.single _ _ ⟨?_, ?_⟩⟩)
  · simp only [names, List.mem_map]; exact ⟨b, hb, rfl⟩
  · exact (mem_depsOf bs b.name b.name).2 ⟨b, hb, rfl, hself⟩

theorem path_of_go (bs : List JB) (first : String) : ∀ (l : List String) (cur : String),
    IsCycleList.go bs first cur l → Path bs cur first := by
  intro l
  induction l with
  | nil => intro cur h; exact Path.single _ _ h
  | cons m l ih => intro cur h; exact Path.cons _ _ _ h.1 (ih m h.2)

theorem go_of_path (bs : List JB) (a b : String) (h : Path bs a b) : ∃ l, IsCycleList.go bs b a l := by
  induction h with
  | single n d e => exact ⟨[], e⟩
  | cons n m d e _ ih => obtain ⟨l, hl⟩ := ih; exact ⟨m :: l, e, hl⟩

/-- **C15.hasCycle_iff_list** — a cycle is a closed walk `n₀ → n₁ → … → n_k → n₀` given by the list
of its vertices (decidable for a given list: what the counterexample search prints). -/
theorem hasCycle_iff_list (bs : List JB) : HasCycle bs ↔ ∃ c, IsCycleList bs c := by
  constructor
  · rintro ⟨n, hn⟩
    obtain ⟨l, hl⟩ := go_of_path bs n n hn
    exact ⟨n :: l, hl⟩
  · rintro ⟨c, hc⟩
    cases c with
    | nil => exact absurd hc (by simp [IsCycleList])
    | cons n l => exact ⟨n, path_of_go bs n l n hc⟩

/-- **C15.cycle_refused** — a closed walk of any length through the sent blocks is refused. -/
theorem cycle_refused (bs : List JB) (c : List String) (hc : IsCycleList bs c) :
    ∃ e, genScriptOrder bs = .error e := by
  rw [refused_iff]
  exact Or.inr (Or.inr ((hasCycle_iff_list bs).2 ⟨c, hc⟩))

/-- **C15.cycle_kind** — and the refusal is the cycle error unless one of the two errors checked
earlier applies. -/
theorem cycle_kind (bs : List JB) (hc : HasCycle bs) (h1 : ¬ Conflict bs) (h2 : ¬ Missing bs) :
    ∃ r, genScriptOrder bs = .error (.cycle r) := by
  obtain ⟨e, he⟩ := (refused_iff bs).2 (.inr (.inr hc))
  rcases error_justified bs e he with ⟨_, _, h⟩ | ⟨_, _, _, _, h⟩ | ⟨r, rfl, _⟩
  · exact absurd h h1
  · exact absurd h h2
  · exact ⟨r, he⟩

/-- a cycle of length four, entered from outside, with a repeated block closing it -/
def exCycle : List JB :=
  [⟨"in", ["i"], ["p"]⟩, ⟨"p", ["1"], ["q"]⟩, ⟨"q", ["2"], ["r"]⟩, ⟨"r", ["3"], ["s"]⟩, ⟨"s", ["4"], []⟩,
   ⟨"s", ["4"], ["p"]⟩]

example : IsCycleList exCycle ["p", "q", "r", "s"] := by decide +kernel
example : ¬ Conflict exCycle ∧ ¬ Missing exCycle := by decide +kernel
example : (genScriptOrder exCycle).toOption = none := by decide +kernel
example : IsCycleList [⟨"a", ["x"], ["a"]⟩] ["a"] := by decide +kernel
example : ¬ Conflict ex1 ∧ ¬ Missing ex1 := by decide +kernel

end FaxVerif.C15
