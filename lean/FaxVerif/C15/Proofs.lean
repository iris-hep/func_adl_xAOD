/-
C15 — the first loop of `generate_script_block`'s model: the table built from a prefix of the blocks
is `canonT` of that prefix (`build_canon`; `TblInv` says what that table means), and a list of distinct names with
its scripts and dependencies builds its own `mkTbl` (`build_mk`, `gso_mk`); the dangling check; what depends on the
blocks only as a set (`*_of_mem_iff`); one pass of the emission loop as a stretch of the work list over the names
still pending (`pendingOf`, `pass_shape`).
-/
import FaxVerif.C15.Lists
import FaxVerif.C15.SpecOrder
import FaxVerif.Common.Clash
import FaxVerif.Common.EraseDups
namespace FaxVerif.C15

theorem names_append (a b : List JB) : names (a ++ b) = names a ++ names b := by
  simp [names]

theorem names_cons (b : JB) (bs : List JB) : names (b :: bs) = b.name :: names bs := rfl

theorem Tbl.names_cons (e : Entry) (t : Tbl) : Tbl.names (e :: t) = e.name :: t.names := rfl

theorem get?_none_iff (t : Tbl) (n : String) : t.get? n = none ↔ n ∉ t.names := by
  simp [Tbl.get?, Tbl.names, List.find?_eq_none]

theorem get?_some (t : Tbl) (n : String) (e : Entry) (h : t.get? n = some e) : e ∈ t ∧ e.name = n := by
  unfold Tbl.get? at h
  have := List.find?_some h
  exact ⟨List.mem_of_find?_eq_some h, by simpa using this⟩

theorem extend_names (t : Tbl) (n : String) (ds : List String) : (t.extend n ds).names = t.names := by
  unfold Tbl.extend Tbl.names
  rw [List.map_map]
  apply List.map_congr_left
  intro e _
  by_cases h : e.name = n <;> simp [h]

theorem scriptOf_cons (b : JB) (bs : List JB) (n : String) :
    scriptOf (b :: bs) n = if b.name = n then b.script else scriptOf bs n := by
  unfold scriptOf
  rw [List.find?_cons]
  by_cases h : b.name = n
  · simp [h]
  · rw [show (b.name == n) = false by simpa using h, if_neg h]

theorem scriptOf_snoc (pre : List JB) (b : JB) (n : String) :
    scriptOf (pre ++ [b]) n =
      if n ∈ names pre then scriptOf pre n else if b.name = n then b.script else [] := by
  unfold scriptOf
  rw [List.find?_append]
  cases hf : pre.find? (fun b => b.name == n) with
  | some y =>
    have : n ∈ names pre :=
      List.mem_map.2 ⟨y, List.mem_of_find?_eq_some hf, by simpa using List.find?_some hf⟩
    simp [this]
  | none =>
    have : n ∉ names pre := by simpa [names] using hf
    by_cases hb : b.name = n <;> simp [this, hb]

theorem mem_depsOf (bs : List JB) (n d : String) : d ∈ depsOf bs n ↔ ∃ b ∈ bs, b.name = n ∧ d ∈ b.deps := by
  unfold depsOf
  simp only [List.mem_flatMap, List.mem_filter, beq_iff_eq]
  constructor
  · rintro ⟨b, ⟨hb, hn⟩, hd⟩; exact ⟨b, hb, hn, hd⟩
  · rintro ⟨b, hb, hn, hd⟩; exact ⟨b, ⟨hb, hn⟩, hd⟩

theorem depsOf_cons (b : JB) (bs : List JB) (n : String) :
    depsOf (b :: bs) n = (if b.name = n then b.deps else []) ++ depsOf bs n := by
  unfold depsOf
  rw [List.filter_cons]
  by_cases h : b.name = n <;> simp [h]

theorem depsOf_snoc (pre : List JB) (b : JB) (n : String) :
    depsOf (pre ++ [b]) n = depsOf pre n ++ (if b.name = n then b.deps else []) := by
  unfold depsOf
  rw [List.filter_append, List.flatMap_append]
  by_cases hb : b.name = n <;> simp [hb]

theorem depsOf_of_not_mem (pre : List JB) (n : String) (h : n ∉ names pre) : depsOf pre n = [] :=
  List.eq_nil_iff_forall_not_mem.2 fun d hd => by
    obtain ⟨b, hb, hn, _⟩ := (mem_depsOf pre n d).1 hd
    exact h (List.mem_map.2 ⟨b, hb, hn⟩)

theorem not_conflict_nil : ¬ Conflict [] := by
  rintro ⟨b, hb, _⟩; cases hb

theorem conflict_mono (pre rest : List JB) (h : Conflict pre) : Conflict (pre ++ rest) :=
  Clash.mono (R := fun a b : JB => a.name = b.name ∧ a.script ≠ b.script) (fun _ => List.mem_append_left _) h

theorem script_eq_of_noconf (pre : List JB) (hnc : ¬ Conflict pre) (x : JB) (hx : x ∈ pre) :
    x.script = scriptOf pre x.name := by
  unfold scriptOf
  cases hf : pre.find? (fun b => b.name == x.name) with
  | none =>
    rw [List.find?_eq_none] at hf
    exact absurd (by simp) (hf x hx)
  | some y =>
    have hy := List.mem_of_find?_eq_some hf
    have hyn : y.name = x.name := by simpa using List.find?_some hf
    by_cases hne : x.script = y.script
    · simpa using hne
    · exact absurd ⟨x, hx, y, hy, hyn.symm, hne⟩ hnc

theorem conflict_snoc_iff (pre : List JB) (b : JB) (hnc : ¬ Conflict pre) :
    Conflict (pre ++ [b]) ↔ b.name ∈ names pre ∧ b.script ≠ scriptOf pre b.name := by
  -- `Conflict` is, by definition, `Clash` of "same name, another script"
  have hsnoc : Conflict (pre ++ [b]) ↔ ∃ x ∈ pre, x.name = b.name ∧ x.script ≠ b.script :=
    (clash_snoc (R := fun a b : JB => a.name = b.name ∧ a.script ≠ b.script)
      (fun _ _ h => ⟨h.1.symm, h.2.symm⟩) (fun _ h => h.2 rfl) pre b).trans (or_iff_right hnc)
  rw [hsnoc]
  constructor
  · rintro ⟨x, hx, hn, hs⟩
    refine ⟨List.mem_map.2 ⟨x, hx, hn⟩, fun h => hs ?_⟩
    rw [h, ← hn, ← script_eq_of_noconf pre hnc x hx]
  · rintro ⟨hm, hs⟩
    obtain ⟨x, hx, hn⟩ := List.mem_map.1 hm
    refine ⟨x, hx, hn, fun h => hs ?_⟩
    rw [← h, ← hn, ← script_eq_of_noconf pre hnc x hx]

theorem foldl_arrival : ∀ (bs : List JB) (acc : List String),
    bs.foldl (fun acc b => if b.name ∈ acc then acc else acc ++ [b.name]) acc =
      acc ++ ((names bs).removeAll acc).eraseDups := by
  intro bs
  induction bs with
  | nil => intro acc; simp [names, List.removeAll]
  | cons b bs ih =>
    intro acc
    rw [List.foldl_cons, ih, names_cons]
    by_cases hb : b.name ∈ acc
    · simp [hb, List.removeAll]
    · simp [hb, List.removeAll, List.eraseDups_cons, List.filter_filter, Bool.beq_eq_decide_eq, Bool.and_comm]

theorem arrival_eq (bs : List JB) : arrival bs = (names bs).eraseDups := by
  rw [arrival, foldl_arrival, List.removeAll_nil, List.nil_append]

theorem mem_arrival (bs : List JB) (n : String) : n ∈ arrival bs ↔ n ∈ names bs := by
  rw [arrival_eq, List.mem_eraseDups]

theorem arrival_nodup (bs : List JB) : (arrival bs).Nodup := by
  rw [arrival_eq]; exact List.nodup_eraseDups _

theorem arrival_snoc (pre : List JB) (b : JB) :
    arrival (pre ++ [b]) = if b.name ∈ names pre then arrival pre else arrival pre ++ [b.name] := by
  rw [arrival_eq, arrival_eq, names_append]; exact List.eraseDups_snoc _ _

theorem arrival_of_names (bs bs' : List JB) (h : names bs = names bs') : arrival bs = arrival bs' := by
  rw [arrival_eq, arrival_eq, h]

theorem mkTbl_names (ns : List String) (sc dp : String → List String) : (mkTbl ns sc dp).names = ns := by
  simp [mkTbl, Tbl.names, Function.comp_def]

theorem mkTbl_length (ns : List String) (sc dp : String → List String) : (mkTbl ns sc dp).length = ns.length := by
  simp [mkTbl]

theorem mkTbl_cons (n : String) (ns : List String) (sc dp : String → List String) :
    mkTbl (n :: ns) sc dp = ⟨n, sc n, dp n⟩ :: mkTbl ns sc dp := rfl

theorem mkTbl_congr (ns : List String) (sc dp sc' dp' : String → List String)
    (h : ∀ n ∈ ns, sc n = sc' n ∧ dp n = dp' n) : mkTbl ns sc dp = mkTbl ns sc' dp' :=
  List.map_congr_left fun n hn => by rw [(h n hn).1, (h n hn).2]

theorem get?_mkTbl (ns : List String) (sc dp : String → List String) (n : String) :
    (mkTbl ns sc dp).get? n = if n ∈ ns then some ⟨n, sc n, dp n⟩ else none := by
  induction ns with
  | nil => rfl
  | cons m ns ih =>
    rw [mkTbl_cons, Tbl.get?, List.find?_cons]
    by_cases h : m = n
    · simp [h]
    · rw [show (m == n) = false by simpa using h]
      simpa [Tbl.get?, Ne.symm h] using ih

theorem extend_mkTbl (ns : List String) (sc dp : String → List String) (n : String) (ds : List String) :
    (mkTbl ns sc dp).extend n ds = mkTbl ns sc fun m => dp m ++ if m = n then ds else [] := by
  simp only [Tbl.extend, mkTbl, List.map_map]
  apply List.map_congr_left
  intro m _
  by_cases h : m = n <;> simp [h]

theorem addBlock_mkTbl (ns : List String) (sc dp : String → List String) (b : JB) :
    addBlock (mkTbl ns sc dp) b =
      if b.name ∈ ns then
        if b.script = sc b.name then .ok (mkTbl ns sc fun m => dp m ++ if m = b.name then b.deps else [])
        else .error (.conflict b.name)
      else .ok (mkTbl ns sc dp ++ [⟨b.name, b.script, b.deps⟩]) := by
  by_cases h : b.name ∈ ns <;> simp only [addBlock, get?_mkTbl, h, if_true, if_false, extend_mkTbl]

theorem build_mk (sc dp : String → List String) : ∀ (rest pre : List String), (pre ++ rest).Nodup →
    build (rest.map fun n => (⟨n, sc n, dp n⟩ : JB)) (mkTbl pre sc dp) = .ok (mkTbl (pre ++ rest) sc dp) := by
  intro rest
  induction rest with
  | nil => intro pre _; simp [build]
  | cons n rest ih =>
    intro pre hnd
    have hn : n ∉ pre := not_mem_of_nodup_middle hnd
    have hassoc : pre ++ [n] ++ rest = pre ++ n :: rest := by simp
    rw [List.map_cons, build, addBlock_mkTbl, if_neg hn, ← hassoc, ← ih (pre ++ [n]) (hassoc ▸ hnd)]
    simp [mkTbl]

theorem gso_mk (ns : List String) (sc dp : String → List String) (hnd : ns.Nodup) :
    genScriptOrder (ns.map fun n => (⟨n, sc n, dp n⟩ : JB)) = runTbl (mkTbl ns sc dp) := by
  have hb := build_mk sc dp ns [] (by simpa using hnd)
  simp only [List.nil_append] at hb
  have hb' : build (ns.map fun n => (⟨n, sc n, dp n⟩ : JB)) [] = .ok (mkTbl ns sc dp) := hb
  unfold genScriptOrder runTbl
  rw [hb']
  rfl

/-- one iteration of the first loop: the table of `pre` becomes the table of `pre ++ [b]`, unless
`b` contradicts a block of `pre` -/
theorem addBlock_canon (pre : List JB) (b : JB) (hnc : ¬ Conflict pre) :
    addBlock (canonT pre) b =
      if Conflict (pre ++ [b]) then .error (.conflict b.name) else .ok (canonT (pre ++ [b])) := by
  simp only [canonT, addBlock_mkTbl, mem_arrival, conflict_snoc_iff pre b hnc, arrival_snoc]
  by_cases hm : b.name ∈ names pre
  · by_cases hs : b.script = scriptOf pre b.name
    · rw [if_pos hm, if_pos hs, if_neg (fun h => h.2 hs), if_pos hm]
      congr 1
      apply mkTbl_congr
      intro n hn
      rw [scriptOf_snoc, if_pos ((mem_arrival pre n).1 hn), depsOf_snoc]
      exact ⟨rfl, by simp only [eq_comm]⟩
    · rw [if_pos hm, if_neg hs, if_pos ⟨hm, hs⟩]
  · rw [if_neg hm, if_neg (fun h => hm h.1), if_neg hm]
    congr 1
    simp only [mkTbl, List.map_append, List.map_cons, List.map_nil]
    congr 1
    · apply mkTbl_congr
      intro n hn
      have hn' := (mem_arrival pre n).1 hn
      have hne : b.name ≠ n := fun h => hm (h ▸ hn')
      rw [scriptOf_snoc, if_pos hn', depsOf_snoc, if_neg hne, List.append_nil]
      exact ⟨rfl, rfl⟩
    · rw [scriptOf_snoc, if_neg hm, depsOf_snoc, depsOf_of_not_mem pre _ hm]
      simp

theorem build_canon (bs : List JB) : ∀ pre : List JB, ¬ Conflict pre →
    (∀ t, build bs (canonT pre) = .ok t → ¬ Conflict (pre ++ bs) ∧ t = canonT (pre ++ bs)) ∧
    (∀ e, build bs (canonT pre) = .error e → Conflict (pre ++ bs) ∧ ∃ n, e = .conflict n) := by
  induction bs with
  | nil => intro pre h; simpa [build] using h
  | cons b bs ih =>
    intro pre h
    rw [build, addBlock_canon pre b h]
    by_cases hc : Conflict (pre ++ [b])
    · have := conflict_mono _ bs hc
      rw [List.append_assoc] at this
      simpa [hc] using this
    · simpa [hc] using ih (pre ++ [b]) hc

structure TblInv (pre : List JB) (t : Tbl) : Prop where
  nodup : t.names.Nodup
  mem_iff : ∀ n, n ∈ t.names ↔ n ∈ names pre
  script : ∀ e ∈ t, e.script = scriptOf pre e.name
  deps : ∀ e ∈ t, e.deps = depsOf pre e.name
  noconf : ¬ Conflict pre

theorem tblInv_canon (bs : List JB) (h : ¬ Conflict bs) : TblInv bs (canonT bs) where
  nodup := by rw [canonT, mkTbl_names]; exact arrival_nodup bs
  mem_iff n := by rw [canonT, mkTbl_names]; exact mem_arrival bs n
  script e he := by obtain ⟨n, _, rfl⟩ := List.mem_map.1 he; rfl
  deps e he := by obtain ⟨n, _, rfl⟩ := List.mem_map.1 he; rfl
  noconf := h

theorem firstMissingIn_none (ns : List String) (f : String) (ds : List String) :
    firstMissingIn ns f ds = none ↔ ∀ d ∈ ds, d ∈ ns := by
  fun_induction firstMissingIn ns f ds <;> simp_all

theorem firstMissingIn_some (ns : List String) (f : String) (ds : List String) (e : Err)
    (h : firstMissingIn ns f ds = some e) : ∃ d ∈ ds, d ∉ ns ∧ e = .missing d f := by
  fun_induction firstMissingIn ns f ds with
  | case1 => cases h
  | case2 d ds hd ih => obtain ⟨d', hd', r⟩ := ih h; exact ⟨d', List.mem_cons_of_mem _ hd', r⟩
  | case3 d ds hd => cases h; exact ⟨d, List.mem_cons_self, hd, rfl⟩

theorem firstMissing_some (ns : List String) (t : Tbl) (err : Err) (h : firstMissing ns t = some err) :
    ∃ e ∈ t, ∃ d ∈ e.deps, d ∉ ns ∧ err = .missing d e.name := by
  fun_induction firstMissing ns t with
  | case1 => cases h
  | case2 e es err' hf =>
    cases h
    exact ⟨e, List.mem_cons_self, firstMissingIn_some _ _ _ _ hf⟩
  | case3 e es hf ih => obtain ⟨e', he', r⟩ := ih h; exact ⟨e', List.mem_cons_of_mem _ he', r⟩

theorem firstMissing_none (ns : List String) (t : Tbl) :
    firstMissing ns t = none ↔ ∀ e ∈ t, ∀ d ∈ e.deps, d ∈ ns := by
  fun_induction firstMissing ns t with
  | case1 => simp
  | case2 e es err hf =>
    obtain ⟨d, hd, hn, _⟩ := firstMissingIn_some _ _ _ _ hf
    exact ⟨fun h => (nomatch h), fun h => absurd (h e List.mem_cons_self d hd) hn⟩
  | case3 e es hf ih => simpa [ih] using fun _ => (firstMissingIn_none _ _ _).1 hf

theorem firstMissing_mk_none (ns0 ns : List String) (sc dp : String → List String) :
    firstMissing ns0 (mkTbl ns sc dp) = none ↔ ∀ n ∈ ns, ∀ d ∈ dp n, d ∈ ns0 := by
  rw [firstMissing_none]
  simp [mkTbl]

theorem conflict_of_mem_iff (bs bs' : List JB) (h : ∀ x, x ∈ bs ↔ x ∈ bs') : Conflict bs ↔ Conflict bs' := by
  simp only [Conflict, h]

theorem names_of_mem_iff (bs bs' : List JB) (h : ∀ x, x ∈ bs ↔ x ∈ bs') (n : String) :
    n ∈ names bs ↔ n ∈ names bs' := by
  simp only [names, List.mem_map, h]

theorem depsOf_of_mem_iff (bs bs' : List JB) (h : ∀ x, x ∈ bs ↔ x ∈ bs') (n d : String) :
    d ∈ depsOf bs n ↔ d ∈ depsOf bs' n := by
  simp only [mem_depsOf, h]

theorem missing_of_mem_iff (bs bs' : List JB) (h : ∀ x, x ∈ bs ↔ x ∈ bs') : Missing bs ↔ Missing bs' := by
  simp only [Missing, names_of_mem_iff bs bs' h, h]

theorem cyclic_of_mem_iff (bs bs' : List JB) (h : ∀ x, x ∈ bs ↔ x ∈ bs') : Cyclic bs ↔ Cyclic bs' := by
  simp only [Cyclic, names_of_mem_iff bs bs' h, depsOf_of_mem_iff bs bs' h]

theorem scriptOf_of_mem_iff (bs bs' : List JB) (h : ∀ x, x ∈ bs ↔ x ∈ bs') (hc : ¬ Conflict bs)
    (n : String) (hn : n ∈ names bs) : scriptOf bs n = scriptOf bs' n := by
  have hc' : ¬ Conflict bs' := fun hh => hc ((conflict_of_mem_iff bs bs' h).2 hh)
  obtain ⟨x, hx, rfl⟩ := List.mem_map.1 hn
  rw [← script_eq_of_noconf bs hc x hx, ← script_eq_of_noconf bs' hc' x ((h x).1 hx)]

def pendingOf (ns seen : List String) : List String := ns.filter (· ∉ seen)

theorem pendingOf_nil (ns : List String) : pendingOf ns [] = ns := List.filter_eq_self.2 (by simp)

theorem pendingOf_cons (n : String) (ns seen : List String) :
    pendingOf (n :: ns) seen = if n ∈ seen then pendingOf ns seen else n :: pendingOf ns seen := by
  by_cases h : n ∈ seen <;> simp [pendingOf, h]

theorem pendingOf_append_single (l seen : List String) (n : String) (h : n ∉ l) :
    pendingOf l (seen ++ [n]) = pendingOf l seen := by
  apply List.filter_congr
  intro x hx
  have : x ≠ n := fun hh => h (hh ▸ hx)
  simp [this]

/-- **one pass** over entries whose scripts and dependencies are `sc`, `dp` of their names: the names `E` it emits are
appended to `seen`, their scripts to the text; if it emits nothing, every block not yet emitted waits for another
such block; and the pass is a stretch of the work list: with the pending blocks of `es` at the head of the queue
and `D` behind them, it ends with `D` at the head and the blocks of `es` that were put back behind it. -/
theorem pass_shape (sc dp : String → List String) (es : Tbl) (s : PassSt) (hnd : es.names.Nodup)
    (hes : ∀ e ∈ es, e.script = sc e.name ∧ e.deps = dp e.name) :
    ∃ E : List String, pass es s = ⟨s.seen ++ E, s.out ++ E.flatMap sc, s.emitted || !E.isEmpty⟩ ∧
      (∀ n ∈ E, n ∈ es.names) ∧ (s.seen.Nodup → (s.seen ++ E).Nodup) ∧
      (E = [] → ∀ e ∈ es, e.name ∉ s.seen → ∃ d ∈ dp e.name, d ∉ s.seen) ∧
      ∀ D π, Fifo dp (s.seen ++ E) (D ++ pendingOf es.names (s.seen ++ E)) π →
        Fifo dp s.seen (pendingOf es.names s.seen ++ D) π := by
  fun_induction pass es s with
  | case1 s => exact ⟨[], by simp, by simp, by simp, by simp, by simp [pendingOf, Tbl.names]⟩
  | case2 e es s hseen ih =>
    obtain ⟨E, h1, h2, h3, h4, h5⟩ := ih (List.nodup_cons.1 hnd).2 fun e' he' => hes e' (List.mem_cons_of_mem _ he')
    refine ⟨E, h1, fun n hn => List.mem_cons_of_mem _ (h2 n hn), h3, fun hE => by simpa [hseen] using h4 hE, fun D π h => ?_⟩
    rw [Tbl.names_cons e es, pendingOf_cons, if_pos (List.mem_append_left _ hseen)] at h
    rw [Tbl.names_cons e es, pendingOf_cons, if_pos hseen]
    exact h5 D π h
  | case3 e es s hseen hall ih =>
    -- `e` is ready: it is emitted, and is pending neither before nor after the rest of the pass
    rw [Tbl.names_cons] at hnd
    obtain ⟨hne, hnd'⟩ := List.nodup_cons.1 hnd
    obtain ⟨E, h1, h2, h3, _, h5⟩ := ih hnd' fun e' he' => hes e' (List.mem_cons_of_mem _ he')
    have hassoc : s.seen ++ [e.name] ++ E = s.seen ++ e.name :: E := by simp
    refine ⟨e.name :: E, by rw [h1]; simp [(hes e List.mem_cons_self).1], fun n hn => (List.mem_cons.1 hn).elim
      (· ▸ List.mem_cons_self) fun hn => List.mem_cons_of_mem _ (h2 n hn),
      fun hnd => hassoc ▸ h3 (nodup_snoc hnd hseen), (fun hE => nomatch hE), fun D π h => ?_⟩
    rw [Tbl.names_cons e es, pendingOf_cons, if_pos (by simp), ← hassoc] at h
    rw [Tbl.names_cons e es, pendingOf_cons, if_neg hseen]
    have := h5 D π h
    simp only [pendingOf_append_single _ _ _ hne] at this
    exact .emit _ _ _ _ ⟨hseen, by rw [← (hes e List.mem_cons_self).2]; simpa using hall⟩ this
  | case4 e es s hseen hall ih =>
    -- `e` is not ready: it goes behind `D`, and is still pending after the rest of the pass
    rw [Tbl.names_cons] at hnd
    obtain ⟨hne, hnd'⟩ := List.nodup_cons.1 hnd
    obtain ⟨E, h1, h2, h3, h4, h5⟩ := ih hnd' fun e' he' => hes e' (List.mem_cons_of_mem _ he')
    have hd : ∃ d ∈ dp e.name, d ∉ s.seen := by simpa [(hes e List.mem_cons_self).2] using hall
    have hfin : e.name ∉ s.seen ++ E := fun hh => (List.mem_append.1 hh).elim hseen fun hh => hne (h2 _ hh)
    refine ⟨E, h1, fun n hn => List.mem_cons_of_mem _ (h2 n hn), h3, fun hE => by simpa [hseen, hd] using h4 hE,
      fun D π h => ?_⟩
    rw [Tbl.names_cons e es, pendingOf_cons, if_neg hfin] at h
    rw [Tbl.names_cons e es, pendingOf_cons, if_neg hseen]
    refine .defer _ _ _ _ (fun hr => ?_) (by simpa using h5 (D ++ [e.name]) π (by simpa using h))
    obtain ⟨d, hd1, hd2⟩ := hd
    exact hd2 (hr.2 d hd1)

end FaxVerif.C15
