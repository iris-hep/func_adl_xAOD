/-
C08 — `attachAt` against `strip`: a `MetaData` call attached at a valid position adds one entry to the list `strip`
extracts and leaves the stripped query as it was (`attach_spec`, behind the `md_*` theorems).
-/
import FaxVerif.C08.Spec
namespace FaxVerif.C08

theorem stripL_length (qs : List Q) : (stripL qs).length = qs.length := by
  induction qs with
  | nil => simp [stripL]
  | cons q qs ih => simp [stripL, ih]

theorem stripL_append (as bs : List Q) : stripL (as ++ bs) = stripL as ++ stripL bs := by
  induction as with
  | nil => rfl
  | cons a as ih => simp [stripL, ih]

theorem strip_app_md (f : Q) (src d : Q) (rest : List Q) (h : isMdHead f = true) :
    strip (.app f (src :: d :: rest)) = ((strip src).1, d :: (strip src).2) := by
  simp [strip, stripL, h]

/-- a call that is not a `MetaData` call with its two arguments (the condition as `validPos` states it) -/
theorem strip_app_generic (f : Q) (as : List Q) (h : (isMdHead f && decide (as.length ≥ 2)) = false) :
    strip (.app f as) = (.app (strip f).1 ((stripL as).map (·.1)), (strip f).2 ++ (stripL as).flatMap (·.2)) := by
  cases hf : isMdHead f with
  | false => simp [strip, hf]
  | true =>
    match as, h with
    | [], _ => simp [strip, stripL]
    | [a], _ => simp [strip, stripL]
    | _ :: _ :: _, h => simp [hf] at h

def AttachSpec (m : Q) (q q1 : Q) : Prop :=
  (strip q1).1 = (strip q).1 ∧ ∃ l r, (strip q).2 = l ++ r ∧ (strip q1).2 = l ++ m :: r

/-- what `attachAt` returns is a call, a lambda or a node, never a bare name -/
theorem isMdHead_attach (m : Q) (p : List Step) (f f1 : Q) (h : attachAt m p f = some f1) : isMdHead f1 = false := by
  unfold attachAt at h
  split at h
  case h_1 => cases h; rfl
  case h_6 => cases h
  all_goals
    obtain ⟨_, _, rfl⟩ := Option.map_eq_some_iff.1 h
    rfl

def AttachSpecL (m : Q) (i : Nat) (qs qs1 : List Q) : Prop :=
  ∃ pre q q1 post, pre.length = i ∧ qs = pre ++ q :: post ∧ qs1 = pre ++ q1 :: post ∧ AttachSpec m q q1

theorem AttachSpecL.strip {m : Q} {i : Nat} {qs qs1 : List Q} (h : AttachSpecL m i qs qs1) :
    qs1.length = qs.length ∧ (stripL qs1).map (·.1) = (stripL qs).map (·.1) ∧
      ∃ l r, (stripL qs).flatMap (·.2) = l ++ r ∧ (stripL qs1).flatMap (·.2) = l ++ m :: r := by
  obtain ⟨pre, q, q1, post, _, rfl, rfl, h1, l, r, h2, h3⟩ := h
  exact ⟨by simp, by simp [stripL_append, stripL, h1], (stripL pre).flatMap (·.2) ++ l,
    r ++ (stripL post).flatMap (·.2), by simp [stripL_append, stripL, h2], by simp [stripL_append, stripL, h3]⟩

/-- By the induction principle of `attachAt` itself: one case per equation of the definition. -/
theorem attach_spec_both (m : Q) :
    (∀ p q, ∀ q1, attachAt m p q = some q1 → validPos p q = true → AttachSpec m q q1) ∧
    (∀ i p qs, ∀ qs1, attachAtL m i p qs = some qs1 → validPosL i p qs = true → AttachSpecL m i qs qs1) := by
  apply attachAt.mutual_induct
  · intro q q1 h _
    simp only [attachAt, Option.some.injEq] at h
    subst h
    exact ⟨by simp [wrapMd, strip_app_md, isMdHead], [], (strip q).2, by simp, by simp [wrapMd, strip_app_md, isMdHead]⟩
  · intro p ps b ih q1 h hv
    simp only [attachAt, Option.map_eq_some_iff] at h
    obtain ⟨b1, hb1, rfl⟩ := h
    simp only [validPos] at hv
    obtain ⟨h1, l, r, h2, h3⟩ := ih b1 hb1 hv
    exact ⟨by simp [strip, h1], l, r, by simp [strip, h2], by simp [strip, h3]⟩
  · intro p f as ih q1 h hv
    simp only [attachAt, Option.map_eq_some_iff] at h
    obtain ⟨f1, hf1, rfl⟩ := h
    simp only [validPos, Bool.and_eq_true, Bool.not_eq_true'] at hv
    obtain ⟨h1, l, r, h2, h3⟩ := ih f1 hf1 hv.2
    unfold AttachSpec
    rw [strip_app_generic f1 as (by rw [isMdHead_attach m p f f1 hf1]; rfl), strip_app_generic f as hv.1]
    exact ⟨by simp [h1], l, r ++ (stripL as).flatMap (·.2), by simp [h2], by simp [h3]⟩
  · intro i p f as ih q1 h hv
    simp only [attachAt, Option.map_eq_some_iff] at h
    obtain ⟨as1, has1, rfl⟩ := h
    simp only [validPos, Bool.and_eq_true, Bool.or_eq_true, Bool.not_eq_true', beq_iff_eq] at hv
    have hL := ih as1 has1 hv.2
    cases hmd : isMdHead f && decide (as.length ≥ 2) with
    | false =>
      obtain ⟨hl, h1, l, r, h2, h3⟩ := hL.strip
      unfold AttachSpec
      rw [strip_app_generic f as1 (by rw [hl]; exact hmd), strip_app_generic f as hmd]
      exact ⟨by simp [h1], (strip f).2 ++ l, r, by simp [h2], by simp [h3]⟩
    | true =>
      -- an existing MetaData call: only its first argument may be entered
      have hi : i = 0 := by simpa [hmd] using hv.1
      obtain ⟨pre, src, src1, post, hpre, rfl, rfl, h1, l, r, h2, h3⟩ := hL
      obtain rfl : pre = [] := List.eq_nil_of_length_eq_zero (hpre.trans hi)
      simp only [Bool.and_eq_true, decide_eq_true_eq] at hmd
      match post, hmd.2 with
      | d :: rest, _ =>
        unfold AttachSpec
        rw [List.nil_append, List.nil_append, strip_app_md f src1 d rest hmd.1, strip_app_md f src d rest hmd.1]
        exact ⟨h1, d :: l, r, by simp [h2], by simp [h3]⟩
  · intro i p t ks ih q1 h hv
    simp only [attachAt, Option.map_eq_some_iff] at h
    obtain ⟨ks1, hks1, rfl⟩ := h
    simp only [validPos] at hv
    obtain ⟨_, h1, l, r, h2, h3⟩ := (ih ks1 hks1 hv).strip
    exact ⟨by simp [strip, h1], l, r, by simp [strip, h2], by simp [strip, h3]⟩
  · intro t x h1 h2 h3 h4 h5 q1 h
    simp [attachAt, *] at h
  · intro i p qs1 h
    simp [attachAtL] at h
  · intro p q qs ih qs1 h hv
    simp only [attachAtL, Option.map_eq_some_iff] at h
    obtain ⟨q1, hq1, rfl⟩ := h
    exact ⟨[], q, q1, qs, rfl, rfl, rfl, ih q1 hq1 (by simpa only [validPosL] using hv)⟩
  · intro i p q qs ih qs1 h hv
    simp only [attachAtL, Option.map_eq_some_iff] at h
    obtain ⟨qs1', hqs1, rfl⟩ := h
    obtain ⟨pre, a, a1, post, hi, rfl, rfl, hs⟩ := ih qs1' hqs1 (by simpa only [validPosL] using hv)
    exact ⟨q :: pre, a, a1, post, by simp [hi], rfl, rfl, hs⟩
theorem attach_spec (m : Q) (p : List Step) (q q1 : Q) :
    attachAt m p q = some q1 → validPos p q = true → AttachSpec m q q1 :=
  (attach_spec_both m).1 p q q1


end FaxVerif.C08
