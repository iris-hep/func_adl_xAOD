/-
C08 driver: one JSON request per line on stdin, one JSON answer per line on stdout.
Terms: {"v":name} | {"c":text} | {"l":[params],"b":body} | {"f":func,"a":[args]} | {"n":tag,"k":[kids]}
  {"op":"alpha","q":T,"q2":T}                      -> {"alpha":bool}
  {"op":"stack","ops":[["push"]|["pop"]|["def",name,val]|["get",name]]}  -> {"gets":[val|null,..]}
  {"op":"strip","q":T}                             -> {"q":T,"mds":[T]}
  {"op":"simp","q":T,"n":k,"fuel":k}               -> {"q":T,"n":k,"bang":bool}
  {"op":"pre","q":T}                               -> {"q":T,"aliasRisk":bool,"shadowRisk":bool}   (the query as simplify_chained_calls receives it)
  {"op":"wprint","q":T}                            -> {"toks":[..],"wireOK":bool} | {"none":true,"wireOK":bool}
  {"op":"wprint2","q":T}                           -> {"toks":[..],"wireOK":bool,"back":T,"changed":bool} | {"none":true}   (wprint after wirePre)
  {"op":"wparse","toks":[..]}                      -> {"q":T} | {"none":true}
  {"op":"procmd","items":[[kind,key,val]..],"keys":[..]}   -> {"err":cls} | {"types":[..],"fns":[..],"enums":[..],"injects":[..],"scripts":[..]}
  {"op":"variant","kind":K,"q":T,"q2":T,...}       -> {"related":bool,"excluded":string|null, ...}
      kind "alpha" with "globals":[names]           -> also {"readsGlobal":bool,"readsGlobal2":bool,"binderLikeGlobal":bool}
  {"op":"mdsame","items":[..],"items2":[..],"scripts":[[name,[lines],[deps]]..],"scripts2":[..],"scriptsUsed":bool}
                                                   -> {"same":bool,"sameByKind":bool,"commuting":bool,"refused":bool}
  {"op":"emitscripts","scripts":[[name,[lines],[deps]]..]}   -> {"ok":[lines]} | {"err":cls}      (generate_script_block)
  {"op":"put","id":I,"toks":[tok..]}               -> {"put":true}      (a lexed file, kept for later `same` requests)
  {"op":"same","a":O,"b":O}                        -> {"strict":bool,"diag":bool,"firstDiff":k}   O = {"ok":[I..]} | {"err":cls}
Run: lake env lean --run FaxVerif/C08/Driver.lean
-/
import Lean.Data.Json
import Std.Data.HashMap
import FaxVerif.C08.Spec
import FaxVerif.C08.MdModel
import FaxVerif.C08.WireN
open Lean FaxVerif.C08

partial def qOfJson (j : Json) : Except String Q := do
  match j.getObjVal? "v" with
  | .ok v => return .var (← v.getStr?)
  | .error _ => pure ()
  match j.getObjVal? "c" with
  | .ok v => return .lit (← v.getStr?)
  | .error _ => pure ()
  match j.getObjVal? "l" with
  | .ok ps =>
    let ps ← (← ps.getArr?).toList.mapM (·.getStr?)
    return .lam ps (← qOfJson (← j.getObjVal? "b"))
  | .error _ => pure ()
  match j.getObjVal? "f" with
  | .ok f =>
    let as ← (← (← j.getObjVal? "a").getArr?).toList.mapM qOfJson
    return .app (← qOfJson f) as
  | .error _ => pure ()
  let t ← (← j.getObjVal? "n").getStr?
  let ks ← (← (← j.getObjVal? "k").getArr?).toList.mapM qOfJson
  return .node t ks

partial def qToJson : Q → Json
  | .var x => Json.mkObj [("v", x)]
  | .lit c => Json.mkObj [("c", c)]
  | .lam ps b => Json.mkObj [("l", Json.arr (ps.map Json.str).toArray), ("b", qToJson b)]
  | .app f as => Json.mkObj [("f", qToJson f), ("a", Json.arr (as.map qToJson).toArray)]
  | .node t ks => Json.mkObj [("n", t), ("k", Json.arr (ks.map qToJson).toArray)]

def strs (j : Json) : Except String (List String) := do
  (← j.getArr?).toList.mapM (·.getStr?)

def jstrs (l : List String) : Json := Json.arr (l.map Json.str).toArray

def tokOf (s : String) : Tok :=
  match s.toList with
  | '\x01' :: r => .gen (String.ofList r)
  | '\x02' :: r => .diag (String.ofList r)
  | '\x03' :: r => .diagGen (String.ofList r)
  | _ => .plain s

abbrev Store := Std.HashMap String (List Tok)

/-- an outcome refers to lexed files stored earlier with `put` (most files of a package are the same for all variants) -/
def outcomeOf (store : Store) (j : Json) : Except String Outcome := do
  match j.getObjVal? "ok" with
  | .ok t =>
    let ids ← strs t
    let parts ← ids.mapM (fun i => match store[i]? with
      | some l => pure l
      | none => throw s!"unknown file id {i}")
    return .ok parts.flatten
  | .error _ => return .err (← (← j.getObjVal? "err").getStr?)

def stepOf (j : Json) : Except String Step := do
  let i ← j.getInt?
  -- -1 function position; the harness encodes  lambda body = 0, argument/child i = i, told apart by the term
  return if i < 0 then .fn else .arg i.toNat

/-- the harness' paths do not say whether a step enters an argument, a child or a lambda body: resolve against the term -/
def resolvePath : List Int → Q → Option (List Step)
  | [], _ => some []
  | i :: p, .lam _ b => if i == 0 then (resolvePath p b).map (.body :: ·) else none
  | i :: p, .app f as =>
    if i < 0 then (resolvePath p f).map (.fn :: ·)
    else match as[i.toNat]? with
      | some a => (resolvePath p a).map (.arg i.toNat :: ·)
      | none => none
  | i :: p, .node _ ks =>
    if i < 0 then none
    else match ks[i.toNat]? with
      | some a => (resolvePath p a).map (.kid i.toNat :: ·)
      | none => none
  | _, _ => none

def mdItemOf (j : Json) : Except String MdItem := do
  let a ← strs j
  match a with
  | [k, x, y] =>
    if k == "methodType" then return .methodType x y
    else if k == "fn" then return .fn x y
    else if k == "enum" then return .enum x y
    else if k == "inject" then return .inject x y
    else if k == "script" then return .script x y
    else return .bad x
  | _ => throw "bad md item"

def sblkOf (j : Json) : Except String SBlk := do
  match (← j.getArr?).toList with
  | [n, sc, ds] => return ⟨← n.getStr?, ← strs sc, ← strs ds⟩
  | _ => throw "bad script block"

def optStr : Option String → Json
  | some s => Json.str s
  | none => Json.null

def pairs (l : List (String × String)) : Json := Json.arr (l.map (fun p => Json.arr #[Json.str p.1, Json.str p.2])).toArray

/-- run the argument_stack model on a sequence of operations; `Stack` keeps the innermost frame first -/
def runStack (ops : List (List String)) : List (Option String) :=
  let rec go : List (List String) → Stack String → List (Option String) → List (Option String)
    | [], _, acc => acc.reverse
    | op :: rest, st, acc =>
      match op with
      | ["push"] => go rest ([] :: st) acc
      | ["pop"] => go rest (st.drop 1) acc
      | ["def", n, v] => match st with
        | f :: fs => go rest ((f ++ [(n, v)]) :: fs) acc
        | [] => go rest st acc
      | ["get", n] => go rest st (st.lookup n :: acc)
      | _ => go rest st acc
  go ops [[]] []

def firstDiff (a b : List String) : Nat :=
  let rec go : List String → List String → Nat → Nat
    | x :: xs, y :: ys, i => if x == y then go xs ys (i + 1) else i
    | _, _, i => i
  go a b 0

def handleReq (store : Store) (j : Json) : Except String Json := do
  let op ← (← j.getObjVal? "op").getStr?
  if op == "alpha" then
    let q ← qOfJson (← j.getObjVal? "q")
    let q2 ← qOfJson (← j.getObjVal? "q2")
    return Json.mkObj [("alpha", alphaB q q2)]
  else if op == "stack" then
    let ops ← (← (← j.getObjVal? "ops").getArr?).toList.mapM strs
    return Json.mkObj [("gets", Json.arr ((runStack ops).map optStr).toArray)]
  else if op == "strip" then
    let q ← qOfJson (← j.getObjVal? "q")
    let r := strip q
    return Json.mkObj [("q", qToJson r.1), ("mds", Json.arr (r.2.map qToJson).toArray)]
  else if op == "simp" then
    let q ← qOfJson (← j.getObjVal? "q")
    let n ← (← j.getObjVal? "n").getNat?
    let fuel ← (← j.getObjVal? "fuel").getNat?
    let r := simplify fuel [] n q
    return Json.mkObj [("q", qToJson r.1), ("n", r.2), ("bang", hasBang r.1)]
  else if op == "pre" then
    let q ← qOfJson (← j.getObjVal? "q")
    return Json.mkObj [("q", qToJson (preSimp q)), ("aliasRisk", aliasRisk (preSimp q)), ("shadowRisk", shadowRisk (preSimp q))]
  else if op == "wprint" then
    let q ← qOfJson (← j.getObjVal? "q")
    match wprint q with
    | some t => return Json.mkObj [("toks", jstrs t), ("wireOK", wireOK q)]
    | none => return Json.mkObj [("none", true), ("wireOK", wireOK q)]
  else if op == "wprint2" then
    -- qastle's printer on every query (n-ary and/or, chained comparisons): tokens, and what comes back over the wire
    let q ← qOfJson (← j.getObjVal? "q")
    match wprint2 q with
    | some t => return Json.mkObj [("toks", jstrs t), ("wireOK", wireOK (wirePre q)), ("back", qToJson (wireNorm2 q)), ("changed", !(wirePre q == q))]
    | none => return Json.mkObj [("none", true), ("wireOK", wireOK (wirePre q))]
  else if op == "wparse" then
    let t ← strs (← j.getObjVal? "toks")
    match wparse (2 * t.length + 2) t with
    | some (q, []) => return Json.mkObj [("q", qToJson q)]
    | _ => return Json.mkObj [("none", true)]
  else if op == "procmd" then
    let items ← (← (← j.getObjVal? "items").getArr?).toList.mapM mdItemOf
    let keys ← strs (← j.getObjVal? "keys")
    match procMd MdState.init items with
    | .error e => return Json.mkObj [("err", e), ("commuting", commutingAll items)]
    | .ok s => return Json.mkObj [
        ("types", Json.arr (keys.map (fun k => optStr (s.types k))).toArray),
        ("fns", Json.arr (keys.map (fun k => optStr (s.fns k))).toArray),
        ("enums", Json.arr (keys.map (fun k => optStr (s.enums k))).toArray),
        ("injects", pairs s.injects), ("scripts", pairs s.scripts), ("commuting", commutingAll items)]
  else if op == "mdsame" then
    let items ← (← (← j.getObjVal? "items").getArr?).toList.mapM mdItemOf
    let items2 ← (← (← j.getObjVal? "items2").getArr?).toList.mapM mdItemOf
    let sc ← (← (← j.getObjVal? "scripts").getArr?).toList.mapM sblkOf
    let sc2 ← (← (← j.getObjVal? "scripts2").getArr?).toList.mapM sblkOf
    let used ← (← j.getObjVal? "scriptsUsed").getBool?
    let refused := match mdView (keysOf items) items sc used with
      | .ok _ => false
      | .error _ => true
    return Json.mkObj [("same", mdSameB items items2 sc sc2 used), ("sameByKind", sameByKind items items2),
                       ("commuting", commutingAll items), ("refused", refused)]
  else if op == "emitscripts" then
    let sc ← (← (← j.getObjVal? "scripts").getArr?).toList.mapM sblkOf
    match emitScripts sc with
    | .ok out => return Json.mkObj [("ok", jstrs out)]
    | .error e => return Json.mkObj [("err", e)]
  else if op == "variant" then
    let kind ← (← j.getObjVal? "kind").getStr?
    let q ← qOfJson (← j.getObjVal? "q")
    let q2 ← qOfJson (← j.getObjVal? "q2")
    let fuel := 4000
    let base := [("shadowRisk", Json.bool (shadowRisk (preSimp q) || shadowRisk (preSimp q2))),
                 ("aliasRisk", Json.bool (aliasRisk (preSimp q) || aliasRisk (preSimp q2))),
                 ("argNameRisk", Json.bool (argNameRisk q || argNameRisk q2)),
                 ("captureFree", Json.bool (captureFreeB fuel q && captureFreeB fuel q2))]
    if kind == "alpha" then
      -- optional "globals": the namespaces the query declares; does the query read one free / is a parameter spelled like one?
      let globals := match j.getObjVal? "globals" with
        | .ok g => match strs g with
          | .ok l => l
          | .error _ => []
        | .error _ => []
      return Json.mkObj ([("related", Json.bool (alphaB q q2)),
                          ("readsGlobal", Json.bool (readsAnyB globals q)), ("readsGlobal2", Json.bool (readsAnyB globals q2)),
                          ("binderLikeGlobal", Json.bool (binderAmongB globals q2))] ++ base)
    else if kind == "style" then
      return Json.mkObj ([("related", Json.bool (normStyle q == normStyle q2))] ++ base)
    else if kind == "md" then
      return Json.mkObj ([("related", Json.bool (mdMovedB q q2)), ("sameOrder", Json.bool (mdSameOrderB q q2))] ++ base)
    else if kind == "combined" then
      -- renamed + restyled + metadata moved
      let a := normStyle (strip q).1
      let b := normStyle (strip q2).1
      return Json.mkObj ([("related", Json.bool (alphaB a b && permB (strip q).2 (strip q2).2)),
                          ("sameOrder", Json.bool ((strip q).2 == (strip q2).2))] ++ base)
    else if kind == "fuse" then
      -- q2 must be q with fuseA applied at `path` (of the metadata-free, call-style query)
      let path ← (← (← j.getObjVal? "path").getArr?).toList.mapM (·.getInt?)
      let z ← (← j.getObjVal? "z").getStr?
      let rel := match resolvePath path q with
        | some p => match mapAt (fuseA z) p q with
          | some r => r == q2
          | none => false
        | none => false
      let siteOk := match resolvePath path q with
        | some p => fuseSiteOkB fuel q p
        | none => false
      return Json.mkObj ([("related", Json.bool rel), ("sameNF", Json.bool (sameNormalFormB fuel q q2)),
                          ("sameNF2", Json.bool (sameNormalForm2B fuel q q2)), ("siteOk", Json.bool siteOk)] ++ base)
    else if kind == "nf" then
      -- fused by substitution / unfused: `path` is the site in whichever of the two is the separately written one
      let path ← (← (← j.getObjVal? "path").getArr?).toList.mapM (·.getInt?)
      let sep ← qOfJson (← j.getObjVal? "sep")
      let siteOk := match resolvePath path sep with
        | some p => fuseSiteOkB fuel sep p
        | none => false
      return Json.mkObj ([("related", Json.bool true), ("sameNF", Json.bool (sameNormalFormB fuel q q2)),
                          ("sameNF2", Json.bool (sameNormalForm2B fuel q q2)), ("siteOk", Json.bool siteOk)] ++ base)
    else if kind == "wire" then
      return Json.mkObj ([("related", Json.bool (wireNorm q == wireNorm q2))] ++ base)
    else throw s!"unknown variant kind {kind}"
  else if op == "same" then
    let a ← outcomeOf store (← j.getObjVal? "a")
    let b ← outcomeOf store (← j.getObjVal? "b")
    let strict := decide (SameOutcome true a b)
    let diag := decide (SameOutcome false a b)
    let where_ := match a, b with
      | .ok x, .ok y => firstDiff (canon true x) (canon true y)
      | _, _ => 0
    return Json.mkObj [("strict", strict), ("diag", diag), ("firstDiff", where_)]
  else throw s!"unknown op {op}"

def handle (store : Store) (line : String) : Store × String :=
  match Json.parse line with
  | .error e => (store, (Json.mkObj [("bad", e)]).compress)
  | .ok j =>
    match j.getObjVal? "op" with
    | .ok (Json.str "put") =>
      let r : Except String Store := do
        let id ← (← j.getObjVal? "id").getStr?
        let t ← strs (← j.getObjVal? "toks")
        pure (store.insert id (t.map tokOf))
      match r with
      | .ok st => (st, (Json.mkObj [("put", true)]).compress)
      | .error e => (store, (Json.mkObj [("bad", e)]).compress)
    | _ => match handleReq store j with
      | .ok r => (store, r.compress)
      | .error e => (store, (Json.mkObj [("bad", e)]).compress)

partial def loopIO (h : IO.FS.Stream) (out : IO.FS.Stream) (store : Store) : IO Unit := do
  let line ← h.getLine
  if line.isEmpty then return ()
  let t := line.trimAscii.toString
  if t.isEmpty then loopIO h out store
  else
    let (st, ans) := handle store t
    out.putStrLn ans
    loopIO h out st

def main : IO Unit := do
  let out ← IO.getStdout
  loopIO (← IO.getStdin) out {}
  out.flush
