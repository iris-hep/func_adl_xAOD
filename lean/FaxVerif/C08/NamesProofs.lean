/-
C08 — names and indices: α-equivalence is equality of the de Bruijn forms, the frame stack is a flat list searched from
the front; and the traversal `eval` three times: it factors through `resolve` (`eval_factors`), does not — said of
`evalDB` on the de Bruijn form, `evalDB_globals` — consult the global table for names the query does not read, and
translates a query and its `wireNorm` alike when the handlers do not tell `tuple` from `list` (`SameTag`).
-/
import FaxVerif.C08.Eq
import FaxVerif.Common.Dict
namespace FaxVerif.C08

theorem resolve_var_cons (a : String) (ctx : List String) (x : String) :
    resolve (a :: ctx) (.var x) = if x = a then .bvar 0 else
      match resolve ctx (.var x) with
      | .bvar i => .bvar (i + 1)
      | d => d := by
  simp only [resolve, idx]
  by_cases h : x = a
  · simp [h]
  · simp only [h, if_false]
    cases idx ctx x <;> simp

theorem pairOk_iff (ctx : List (String × String)) (x y : String) :
    pairOk ctx x y ↔ resolve (ctx.map (·.1)) (.var x) = resolve (ctx.map (·.2)) (.var y) := by
  induction ctx with
  | nil => simp [pairOk, resolve, idx]
  | cons p rest ih =>
    obtain ⟨a, b⟩ := p
    simp only [pairOk, List.map_cons, resolve_var_cons]
    by_cases hx : x = a <;> by_cases hy : y = b
    · simp [hx, hy]
    · have : ¬ b = y := fun e => hy e.symm
      simp only [hx, hy, true_or, if_true, this, and_false, if_false, false_iff]
      simp only [resolve]; cases idx (rest.map (·.2)) y <;> simp
    · have : ¬ a = x := fun e => hx e.symm
      simp only [hx, hy, or_true, if_true, this, false_and, if_false, false_iff]
      simp only [resolve]; cases idx (rest.map (·.1)) x <;> simp
    · have h1 : ¬ a = x := fun e => hx e.symm
      have h2 : ¬ b = y := fun e => hy e.symm
      simp only [hx, hy, h1, h2, or_self, if_false, ih]
      simp only [resolve]
      cases idx (rest.map (·.1)) x <;> cases idx (rest.map (·.2)) y <;> simp

theorem zip_rev_fst {α β} (ps : List α) (vs : List β) (h : ps.length = vs.length) :
    (ps.zip vs).reverse.map (·.1) = ps.reverse := by
  rw [List.map_reverse, List.map_fst_zip (by omega)]

theorem zip_rev_snd {α β} (ps : List α) (vs : List β) (h : ps.length = vs.length) :
    (ps.zip vs).reverse.map (·.2) = vs.reverse := by
  rw [List.map_reverse, List.map_snd_zip (by omega)]

mutual
theorem alpha_iff_resolve : ∀ (q q' : Q) (ctx : List (String × String)),
    AlphaEq ctx q q' ↔ resolve (ctx.map (·.1)) q = resolve (ctx.map (·.2)) q'
  | .var x, q', ctx => by
    cases q' with
    | var y => simp only [AlphaEq]; exact pairOk_iff ctx x y
    | _ => simp [AlphaEq, resolve]; try (cases idx (ctx.map (·.1)) x <;> simp)
  | .lit c, q', ctx => by
    cases q' with
    | var y => simp [AlphaEq, resolve]; cases idx (ctx.map (·.2)) y <;> simp
    | _ => simp [AlphaEq, resolve]
  | .lam ps b, q', ctx => by
    cases q' with
    | var y => simp [AlphaEq, resolve]; cases idx (ctx.map (·.2)) y <;> simp
    | lam ps' b' =>
      simp only [AlphaEq, resolve, DB.lam.injEq]
      constructor
      · rintro ⟨hl, h⟩
        refine ⟨hl, ?_⟩
        have := (alpha_iff_resolve b b' _).1 h
        rwa [List.map_append, List.map_append, zip_rev_fst _ _ hl, zip_rev_snd _ _ hl] at this
      · rintro ⟨hl, h⟩
        refine ⟨hl, (alpha_iff_resolve b b' _).2 ?_⟩
        rwa [List.map_append, List.map_append, zip_rev_fst _ _ hl, zip_rev_snd _ _ hl]
    | _ => simp [AlphaEq, resolve]
  | .app f as, q', ctx => by
    cases q' with
    | var y => simp [AlphaEq, resolve]; cases idx (ctx.map (·.2)) y <;> simp
    | app f' as' =>
      simp only [AlphaEq, resolve, DB.app.injEq]
      rw [alpha_iff_resolve f f' ctx, alphaL_iff_resolve as as' ctx]
    | _ => simp [AlphaEq, resolve]
  | .node t ks, q', ctx => by
    cases q' with
    | var y => simp [AlphaEq, resolve]; cases idx (ctx.map (·.2)) y <;> simp
    | node t' ks' =>
      simp only [AlphaEq, resolve, DB.node.injEq]
      rw [alphaL_iff_resolve ks ks' ctx]
    | _ => simp [AlphaEq, resolve]
theorem alphaL_iff_resolve : ∀ (qs qs' : List Q) (ctx : List (String × String)),
    AlphaEqL ctx qs qs' ↔ resolveL (ctx.map (·.1)) qs = resolveL (ctx.map (·.2)) qs'
  | [], qs', ctx => by cases qs' <;> simp [AlphaEqL, resolveL]
  | q :: qs, qs', ctx => by
    cases qs' with
    | nil => simp [AlphaEqL, resolveL]
    | cons q' qs' =>
      simp only [AlphaEqL, resolveL, List.cons.injEq]
      rw [alpha_iff_resolve q q' ctx, alphaL_iff_resolve qs qs' ctx]
end

def Stack.flat {ρ} (st : Stack ρ) : List (String × ρ) := st.flatMap List.reverse

theorem frame_get_eq {ρ} (f : Frame ρ) (x : String) : Frame.get? f x = (Dict.lastBy (·.1) f x).map (·.2) := by
  induction f with
  | nil => rfl
  | cons p rest ih =>
    obtain ⟨y, v⟩ := p
    rw [Frame.get?, Dict.lastBy_cons, ih]
    cases Dict.lastBy (·.1) rest x <;> simp [eq_comm]

theorem stack_lookup_eq {ρ} (st : Stack ρ) (x : String) : st.lookup x = (Dict.firstBy (·.1) st.flat x).map (·.2) := by
  induction st with
  | nil => rfl
  | cons f fs ih =>
    simp only [Stack.lookup, Stack.flat, List.flatMap_cons, Dict.firstBy_append, frame_get_eq, Dict.lastBy]
    simp only [Stack.flat] at ih
    cases Dict.firstBy (·.1) f.reverse x with
    | some v => rfl
    | none => simpa using ih

theorem stack_names_eq {ρ} (st : Stack ρ) : st.names = st.flat.map (·.1) := by
  simp [Stack.names, Stack.flat, List.map_flatMap]

theorem stack_vals_eq {ρ} (st : Stack ρ) : st.vals = st.flat.map (·.2) := by
  simp [Stack.vals, Stack.flat, List.map_flatMap]

theorem firstBy_idx {ρ} (l : List (String × ρ)) (x : String) :
    (Dict.firstBy (·.1) l x).map (·.2) = match idx (l.map (·.1)) x with
      | some i => (l.map (·.2))[i]?
      | none => none := by
  induction l with
  | nil => simp [Dict.firstBy, idx]
  | cons p rest ih =>
    obtain ⟨y, v⟩ := p
    simp only [Dict.firstBy_cons, List.map_cons, idx]
    by_cases h : x = y
    · simp [h]
    · have h' : ¬ y = x := fun e => h e.symm
      simp only [h, h', if_false, ih]
      cases idx (rest.map (·.1)) x <;> simp

theorem idx_lt (l : List String) (x : String) (i : Nat) (h : idx l x = some i) : i < l.length := by
  induction l generalizing i with
  | nil => simp [idx] at h
  | cons y ys ih =>
    simp only [idx] at h
    by_cases e : x = y
    · simp [e] at h; subst h; simp
    · simp only [e, if_false] at h
      cases h' : idx ys x with
      | none => simp [h'] at h
      | some j => simp [h'] at h; subst h; have := ih j h'; simp; omega

theorem stack_lookup_idx {ρ} (st : Stack ρ) (x : String) :
    st.lookup x = match idx st.names x with
      | some i => st.vals[i]?
      | none => none := by
  rw [stack_lookup_eq, firstBy_idx, stack_names_eq, stack_vals_eq]

theorem stack_lookup_some_of_idx {ρ} (st : Stack ρ) (x : String) (i : Nat) (h : idx st.names x = some i) :
    ∃ v, st.vals[i]? = some v ∧ st.lookup x = some v := by
  have hl := idx_lt _ _ _ h
  have : i < st.vals.length := by
    rw [stack_vals_eq]; rw [stack_names_eq] at hl; simpa using hl
  refine ⟨st.vals[i], by simp [this], ?_⟩
  rw [stack_lookup_idx, h]; simp [this]

theorem names_push {ρ} (ps : List String) (vals : List ρ) (st : Stack ρ) (h : vals.length = ps.length) :
    Stack.names (ps.zip vals :: st) = ps.reverse ++ st.names := by
  rw [Stack.names, List.flatMap_cons, zip_rev_fst _ _ h.symm]; rfl

theorem vals_push {ρ} (ps : List String) (vals : List ρ) (st : Stack ρ) (h : vals.length = ps.length) :
    Stack.vals (ps.zip vals :: st) = vals.reverse ++ st.vals := by
  rw [Stack.vals, List.flatMap_cons, zip_rev_snd _ _ h.symm]; rfl


def DB.isLam : DB → Bool
  | .lam _ _ => true
  | _ => false

theorem resolve_isLam (ctx : List String) (k : Q) : (resolve ctx k).isLam = isLam k := by
  cases k with
  | var x => simp only [resolve]; cases idx ctx x <;> rfl
  | _ => simp only [resolve, DB.isLam, isLam]

theorem evalKids_cons {ρ σ} (alg : Alg ρ σ) (st : Stack ρ) (tag : String) (done : List ρ) (k : Q) (rest : List Q)
    (s : σ) (hk : isLam k = false) :
    evalKids alg st tag done (k :: rest) s = match alg.pre tag done s with
      | .ok s0 => match eval alg st k s0 with
        | .ok (v, s1) => evalKids alg st tag (done ++ [v]) rest s1
        | .error e => .error e
      | .error e => .error e := by
  cases k <;> first | rfl | cases hk

theorem evalKidsDB_cons {ρ σ} (alg : Alg ρ σ) (env : List ρ) (tag : String) (done : List ρ) (d : DB) (rest : List DB)
    (s : σ) (hd : d.isLam = false) :
    evalKidsDB alg env tag done (d :: rest) s = match alg.pre tag done s with
      | .ok s0 => match evalDB alg env d s0 with
        | .ok (v, s1) => evalKidsDB alg env tag (done ++ [v]) rest s1
        | .error e => .error e
      | .error e => .error e := by
  cases d <;> first | rfl | cases hd

section factor
variable {ρ σ : Type} (alg : Alg ρ σ)

mutual
theorem eval_factors : ∀ (q : Q) (st : Stack ρ) (s : σ),
    eval alg st q s = evalDB alg st.vals (resolve st.names q) s
  | .var x, st, s => by
    simp only [eval, resolve]
    cases h : idx st.names x with
    | none => simp [stack_lookup_idx, h, evalDB]
    | some i =>
      obtain ⟨v, hv, hl⟩ := stack_lookup_some_of_idx st x i h
      simp [hl, evalDB, hv]
  | .lit c, st, s => by simp [eval, resolve, evalDB]
  | .lam ps b, st, s => by simp [eval, resolve, evalDB]
  | .app (.var f) as, st, s => by
    simp only [eval, resolve, boundHead]
    cases h : idx st.names f with
    | none =>
      have : st.lookup f = none := by rw [stack_lookup_idx, h]
      simp [this, evalDB, evalKids_factors as st ("call:" ++ f) [] s]
    | some i =>
      obtain ⟨v, hv, hl⟩ := stack_lookup_some_of_idx st f i h
      simp [hl, evalDB]
  | .app (.node t ks) as, st, s => by
    simp only [eval, resolve, evalDB, evalKids_factors ks st, evalKids_factors as st]
  | .app (.lam ps b) as, st, s => by simp [eval, resolve, evalDB]
  | .app (.lit c) as, st, s => by
    simp only [eval, resolve, evalDB, evalKids_factors as st]
  | .app (.app g bs) as, st, s => by
    have ih := eval_factors (.app g bs) st
    simp only [resolve] at ih
    simp only [eval, evalDB, resolve, ih, evalKids_factors as st]
  | .node t ks, st, s => by
    simp only [eval, resolve, evalDB, evalKids_factors ks st t [] s]
theorem evalKids_factors : ∀ (ks : List Q) (st : Stack ρ) (tag : String) (done : List ρ) (s : σ),
    evalKids alg st tag done ks s = evalKidsDB alg st.vals tag done (resolveL st.names ks) s
  | [], st, tag, done, s => by simp [evalKids, resolveL, evalKidsDB]
  | k :: rest, st, tag, done, s => by
    cases hk : isLam k with
    | false =>
      rw [evalKids_cons alg st tag done k rest s hk, resolveL,
        evalKidsDB_cons alg st.vals tag done _ _ s ((resolve_isLam _ k).trans hk)]
      simp only [eval_factors k st, evalKids_factors rest st]
    | true =>
      match k, hk with
      | .lam ps b, _ =>
        simp only [evalKids, resolveL, resolve, evalKidsDB, eval_factors b, evalKids_factors rest st]
        cases alg.enter tag done ps.length s with
        | error e => rfl
        | ok r =>
          simp only []
          split
          · rename_i hl; rw [names_push ps r.1 st hl, vals_push ps r.1 st hl]
          · rfl
end
end factor


section globals
variable {ρ σ : Type} (alg : Alg ρ σ) (free' : String → σ → Except String (ρ × σ)) (g : String → Bool)

theorem finish_withFree (tag : String) (r : Except String (List ρ × σ)) :
    finish (alg.withFree free') tag r = finish alg tag r := by
  cases r <;> rfl

theorem withFree_pre : (alg.withFree free').pre = alg.pre := rfl

theorem withFree_lit : (alg.withFree free').lit = alg.lit := rfl

theorem withFree_enter : (alg.withFree free').enter = alg.enter := rfl

mutual
theorem evalDB_globals (hf : ∀ x, g x = false → free' x = alg.free x) :
    ∀ (d : DB) (env : List ρ) (s : σ), readsGlobal g d = false →
    evalDB (alg.withFree free') env d s = evalDB alg env d s
  | .bvar i, env, s, _ => by simp [evalDB]
  | .fvar x, env, s, h => by
    simp only [readsGlobal] at h
    simp [evalDB, Alg.withFree, hf x h]
  | .lit c, env, s, _ => by simp [evalDB, Alg.withFree]
  | .lam n b, env, s, _ => by simp [evalDB]
  | .app (.fvar f) as, env, s, h => by
    simp only [readsGlobal, Bool.or_eq_false_iff] at h
    simp only [evalDB, finish_withFree, evalKidsDB_globals hf as env ("call:" ++ f) [] s h.2]
  | .app (.bvar i) as, env, s, _ => by simp [evalDB]
  | .app (.lam n b) as, env, s, _ => by simp [evalDB]
  | .app (.node t ks) as, env, s, h => by
    simp only [readsGlobal, Bool.or_eq_false_iff] at h
    have ihk := fun tag done s => evalKidsDB_globals hf ks env tag done s h.1
    have iha := fun tag done s => evalKidsDB_globals hf as env tag done s h.2
    simp only [evalDB, finish_withFree, ihk, iha]
  | .app (.lit c) as, env, s, h => by
    simp only [readsGlobal, Bool.or_eq_false_iff] at h
    have iha := fun tag done s => evalKidsDB_globals hf as env tag done s h.2
    simp only [evalDB, finish_withFree, withFree_pre, withFree_lit, iha]
  | .app (.app f2 bs) as, env, s, h => by
    simp only [readsGlobal, Bool.or_eq_false_iff] at h
    have ihf := fun s0 => evalDB_globals hf (.app f2 bs) env s0 (by simp only [readsGlobal, Bool.or_eq_false_iff]; exact h.1)
    have iha := fun tag done s => evalKidsDB_globals hf as env tag done s h.2
    simp only [evalDB, finish_withFree, withFree_pre, ihf, iha]
  | .node t ks, env, s, h => by
    simp only [readsGlobal] at h
    simp only [evalDB, finish_withFree, evalKidsDB_globals hf ks env t [] s h]
theorem evalKidsDB_globals (hf : ∀ x, g x = false → free' x = alg.free x) :
    ∀ (ks : List DB) (env : List ρ) (tag : String) (done : List ρ) (s : σ), readsGlobalL g ks = false →
    evalKidsDB (alg.withFree free') env tag done ks s = evalKidsDB alg env tag done ks s
  | [], env, tag, done, s, _ => by simp [evalKidsDB]
  | d :: rest, env, tag, done, s, h => by
    simp only [readsGlobalL, Bool.or_eq_false_iff] at h
    have ihr := fun done s => evalKidsDB_globals hf rest env tag done s h.2
    cases hd : d.isLam with
    | false =>
      rw [evalKidsDB_cons _ env tag done d rest s hd, evalKidsDB_cons alg env tag done d rest s hd, withFree_pre]
      simp only [fun s0 => evalDB_globals hf d env s0 h.1, ihr]
    | true =>
      match d, hd, h with
      | .lam n b, _, h =>
        simp only [readsGlobal] at h
        have ihb := fun env s => evalDB_globals hf b env s h.1
        simp only [evalKidsDB, withFree_enter, ihb, ihr]
end
end globals


/-- the handlers do not tell the two tags apart -/
def SameTag {ρ σ} (alg : Alg ρ σ) (t t' : String) : Prop :=
  (∀ done s, alg.pre t done s = alg.pre t' done s) ∧
  (∀ done n s, alg.enter t done n s = alg.enter t' done n s) ∧
  (∀ vs s, alg.post t vs s = alg.post t' vs s)

theorem SameTag.symm {ρ σ} {alg : Alg ρ σ} {t t' : String} (h : SameTag alg t t') : SameTag alg t' t :=
  ⟨fun d s => (h.1 d s).symm, fun d n s => (h.2.1 d n s).symm, fun v s => (h.2.2 v s).symm⟩

theorem SameTag.refl {ρ σ} {alg : Alg ρ σ} {t : String} : SameTag alg t t :=
  ⟨fun _ _ => rfl, fun _ _ _ => rfl, fun _ _ => rfl⟩

theorem wireNorm_isLam (k : Q) : isLam (wireNorm k) = isLam k := by
  cases k <;> simp only [wireNorm, isLam]

section wire
variable {ρ σ : Type} (alg : Alg ρ σ)

theorem finish_sameTag (t t' : String) (h : SameTag alg t t') (r : Except String (List ρ × σ)) :
    finish alg t r = finish alg t' r := by
  cases r with
  | error e => rfl
  | ok p => obtain ⟨vs, s⟩ := p; simp [finish, h.2.2]

-- `"method:" ++ "tuple"` unevaluated: that is the term `eval` builds for a method call on a node
variable (h1 : SameTag alg "tuple" "list") (h2 : SameTag alg ("method:" ++ "tuple") ("method:" ++ "list"))
include h1 h2

mutual
theorem eval_wire : ∀ (q : Q) (st : Stack ρ) (s : σ), eval alg st (wireNorm q) s = eval alg st q s
  | .var x, st, s => by simp [wireNorm]
  | .lit c, st, s => by simp [wireNorm]
  | .lam ps b, st, s => by simp [wireNorm, eval]
  | .app (.var f) as, st, s => by
    simp only [wireNorm, eval, evalKids_wire' as st _ _ .refl]
  | .app (.node t ks) as, st, s => by
    simp only [wireNorm, eval]
    by_cases ht : t = "tuple"
    · subst ht
      simp only [beq_self_eq_true, if_true, finish_sameTag alg _ _ h2.symm, evalKids_wire' ks st _ _ h2.symm,
        evalKids_wire' as st _ _ h2.symm]
    · have : (t == "tuple") = false := by simpa using ht
      simp only [this, Bool.false_eq_true, if_false, evalKids_wire' ks st _ _ .refl, evalKids_wire' as st _ _ .refl]
  | .app (.lam ps b) as, st, s => by simp [wireNorm, eval]
  | .app (.lit c) as, st, s => by
    simp only [wireNorm, eval, evalKids_wire' as st _ _ .refl]
  | .app (.app g bs) as, st, s => by
    have ih := eval_wire (.app g bs) st
    simp only [wireNorm] at ih
    simp only [wireNorm, eval, ih, evalKids_wire' as st _ _ .refl]
  | .node t ks, st, s => by
    simp only [wireNorm, eval]
    by_cases ht : t = "tuple"
    · subst ht
      simp only [beq_self_eq_true, if_true, evalKids_wire' ks st _ _ h1.symm, finish_sameTag alg _ _ h1.symm]
    · have : (t == "tuple") = false := by simpa using ht
      simp only [this, Bool.false_eq_true, if_false, evalKids_wire' ks st _ _ .refl]
/-- the children under a tag the handlers do not tell from `tag` -/
theorem evalKids_wire' : ∀ (ks : List Q) (st : Stack ρ) (tag' tag : String), SameTag alg tag' tag →
    ∀ (done : List ρ) (s : σ), evalKids alg st tag' done (wireNormL ks) s = evalKids alg st tag done ks s
  | [], st, tag', tag, _, done, s => by simp [wireNormL, evalKids]
  | k :: rest, st, tag', tag, ht, done, s => by
    cases hk : isLam k with
    | false =>
      rw [wireNormL, evalKids_cons alg st tag' done _ _ s ((wireNorm_isLam k).trans hk),
        evalKids_cons alg st tag done k rest s hk, ht.1]
      simp only [eval_wire k st, evalKids_wire' rest st tag' tag ht]
    | true =>
      match k, hk with
      | .lam ps b, _ => simp only [wireNormL, wireNorm, evalKids, ht.2.1, eval_wire b, evalKids_wire' rest st tag' tag ht]
end

theorem evalKids_wire : ∀ (ks : List Q) (st : Stack ρ) (tag : String) (done : List ρ) (s : σ),
    evalKids alg st tag done (wireNormL ks) s = evalKids alg st tag done ks s :=
  fun ks st tag done s => evalKids_wire' alg h1 h2 ks st tag tag .refl done s

end wire

end FaxVerif.C08
