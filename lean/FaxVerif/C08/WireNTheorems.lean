/-
C08 (a) — the wire round trip for n-ary `and`/`or` and chained comparisons.
-/
import FaxVerif.C08.WireProofs
import FaxVerif.C08.WireN
namespace FaxVerif.C08

/-- **C08.wire_roundtrip_nary** — the round trip through the text format for every query whose printed form the
format can carry, n-ary `and`/`or` and chained comparisons included: parsing the tokens qastle's printer writes
(`wprint2 = wprint ∘ wirePre`) gives back `wireNorm2 q` — the query with those operators folded to the left / split into
binary comparisons joined by `and`, and tuples turned into lists; nothing else is lost, for every size and nesting.
(`wire_roundtrip` is the case `wirePre q = q`, see `wirePre_id`.)  Unlike tuple→list, this rewriting is NOT invisible to
the translator: `a and b and c` and `(a and b) and c` are translated to different C++ (listed finding), so there is no
counterpart of `wire_partial` for it — the theorem says exactly which query the translator receives. -/
theorem wire_roundtrip_nary (q : Q) (toks : List String) (hok : wireOK (wirePre q) = true) (hp : wprint2 q = some toks) :
    wparse (toks.length + 1) toks = some (wireNorm2 q, []) := by
  simpa [wireNorm2] using (wparse_wprint (wirePre q) toks hok hp).2 [] (toks.length + 1) (by omega)

theorem wire_roundtrip_nary_open (q : Q) (toks rest : List String) (F : Nat) (hok : wireOK (wirePre q) = true)
    (hp : wprint2 q = some toks) (hF : toks.length < F) :
    wparse F (toks ++ rest) = some (wireNorm2 q, rest) :=
  (wparse_wprint (wirePre q) toks hok hp).2 rest F hF

theorem tag_not_nary (t : String) (n : Nat) (h : tagWireOK t (n + 3) = true) :
    ((splitTag t).1 == "bool") = false ∧ ((splitTag t).1 == "cmp") = false := by
  unfold tagWireOK at h
  generalize splitTag t = p at h ⊢
  obtain ⟨a, b⟩ := p
  -- with either kind no arm of `tagWireOK` takes three or more children
  constructor
  all_goals
    refine beq_eq_false_iff_ne.2 fun e => ?_
    subst e
    simp at h

mutual
/-- **C08.wirePre_id** — a query the text format carries as it is (`wireOK`: binary `and`/`or`, single comparisons) is not
touched by the rewriting: `wire_roundtrip_nary` restricted to such queries is `wire_roundtrip`. -/
theorem wirePre_id : ∀ (q : Q), wireOK q = true → wirePre q = q
  | .var x, _ => by simp [wirePre]
  | .lit c, _ => by simp [wirePre]
  | .lam ps b, h => by
    simp only [wireOK, Bool.and_eq_true] at h
    simp [wirePre, wirePre_id b h.2]
  | .app f as, h => by
    simp only [wireOK, Bool.and_eq_true] at h
    simp [wirePre, wirePre_id f h.1, wirePreL_id as h.2]
  | .node t ks, h => by
    simp only [wireOK, Bool.and_eq_true] at h
    simp only [wirePre, wirePreL_id ks h.2]
    split
    · have hn := tag_not_nary t _ h.1
      simp [hn.1, hn.2]
    · rfl
theorem wirePreL_id : ∀ (qs : List Q), wireOKL qs = true → wirePreL qs = qs
  | [], _ => rfl
  | q :: qs, h => by
    simp only [wireOKL, Bool.and_eq_true] at h
    simp [wirePreL, wirePre_id q h.1, wirePreL_id qs h.2]
end

/-- non-vacuity and the shape of the result: `a and b and c`, `a < b <= c` inside a lambda -/
example :
    let q := Q.lam ["e"] (.node "bool:And" [.var "a", .node "cmp:Lt+LtE" [.var "x", .var "y", .lit "int:3"], .var "c"])
    wireOK (wirePre q) = true ∧ wireOK q = false ∧ wprint q = none ∧
    wprint2 q = some ["(", "lambda", "(", "list", "e", ")", "(", "and", "(", "and", "a",
      "(", "and", "(", "<", "x", "y", ")", "(", "<=", "y", "3", ")", ")", ")", "c", ")", ")"] ∧
    wireNorm2 q = Q.lam ["e"] (.node "bool:And" [.node "bool:And" [.var "a",
      .node "bool:And" [.node "cmp:Lt" [.var "x", .var "y"], .node "cmp:LtE" [.var "y", .lit "int:3"]]], .var "c"]) ∧
    (wprint2 q).bind (fun t => wparse 100 t) = some (wireNorm2 q, []) := by
  decide +kernel

/-- **C08.nary_reassociated_counterexample** — the rewriting changes the query: a three-operand `and` comes back as a
two-operand `and` whose first operand is an `and` (the translator nests its short-circuit tests accordingly — the
listed wire finding), and a chained comparison comes back with its middle operand twice. -/
theorem nary_reassociated_counterexample :
    wireNorm2 (.node "bool:And" [.var "a", .var "b", .var "c"]) ≠ wireNorm (.node "bool:And" [.var "a", .var "b", .var "c"]) ∧
    wireNorm2 (.node "cmp:Lt+Lt" [.lit "int:1", .app (.var "f") [], .lit "int:9"]) =
      .node "bool:And" [.node "cmp:Lt" [.lit "int:1", .app (.var "f") []], .node "cmp:Lt" [.app (.var "f") [], .lit "int:9"]] := by
  decide +kernel

end FaxVerif.C08
