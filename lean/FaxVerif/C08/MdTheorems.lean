/-
C08 (c) — what the position / order of MetaData calls can change: theorems about `process_metadata` cut into one fold
per registry (MdModel.lean) and about `generate_script_block`.

The chain position of a MetaData call only decides where its dictionary lands in the extracted list (`md_inserted`,
`md_many` in Theorems.lean).  Here: which re-orderings of that list are invisible (`md_interleave`: every interleaving
of the per-registry sequences), and exactly how the order inside one registry shows (`types_last_wins`,
`enums_first_wins`, `injects_in_order`, job scripts through `emitScripts`).
-/
import FaxVerif.C08.MdModel
import FaxVerif.C08.ChainTheorems
namespace FaxVerif.C08

theorem procMd_cons (s : MdState) (a : MdItem) (l : List MdItem) :
    procMd s (a :: l) = match a.step s with
      | .ok s' => procMd s' l
      | .error e => .error e := rfl

/-- **C08.procMd_factors** — for every list and every starting state, `process_metadata` is: refuse exactly when the fold
over injected blocks / malformed items refuses (with that error); otherwise the method-type table is the fold over the
`add_method_type_info` items alone, the function table the fold over the function / collection items alone, the enum
table the fold over the `define_enum` items alone, the job scripts the script items in list order.  No registry reads
another: the type recorded for a method is the same whether or not the enum it names has been defined before. -/
theorem procMd_factors (l : List MdItem) (s : MdState) :
    procMd s l = match foldInjects s.injects l with
      | .error e => .error e
      | .ok inj => .ok ⟨foldTypes s.types l, foldFns s.fns l, foldEnums s.enums l, inj, s.scripts ++ scriptsOf l⟩ := by
  induction l generalizing s with
  | nil => simp [procMd, foldInjects, foldTypes, foldFns, foldEnums, scriptsOf]
  | cons a l ih =>
    cases a with
    | enum k v =>
      cases h : s.enums k <;> simp [procMd, MdItem.step, ih, h, foldInjects, foldTypes, foldFns, foldEnums, scriptsOf, enumStep]
    | inject n v =>
      cases h : s.injects.find? (·.1 == n) with
      | none => simp [procMd, MdItem.step, ih, h, foldInjects, foldTypes, foldFns, foldEnums, scriptsOf]
      | some b =>
        by_cases hb : b.2 = v <;> simp [procMd, MdItem.step, ih, h, hb, foldInjects, foldTypes, foldFns, foldEnums, scriptsOf]
    | _ => simp [procMd, MdItem.step, ih, foldInjects, foldTypes, foldFns, foldEnums, scriptsOf]

theorem ofKind_cons (k : MdKind) (a : MdItem) (l : List MdItem) :
    ofKind k (a :: l) = if a.kind = k then a :: ofKind k l else ofKind k l := by
  by_cases h : a.kind = k <;> simp [ofKind, h]

theorem ofKind_append (k : MdKind) (l l' : List MdItem) : ofKind k (l ++ l') = ofKind k l ++ ofKind k l' := by
  simp [ofKind, List.filter_append]

theorem foldTypes_ofKind (l : List MdItem) (f : String → Option String) :
    foldTypes f l = foldTypes f (ofKind .types l) := by
  induction l generalizing f with
  | nil => rfl
  | cons a l ih => cases a <;> simp [foldTypes, ofKind_cons, MdItem.kind] <;> exact ih _

theorem foldFns_ofKind (l : List MdItem) (f : String → Option String) :
    foldFns f l = foldFns f (ofKind .fns l) := by
  induction l generalizing f with
  | nil => rfl
  | cons a l ih => cases a <;> simp [foldFns, ofKind_cons, MdItem.kind] <;> exact ih _

theorem foldEnums_ofKind (l : List MdItem) (f : String → Option String) :
    foldEnums f l = foldEnums f (ofKind .enums l) := by
  induction l generalizing f with
  | nil => rfl
  | cons a l ih => cases a <;> simp [foldEnums, ofKind_cons, MdItem.kind] <;> exact ih _

theorem scriptsOf_ofKind (l : List MdItem) : scriptsOf l = scriptsOf (ofKind .scripts l) := by
  induction l with
  | nil => rfl
  | cons a l ih => cases a <;> simp [scriptsOf, ofKind_cons, MdItem.kind] <;> exact ih

theorem foldInjects_ofKind (l : List MdItem) (inj : List (String × String)) :
    foldInjects inj l = foldInjects inj (ofKind .blocks l) := by
  induction l generalizing inj with
  | nil => rfl
  | cons a l ih =>
    cases a <;> simp only [foldInjects, ofKind_cons, MdItem.kind, if_true, reduceCtorEq, if_false, ih]

/-- **C08.md_interleave** — order-independence for INDEPENDENT items, as a theorem: two metadata lists whose items of each
registry come in the same relative order — any interleaving, so any movement of `MetaData` calls of different kinds past
each other along the chain — are processed to the same state, or refused with the same error, from every starting state.
(No bound on the lengths; items may repeat.) -/
theorem md_interleave (l l' : List MdItem) (s : MdState) (h : sameByKind l l' = true) :
    procMd s l = procMd s l' := by
  simp only [sameByKind, Bool.and_eq_true, beq_iff_eq] at h
  obtain ⟨⟨⟨⟨h1, h2⟩, h3⟩, h4⟩, h5⟩ := h
  rw [procMd_factors l s, procMd_factors l' s]
  rw [foldTypes_ofKind l, foldTypes_ofKind l', foldFns_ofKind l, foldFns_ofKind l', foldEnums_ofKind l,
    foldEnums_ofKind l', scriptsOf_ofKind l, scriptsOf_ofKind l', foldInjects_ofKind l, foldInjects_ofKind l',
    h1, h2, h3, h4, h5]

/-- non-vacuity: an enum and the type of a method returning it, a function, two script blocks — the enum's definition
moved from the front to the very end, the function in between: an interleaving of the same per-registry sequences -/
example : sameByKind
    [.enum "mdlns.Color" "e", .methodType "mdl::A::col" "mdlns::Color", .fn "twice" "f", .script "s1" "1", .script "s2" "2"]
    [.script "s1" "1", .methodType "mdl::A::col" "mdlns::Color", .script "s2" "2", .fn "twice" "f", .enum "mdlns.Color" "e"] = true := by
  decide +kernel

def MdItem.comm (a b : MdItem) : Prop := a.commutes b = true ∧ b.commutes a = true

theorem commutingAll_iff (l : List MdItem) : commutingAll l = true ↔ l.Pairwise MdItem.comm := by
  induction l with
  | nil => simp [commutingAll]
  | cons a l ih =>
    simp only [commutingAll, Bool.and_eq_true, List.all_eq_true, List.pairwise_cons, ih, MdItem.comm]

theorem upd_comm (f : String → Option String) (k v k' v' : String) (h : k ≠ k') :
    upd (upd f k v) k' v' = upd (upd f k' v') k v := by
  funext x
  simp only [upd]
  by_cases h1 : x = k' <;> by_cases h2 : x = k <;> simp [h1, h2]
  · exact absurd (h2.symm.trans h1) h
  · intro e; exact absurd e.symm h
  · intro e; exact absurd e h

theorem ofKind_swap (k : MdKind) (a b : MdItem) (l : List MdItem) (h : a.kind ≠ b.kind) :
    ofKind k (a :: b :: l) = ofKind k (b :: a :: l) := by
  simp only [ofKind_cons]
  by_cases ha : a.kind = k <;> by_cases hb : b.kind = k <;> simp only [ha, hb, if_true, if_false]
  exact absurd (ha.trans hb.symm) h

/-- Two commuting items can be processed in either order, from any state: items of different registries by
`md_interleave`; two different items of one registry write different keys, or are an injected block and a failing item. -/
theorem step_swap (s : MdState) (a b : MdItem) (h : MdItem.comm a b) (rest : List MdItem) :
    procMd s (a :: b :: rest) = procMd s (b :: a :: rest) := by
  by_cases hk : a.kind = b.kind
  case neg => exact md_interleave _ _ s (by simp [sameByKind, ofKind_swap _ a b rest hk])
  by_cases hab : a = b
  · rw [hab]
  obtain ⟨h1, h2⟩ := h
  cases a <;> cases b <;> try exact MdKind.noConfusion hk
  all_goals
    simp only [MdItem.commutes, Bool.or_eq_true, Bool.and_eq_true, bne_iff_ne, beq_iff_eq, ne_eq] at h1 h2
    simp only [procMd_cons, MdItem.step]
    clear hk
  · -- two method types: different keys
    rename_i k v k' v'
    rw [upd_comm _ _ _ _ _ (fun e => h1.elim (· e) (fun ev => hab (by rw [e, ev])))]
  · rename_i k v k' v'
    rw [upd_comm _ _ _ _ _ (fun e => h1.elim (· e) (fun ev => hab (by rw [e, ev])))]
  · -- two enums: different keys, and neither definition changes whether the other key is defined
    rename_i k v k' v'
    have hk : k ≠ k' := fun e => h1.elim (· e) (fun ev => hab (by rw [e, ev]))
    cases e1 : s.enums k <;> cases e2 : s.enums k' <;> simp [upd, e1, e2, hk, Ne.symm hk]
    rw [upd_comm _ _ _ _ _ hk]
  · exact absurd (by rw [h1.1, h1.2]) hab
  · -- an injected block and a failing item: the block is accepted, or it fails with the same `ValueError`
    rename_i n w c
    cases s.injects.find? (·.1 == n) with
    | none => simp
    | some b => by_cases hb : b.2 = w <;> simp [hb, h1]
  · exact absurd (by rw [h1.1, h1.2]) hab
  · rename_i c n w
    cases s.injects.find? (·.1 == n) with
    | none => simp
    | some b => by_cases hb : b.2 = w <;> simp [hb, h2]
  · exact absurd (by rw [h1]) hab

theorem procMd_perm {l l' : List MdItem} (hp : l.Perm l') :
    l.Pairwise MdItem.comm → ∀ s, procMd s l = procMd s l' := by
  induction hp with
  | nil => intro _ _; rfl
  | cons a _ ih =>
    intro hc s
    simp only [procMd_cons]
    cases a.step s with
    | error e => rfl
    | ok s' => exact ih (List.pairwise_cons.1 hc).2 s'
  | swap a b l =>
    intro hc s
    have hab : MdItem.comm b a := (List.pairwise_cons.1 hc).1 a (by simp)
    exact step_swap s b a hab l
  | trans p1 _ ih1 ih2 =>
    intro hc s
    rw [ih1 hc s]
    exact ih2 ((p1.pairwise_iff (fun h => ⟨h.2, h.1⟩)).1 hc) s


/-- **C08.method_type_ignores_enums** — adding, dropping or moving a `define_enum` item anywhere in the list leaves the
recorded method types (and whether the list is accepted) unchanged. -/
theorem method_type_ignores_enums (l₁ l₂ : List MdItem) (k v : String) (s : MdState) :
    (procMd s (l₁ ++ .enum k v :: l₂)).toOption.map (·.types) = (procMd s (l₁ ++ l₂)).toOption.map (·.types) := by
  have e1 : ofKind .types (l₁ ++ .enum k v :: l₂) = ofKind .types (l₁ ++ l₂) := by
    rw [ofKind_append, ofKind_append, ofKind_cons]; simp [MdItem.kind]
  have e2 : ofKind .blocks (l₁ ++ .enum k v :: l₂) = ofKind .blocks (l₁ ++ l₂) := by
    rw [ofKind_append, ofKind_append, ofKind_cons]; simp [MdItem.kind]
  rw [procMd_factors, procMd_factors, foldInjects_ofKind (l₁ ++ .enum k v :: l₂), foldInjects_ofKind (l₁ ++ l₂),
    foldTypes_ofKind (l₁ ++ .enum k v :: l₂), foldTypes_ofKind (l₁ ++ l₂), e1, e2]
  cases foldInjects s.injects (ofKind .blocks (l₁ ++ l₂)) <;> rfl

theorem foldTypes_append (l₁ l₂ : List MdItem) (f : String → Option String) :
    foldTypes f (l₁ ++ l₂) = foldTypes (foldTypes f l₁) l₂ := by
  induction l₁ generalizing f with
  | nil => rfl
  | cons a l ih => cases a <;> simp [foldTypes, ih]

theorem foldEnums_append (l₁ l₂ : List MdItem) (f : String → Option String) :
    foldEnums f (l₁ ++ l₂) = foldEnums (foldEnums f l₁) l₂ := by
  induction l₁ generalizing f with
  | nil => rfl
  | cons a l ih => cases a <;> simp [foldEnums, ih]

theorem foldTypes_untouched (l : List MdItem) (f : String → Option String) (k : String)
    (h : ∀ v, MdItem.methodType k v ∉ l) : foldTypes f l k = f k := by
  induction l generalizing f with
  | nil => rfl
  | cons a l ih =>
    have hl : ∀ v, MdItem.methodType k v ∉ l := fun v hv => h v (List.mem_cons_of_mem _ hv)
    cases a with
    | methodType k' v' =>
      have hne : k ≠ k' := by
        intro e; subst e; exact h v' (List.mem_cons_self)
      simp [foldTypes, ih _ hl, upd, hne]
    | _ => simpa [foldTypes] using ih f hl

/-- **C08.types_last_wins** — the dependence of the method-type table on the order is exactly: the LAST declaration of a
key is in effect (`g_method_type_dict[type][method] = …` overwrites).  So two different declarations of one method do
not commute, and nothing else about the order of `add_method_type_info` items matters. -/
theorem types_last_wins (l₁ l₂ : List MdItem) (f : String → Option String) (k v : String)
    (h : ∀ v', MdItem.methodType k v' ∉ l₂) :
    foldTypes f (l₁ ++ .methodType k v :: l₂) k = some v := by
  rw [foldTypes_append]
  simp only [foldTypes]
  rw [foldTypes_untouched l₂ _ k h]
  simp [upd]

theorem foldEnums_defined (l : List MdItem) (f : String → Option String) (k w : String) (h : f k = some w) :
    foldEnums f l k = some w := by
  induction l generalizing f with
  | nil => exact h
  | cons a l ih =>
    cases a with
    | enum k' v' =>
      simp only [foldEnums]
      apply ih
      unfold enumStep
      cases h' : f k' with
      | some _ => exact h
      | none =>
        have hne : k ≠ k' := by intro e; subst e; rw [h] at h'; cases h'
        simp [upd, hne, h]
    | _ => simpa [foldEnums] using ih f h

theorem foldEnums_untouched (l : List MdItem) (f : String → Option String) (k : String)
    (h : ∀ v, MdItem.enum k v ∉ l) : foldEnums f l k = f k := by
  induction l generalizing f with
  | nil => rfl
  | cons a l ih =>
    have hl : ∀ v, MdItem.enum k v ∉ l := fun v hv => h v (List.mem_cons_of_mem _ hv)
    cases a with
    | enum k' v' =>
      have hne : k ≠ k' := by
        intro e; subst e; exact h v' (List.mem_cons_self)
      simp only [foldEnums]
      rw [ih _ hl]
      unfold enumStep
      cases f k' <;> simp [upd, hne]
    | _ => simpa [foldEnums] using ih f hl

/-- **C08.enums_first_wins** — the enum table depends on the order exactly the other way round: the FIRST definition of a
key stays (`define_enum`: "already defined" returns the existing one). -/
theorem enums_first_wins (l₁ l₂ : List MdItem) (f : String → Option String) (k v : String)
    (hf : f k = none) (h : ∀ v', MdItem.enum k v' ∉ l₁) :
    foldEnums f (l₁ ++ .enum k v :: l₂) k = some v := by
  rw [foldEnums_append]
  simp only [foldEnums]
  apply foldEnums_defined
  unfold enumStep
  rw [foldEnums_untouched l₁ f k h, hf]
  simp [upd]

example :
    foldTypes (fun _ => none) [.methodType "A::m" "int", .enum "ns.E" "1", .methodType "A::m" "double"] "A::m" = some "double" ∧
    foldEnums (fun _ => none) [.enum "ns.E" "1", .methodType "A::m" "int", .enum "ns.E" "2"] "ns.E" = some "1" := by
  decide +kernel

/-- **C08.injects_in_order** — injected blocks: a list of blocks with pairwise different names is kept as it is, in list
order (the order of `#include` lines, members and constructor lines in the package), whatever else sits between them. -/
theorem injects_in_order (bs : List (String × String)) (inj : List (String × String))
    (h : (inj ++ bs).map (·.1) |>.Nodup) :
    foldInjects inj (bs.map fun b => .inject b.1 b.2) = .ok (inj ++ bs) := by
  induction bs generalizing inj with
  | nil => simp [foldInjects]
  | cons b bs ih =>
    have hnot : inj.find? (·.1 == b.1) = none := Dict.firstBy_none_of_nodup Prod.fst h
    simp only [List.map_cons, foldInjects, hnot]
    have h' : ((inj ++ [b]) ++ bs).map (·.1) |>.Nodup := by simpa [List.append_assoc] using h
    simpa [List.append_assoc] using ih (inj ++ [b]) h'

example : (foldInjects [] [.inject "blk1" "a", .fn "f" "x", .inject "blk2" "b", .inject "blk1" "a"]).toOption = some [("blk1", "a"), ("blk2", "b")] ∧
    (foldInjects [] [.inject "blk1" "a", .inject "blk1" "other"]).toOption = none := by decide +kernel

/-- **C08.mdSame_of_commuting** — a permutation of a list without conflicting items (`commutingAll`) passes the criterion
the harness uses, `mdSameB`: the model cannot tell the two orders apart.  (`mdSameB` accepts more: conflicting items that
keep their relative order, dependent job scripts.) -/
theorem mdSame_of_commuting (l l' : List MdItem) (sc sc' : List SBlk) (hp : l.Perm l') (hc : commutingAll l = true) :
    mdSameB l l' sc sc' false = true := by
  have e := procMd_perm hp ((commutingAll_iff l).1 hc) MdState.init
  unfold mdSameB mdView
  rw [← e]
  cases procMd MdState.init l with
  | error x => simp
  | ok s => simp

/-- **C08.scripts_chain_any_order** — two job script blocks, the second depending on the first: whichever of the two
`MetaData` calls comes first in the list, the job options get the dependency's lines first. -/
theorem scripts_chain_any_order (a b : String) (sa sb : List String) (hab : a ≠ b) :
    emitScripts [⟨a, sa, []⟩, ⟨b, sb, [a]⟩] = .ok (sa ++ sb) ∧
    emitScripts [⟨b, sb, [a]⟩, ⟨a, sa, []⟩] = .ok (sa ++ sb) := by
  constructor
  · -- in dependency order: a chain of length two
    simpa using scripts_chain_any_length [⟨a, sa, []⟩, ⟨b, sb, [a]⟩] (by simp [hab]) ⟨rfl, rfl, trivial⟩
  · -- the dependent block first: it waits for the second pass
    have hba : b ≠ a := fun e => hab e.symm
    simp [emitScripts, sbBuild, sbAdd, sbMissing, sbLoop, sbPass, hab, hba]

/-- **C08.scripts_independent_in_list_order** — two blocks without dependencies are emitted in list order: for them the
order of the `MetaData` calls shows in the package (the harness compares such orders only when the order is kept). -/
theorem scripts_independent_in_list_order (a b : String) (sa sb : List String) (hab : a ≠ b) :
    emitScripts [⟨a, sa, []⟩, ⟨b, sb, []⟩] = .ok (sa ++ sb) := by
  have hba : b ≠ a := fun e => hab e.symm
  simp [emitScripts, sbBuild, sbAdd, sbMissing, sbLoop, sbPass, hab, hba]

/-- **C08.scripts_order_counterexample** — so (c) with a change of ORDER is false of independent script blocks -/
theorem scripts_order_counterexample :
    (emitScripts [⟨"s1", ["# one"], []⟩, ⟨"s2", ["# two"], []⟩]).toOption ≠
    (emitScripts [⟨"s2", ["# two"], []⟩, ⟨"s1", ["# one"], []⟩]).toOption := by
  decide +kernel

/-- three blocks in a chain, all six orders: one result; a missing dependency and a cycle are refused -/
example :
    let s1 : SBlk := ⟨"s1", ["1"], []⟩
    let s2 : SBlk := ⟨"s2", ["2"], ["s1"]⟩
    let s3 : SBlk := ⟨"s3", ["3"], ["s2"]⟩
    [[s1, s2, s3], [s1, s3, s2], [s2, s1, s3], [s2, s3, s1], [s3, s1, s2], [s3, s2, s1]].all
      (fun l => (emitScripts l).toOption == some ["1", "2", "3"]) = true ∧
    (emitScripts [s1, ⟨"s9", ["9"], ["nowhere"]⟩]).toOption = none ∧
    (emitScripts [⟨"s2", ["2"], ["s3"]⟩, s3]).toOption = none := by
  decide +kernel

end FaxVerif.C08
