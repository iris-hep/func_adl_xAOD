/-
C08 (d) — the place func_adl's simplifier does not visit.

`simplify_chained_calls` merges `SelectMany(SelectMany(seq, f), g)` into `SelectMany(seq, x: SelectMany(f(x), g))` and
returns WITHOUT visiting `g`: chained `Select`/`Where` steps inside `g` reach the translator as written, so there the
translator itself has to compose them.  The harness therefore compares fused and unfused forms also where the
single-visit normal forms differ, provided the completed ones (`simplify2`) agree (`sameNormalForm2B`).
-/
import FaxVerif.C08.Eq
namespace FaxVerif.C08

/-- **C08.selectmany_second_lambda_unvisited** — when
the source of a `SelectMany` simplifies to a `SelectMany(seq, lambda x, ..: fb)`, the result carries `sel` exactly as
it was written (no fusion, no β-reduction, no renaming inside it) and the counter of generated names is the one the
source left. -/
theorem selectmany_second_lambda_unvisited (F : Nat) (env : Stack Q) (n n1 : Nat) (src sel seq fb : Q) (x : String)
    (xs : List String) (rest rest' : List Q) (hl : isLam sel = true)
    (hs : simplify F env n src = (Q.call "SelectMany" (seq :: .lam (x :: xs) fb :: rest'), n1)) :
    simplify (F + 1) env n (Q.call "SelectMany" (src :: sel :: rest)) =
      (Q.call "SelectMany" [seq, .lam [x] (Q.call "SelectMany" [fb, sel])], n1) := by
  simp [Q.call, simplify, hl, hs, Q.isCallOf]

namespace CexLeft
def ds : Q := Q.call "EventDataset" []
def jets : Q := Q.call "SelectMany" [ds, .lam ["e"] (.app (Q.attr (.var "e") "Jets") [])]
def vs (x : String) : Q := .app (Q.attr (.var x) "vs") []
def f : Q := .lam ["s"] (.node "bin:Div" [.var "s", .lit "float:1000.0"])
def g : Q := .lam ["g"] (.node "bin:Add" [.var "g", .lit "float:1.0"])
/-- `SelectMany(SelectMany(ds, e: e.Jets()), j: Select(Select(j.vs(), s: s/1000.0), g: g+1.0))` -/
def chained : Q := Q.call "SelectMany" [jets, .lam ["j"] (Q.call "Select" [Q.call "Select" [vs "j", f], g])]
/-- the same with the two steps composed by hand -/
def fused : Q := Q.call "SelectMany" [jets, .lam ["j"] (Q.call "Select" [vs "j",
  .lam ["s"] (.node "bin:Add" [.node "bin:Div" [.var "s", .lit "float:1000.0"], .lit "float:1.0"])])]
end CexLeft

/-- **C08.chain_left_to_translator** — the witness of that place: func_adl hands
the chained form to the translator with both `Select` steps still separate — its normal form differs from the one of the
fused query — while visiting the result once more fuses them into exactly the hand-fused query (up to α).  Both queries
are in the relation (d) quantifies over; replayed on the real pipeline by the `fuse-left` stream on every run. -/
theorem chain_left_to_translator :
    resolve [] (simplify 60 [] 0 CexLeft.chained).1 ≠ resolve [] (simplify 60 [] 0 CexLeft.fused).1 ∧
    (simplify 60 [] 0 CexLeft.chained).1 == Q.call "SelectMany" [CexLeft.ds, .lam ["e"] (Q.call "SelectMany"
      [.app (Q.attr (.var "e") "Jets") [], .lam ["j"] (Q.call "Select" [Q.call "Select" [CexLeft.vs "j", CexLeft.f], CexLeft.g])])] ∧
    sameNormalForm2B 60 CexLeft.chained CexLeft.fused = true ∧
    sameNormalFormB 60 CexLeft.chained CexLeft.fused = false := by
  decide +kernel

end FaxVerif.C08
