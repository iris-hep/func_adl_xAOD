/-
C08 — the property as decidable predicates.

The property says: the generated package is the same, up to the numbering of generated names, for two
queries related by (a) the qastle round trip, (b) α-renaming, (c) moving MetaData calls, (d) fusing chained
Select/Where steps.  `SameOutcome` is the conclusion (evaluated by the harness on what the IMPLEMENTATION
produced for the two queries); `alphaB`, `mdMovedB`, `fuseA`, `wireOK` are the hypotheses (evaluated on the two
queries, so that the harness only compares what the property quantifies over); `…Risk` are the defect exclusions.
-/
import FaxVerif.C08.Model
namespace FaxVerif.C08

/-! ### conclusion: equal up to the numbering of generated names -/

/-- what a translation run produced: the lexed package, or the class of the exception -/
inductive Outcome where
  | ok (toks : List Tok)
  | err (cls : String)
deriving Repr, DecidableEq

/-- strict: every token equal after first-occurrence renumbering of the generated names -/
def SamePackage (a b : List Tok) : Prop := canon false a = canon false b

/-- the same, except that the query text embedded in the `First()` diagnostic is not compared -/
def SamePackageUpToDiag (a b : List Tok) : Prop := canon true a = canon true b

instance (a b) : Decidable (SamePackage a b) := by unfold SamePackage; infer_instance
instance (a b) : Decidable (SamePackageUpToDiag a b) := by unfold SamePackageUpToDiag; infer_instance

def SameOutcome (strict : Bool) : Outcome → Outcome → Prop
  | .ok a, .ok b => if strict then SamePackage a b else SamePackageUpToDiag a b
  | .err c, .err d => c = d
  | _, _ => False

instance (strict a b) : Decidable (SameOutcome strict a b) := by
  cases a <;> cases b <;> simp only [SameOutcome] <;> infer_instance

/-! ### hypotheses: the four relations between queries -/

/-- (b) -/
def alphaB (q q' : Q) : Bool := resolve [] q == resolve [] q'

mutual
/-- `change_extension_functions_to_calls`: `src.Op(args)` → `Op(src, args)` for the twelve operator names -/
def normStyle : Q → Q
  | .var x => .var x
  | .lit c => .lit c
  | .lam ps b => .lam ps (normStyle b)
  | .app (.node t [recv]) as =>
    match attrName? t with
    | some name =>
      if name ∈ ["Select", "SelectMany", "Where", "First", "ResultTTree", "ResultAwkwardArray", "ResultPandasDF",
                 "Min", "Max", "Sum", "Aggregate", "Count"]
      then .app (.var name) (normStyle recv :: normStyleL as)
      else .app (.node t [normStyle recv]) (normStyleL as)
    | none => .app (.node t [normStyle recv]) (normStyleL as)
  | .app f as => .app (normStyle f) (normStyleL as)
  | .node t ks => .node t (normStyleL ks)
def normStyleL : List Q → List Q
  | [] => []
  | q :: qs => normStyle q :: normStyleL qs
end

/-- same list up to order (a decidable stand-in for `List.Perm`; only used by the harness to check that its own variant
producers moved metadata and lost none — no theorem depends on it) -/
def permB : List Q → List Q → Bool
  | [], l => l.isEmpty
  | a :: as, l => match l.findIdx? (· == a) with
    | some i => permB as (l.eraseIdx i)
    | none => false

/-- (c) same query under the MetaData calls, same multiset of metadata -/
def mdMovedB (q q' : Q) : Bool := (strip q).1 == (strip q').1 && permB (strip q).2 (strip q').2

/-- (c) … and even the same extraction order -/
def mdSameOrderB (q q' : Q) : Bool := (strip q).1 == (strip q').1 && (strip q).2 == (strip q').2

/-- (d) the composition written as calls of the two lambdas: `Select(Select(s,f),g)` → `Select(s, z: g(f(z)))`,
`Where(Where(s,f),g)` → `Where(s, z: f(z) and g(z))` -/
def fuseA (z : String) : Q → Option Q
  | .app (.var op) [.app (.var op') [s, .lam [x] fb], .lam [y] gb] =>
    if op == "Select" && op' == "Select" then
      some (Q.call "Select" [s, .lam [z] (.app (.lam [y] gb) [.app (.lam [x] fb) [.var z]])])
    else if op == "Where" && op' == "Where" then
      some (Q.call "Where" [s, .lam [z] (.node "bool:And" [.app (.lam [x] fb) [.var z], .app (.lam [y] gb) [.var z]])])
    else none
  | _ => none

mutual
def mapAt (f : Q → Option Q) : List Step → Q → Option Q
  | [], q => f q
  | .body :: p, .lam ps b => (mapAt f p b).map (.lam ps ·)
  | .fn :: p, .app g as => (mapAt f p g).map (.app · as)
  | .arg i :: p, .app g as => (mapAtL f i p as).map (.app g ·)
  | .kid i :: p, .node t ks => (mapAtL f i p ks).map (.node t ·)
  | _, _ => none
def mapAtL (f : Q → Option Q) : Nat → List Step → List Q → Option (List Q)
  | _, _, [] => none
  | 0, p, q :: qs => (mapAt f p q).map (· :: qs)
  | i + 1, p, q :: qs => (mapAtL f i p qs).map (q :: ·)
end

/-- several MetaData calls attached one after the other, each at a valid position of the term built so far -/
def attachMany : List (List Step × Q) → Q → Option Q
  | [], q => some q
  | (p, m) :: rest, q => if validPos p q then (attachAt m p q).bind (attachMany rest) else none

/-! ### what the text format can carry -/

def identOK (x : String) : Bool := x != "(" && x != ")" && atomOf x == Q.var x

def litOK (c : String) : Bool := litText c != "(" && litText c != ")" && atomOf (litText c) == Q.lit c

def specialTy (ty : String) : Bool :=
  ty == "list" || ty == "dict" || ty == "attr" || ty == "subscript" || ty == "call" || ty == "if" || ty == "lambda"

def symOK2 (tbl : List (String × String)) (op t : String) : Bool :=
  match symOf tbl op with
  | some sy => !specialTy sy && sy != "(" && sy != ")" && tag2 sy == some t
  | none => false

/-- the tag of a node with `n` children survives printing and parsing -/
def tagWireOK (t : String) (n : Nat) : Bool :=
  match splitTag t, n with
  | ("attr", name), 1 =>
    t == "attr:" ++ name && ("'" ++ name ++ "'") != "(" && ("'" ++ name ++ "'") != ")" &&
    atomOf ("'" ++ name ++ "'") == Q.lit ("str:'" ++ name ++ "'") && attrOfLit ("str:'" ++ name ++ "'") == some name
  | ("bin", op), 2 => symOK2 binSym op t
  | ("cmp", op), 2 => symOK2 cmpSym op t
  | ("bool", op), 2 => symOK2 boolSym op t
  | ("un", op), 1 => (match symOf unSym op with
    | some sy => !specialTy sy && sy != "(" && sy != ")" && tag1 sy == some t
    | none => false)
  | ("if", _), 3 => t == "if"
  | ("tuple", _), _ => t == "tuple"
  | ("list", _), _ => t == "list"
  | ("dict", _), _ => t == "dict"
  | ("sub", _), 2 => t == "sub"
  | _, _ => false

mutual
/-- names are identifiers, constants are in the form `repr` gives them, tags and arities are those of Python's AST -/
def wireOK : Q → Bool
  | .var x => identOK x
  | .lit c => litOK c
  | .lam ps b => ps.all identOK && wireOK b
  | .app f as => wireOK f && wireOKL as
  | .node t ks => tagWireOK t ks.length && wireOKL ks
def wireOKL : List Q → Bool
  | [] => true
  | q :: qs => wireOK q && wireOKL qs
end

/-! ### defect exclusions -/

mutual
/-- all names bound by lambdas inside a term -/
def boundNames : Q → List String
  | .var _ => []
  | .lit _ => []
  | .lam ps b => ps ++ boundNames b
  | .app f as => boundNames f ++ boundNamesL as
  | .node _ ks => boundNamesL ks
def boundNamesL : List Q → List String
  | [] => []
  | q :: qs => boundNames q ++ boundNamesL qs
end

/-- a lambda one of whose parameters is bound again inside its body -/
def selfShadow : Q → Bool
  | .lam ps b => ps.any (fun p => p ∈ boundNames b)
  | _ => false

mutual
/-- func_adl β-reduces `Where` predicates (when fusing `Where`∘`Where`) and directly called lambdas by binding
the parameter in its frame stack and walking the body, where inner lambdas do not shadow: a parameter that is
bound again inside such a lambda is captured.  `shadowRisk` holds when the query has such a lambda. -/
def shadowRisk : Q → Bool
  | .var _ => false
  | .lit _ => false
  | .lam _ b => shadowRisk b
  | .app f as =>
    (match f, as with
      | .lam _ _, _ => selfShadow f
      | .var op, [_, pred] => op == "Where" && selfShadow pred
      | .node t [_], [pred] => t == "attr:Where" && selfShadow pred
      | _, _ => false)
    || shadowRisk f || shadowRiskL as
  | .node _ ks => shadowRiskL ks
def shadowRiskL : List Q → Bool
  | [] => false
  | q :: qs => shadowRisk q || shadowRiskL qs
end

def isArgName (s : String) : Bool :=
  s.startsWith "arg_" && s.length > 4 && (s.drop 4).toString.toList.all Char.isDigit

mutual
def allNames : Q → List String
  | .var x => [x]
  | .lit _ => []
  | .lam ps b => ps ++ allNames b
  | .app f as => allNames f ++ allNamesL as
  | .node _ ks => allNamesL ks
def allNamesL : List Q → List String
  | [] => []
  | q :: qs => allNames q ++ allNamesL qs
end

/-- func_adl's generated parameter names `arg_<n>` are not kept apart from the user's names -/
def argNameRisk (q : Q) : Bool := (allNames q).any isArgName


/-! ### the steps in front of `simplify_chained_calls` -/

def aggLambda (name : String) : Q :=
  if name == "Sum" then .lam ["acc", "v"] (.node "bin:Add" [.var "acc", .var "v"])
  else if name == "Max" then .lam ["acc", "v"] (.node "if" [.node "cmp:Gt" [.var "acc", .var "v"], .var "acc", .var "v"])
  else if name == "Min" then .lam ["acc", "v"] (.node "if" [.node "cmp:Lt" [.var "acc", .var "v"], .var "acc", .var "v"])
  else .lam ["acc", "v"] (.node "bin:Add" [.var "acc", .lit "int:1"])

mutual
/-- `aggregate_node_transformer`: `Count(s)`/`len(s)`, `Sum`, `Max`, `Min` become
`Aggregate(s, 0, lambda acc, v: …)` — with the fixed parameter names `acc` and `v`. -/
def aggNorm : Q → Q
  | .var x => .var x
  | .lit c => .lit c
  | .lam ps b => .lam ps (aggNorm b)
  | .app (.var f) (a :: rest) =>
    if ((f == "len" || f == "Count") && rest.isEmpty) || f == "Sum" || f == "Max" || f == "Min"
    then Q.call "Aggregate" [aggNorm a, .lit "int:0", aggLambda f]
    else .app (.var f) (aggNorm a :: aggNormL rest)
  | .app f as => .app (aggNorm f) (aggNormL as)
  | .node t ks => .node t (aggNormL ks)
def aggNormL : List Q → List Q
  | [] => []
  | q :: qs => aggNorm q :: aggNormL qs
end

/-- the query as `simplify_chained_calls` receives it -/
def preSimp (q : Q) : Q := aggNorm (normStyle (strip q).1)

mutual
/-- free occurrences of a name -/
def occ (x : String) : Q → Nat
  | .var y => if x = y then 1 else 0
  | .lit _ => 0
  | .lam ps b => if x ∈ ps then 0 else occ x b
  | .app f as => occ x f + occL x as
  | .node _ ks => occL x ks
def occL (x : String) : List Q → Nat
  | [] => 0
  | q :: qs => occ x q + occL x qs
end

/-- the stream a chain of Select/Where/SelectMany calls starts from -/
def chainBase : Q → Q
  | .app (.var op) (src :: rest) =>
    if op == "Select" || op == "Where" || op == "SelectMany" then chainBase src else .app (.var op) (src :: rest)
  | q => q

mutual
/-- names that are the start of a chain containing a `Where` -/
def whereBases : Q → List String
  | .var _ => []
  | .lit _ => []
  | .lam _ b => whereBases b
  | .app f as =>
    (match f, as with
      | .var op, src :: _ => if op == "Where" then (match chainBase src with | .var x => [x] | _ => []) else []
      | _, _ => [])
    ++ whereBases f ++ whereBasesL as
  | .node _ ks => whereBasesL ks
def whereBasesL : List Q → List String
  | [] => []
  | q :: qs => whereBases q ++ whereBasesL qs
end

mutual
/-- func_adl substitutes *the same AST object* for every use of a parameter and later rewrites such objects in
place (fusing a `Where` onto a bound stream β-reduces the bound stream's own predicate object): a parameter
that is used more than once and is the start of a chain with a `Where` can have its other uses corrupted.
Evaluated on `preSimp q`. -/
def aliasRisk : Q → Bool
  | .var _ => false
  | .lit _ => false
  | .lam ps b => ps.any (fun p => decide (occ p b ≥ 2) && decide (p ∈ whereBases b)) || aliasRisk b
  | .app f as => aliasRisk f || aliasRiskL as
  | .node _ ks => aliasRiskL ks
def aliasRiskL : List Q → Bool
  | [] => false
  | q :: qs => aliasRisk q || aliasRiskL qs
end



/-! ### scalar lambda bodies (the class the fusion theorems cover) -/

def opName (f : String) : Bool := f == "Select" || f == "SelectMany" || f == "Where" || f == "First"

def tagOk (t : String) : Bool := t != "sub" && t != "dict"

mutual
/-- A lambda-free expression built from names, constants, calls of named functions other than the sequence
operators, method calls, and operator nodes other than subscripts and dict displays: `j.pt()*2 > abs(j.eta())`,
`(j.pt(), twice(j.eta()))`, `j.pt() if j.b() else 0`. -/
def scalar : Q → Bool
  | .var _ => true
  | .lit _ => true
  | .lam _ _ => false
  | .app (.var f) as => !opName f && scalarL as
  | .app (.node t [recv]) as => tagOk t && scalar recv && scalarL as
  | .app _ _ => false
  | .node t ks => tagOk t && scalarL ks
def scalarL : List Q → Bool
  | [] => true
  | q :: qs => scalar q && scalarL qs
end

mutual
/-- replace every name by what the frame stack binds it to -/
def subst (env : Stack Q) : Q → Q
  | .var x => (env.lookup x).getD (.var x)
  | .lit c => .lit c
  | .lam ps b => .lam ps (subst env b)
  | .app f as => .app (subst env f) (substL env as)
  | .node t ks => .node t (substL env ks)
def substL (env : Stack Q) : List Q → List Q
  | [] => []
  | q :: qs => subst env q :: substL env qs
end

mutual
/-- fuel that `simplify` needs on a term that triggers no re-visit -/
def depth : Q → Nat
  | .var _ => 1
  | .lit _ => 1
  | .lam _ b => depth b + 1
  | .app f as => max (depth f) (depthL as) + 1
  | .node _ ks => depthL ks + 1
def depthL : List Q → Nat
  | [] => 1
  | q :: qs => max (depth q) (depthL qs) + 1
end

def isDictNode : Q → Bool
  | .node t _ => t == "dict"
  | _ => false

/-! ### canonical names, capture freedom -/

def canonName (k : Nat) : String := "u_" ++ toString k

mutual
/-- back from the de Bruijn form, every binder named after its depth (`u_0`, `u_1`, …): all binders distinct -/
def unresolve (depth : Nat) : DB → Q
  | .bvar i => .var (canonName (depth - 1 - i))
  | .fvar x => .var x
  | .lit c => .lit c
  | .lam n b => .lam ((List.range n).map (fun i => canonName (depth + i))) (unresolve (depth + n) b)
  | .app f as => .app (unresolve depth f) (unresolveL depth as)
  | .node t ks => .node t (unresolveL depth ks)
def unresolveL (depth : Nat) : List DB → List Q
  | [] => []
  | d :: ds => unresolve depth d :: unresolveL depth ds
end

/-- the α-variant of a query in which no binder name is used twice -/
def canonNames (q : Q) : Q := unresolve 0 (resolve [] q)

/-- `simplify_chained_calls` treats the query like its canonically named variant.  False where the simplifier
captures: a parameter bound again inside a β-reduced `Where` predicate or directly called lambda, a parameter
called `acc`/`v` around a Count/Sum, a parameter called `arg_<n>`, a lambda pushed under a `SelectMany`
parameter of the same name. -/
def captureFree0 (fuel : Nat) (t : Q) : Bool :=
  let a := (simplify fuel [] 0 (aggNorm (normStyle t))).1
  let b := (simplify fuel [] 0 (aggNorm (normStyle (canonNames t)))).1
  (hasBang a == hasBang b) && (hasBang a || resolve [] a == resolve [] b)

def captureFreeB (fuel : Nat) (q : Q) : Bool := captureFree0 fuel (strip q).1

mutual
def probeArgs : Q → List Q
  | .var _ => []
  | .lit _ => []
  | .lam _ b => probeArgs b
  | .app f as =>
    (match f, as with
      | .var g, [a] => if g == "!probe" then [a] else []
      | _, _ => [])
    ++ probeArgs f ++ probeArgsL as
  | .node _ ks => probeArgsL ks
def probeArgsL : List Q → List Q
  | [] => []
  | q :: qs => probeArgs q ++ probeArgsL qs
end

mutual
def freeVars (bound : List String) : Q → List String
  | .var x => if x ∈ bound then [] else [x]
  | .lit _ => []
  | .lam ps b => freeVars (ps ++ bound) b
  | .app f as => freeVars bound f ++ freeVarsL bound as
  | .node _ ks => freeVarsL bound ks
def freeVarsL (bound : List String) : List Q → List String
  | [] => []
  | q :: qs => freeVars bound q ++ freeVarsL bound qs
end

/-- the lambda parameters in scope at a position -/
def bindersAlong : List Step → Q → List String
  | .body :: p, .lam ps b => ps ++ bindersAlong p b
  | .fn :: p, .app f _ => bindersAlong p f
  | .arg i :: p, .app _ as => match as[i]? with
    | some a => bindersAlong p a
    | none => []
  | .kid i :: p, .node _ ks => match ks[i]? with
    | some a => bindersAlong p a
    | none => []
  | _, _ => []

def subtermAt : List Step → Q → Option Q
  | [], q => some q
  | .body :: p, .lam _ b => subtermAt p b
  | .fn :: p, .app f _ => subtermAt p f
  | .arg i :: p, .app _ as => match as[i]? with
    | some a => subtermAt p a
    | none => none
  | .kid i :: p, .node _ ks => match ks[i]? with
    | some a => subtermAt p a
    | none => none
  | _, _ => none

/-- the two lambdas of a fusing site mention no parameter of an enclosing lambda (func_adl deep-copies the two
lambdas when it fuses them itself: a stream bound to an outer parameter that they mention is then no longer the same
object as its other uses, and the translator evaluates it once more) -/
def siteLambdasClosedB (q : Q) (p : List Step) : Bool :=
  match subtermAt p q with
  | some (.app (.var _) [.app (.var _) [_, f], g]) =>
    let bs := bindersAlong p q
    (freeVars [] f ++ freeVars [] g).all (fun x => x ∉ bs)
  | _ => false

/-- the stream under a fusing site `Op(Op(s, f), g)` -/
def siteSource : Q → Option Q
  | .app (.var _) [.app (.var _) [s, _], _] => some (Q.call "!probe" [s])
  | _ => none

/-- Fusing by hand is only the same as what func_adl does itself when the stream under the two steps does not
simplify (in its context) to a Select/SelectMany/Where: otherwise the steps are first pushed through / merged
with that operator one by one, which re-associates conjunctions and copies selections (different sharing of
sub-expressions, hence different generated code).  `q` is the call-style, separately written query. -/
def fuseSiteOkB (fuel : Nat) (q : Q) (p : List Step) : Bool :=
  match mapAt siteSource p q with
  | some probed =>
    let r := (simplify fuel [] 0 (aggNorm probed)).1
    let heads := probeArgs r
    siteLambdasClosedB q p &&
    !heads.isEmpty && heads.all (fun h => !(h.isCallOf "Select" || h.isCallOf "SelectMany" || h.isCallOf "Where"))
  | none => false

/-- the normal forms of `simplify_chained_calls` agree up to α (used to keep fusing variants whose *simplified
queries* differ — re-association of three `Where`s, duplicated selections — out of the main stream) -/
def sameNormalFormB (fuel : Nat) (q q' : Q) : Bool :=
  let a := (simplify fuel [] 0 (preSimp q)).1
  let b := (simplify fuel [] 0 (preSimp q')).1
  !hasBang a && !hasBang b && resolve [] a == resolve [] b

/-- `simplify_chained_calls` run to completion: a second visit of its own result.  func_adl's single visit leaves
some chains as written — `SelectMany(SelectMany(s, f), g)` becomes `SelectMany(s, x: SelectMany(f(x), g))` and `g` is
not visited, so a `Select(Select(..))` inside `g` reaches the translator unfused.  The counter of generated names goes on
from where the first visit stopped. -/
def simplify2 (fuel : Nat) (q : Q) : Q :=
  let a := simplify fuel [] 0 q
  (simplify fuel [] a.2 a.1).1

/-- The COMPLETED normal forms agree up to α although (possibly) the single-visit ones do not: the two queries differ
only by chained steps that func_adl leaves for the translator to compose.  The property asks for the same package all
the same ("whether chained Select/Where steps are written separately or already fused"). -/
def sameNormalForm2B (fuel : Nat) (q q' : Q) : Bool :=
  let a := simplify2 fuel (preSimp q)
  let b := simplify2 fuel (preSimp q')
  !hasBang a && !hasBang b && resolve [] a == resolve [] b

mutual
/-- a directly called lambda is left in the term (the translator would have to β-reduce it itself) -/
def hasRedex : Q → Bool
  | .var _ => false
  | .lit _ => false
  | .lam _ b => hasRedex b
  | .app f as => isLam f || hasRedex f || hasRedexL as
  | .node _ ks => hasRedexL ks
def hasRedexL : List Q → Bool
  | [] => false
  | q :: qs => hasRedex q || hasRedexL qs
end

/-! ### global names: what the translator resolves outside the frame stack -/

mutual
/-- Some free name satisfying `g` is READ in the (de Bruijn form of the) query: it reaches the translator's table of
global names (`resolve_id` falling through to `get_toplevel_ns`).  An occurrence bound by a lambda parameter of the
same spelling is an index here and does not count. -/
def readsGlobal (g : String → Bool) : DB → Bool
  | .bvar _ => false
  | .fvar x => g x
  | .lit _ => false
  | .lam _ b => readsGlobal g b
  | .app f as => readsGlobal g f || readsGlobalL g as
  | .node _ ks => readsGlobalL g ks
def readsGlobalL (g : String → Bool) : List DB → Bool
  | [] => false
  | d :: ds => readsGlobal g d || readsGlobalL g ds
end

/-- the query (as written, from the empty stack) reads one of the listed names as a free name -/
def readsAnyB (names : List String) (q : Q) : Bool := readsGlobal (fun x => names.contains x) (resolve [] q)

/-- some lambda parameter of the query is spelled like one of the listed names -/
def binderAmongB (names : List String) (q : Q) : Bool := (boundNames q).any (fun x => names.contains x)

end FaxVerif.C08
