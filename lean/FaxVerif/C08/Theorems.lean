/-
C08 — property theorems.

Property: the generated package is the same, up to the numbering of generated names, whether the query arrives as a
Python AST or as qastle text (a), whatever names its lambda parameters carry, shadowing included (b), wherever along
the chain its MetaData calls are attached (c), and whether chained Select/Where steps are written separately or already
fused (d). Of the translator's pipeline as it is, (b) and (d) hold only in part: the `_counterexample`s
(`where_shadow_counterexample`, `fusion_where_assoc_counterexample`, …) stand beside the theorems they bound.
-/
import FaxVerif.C08.NamesProofs
import FaxVerif.C08.AttachProofs
import FaxVerif.C08.ScalarProofs
import FaxVerif.C08.WireProofs
import FaxVerif.C08.MdTheorems
namespace FaxVerif.C08

/-- **C08.alpha** — α-equivalence (defined on named terms by pairing binders) is exactly equality of the de Bruijn
forms: two queries differ only in the names of their lambda parameters — inner parameters re-using (shadowing) the name
of an outer one included — iff `resolve` maps them to the same term.  So everything downstream that is a function of
`resolve q` is invariant under renaming, and nothing else is. -/
theorem alpha (q q' : Q) : AlphaEq [] q q' ↔ resolve [] q = resolve [] q' := by
  simpa using alpha_iff_resolve q q' []

theorem alpha_open (ctx : List (String × String)) (q q' : Q) :
    AlphaEq ctx q q' ↔ resolve (ctx.map (·.1)) q = resolve (ctx.map (·.2)) q' :=
  alpha_iff_resolve q q' ctx

/-- **C08.lookup_innermost_first** — the translator's frame stack (`argument_stack`: `visit_Call_Lambda` pushes a
frame and defines the parameters, `visit_Name`/`resolve_id` look a name up) finds the innermost binding: after
pushing a frame that defines `x`, a lookup of `x` returns the new value whatever the outer frames say (shadowing),
and a name the new frame does not define is looked up in the outer frames unchanged. -/
theorem lookup_innermost_first {ρ} (st : Stack ρ) (ps : List String) (vals : List ρ) (x : String) :
    (∀ v, Frame.get? (ps.zip vals) x = some v → Stack.lookup (ps.zip vals :: st) x = some v) ∧
    (Frame.get? (ps.zip vals) x = none → Stack.lookup (ps.zip vals :: st) x = Stack.lookup st x) := by
  constructor
  · intro v h; simp [Stack.lookup, h]
  · intro h; simp [Stack.lookup, h]

/-- **C08.lookup_factors** — for every algebra of code-generating handlers (arbitrary state: cursor, emitted
statements, counters for generated names), every frame stack and every query, the traversal that resolves names
through the frame stack computes exactly what the traversal of the de Bruijn form computes in the flattened
environment.  The names of lambda parameters reach the result only through `resolve`. -/
theorem lookup_factors {ρ σ} (alg : Alg ρ σ) (st : Stack ρ) (q : Q) (s : σ) :
    eval alg st q s = evalDB alg st.vals (resolve st.names q) s :=
  eval_factors alg q st s

/-- **C08.alpha_translate** — hence α-equivalent queries (shadowing included) are translated identically — same
result, same final state, same error — by any translator of that shape. -/
theorem alpha_translate {ρ σ} (alg : Alg ρ σ) (q q' : Q) (s : σ) (h : AlphaEq [] q q') :
    eval alg [] q s = eval alg [] q' s := by
  rw [lookup_factors, lookup_factors]
  exact congrArg (evalDB alg _ · s) ((alpha q q').1 h)

theorem alpha_translate_open {ρ σ} (alg : Alg ρ σ) (st st' : Stack ρ) (q q' : Q) (s : σ)
    (hv : st.vals = st'.vals) (h : resolve st.names q = resolve st'.names q') :
    eval alg st q s = eval alg st' q' s := by
  rw [lookup_factors, lookup_factors, hv, h]

/-- non-vacuity: an inner parameter that shadows the outer one (`e.Select(lambda e: e.pt())` inside `lambda e:`)
is α-equivalent to the version with distinct names, and not to the one that refers to the outer parameter. -/
example :
    AlphaEq [] (.lam ["e"] (Q.call "Select" [.var "e", .lam ["e"] (.var "e")]))
               (.lam ["x"] (Q.call "Select" [.var "x", .lam ["y"] (.var "y")])) := by
  rw [alpha]; decide

example :
    ¬ AlphaEq [] (.lam ["e"] (Q.call "Select" [.var "e", .lam ["e"] (.var "e")]))
                 (.lam ["x"] (Q.call "Select" [.var "x", .lam ["y"] (.var "x")])) := by
  rw [alpha]; decide

/-- **C08.bound_before_global** — a name bound by an enclosing lambda is answered by the frame stack; the table of
global names (`free`: the namespaces a query declares through `define_enum`, `resolve_id` → `get_toplevel_ns`) is not
consulted, whatever it says about that spelling.  Only a name that no frame binds reaches it.  So a parameter may be
spelled like a declared namespace. -/
theorem bound_before_global {ρ σ} (alg : Alg ρ σ) (st : Stack ρ) (x : String) (s : σ) :
    (∀ v, st.lookup x = some v → eval alg st (.var x) s = .ok (v, s)) ∧
    (st.lookup x = none → eval alg st (.var x) s = alg.free x s) := by
  constructor
  · intro v h; simp [eval, h]
  · intro h; simp [eval, h]

/-- **C08.globals_unread** — changing what the table of global names says about the names in `g` (declaring a
namespace, or not) does not change the translation — result, state, error — of a query that reads none of them as a
free name (`readsGlobal`, decidable, on the de Bruijn form: occurrences bound by a parameter of the same spelling do
not count). -/
theorem globals_unread {ρ σ} (alg : Alg ρ σ) (free' : String → σ → Except String (ρ × σ)) (g : String → Bool)
    (hf : ∀ x, g x = false → free' x = alg.free x) (st : Stack ρ) (q : Q) (s : σ)
    (h : readsGlobal g (resolve st.names q) = false) :
    eval (alg.withFree free') st q s = eval alg st q s := by
  rw [lookup_factors, lookup_factors]
  exact evalDB_globals alg free' g hf _ _ s h

/-- **C08.alpha_global** — the two together, as the harness samples it: `q` does not read the names in `g`, `q'` is any
α-variant of `q` — its parameters may be spelled exactly like the names in `g` — and the translator that knows the
names in `g` as globals translates `q'` as the translator that does not know them translates `q`. -/
theorem alpha_global {ρ σ} (alg : Alg ρ σ) (free' : String → σ → Except String (ρ × σ)) (g : String → Bool)
    (hf : ∀ x, g x = false → free' x = alg.free x) (q q' : Q) (s : σ)
    (h : AlphaEq [] q q') (hg : readsGlobal g (resolve [] q) = false) :
    eval (alg.withFree free') [] q' s = eval alg [] q s := by
  have e := (alpha q q').1 h
  have hg' : readsGlobal g (resolve (Stack.names ([] : Stack ρ)) q') = false := by
    simpa [Stack.names, ← e] using hg
  rw [globals_unread alg free' g hf [] q' s hg']
  exact (alpha_translate alg q q' s h).symm

/-- non-vacuity: `Select(ds, lambda mdlns: mdlns.pt())` does not read the global `mdlns` (the parameter shadows it) and
is an α-variant of the query with parameter `j`; `Select(ds, lambda j: j.i() == mdlns.Color.Red)` does read it. -/
example :
    readsAnyB ["mdlns"] (Q.call "Select" [.var "ds", .lam ["mdlns"] (.app (Q.attr (.var "mdlns") "pt") [])]) = false ∧
    AlphaEq [] (Q.call "Select" [.var "ds", .lam ["j"] (.app (Q.attr (.var "j") "pt") [])])
               (Q.call "Select" [.var "ds", .lam ["mdlns"] (.app (Q.attr (.var "mdlns") "pt") [])]) ∧
    readsAnyB ["mdlns"] (Q.call "Select" [.var "ds", .lam ["j"] (.node "cmp:Eq"
      [.app (Q.attr (.var "j") "i") [], Q.attr (Q.attr (.var "mdlns") "Color") "Red"])]) = true := by
  rw [alpha]; decide +kernel

/-- the hypothesis of `globals_unread` is needed: for a query that reads the name, the table decides the outcome -/
example : ∃ (alg : Alg String Unit) (free' : String → Unit → Except String (String × Unit)),
    (∀ x, (x == "mdlns") = false → free' x = alg.free x) ∧
    eval (alg.withFree free') [] (.var "mdlns") () ≠ eval alg [] (.var "mdlns") () := by
  refine ⟨⟨fun x _ => .error ("unknown " ++ x), fun c _ => .ok (c, ()), fun _ _ s => .ok s,
           fun _ _ _ s => .ok ([], s), fun t _ s => .ok (t, s)⟩,
          fun x s => if x == "mdlns" then .ok ("namespace", s) else .error ("unknown " ++ x), ?_, ?_⟩
  · intro x hx; funext s; simp [hx]
  · simp [eval, Stack.lookup, Alg.withFree]

/-- **C08.simplify_alpha_partial** — Full statement: `simplify_chained_calls` maps α-equivalent queries to α-equivalent
queries.  That is false of func_adl 3.5 (counterexamples below), so the hypothesis `captureFree0` (decidable; evaluated by
the harness on every variant) asks of each of the two queries that the simplifier treats it like its canonically named
α-variant `canonNames q` (every binder named after its depth, so no name is bound twice and none collides with `acc`,
`v`, `arg_N`).  Under it: both simplifications fail alike, or the simplified queries are α-equivalent. -/
theorem simplify_alpha_partial (fuel : Nat) (q q' : Q) (h : AlphaEq [] q q')
    (hc : captureFree0 fuel q = true) (hc' : captureFree0 fuel q' = true) :
    hasBang (simplify fuel [] 0 (aggNorm (normStyle q))).1 = hasBang (simplify fuel [] 0 (aggNorm (normStyle q'))).1 ∧
    (hasBang (simplify fuel [] 0 (aggNorm (normStyle q))).1 = false →
      resolve [] (simplify fuel [] 0 (aggNorm (normStyle q))).1 =
      resolve [] (simplify fuel [] 0 (aggNorm (normStyle q'))).1) := by
  have e : canonNames q = canonNames q' := by unfold canonNames; rw [(alpha q q').1 h]
  simp only [captureFree0, Bool.and_eq_true, Bool.or_eq_true, beq_iff_eq] at hc hc'
  rw [e] at hc
  obtain ⟨h1, h2⟩ := hc
  obtain ⟨h1', h2'⟩ := hc'
  refine ⟨h1.trans h1'.symm, fun hb => ?_⟩
  have hb' : hasBang (simplify fuel [] 0 (aggNorm (normStyle q'))).1 = false := by rw [h1', ← h1]; exact hb
  rcases h2 with h2 | h2
  · rw [hb] at h2; cases h2
  rcases h2' with h2' | h2'
  · rw [hb'] at h2'; cases h2'
  exact ((DB.beq_eq _ _).1 h2).trans ((DB.beq_eq _ _).1 h2').symm

namespace Cex
def jets (e n : String) : Q := .app (Q.attr (.var e) "Jets") [.lit ("str:'" ++ n ++ "'")]
def pt (j : String) : Q := .app (Q.attr (.var j) "pt") []
def gt (a b : Q) : Q := .node "cmp:Gt" [a, b]
def one : Q := .lit "int:1"

/-- `ds.Where(lambda e: Count(e.Jets('J').Where(lambda <inner>: <inner>.pt() > 1)) > 1).Where(lambda f: Count(f.Jets('J')) > 1)` -/
def whereWhere (inner : String) : Q :=
  Q.call "Where" [Q.call "Where" [.var "ds",
      .lam ["e"] (gt (Q.call "Count" [Q.call "Where" [jets "e" "J", .lam [inner] (gt (pt inner) one)]]) one)],
    .lam ["f"] (gt (Q.call "Count" [jets "f" "J"]) one)]

/-- `ds.Where(lambda e: Count(e.Jets('J')) > 1).Where(lambda <p>: Count(<p>.Jets('J')) > 1)` -/
def whereCount (p : String) : Q :=
  Q.call "Where" [Q.call "Where" [.var "ds", .lam ["e"] (gt (Q.call "Count" [jets "e" "J"]) one)],
    .lam [p] (gt (Q.call "Count" [jets p "J"]) one)]

/-- `ds.Select(lambda e: e.Jets('J')).Select(lambda c: c.Select(lambda <p>: <p>.pt()))` -/
def selSel (p : String) : Q :=
  Q.call "Select" [Q.call "Select" [.var "ds", .lam ["e"] (jets "e" "J")],
    .lam ["c"] (Q.call "Select" [.var "c", .lam [p] (pt p)])]

/-- `ds.Select(lambda e: e.os().SelectMany(lambda <p>: <p>.vs()).Select(lambda t: e.pt()))` -/
def pushed (p : String) : Q :=
  Q.call "Select" [.var "ds", .lam ["e"]
    (Q.call "Select" [Q.call "SelectMany" [.app (Q.attr (.var "e") "os") [], .lam [p] (.app (Q.attr (.var p) "vs") [])],
      .lam ["t"] (pt "e")])]

def cond (e n : String) : Q := gt (Q.call "Count" [jets e n]) one
/-- three chained Wheres, and the same with the last two fused by hand -/
def www : Q := Q.call "Where" [Q.call "Where" [Q.call "Where" [.var "ds", .lam ["a"] (cond "a" "J")], .lam ["b"] (cond "b" "K")], .lam ["c"] (cond "c" "L")]
def wwFused : Q := Q.call "Where" [Q.call "Where" [.var "ds", .lam ["a"] (cond "a" "J")],
  .lam ["z"] (.node "bool:And" [.app (.lam ["b"] (cond "b" "K")) [.var "z"], .app (.lam ["c"] (cond "c" "L")) [.var "z"]])]
end Cex

/-- **C08.where_shadow_counterexample** — (b) is false of the pipeline: an inner lambda that re-uses the parameter name
of a `Where` predicate is captured when func_adl fuses `Where`∘`Where` (its β-reduction walks the body with the
parameter in the frame stack and pushes no frame for inner lambdas).  Replayed on the real code as a listed finding. -/
theorem where_shadow_counterexample :
    AlphaEq [] (Cex.whereWhere "j") (Cex.whereWhere "e") ∧
    resolve [] (simplify 40 [] 0 (aggNorm (Cex.whereWhere "j"))).1 ≠ resolve [] (simplify 40 [] 0 (aggNorm (Cex.whereWhere "e"))).1 ∧
    captureFree0 40 (Cex.whereWhere "j") = true ∧ captureFree0 40 (Cex.whereWhere "e") = false := by
  rw [alpha]; decide +kernel

/-- **C08.count_acc_counterexample** — no user-written shadowing is needed: `Count()` becomes
`Aggregate(…, lambda acc, v: acc + 1)`, so a fused `Where` predicate whose own parameter is called `acc` is broken. -/
theorem count_acc_counterexample :
    AlphaEq [] (Cex.whereCount "f") (Cex.whereCount "acc") ∧
    resolve [] (simplify 40 [] 0 (aggNorm (Cex.whereCount "f"))).1 ≠ resolve [] (simplify 40 [] 0 (aggNorm (Cex.whereCount "acc"))).1 := by
  rw [alpha]; decide +kernel

/-- **C08.argname_counterexample** — a parameter called `arg_0` collides with the names func_adl generates when it
fuses `Select`∘`Select` (with its counter at 0). -/
theorem argname_counterexample :
    AlphaEq [] (Cex.selSel "q") (Cex.selSel "arg_0") ∧
    resolve [] (simplify 40 [] 0 (Cex.selSel "q")).1 ≠ resolve [] (simplify 40 [] 0 (Cex.selSel "arg_0")).1 := by
  rw [alpha]; decide +kernel

/-- **C08.push_capture_counterexample** — a `Select` that follows a `SelectMany` is moved into the SelectMany's lambda
unrenamed: the outer `e` it mentions is captured when that lambda's parameter is called `e` too. -/
theorem push_capture_counterexample :
    AlphaEq [] (Cex.pushed "j") (Cex.pushed "e") ∧
    resolve [] (simplify 40 [] 0 (Cex.pushed "j")).1 ≠ resolve [] (simplify 40 [] 0 (Cex.pushed "e")).1 := by
  rw [alpha]; decide +kernel

/-- **C08.fusion_select_partial** — `Select(Select(s, x: f), y: g)` and `Select(s, z: (y: g)((x: f)(z)))` have the same
normal form up to α (func_adl renames parameters with a global counter, hence "up to α").
Full statement: for all `s`, `f`, `g`.  Proved for: lambda bodies that are `scalar` (no nested lambdas, sequence
operators, subscripts or dict displays: `j.pt()*2 > abs(j.eta())`, tuples, if-else …), an inner selection that is not the
identity, a stream `s` whose own normal form `p0` is not a Select/SelectMany (defect exclusion: there func_adl fuses /
pushes step by step, which copies selections — listed findings), fresh `arg_N` names and `z` (defect exclusion:
`argname_counterexample`), and enough fuel for the bodies.  Beyond that (nested sequences in the bodies, tuple
projection) the statement is sampled by the harness, not proved. -/
theorem fusion_select_partial (F n n1 : Nat) (s p0 fb gb : Q) (x y z : String)
    (hs : simplify F [] n s = (p0, n1))
    (hp : p0.isCallOf "Select" = false ∧ p0.isCallOf "SelectMany" = false)
    (hfb : scalar fb = true) (hgb : scalar gb = true) (hid : fb ≠ .var x)
    (hF : depth fb + 5 ≤ F ∧ depth gb + 5 ≤ F)
    (hfresh : ∀ w ∈ [argName n1, argName (n1 + 1), argName (n1 + 2), z], w ∉ allNames fb ∧ w ∉ allNames gb) :
    resolve [] (simplify (F + 2) [] n (Q.call "Select" [Q.call "Select" [s, .lam [x] fb], .lam [y] gb])).1 =
    resolve [] (simplify (F + 1) [] n
      (Q.call "Select" [s, .lam [z] (.app (.lam [y] gb) [.app (.lam [x] fb) [.var z]])])).1 := by
  obtain ⟨F2, rfl⟩ : ∃ F2, F = F2 + 1 + 1 := ⟨F - 2, by omega⟩
  generalize hF1 : F2 + 1 = F1 at *
  have hf0 := hfresh (argName n1) (by simp)
  have hf1 := hfresh (argName (n1 + 1)) (by simp)
  have hf2 := hfresh (argName (n1 + 2)) (by simp)
  have hfz := hfresh z (by simp)
  have hlamf : simplify (F1 + 1) [] n1 (.lam [x] fb) = (.lam [x] fb, n1) := simplify_lam_scalar F1 n1 [x] fb hfb (by omega)
  have hinner : simplify (F1 + 1 + 1) [] n (Q.call "Select" [s, .lam [x] fb]) = (Q.call "Select" [p0, .lam [x] fb], n1) := by
    rw [simplify_Select_plain (F1 + 1) [] n n1 s _ p0 rfl hs hp.1 hp.2, hlamf]
    simp [makeSelect, isIdentity_lam, hid]
  -- the composition func_adl builds, β-reduced
  have hG : scalar (renVars [(y, argName n1)] gb) = true := scalar_ren gb y _ (opName_argName n1) hgb
  have hB : scalar (renVars [(x, argName (n1 + 1))] fb) = true := scalar_ren fb x _ (opName_argName (n1 + 1)) hfb
  have hsep := comp_beta F1 (n1 + 3) (argName n1) (argName (n1 + 1)) (argName (n1 + 2)) _ _ hG hB
    (by rw [depth_ren]; omega) (by rw [depth_ren]; omega)
  rw [subst_ren fb x (argName (n1 + 1)) _ hfb hf1.1, subst_ren gb y (argName n1) _ hgb hf0.2] at hsep
  have hfus := comp_beta F2 n1 y x z gb fb hgb hfb (by omega) (by omega)
  rw [hF1] at hfus
  have key := compose_alpha fb gb x y (argName (n1 + 2)) z hfb hgb hf2 hfz
  have e1 : (simplify (F1 + 1 + 2) [] n (Q.call "Select" [Q.call "Select" [s, .lam [x] fb], .lam [y] gb])).1 =
      makeSelect p0 (.lam [argName (n1 + 2)] (subst [[(y, subst [[(x, .var (argName (n1 + 2)))]] fb)]] gb)) := by
    rw [simplify_Select_fuse (F1 + 1 + 1) [] n n1 _ _ p0 (.lam [x] fb) rfl hinner]
    simp only [convolute_single]
    rw [simplify_lam, hsep]
  have e2 : (simplify (F1 + 1 + 1) [] n (Q.call "Select" [s, .lam [z] (.app (.lam [y] gb) [.app (.lam [x] fb) [.var z]])])).1 =
      makeSelect p0 (.lam [z] (subst [[(y, subst [[(x, .var z)]] fb)]] gb)) := by
    rw [simplify_Select_plain (F1 + 1) [] n n1 s _ p0 rfl hs hp.1 hp.2, simplify_lam, hfus]
  rw [e1, e2]
  exact makeSelect_alpha p0 _ _ _ _ key

/-- **C08.fusion_where_partial** — `Where(Where(s, x: f), y: g)` and `Where(s, z: (x: f)(z) and (y: g)(z))` have the
same normal form up to α.  Hypotheses as for `fusion_select_partial`; in addition the normal form `p0` of the stream is
not a `Where` either (defect exclusion: `fusion_where_assoc_counterexample`), simplifying it again changes nothing
(func_adl re-visits it), and the first predicate is not the constant `True` (which func_adl drops). -/
theorem fusion_where_partial (F n n1 : Nat) (s p0 fb gb : Q) (x y z : String)
    (hs : simplify F [] n s = (p0, n1))
    (hstable : simplify F [] (n1 + 1) p0 = (p0, n1 + 1))
    (hp : p0.isCallOf "Where" = false ∧ p0.isCallOf "Select" = false ∧ p0.isCallOf "SelectMany" = false)
    (hfb : scalar fb = true) (hgb : scalar gb = true) (htrue : fb ≠ .lit "bool:True")
    (hF : depth fb + 8 ≤ F ∧ depth gb + 8 ≤ F)
    (hfresh : ∀ w ∈ [argName n1, z], w ∉ allNames fb ∧ w ∉ allNames gb) :
    resolve [] (simplify (F + 2) [] n (Q.call "Where" [Q.call "Where" [s, .lam [x] fb], .lam [y] gb])).1 =
    resolve [] (simplify (F + 1) [] n
      (Q.call "Where" [s, .lam [z] (.node "bool:And" [.app (.lam [x] fb) [.var z], .app (.lam [y] gb) [.var z]])])).1 := by
  obtain ⟨F2, rfl⟩ : ∃ F2, F = F2 + 1 + 1 := ⟨F - 2, by omega⟩
  generalize hF1 : F2 + 1 = F1 at *
  have hfa := hfresh (argName n1) (by simp)
  have hfz := hfresh z (by simp)
  have hlamf : simplify (F1 + 1) [] n1 (.lam [x] fb) = (.lam [x] fb, n1) := simplify_lam_scalar F1 n1 [x] fb hfb (by omega)
  have hinner : simplify (F1 + 1 + 1) [] n (Q.call "Where" [s, .lam [x] fb]) = (Q.call "Where" [p0, .lam [x] fb], n1) := by
    rw [simplify_Where_plain (F1 + 1) [] n n1 s _ p0 rfl hs hp.1 hp.2.1 hp.2.2, hlamf]
    simp [isTrueLam_lam, htrue]
  have hand1 := and_beta F2 (n1 + 1) x y (argName n1) fb gb hfb hgb (by omega)
  have hand2 := and_beta F2 n1 x y z fb gb hfb hgb (by omega)
  rw [hF1] at hand1 hand2
  have e1 : (simplify (F1 + 1 + 2) [] n (Q.call "Where" [Q.call "Where" [s, .lam [x] fb], .lam [y] gb])).1 =
      Q.call "Where" [p0, .lam [argName n1]
        (.node "bool:And" [subst [[(x, .var (argName n1))]] fb, subst [[(y, .var (argName n1))]] gb])] := by
    rw [simplify_Where_fuse (F1 + 1 + 1) [] n n1 _ _ p0 (.lam [x] fb) rfl hinner,
      simplify_Where_plain (F1 + 1) [] (n1 + 1) (n1 + 1) p0 _ p0 rfl hstable hp.1 hp.2.1 hp.2.2, simplify_lam, hand1]
    simp [isTrueLam_lam]
  have e2 : (simplify (F1 + 1 + 1) [] n (Q.call "Where" [s, .lam [z]
        (.node "bool:And" [.app (.lam [x] fb) [.var z], .app (.lam [y] gb) [.var z]])])).1 =
      Q.call "Where" [p0, .lam [z] (.node "bool:And" [subst [[(x, .var z)]] fb, subst [[(y, .var z)]] gb])] := by
    rw [simplify_Where_plain (F1 + 1) [] n n1 s _ p0 rfl hs hp.1 hp.2.1 hp.2.2, simplify_lam, hand2]
    simp [isTrueLam_lam]
  rw [e1, e2]
  have k1 := resolve_subst_fresh fb x (argName n1) z (.var (argName n1)) (.var z) hfb hfa.1 hfz.1 (by simp [resolve, idx])
  have k2 := resolve_subst_fresh gb y (argName n1) z (.var (argName n1)) (.var z) hgb hfa.2 hfz.2 (by simp [resolve, idx])
  simp [Q.call, resolve, resolveL, k1, k2]

/-- non-vacuity: `ds.Select(lambda j: (j.pt(), j.eta())).Select(lambda t: twice(t))` satisfies every hypothesis -/
example :
    let fb := Q.node "tuple" [Cex.pt "j", .app (Q.attr (.var "j") "eta") []]
    let gb := Q.call "twice" [.var "t"]
    simplify 20 [] 0 (.var "ds") = (.var "ds", 0) ∧ scalar fb = true ∧ scalar gb = true ∧ fb ≠ .var "j" ∧
    (depth fb + 5 ≤ 20 ∧ depth gb + 5 ≤ 20) ∧
    (∀ w ∈ [argName 0, argName 1, argName 2, "z"], w ∉ allNames fb ∧ w ∉ allNames gb) := by
  decide +kernel

/-- **C08.fusion_where_assoc_counterexample** — the hypothesis on the stream cannot be dropped: with a third `Where`
underneath, fusing the last two by hand gives `f1 and (f2 and f3)` where func_adl builds `(f1 and f2) and f3`; the
translator nests its `if`s accordingly.  (Listed finding, replayed on the real pipeline.) -/
theorem fusion_where_assoc_counterexample :
    resolve [] (simplify 60 [] 0 (aggNorm Cex.www)).1 ≠ resolve [] (simplify 60 [] 0 (aggNorm Cex.wwFused)).1 := by
  decide +kernel

/-- **C08.wire_partial** — Full statement of (a): the package generated from a Python AST and from its qastle round trip
are the same.  What the round trip does to a query is `wireNorm` (a tuple display comes back as a list display; nothing
else changes for queries the text format can express — that the real qastle printer and parser behave like `wprint` /
`wparse` and that the round trip of every generated query is its `wireNorm` is checked by the harness on every run, not
proved: qastle is a third-party library).  Proved here: every translator of the shape `eval` whose handlers do not tell
the tags `tuple` and `list` apart (the real `visit_Tuple` and `visit_List` are the same code) produces the same result,
state and errors for a query and for its round trip, from every frame stack. -/
theorem wire_partial {ρ σ} (alg : Alg ρ σ)
    (h1 : SameTag alg "tuple" "list") (h2 : SameTag alg ("method:" ++ "tuple") ("method:" ++ "list"))
    (st : Stack ρ) (q : Q) (s : σ) :
    eval alg st (wireNorm q) s = eval alg st q s :=
  eval_wire alg h1 h2 q st s

/-- **C08.wire_roundtrip** — the text format itself (qastle's grammar at token level: `wprint` is the model of
`python_ast_to_text_ast`, `wparse` of the lark grammar + `text_ast_to_python_ast`): for every query the format can carry
(`wireOK`: names are identifiers, constants are written as `repr` writes them, node tags and arities are those of
Python's AST) parsing the printed tokens gives back the query with tuples turned into lists — nothing else is lost, for
every size and nesting.  Together with `wire_partial`: a translator that does not tell tuple from list translates the
query and what arrives over the wire identically. -/
theorem wire_roundtrip (q : Q) (toks : List String) (hok : wireOK q = true) (hp : wprint q = some toks) :
    wparse (toks.length + 1) toks = some (wireNorm q, []) := by
  simpa using (wparse_wprint q toks hok hp).2 [] (toks.length + 1) (by omega)

theorem wire_roundtrip_open (q : Q) (toks rest : List String) (F : Nat) (hok : wireOK q = true)
    (hp : wprint q = some toks) (hF : toks.length < F) :
    wparse F (toks ++ rest) = some (wireNorm q, rest) :=
  (wparse_wprint q toks hok hp).2 rest F hF

example : wireOK (Q.call "Select" [.var "ds", .lam ["e"] (.node "tuple"
    [.app (Q.attr (.var "e") "pt") [], .node "cmp:Gt" [.var "e", .lit "int:1"], .lit "str:'a'"])]) = true := by decide +kernel

/-- what the text format cannot carry is refused by the printer model (`none`), e.g. an n-ary `and` (qastle re-associates
it: listed finding) -/
example : wprint (.node "bool:And" [.var "a", .var "b", .var "c"]) = none ∧
    wprint (.node "bool:And" [.var "a", .var "b"]) = some ["(", "and", "a", "b", ")"] := by decide +kernel

example :
    let q := Q.call "Select" [.var "ds", .lam ["e"] (.node "tuple" [.app (Q.attr (.var "e") "pt") [], .lit "int:1"])]
    (wprint q).bind (fun t => wparse 100 t) = some (wireNorm q, []) := by decide +kernel

/-- what `SameOutcome` compares: the renumbered package, or the exception class -/
def Outcome.key (strict : Bool) : Outcome → Except String (List String)
  | .ok a => .ok (canon (!strict) a)
  | .err c => .error c

theorem sameOutcome_iff_key (strict : Bool) (a b : Outcome) : SameOutcome strict a b ↔ a.key strict = b.key strict := by
  cases a <;> cases b <;> cases strict <;> simp [SameOutcome, SamePackage, SamePackageUpToDiag, Outcome.key]

/-- **C08.sameOutcome_refl** — "same package up to the numbering of generated names" (and "both refused with the same
exception class") is an equivalence relation: it compares a function of each side. -/
theorem sameOutcome_refl (strict : Bool) (o : Outcome) : SameOutcome strict o o :=
  (sameOutcome_iff_key strict o o).2 rfl

theorem sameOutcome_symm (strict : Bool) (a b : Outcome) (h : SameOutcome strict a b) : SameOutcome strict b a :=
  (sameOutcome_iff_key strict b a).2 ((sameOutcome_iff_key strict a b).1 h).symm

/-- Transitivity is what the harness uses: comparing every variant with the base query compares all variants with each
other. -/
theorem sameOutcome_trans (strict : Bool) (a b c : Outcome) (h1 : SameOutcome strict a b) (h2 : SameOutcome strict b c) :
    SameOutcome strict a c :=
  (sameOutcome_iff_key strict a c).2 (((sameOutcome_iff_key strict a b).1 h1).trans ((sameOutcome_iff_key strict b c).1 h2))

/-- renumbering: two packages that differ only in the numbers of their generated names are the same for the Spec, and a
package in which a generated name is used for two different things is not -/
example : SameOutcome true (.ok [.plain "int", .gen "i_obj3", .plain ";", .gen "i_obj3", .gen "aggResult5"])
                           (.ok [.plain "int", .gen "i_obj7", .plain ";", .gen "i_obj7", .gen "aggResult9"]) ∧
        ¬ SameOutcome true (.ok [.gen "i_obj3", .gen "i_obj4"]) (.ok [.gen "i_obj7", .gen "i_obj7"]) := by decide +kernel

/-- **C08.md_outermost_first** — `extract_metadata` returns the dictionaries outermost first: a MetaData call wrapped
around a query puts its dictionary in front of everything found inside. -/
theorem md_outermost_first (q m : Q) : strip (wrapMd q m) = ((strip q).1, m :: (strip q).2) := by
  simp [wrapMd, strip_app_md, isMdHead]

/-- **C08.md_stripped** — wherever a MetaData call is attached — at any depth of the chain, inside lambda bodies, around
any sub-expression that `extract_metadata` walks — the query that is left after extraction is the same. -/
theorem md_stripped (q q1 m : Q) (p : List Step) (h : attachAt m p q = some q1) (hv : validPos p q = true) :
    (strip q1).1 = (strip q).1 :=
  (attach_spec m p q q1 h hv).1

/-- **C08.md_many** — any number of MetaData calls attached one after the other at arbitrary valid positions: the
extracted query is the one without metadata, the list is a permutation of the attached dictionaries together with those
the query carried already.  `md_position` and `md_perm` are the case of one call. -/
theorem md_many (pl : List (List Step × Q)) (q q' : Q) (h : attachMany pl q = some q') :
    (strip q').1 = (strip q).1 ∧ (strip q').2.Perm (pl.map (·.2) ++ (strip q).2) := by
  induction pl generalizing q with
  | nil => simp [attachMany] at h; subst h; simp
  | cons pm rest ih =>
    obtain ⟨p, m⟩ := pm
    simp only [attachMany] at h
    by_cases hv : validPos p q = true
    · simp only [hv, if_true] at h
      cases h1 : attachAt m p q with
      | none => simp [h1] at h
      | some q1 =>
        simp only [h1, Option.bind_some] at h
        obtain ⟨a, l, r, b, c⟩ := attach_spec m p q q1 h1 hv
        obtain ⟨a', c'⟩ := ih q1 h
        refine ⟨a'.trans a, c'.trans ?_⟩
        rw [c, b]
        simp only [List.map_cons, List.cons_append]
        exact (List.Perm.append_left _ List.perm_middle).trans List.perm_middle
    · simp [hv] at h

theorem attachMany_one (m q q1 : Q) (p : List Step) (h : attachAt m p q = some q1) (hv : validPos p q = true) :
    attachMany [(p, m)] q = some q1 := by
  simp [attachMany, hv, h]

/-- **C08.md_position** — full statement of (c) for one MetaData call: for any two positions `p`, `p'` of a query that
carries no other metadata, extraction gives the same query and the same metadata list. -/
theorem md_position (q q1 q2 m : Q) (p p' : List Step)
    (h1 : attachAt m p q = some q1) (hv1 : validPos p q = true)
    (h2 : attachAt m p' q = some q2) (hv2 : validPos p' q = true)
    (hq : (strip q).2 = []) : strip q1 = strip q2 := by
  obtain ⟨a1, p1⟩ := md_many _ q q1 (attachMany_one m q q1 p h1 hv1)
  obtain ⟨a2, p2⟩ := md_many _ q q2 (attachMany_one m q q2 p' h2 hv2)
  rw [hq] at p1 p2
  exact Prod.ext (a1.trans a2.symm) ((List.perm_singleton.1 p1).trans (List.perm_singleton.1 p2).symm)

/-- **C08.md_inserted** — in a query that already carries metadata, the new dictionary is inserted somewhere into the
list, the others keep their order: where exactly depends on the position (outermost first). -/
theorem md_inserted (q q1 m : Q) (p : List Step) (h : attachAt m p q = some q1) (hv : validPos p q = true) :
    ∃ l r, (strip q).2 = l ++ r ∧ (strip q1).2 = l ++ m :: r :=
  (attach_spec m p q q1 h hv).2

/-- **C08.md_perm** — two placements of the same dictionary give metadata lists that are permutations of each other. -/
theorem md_perm (q q1 q2 m : Q) (p p' : List Step)
    (h1 : attachAt m p q = some q1) (hv1 : validPos p q = true)
    (h2 : attachAt m p' q = some q2) (hv2 : validPos p' q = true) :
    (strip q1).1 = (strip q2).1 ∧ (strip q1).2.Perm (strip q2).2 := by
  obtain ⟨a1, p1⟩ := md_many _ q q1 (attachMany_one m q q1 p h1 hv1)
  obtain ⟨a2, p2⟩ := md_many _ q q2 (attachMany_one m q q2 p' h2 hv2)
  exact ⟨a1.trans a2.symm, p1.trans p2.symm⟩

/-- **C08.proc_perm_partial** — `process_metadata` (with the executor's use of its result) on two orders of the same
items.  Full statement: the registries are the same for every permutation.  That is false as it stands — the later of two
different declarations of one method wins, injected blocks and job scripts are emitted in list order — so the hypothesis
`commutingAll` (decidable) asks that no two items conflict: same table and key ⇒ same content; injected blocks /
scripts pairwise equal; at most one class of failing item. Under it the result (state or error class) is the same for
all orders, from any starting state. -/
theorem proc_perm_partial (l l' : List MdItem) (hp : l.Perm l') (hc : commutingAll l = true) (s : MdState) :
    procMd s l = procMd s l' :=
  procMd_perm hp ((commutingAll_iff l).1 hc) s

/-- the hypothesis cannot be dropped: two declarations of the same method with different types -/
theorem proc_perm_counterexample :
    ∃ l l' : List MdItem, l.Perm l' ∧
      (procMd MdState.init l).toOption.map (fun s => s.types "A::m") ≠
      (procMd MdState.init l').toOption.map (fun s => s.types "A::m") :=
  ⟨[.methodType "A::m" "int", .methodType "A::m" "double"], [.methodType "A::m" "double", .methodType "A::m" "int"],
    List.Perm.swap _ _ _, by decide⟩

/-- **C08.md_bundle_position** — what the `md-dependent` stream samples, as a theorem: ANY number of MetaData calls
attached to a metadata-free query at ANY valid positions (chain positions, streams inside lambda bodies), in two
different ways.  The extracted queries are the same; the two metadata lists are permutations of each other when the same
dictionaries were attached; and whenever the two extraction orders agree registry by registry (`sameByKind` of the
abstracted items — in particular when the extraction order is simply the same) `process_metadata` ends in the same state,
or refuses with the same error, from every starting state.  `abs` is any abstraction of a dictionary to the registry it
writes (the harness' `md_item`). -/
theorem md_bundle_position (abs : Q → MdItem) (pl pl' : List (List Step × Q)) (q q1 q2 : Q)
    (h1 : attachMany pl q = some q1) (h2 : attachMany pl' q = some q2) (hq : (strip q).2 = [])
    (hk : sameByKind ((strip q1).2.map abs) ((strip q2).2.map abs) = true) (s : MdState) :
    (strip q1).1 = (strip q2).1 ∧
    ((pl.map (·.2)).Perm (pl'.map (·.2)) → (strip q1).2.Perm (strip q2).2) ∧
    procMd s ((strip q1).2.map abs) = procMd s ((strip q2).2.map abs) := by
  obtain ⟨a1, p1⟩ := md_many pl q q1 h1
  obtain ⟨a2, p2⟩ := md_many pl' q q2 h2
  rw [hq, List.append_nil] at p1 p2
  exact ⟨a1.trans a2.symm, fun hp => p1.trans (hp.trans p2.symm), md_interleave _ _ s hk⟩

theorem md_bundle_same_order (pl pl' : List (List Step × Q)) (q q1 q2 : Q)
    (h1 : attachMany pl q = some q1) (h2 : attachMany pl' q = some q2)
    (ho : (strip q1).2 = (strip q2).2) : strip q1 = strip q2 := by
  obtain ⟨a1, _⟩ := md_many pl q q1 h1
  obtain ⟨a2, _⟩ := md_many pl' q q2 h2
  exact Prod.ext (a1.trans a2.symm) ho

/-- non-vacuity: an enum at the dataset and a method type at the root, against both at the root in the other order -/
example :
    let q := Q.call "Select" [Q.call "EventDataset" [], .lam ["e"] (.var "e")]
    let en := Q.node "dict" [.lit "str:'metadata_type'", .lit "str:'define_enum'"]
    let mt := Q.node "dict" [.lit "str:'metadata_type'", .lit "str:'add_method_type_info'"]
    let abs : Q → MdItem := fun d => if d == en then .enum "ns.E" "e" else .methodType "A::m" "t"
    ∃ q1 q2, attachMany [([.arg 0], en), ([], mt)] q = some q1 ∧ attachMany [([], mt), ([], en)] q = some q2 ∧
      (strip q1).2 ≠ (strip q2).2 ∧ sameByKind ((strip q1).2.map abs) ((strip q2).2.map abs) = true := by
  refine ⟨_, _, rfl, rfl, ?_, by decide +kernel⟩
  intro h; exact absurd ((Q.beqL_eq _ _).2 h) (by decide +kernel)

/-- non-vacuity of (c): the same dictionary at the top of a two-step chain, at the dataset, and inside a lambda body -/
example :
    let q := Q.call "Select" [Q.call "Where" [Q.call "EventDataset" [], .lam ["e"] (.lit "bool:True")],
                              .lam ["e"] (Q.call "Count" [.app (Q.attr (.var "e") "Jets") [.lit "str:'J'"]])]
    let m := Q.node "dict" [.lit "str:'metadata_type'", .lit "str:'inject_code'"]
    (attachAt m [] q).map strip = (attachAt m [.arg 0, .arg 0] q).map strip ∧
    (attachAt m [] q).map strip = (attachAt m [.arg 1, .body, .arg 0] q).map strip ∧
    validPos [.arg 1, .body, .arg 0] q = true := by
  decide +kernel

end FaxVerif.C08
