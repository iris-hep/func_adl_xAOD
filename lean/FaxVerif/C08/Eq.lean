/-
C08 — `Q.beq` and `DB.beq` are equality; the `DecidableEq` instances made from them.
-/
import FaxVerif.C08.Spec
namespace FaxVerif.C08

mutual
theorem Q.beq_eq : ∀ (a b : Q), Q.beq a b = true ↔ a = b
  | .var x, b => by cases b <;> simp [Q.beq]
  | .lit c, b => by cases b <;> simp [Q.beq]
  | .lam ps q, b => by
    cases b <;> simp [Q.beq]
    rename_i ps' q'
    rw [Q.beq_eq q q']; intro _; rfl
  | .app f as, b => by
    cases b <;> simp [Q.beq]
    rename_i f' as'
    rw [Q.beq_eq f f', Q.beqL_eq as as']
  | .node t ks, b => by
    cases b <;> simp [Q.beq]
    rename_i t' ks'
    rw [Q.beqL_eq ks ks']; intro _; rfl
theorem Q.beqL_eq : ∀ (a b : List Q), Q.beqL a b = true ↔ a = b
  | [], b => by cases b <;> simp [Q.beqL]
  | a :: as, b => by
    cases b <;> simp [Q.beqL]
    rename_i b bs
    rw [Q.beq_eq a b, Q.beqL_eq as bs]
end

mutual
theorem DB.beq_eq : ∀ (a b : DB), DB.beq a b = true ↔ a = b
  | .bvar i, b => by cases b <;> simp [DB.beq]
  | .fvar x, b => by cases b <;> simp [DB.beq]
  | .lit c, b => by cases b <;> simp [DB.beq]
  | .lam n q, b => by
    cases b <;> simp [DB.beq]
    rename_i n' q'
    rw [DB.beq_eq q q']; intro _; rfl
  | .app f as, b => by
    cases b <;> simp [DB.beq]
    rename_i f' as'
    rw [DB.beq_eq f f', DB.beqL_eq as as']
  | .node t ks, b => by
    cases b <;> simp [DB.beq]
    rename_i t' ks'
    rw [DB.beqL_eq ks ks']; intro _; rfl
theorem DB.beqL_eq : ∀ (a b : List DB), DB.beqL a b = true ↔ a = b
  | [], b => by cases b <;> simp [DB.beqL]
  | a :: as, b => by
    cases b <;> simp [DB.beqL]
    rename_i b bs
    rw [DB.beq_eq a b, DB.beqL_eq as bs]
end

instance : DecidableEq Q := fun a b =>
  if h : Q.beq a b = true then isTrue ((Q.beq_eq a b).1 h) else isFalse (fun e => h ((Q.beq_eq a b).2 e))
instance : DecidableEq DB := fun a b =>
  if h : DB.beq a b = true then isTrue ((DB.beq_eq a b).1 h) else isFalse (fun e => h ((DB.beq_eq a b).2 e))

end FaxVerif.C08
