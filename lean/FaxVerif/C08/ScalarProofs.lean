/-
C08 — `simplify` on `scalar` lambda bodies (behind the two fusion theorems): the arms of `simplify` as rewrite
rules; on a `scalar` body it is the substitution (`simplify_scalar`), hence β-reduction (`beta_of`); what
`make_args_unique`'s renaming does to such bodies.
-/
import FaxVerif.C08.Eq
namespace FaxVerif.C08

theorem simplify_var (fuel : Nat) (env : Stack Q) (n : Nat) (x : String) :
    simplify (fuel + 1) env n (.var x) = ((env.lookup x).getD (.var x), n) := by
  simp [simplify]

theorem simplify_app_var_generic (fuel : Nat) (env : Stack Q) (n : Nat) (f : String) (as : List Q)
    (h : opName f = false) :
    simplify (fuel + 1) env n (.app (.var f) as) =
      ((Q.app (simplify fuel env n (.var f)).1 (simplifyL fuel env (simplify fuel env n (.var f)).2 as).1),
       (simplifyL fuel env (simplify fuel env n (.var f)).2 as).2) := by
  simp only [opName, Bool.or_eq_false_iff, beq_eq_false_iff_ne, ne_eq] at h
  obtain ⟨⟨⟨h1, h2⟩, h3⟩, h4⟩ := h
  simp [simplify, h1, h2, h3]

/-- `generic_visit` of a method call whose receiver is not a `First` call -/
theorem simplify_method_generic (fuel : Nat) (env : Stack Q) (n : Nat) (t : String) (recv : Q) (as : List Q)
    (h : recv.isCallOf "First" = false) :
    simplify (fuel + 1) env n (.app (.node t [recv]) as) =
      (.app (simplify fuel env n (.node t [recv])).1 (simplifyL fuel env (simplify fuel env n (.node t [recv])).2 as).1,
       (simplifyL fuel env (simplify fuel env n (.node t [recv])).2 as).2) := by
  simp [simplify, h]

/-- `generic_visit` of a node that is neither a subscript nor an attribute -/
theorem simplify_node_generic (fuel : Nat) (env : Stack Q) (n : Nat) (t : String) (ks : List Q)
    (hsub : (t == "sub") = false) (hattr : attrName? t = none ∨ ks.length ≠ 1) :
    simplify (fuel + 1) env n (.node t ks) = (.node t (simplifyL fuel env n ks).1, (simplifyL fuel env n ks).2) := by
  match ks, hattr with
  | [], _ => simp [simplify]
  | [_], h => simp [simplify, h.resolve_right (by simp)]
  | [_, _], _ => simp [simplify, hsub]
  | _ :: _ :: _ :: _, _ => simp [simplify]

/-- `visit_Attribute` when the value is no `First` call and does not simplify to a dict display -/
theorem simplify_attr (fuel : Nat) (env : Stack Q) (n : Nat) (t name : String) (value : Q)
    (ha : attrName? t = some name) (hf : value.isCallOf "First" = false)
    (hd : isDictNode (simplify fuel env n value).1 = false) :
    simplify (fuel + 1) env n (.node t [value]) =
      (.node t [(simplify fuel env n value).1], (simplify fuel env n value).2) := by
  simp only [simplify, ha, hf]
  cases hv : (simplify fuel env n value).1 with
  | node vt elts =>
    rw [hv] at hd
    simp only [isDictNode] at hd
    simp [hd]
  | _ => simp

theorem simplify_lam (F : Nat) (env : Stack Q) (n : Nat) (ps : List String) (b : Q) :
    simplify (F + 1) env n (.lam ps b) = (.lam ps (simplify F env n b).1, (simplify F env n b).2) := by
  simp [simplify]

/-- `visit_Call` on a lambda: the arguments are simplified, then the body with the parameters bound to them -/
theorem simplify_beta (F : Nat) (env : Stack Q) (n : Nat) (ps : List String) (b : Q) (as : List Q) :
    simplify (F + 1) env n (.app (.lam ps b) as) =
      simplify F (ps.zip (simplifyL F env n as).1 :: env) (simplifyL F env n as).2 b := by
  simp [simplify]

theorem simplifyL_cons (F : Nat) (env : Stack Q) (n : Nat) (q : Q) (qs : List Q) :
    simplifyL (F + 1) env n (q :: qs) =
      ((simplify F env n q).1 :: (simplifyL F env (simplify F env n q).2 qs).1,
       (simplifyL F env (simplify F env n q).2 qs).2) := by
  simp [simplifyL]

theorem simplifyL_nil (F : Nat) (env : Stack Q) (n : Nat) : simplifyL (F + 1) env n [] = ([], n) := by
  simp [simplifyL]

/-- `call_Select` when the simplified source is neither a Select nor a SelectMany -/
theorem simplify_Select_plain (F : Nat) (env : Stack Q) (n n1 : Nat) (src sel p0 : Q) (hl : isLam sel = true)
    (hsrc : simplify F env n src = (p0, n1)) (h1 : p0.isCallOf "Select" = false) (h2 : p0.isCallOf "SelectMany" = false) :
    simplify (F + 1) env n (Q.call "Select" [src, sel]) =
      (makeSelect p0 (simplify F env n1 sel).1, (simplify F env n1 sel).2) := by
  simp [Q.call, simplify, hl, hsrc, h1, h2]

/-- `call_Select` when the simplified source is itself a Select: `visit_Select_of_Select` composes the two lambdas -/
theorem simplify_Select_fuse (F : Nat) (env : Stack Q) (n n1 : Nat) (src sel source f : Q) (hl : isLam sel = true)
    (hsrc : simplify F env n src = (Q.call "Select" [source, f], n1)) :
    simplify (F + 1) env n (Q.call "Select" [src, sel]) =
      (makeSelect source (simplify F env (convolute n1 sel f).2 (convolute n1 sel f).1).1,
       (simplify F env (convolute n1 sel f).2 (convolute n1 sel f).1).2) := by
  simp [Q.call, simplify, hl, hsrc, Q.isCallOf]

/-- `call_Where` when the simplified source is none of Where / Select / SelectMany -/
theorem simplify_Where_plain (F : Nat) (env : Stack Q) (n n1 : Nat) (src flt p0 : Q) (hl : isLam flt = true)
    (hsrc : simplify F env n src = (p0, n1))
    (h0 : p0.isCallOf "Where" = false) (h1 : p0.isCallOf "Select" = false) (h2 : p0.isCallOf "SelectMany" = false) :
    simplify (F + 1) env n (Q.call "Where" [src, flt]) =
      (if isTrueLam (simplify F env n1 flt).1 then p0 else Q.call "Where" [p0, (simplify F env n1 flt).1],
       (simplify F env n1 flt).2) := by
  simp [Q.call, simplify, hl, hsrc, h0, h1, h2]
  split <;> rfl

/-- `call_Where` when the simplified source is itself a Where: `visit_Where_of_Where` builds one Where over the
conjunction of the two filters and simplifies that again -/
theorem simplify_Where_fuse (F : Nat) (env : Stack Q) (n n1 : Nat) (src flt source f : Q) (hl : isLam flt = true)
    (hsrc : simplify F env n src = (Q.call "Where" [source, f], n1)) :
    simplify (F + 1) env n (Q.call "Where" [src, flt]) =
      simplify F env (n1 + 1) (Q.call "Where" [source,
        .lam [argName n1] (.node "bool:And" [.app f [.var (argName n1)], .app flt [.var (argName n1)]])]) := by
  simp [Q.call, simplify, hl, hsrc, Q.isCallOf]

section scalarInd
variable {P : Q → Prop} {PL : List Q → Prop} (var : ∀ x, P (.var x)) (lit : ∀ c, P (.lit c))
  (call : ∀ g as, opName g = false → P (.var g) → PL as → P (.app (.var g) as))
  (meth : ∀ t recv as, tagOk t = true → P recv → PL as → P (.app (.node t [recv]) as))
  (node : ∀ t ks, tagOk t = true → PL ks → P (.node t ks))
  (nil : PL []) (cons : ∀ q qs, P q → PL qs → PL (q :: qs))
include var lit call meth node nil cons

mutual
theorem scalarRec : ∀ t, scalar t = true → P t
  | .var x, _ => var x
  | .lit c, _ => lit c
  | .lam _ _, h => by simp [scalar] at h
  | .app (.var g) as, h => by
    simp only [scalar, Bool.and_eq_true, Bool.not_eq_true'] at h
    exact call g as h.1 (var g) (scalarRecL as h.2)
  | .app (.node t [recv]) as, h => by
    simp only [scalar, Bool.and_eq_true] at h
    exact meth t recv as h.1.1 (scalarRec recv h.1.2) (scalarRecL as h.2)
  | .app (.node _ []) _, h => by simp [scalar] at h
  | .app (.node _ (_ :: _ :: _)) _, h => by simp [scalar] at h
  | .app (.lit _) _, h => by simp [scalar] at h
  | .app (.lam _ _) _, h => by simp [scalar] at h
  | .app (.app _ _) _, h => by simp [scalar] at h
  | .node t ks, h => by
    simp only [scalar, Bool.and_eq_true] at h
    exact node t ks h.1 (scalarRecL ks h.2)
theorem scalarRecL : ∀ ts, scalarL ts = true → PL ts
  | [], _ => nil
  | q :: qs, h => by
    simp only [scalarL, Bool.and_eq_true] at h
    exact cons q qs (scalarRec q h.1) (scalarRecL qs h.2)
end

/-- Induction over `scalar` terms: names, constants, calls of named functions other than the sequence operators, method
calls, operator nodes. -/
theorem scalar_ind : (∀ t, scalar t = true → P t) ∧ (∀ ts, scalarL ts = true → PL ts) :=
  ⟨scalarRec var lit call meth node nil cons, scalarRecL var lit call meth node nil cons⟩
end scalarInd

theorem lookup_single (k : String) (v : Q) (u : String) :
    Stack.lookup [[(k, v)]] u = if u = k then some v else none := by
  by_cases h : u = k <;> simp [Stack.lookup, Frame.get?, h]

def envOk (env : Stack Q) : Prop := ∀ x v, env.lookup x = some v → isDictNode v = false

theorem envOk_single (k : String) (v : Q) (h : isDictNode v = false) : envOk [[(k, v)]] := by
  intro u v' hl
  rw [lookup_single] at hl
  by_cases hu : u = k <;> simp [hu] at hl
  subst hl; exact h

theorem notFirst_of_scalar (q : Q) (h : scalar q = true) : q.isCallOf "First" = false := by
  cases q with
  | app f as =>
    cases f with
    | var g =>
      simp only [scalar, Bool.and_eq_true, Bool.not_eq_true', opName, Bool.or_eq_false_iff, beq_eq_false_iff_ne] at h
      simp [Q.isCallOf, h.1.2]
    | _ => simp [Q.isCallOf]
  | _ => simp [Q.isCallOf]

theorem notDict_subst (env : Stack Q) (henv : envOk env) (q : Q) (h : scalar q = true) :
    isDictNode (subst env q) = false := by
  cases q with
  | var x =>
    simp only [subst]
    cases hl : env.lookup x with
    | none => simp [isDictNode]
    | some v => simpa using henv x v hl
  | lit c => simp [subst, isDictNode]
  | lam ps b => simp [scalar] at h
  | app f as => simp [subst, isDictNode]
  | node t ks =>
    simp only [scalar, Bool.and_eq_true, tagOk, bne_iff_ne] at h
    simp [subst, isDictNode, h.1.2]

theorem depth_pos (t : Q) : 1 ≤ depth t := by cases t <;> simp [depth]

theorem simplify_scalar : ∀ (fuel : Nat) (env : Stack Q) (henv : envOk env) (n : Nat),
    (∀ (t : Q), scalar t = true → depth t ≤ fuel → simplify fuel env n t = (subst env t, n)) ∧
    (∀ (ts : List Q), scalarL ts = true → depthL ts ≤ fuel → simplifyL fuel env n ts = (substL env ts, n)) := by
  intro fuel
  induction fuel with
  | zero =>
    intro env henv n
    constructor
    · intro t _ hd; cases t <;> simp [depth] at hd
    · intro ts _ hd; cases ts <;> simp [depthL] at hd
  | succ fuel ih =>
    intro env henv n
    have ih1 := fun t => (ih env henv n).1 t
    have ih2 := fun ts => (ih env henv n).2 ts
    constructor
    · intro t hs hd
      cases t with
      | var x => simp [simplify, subst]
      | lit c => simp [simplify, subst]
      | lam ps b => simp [scalar] at hs
      | node t ks =>
        simp only [scalar, Bool.and_eq_true, tagOk, bne_iff_ne, ne_eq] at hs
        simp only [depth] at hd
        have hk := ih2 ks hs.2 (by omega)
        by_cases hattr : attrName? t = none ∨ ks.length ≠ 1
        · rw [simplify_node_generic fuel env n t ks (by simpa using hs.1.1) hattr, hk]
          simp [subst]
        · obtain ⟨name, ha⟩ := Option.ne_none_iff_exists'.1 (not_or.1 hattr).1
          obtain ⟨value, rfl⟩ := List.length_eq_one_iff.1 (Decidable.not_not.1 (not_or.1 hattr).2)
          simp only [scalarL, Bool.and_true] at hs
          simp only [depthL] at hd
          have hv := ih1 value hs.2 (by omega)
          rw [simplify_attr fuel env n t name value ha (notFirst_of_scalar value hs.2)
            (by rw [hv]; exact notDict_subst env henv value hs.2), hv]
          simp [subst, substL]
      | app f as =>
        simp only [depth] at hd
        cases f with
        | var g =>
          simp only [scalar, Bool.and_eq_true, Bool.not_eq_true'] at hs
          rw [simplify_app_var_generic fuel env n g as hs.1, ih1 (.var g) rfl (by simp only [depth] at hd ⊢; omega),
            ih2 as hs.2 (by omega)]
          simp [subst]
        | node t ks =>
          match ks with
          | [recv] =>
            simp only [scalar, Bool.and_eq_true] at hs
            have hnode : scalar (.node t [recv]) = true := by simp [scalar, scalarL, hs.1.1, hs.1.2]
            rw [simplify_method_generic fuel env n t recv as (notFirst_of_scalar recv hs.1.2),
              ih1 (.node t [recv]) hnode (by omega), ih2 as hs.2 (by omega)]
            simp [subst]
          | [] => simp [scalar] at hs
          | _ :: _ :: _ => simp [scalar] at hs
        | lit c => simp [scalar] at hs
        | lam ps b => simp [scalar] at hs
        | app g bs => simp [scalar] at hs
    · intro ts hs hd
      cases ts with
      | nil => simp [simplifyL, substL]
      | cons q qs =>
        simp only [scalarL, Bool.and_eq_true] at hs
        simp only [depthL] at hd
        have h1 := ih1 q hs.1 (by omega)
        have h2 := ih2 qs hs.2 (by omega)
        simp [simplifyL, substL, h1, h2]

mutual
theorem subst_nil : ∀ (t : Q), subst [] t = t
  | .var x => by simp [subst, Stack.lookup]
  | .lit c => by simp [subst]
  | .lam ps b => by simp [subst, subst_nil b]
  | .app f as => by simp [subst, subst_nil f, substL_nil as]
  | .node t ks => by simp [subst, substL_nil ks]
theorem substL_nil : ∀ (ts : List Q), substL [] ts = ts
  | [] => by simp [substL]
  | q :: qs => by simp [substL, subst_nil q, substL_nil qs]
end

theorem simplify_lam_scalar (F n : Nat) (ps : List String) (b : Q) (hb : scalar b = true) (hd : depth b ≤ F) :
    simplify (F + 1) [] n (.lam ps b) = (.lam ps b, n) := by
  rw [simplify_lam, (simplify_scalar F [] (by intro u v h; simp [Stack.lookup] at h) n).1 b hb hd, subst_nil]

/-- on a lambda-free term `make_args_unique`'s renaming is a plain renaming; followed by the substitution for the
new name it is the substitution for the old one -/
theorem subst_ren_both :
    (∀ t, scalar t = true → ∀ (x a : String) (v : Q), a ∉ allNames t →
      subst [[(a, v)]] (renVars [(x, a)] t) = subst [[(x, v)]] t) ∧
    (∀ ts, scalarL ts = true → ∀ (x a : String) (v : Q), a ∉ allNamesL ts →
      substL [[(a, v)]] (renVarsL [(x, a)] ts) = substL [[(x, v)]] ts) := by
  refine scalar_ind ?_ ?_ ?_ ?_ ?_ ?_ ?_
  · intro u x a v ha
    simp only [allNames, List.mem_singleton] at ha
    simp only [renVars, renLookup, subst, lookup_single]
    by_cases hu : u = x
    · simp [hu]
    · have : ¬ u = a := fun e => ha e.symm
      simp [hu, this]
  · intro c x a v _; simp [renVars, subst]
  · intro g as _ ihg ihas x a v ha
    simp only [allNames, List.mem_append, not_or] at ha
    have h1 := ihg x a v ha.1
    simp only [renVars, subst] at h1 ⊢
    rw [h1, ihas x a v ha.2]
  · intro t recv as _ ihr ihas x a v ha
    simp only [allNames, allNamesL, List.mem_append, not_or, List.append_nil] at ha
    simp only [renVars, renVarsL, subst, substL]
    rw [ihr x a v ha.1, ihas x a v ha.2]
  · intro t ks _ ih x a v ha
    simp only [allNames] at ha
    simp only [renVars, subst]
    rw [ih x a v ha]
  · intro x a v _; rfl
  · intro q qs ihq ihqs x a v ha
    simp only [allNamesL, List.mem_append, not_or] at ha
    simp only [renVarsL, substL]
    rw [ihq x a v ha.1, ihqs x a v ha.2]

theorem subst_ren (t : Q) (x a : String) (v : Q) (hs : scalar t = true) (ha : a ∉ allNames t) :
    subst [[(a, v)]] (renVars [(x, a)] t) = subst [[(x, v)]] t :=
  subst_ren_both.1 t hs x a v ha

theorem substL_ren : ∀ (ts : List Q) (x a : String) (v : Q), scalarL ts = true → a ∉ allNamesL ts →
    substL [[(a, v)]] (renVarsL [(x, a)] ts) = substL [[(x, v)]] ts :=
  fun ts x a v hs ha => subst_ren_both.2 ts hs x a v ha

theorem opName_argName (k : Nat) : opName (argName k) = false := by
  -- `arg_N` starts with `a`, no operator name does
  have ne : ∀ s : String, s.toList.head? ≠ some 'a' → (argName k == s) = false := fun s hs =>
    beq_eq_false_iff_ne.2 fun e => hs (by rw [← e]; simp [argName])
  simp only [opName, ne "Select" (by simp), ne "SelectMany" (by simp), ne "Where" (by simp), ne "First" (by simp),
    Bool.or_self]

theorem scalar_ren_both :
    (∀ t, scalar t = true → ∀ (x a : String), opName a = false → scalar (renVars [(x, a)] t) = true) ∧
    (∀ ts, scalarL ts = true → ∀ (x a : String), opName a = false → scalarL (renVarsL [(x, a)] ts) = true) := by
  refine scalar_ind ?_ ?_ ?_ ?_ ?_ ?_ ?_
  · intro u x a _; simp [renVars, scalar]
  · intro c x a _; simp [renVars, scalar]
  · intro g as hg _ ihas x a ha
    simp only [renVars, renLookup, scalar, Bool.and_eq_true, Bool.not_eq_true', ihas x a ha, and_true]
    by_cases hgx : g = x
    · simp [hgx, ha]
    · simp [hgx, hg]
  · intro t recv as ht ihr ihas x a ha
    simp [renVars, renVarsL, scalar, ht, ihr x a ha, ihas x a ha]
  · intro t ks ht ih x a ha
    simp [renVars, scalar, ht, ih x a ha]
  · intro x a _; rfl
  · intro q qs ihq ihqs x a ha
    simp [renVarsL, scalarL, ihq x a ha, ihqs x a ha]

theorem scalar_ren (t : Q) (x a : String) (ha : opName a = false) (hs : scalar t = true) :
    scalar (renVars [(x, a)] t) = true :=
  scalar_ren_both.1 t hs x a ha

theorem scalarL_ren : ∀ (ts : List Q) (x a : String), opName a = false → scalarL ts = true → scalarL (renVarsL [(x, a)] ts) = true :=
  fun ts x a ha hs => scalar_ren_both.2 ts hs x a ha

mutual
theorem depth_ren : ∀ (t : Q) (m : List (String × String)), depth (renVars m t) = depth t
  | .var u, _ => by simp [renVars, depth]
  | .lit c, _ => by simp [renVars, depth]
  | .lam ps b, m => by simp [renVars, depth, depth_ren b]
  | .app f as, m => by simp [renVars, depth, depth_ren f m, depthL_ren as m]
  | .node t ks, m => by simp [renVars, depth, depthL_ren ks m]
theorem depthL_ren : ∀ (ts : List Q) (m : List (String × String)), depthL (renVarsL m ts) = depthL ts
  | [], _ => by simp [renVarsL, depthL]
  | q :: qs, m => by simp [renVarsL, depthL, depth_ren q m, depthL_ren qs m]
end

theorem idx_single_ne (w u : String) (h : u ≠ w) : idx [w] u = none := by simp [idx, h]

theorem resolve_subst_fresh_both :
    (∀ t, scalar t = true → ∀ (k w w' : String) (V V' : Q), w ∉ allNames t → w' ∉ allNames t →
      resolve [w] V = resolve [w'] V' → resolve [w] (subst [[(k, V)]] t) = resolve [w'] (subst [[(k, V')]] t)) ∧
    (∀ ts, scalarL ts = true → ∀ (k w w' : String) (V V' : Q), w ∉ allNamesL ts → w' ∉ allNamesL ts →
      resolve [w] V = resolve [w'] V' →
      resolveL [w] (substL [[(k, V)]] ts) = resolveL [w'] (substL [[(k, V')]] ts)) := by
  refine scalar_ind ?_ ?_ ?_ ?_ ?_ ?_ ?_
  · intro u k w w' V V' hw hw' hV
    simp only [allNames, List.mem_singleton] at hw hw'
    simp only [subst, lookup_single]
    by_cases hu : u = k
    · simpa [hu] using hV
    · simp [hu, resolve, idx_single_ne w u (fun e => hw e.symm), idx_single_ne w' u (fun e => hw' e.symm)]
  · intro c k w w' V V' _ _ _; simp [subst, resolve]
  · intro g as _ ihg ihas k w w' V V' hw hw' hV
    simp only [allNames, List.mem_append, not_or] at hw hw'
    have h1 := ihg k w w' V V' hw.1 hw'.1 hV
    simp only [subst, resolve] at h1 ⊢
    rw [h1, ihas k w w' V V' hw.2 hw'.2 hV]
  · intro t recv as _ ihr ihas k w w' V V' hw hw' hV
    simp only [allNames, allNamesL, List.mem_append, not_or, List.append_nil] at hw hw'
    simp only [subst, substL, resolve, resolveL]
    rw [ihr k w w' V V' hw.1 hw'.1 hV, ihas k w w' V V' hw.2 hw'.2 hV]
  · intro t ks _ ih k w w' V V' hw hw' hV
    simp only [allNames] at hw hw'
    simp only [subst, resolve]
    rw [ih k w w' V V' hw hw' hV]
  · intro k w w' V V' _ _ _; rfl
  · intro q qs ihq ihqs k w w' V V' hw hw' hV
    simp only [allNamesL, List.mem_append, not_or] at hw hw'
    simp only [substL, resolveL]
    rw [ihq k w w' V V' hw.1 hw'.1 hV, ihqs k w w' V V' hw.2 hw'.2 hV]

theorem resolve_subst_fresh (t : Q) (k w w' : String) (V V' : Q) (hs : scalar t = true) (hw : w ∉ allNames t)
    (hw' : w' ∉ allNames t) (hV : resolve [w] V = resolve [w'] V') :
    resolve [w] (subst [[(k, V)]] t) = resolve [w'] (subst [[(k, V')]] t) :=
  resolve_subst_fresh_both.1 t hs k w w' V V' hw hw' hV

theorem resolveL_subst_fresh : ∀ (ts : List Q) (k w w' : String) (V V' : Q), scalarL ts = true →
    w ∉ allNamesL ts → w' ∉ allNamesL ts → resolve [w] V = resolve [w'] V' →
    resolveL [w] (substL [[(k, V)]] ts) = resolveL [w'] (substL [[(k, V')]] ts) :=
  fun ts k w w' V V' hs hw hw' hV => resolve_subst_fresh_both.2 ts hs k w w' V V' hw hw' hV

theorem compose_alpha (fb gb : Q) (x y w w' : String) (hf : scalar fb = true) (hg : scalar gb = true)
    (hw : w ∉ allNames fb ∧ w ∉ allNames gb) (hw' : w' ∉ allNames fb ∧ w' ∉ allNames gb) :
    resolve [w] (subst [[(y, subst [[(x, .var w)]] fb)]] gb) =
    resolve [w'] (subst [[(y, subst [[(x, .var w')]] fb)]] gb) := by
  apply resolve_subst_fresh gb y w w' _ _ hg hw.2 hw'.2
  apply resolve_subst_fresh fb x w w' _ _ hf hw.1 hw'.1
  simp [resolve, idx]

theorem beta_of (F n n' : Nat) (k : String) (B a V : Q) (hB : scalar B = true) (hd : depth B ≤ F + 1)
    (ha : simplify F [] n a = (V, n')) (hF : 1 ≤ F) (hV : isDictNode V = false) :
    simplify (F + 1 + 1) [] n (.app (.lam [k] B) [a]) = (subst [[(k, V)]] B, n') := by
  obtain ⟨F0, rfl⟩ : ∃ F0, F = F0 + 1 := ⟨F - 1, by omega⟩
  rw [simplify_beta, simplifyL_cons, ha, simplifyL_nil]
  exact (simplify_scalar (F0 + 1 + 1) [[(k, V)]] (envOk_single _ _ hV) n').1 B hB hd

theorem beta_one (F n : Nat) (k w : String) (B : Q) (hB : scalar B = true) (hd : depth B ≤ F) (h2 : 2 ≤ F) :
    simplify (F + 1) [] n (.app (.lam [k] B) [.var w]) = (subst [[(k, .var w)]] B, n) := by
  obtain ⟨F0, rfl⟩ : ∃ F0, F = F0 + 1 + 1 := ⟨F - 2, by omega⟩
  exact beta_of (F0 + 1) n n k B _ _ hB hd (simplify_var F0 [] n w) (by omega) rfl

theorem comp_beta (F n : Nat) (a0 a1 w : String) (G B : Q) (hG : scalar G = true) (hB : scalar B = true)
    (hdG : depth G + 1 ≤ F) (hdB : depth B + 3 ≤ F) :
    simplify (F + 1) [] n (.app (.lam [a0] G) [.app (.lam [a1] B) [.var w]]) =
      (subst [[(a0, subst [[(a1, .var w)]] B)]] G, n) := by
  have hpB := depth_pos B
  obtain ⟨F0, rfl⟩ : ∃ F0, F = F0 + 1 + 1 + 1 := ⟨F - 3, by omega⟩
  exact beta_of (F0 + 1 + 1) n n a0 G _ _ hG (by omega) (beta_one (F0 + 1) n a1 w B hB (by omega) (by omega))
    (by omega) (notDict_subst _ (envOk_single _ _ rfl) B hB)

/-- the conjunction func_adl builds when it fuses two Wheres, β-reduced -/
theorem and_beta (F n : Nat) (x y w : String) (fb gb : Q) (hf : scalar fb = true) (hg : scalar gb = true)
    (hd : depth fb + 6 ≤ F ∧ depth gb + 6 ≤ F) :
    simplify (F + 1) [] n (.node "bool:And" [.app (.lam [x] fb) [.var w], .app (.lam [y] gb) [.var w]]) =
      (.node "bool:And" [subst [[(x, .var w)]] fb, subst [[(y, .var w)]] gb], n) := by
  obtain ⟨F1, rfl⟩ : ∃ F1, F = F1 + 1 + 1 + 1 + 1 := ⟨F - 4, by omega⟩
  have h1 := beta_one (F1 + 1 + 1) n x w fb hf (by omega) (by omega)
  have h2 := beta_one (F1 + 1) n y w gb hg (by omega) (by omega)
  rw [simplify_node_generic _ _ _ _ _ (by decide) (Or.inr (by simp)), simplifyL_cons, h1, simplifyL_cons, h2, simplifyL_nil]

theorem isIdentity_lam (w : String) (B : Q) : isIdentity (.lam [w] B) = decide (B = .var w) := by
  cases B with
  | var u =>
    by_cases h : u = w
    · simp [isIdentity, h]
    · simp [isIdentity, h, Ne.symm h]
  | _ => simp [isIdentity]

theorem isTrueLam_lam (ps : List String) (B : Q) : isTrueLam (.lam ps B) = decide (B = .lit "bool:True") := by
  cases B with
  | lit c => simp only [isTrueLam, Q.lit.injEq]; rfl
  | _ => simp [isTrueLam]

/-- `convolute` on two single-parameter lambdas: `λa₂. (λa₀. g')((λa₁. f')(a₂))` with three fresh names -/
theorem convolute_single (n : Nat) (x y : String) (fb gb : Q) :
    convolute n (.lam [y] gb) (.lam [x] fb) =
      (.lam [argName (n + 2)] (.app (.lam [argName n] (renVars [(y, argName n)] gb))
        [.app (.lam [argName (n + 1)] (renVars [(x, argName (n + 1))] fb)) [.var (argName (n + 2))]]), n + 3) := by
  simp [convolute, makeArgsUnique, argNames]

theorem resolve_eq_bvar0 (w : String) (B : Q) : resolve [w] B = .bvar 0 ↔ B = .var w := by
  cases B with
  | var u => by_cases hu : u = w <;> simp [resolve, idx, hu]
  | _ => simp [resolve]

theorem makeSelect_alpha (p0 : Q) (w w' : String) (B B' : Q) (h : resolve [w] B = resolve [w'] B') :
    resolve [] (makeSelect p0 (.lam [w] B)) = resolve [] (makeSelect p0 (.lam [w'] B')) := by
  have hi : B = .var w ↔ B' = .var w' := by rw [← resolve_eq_bvar0, ← resolve_eq_bvar0, h]
  by_cases hB : B' = .var w'
  · simp [makeSelect, isIdentity_lam, hi, hB]
  · simp [makeSelect, isIdentity_lam, hi, hB, Q.call, resolve, resolveL, h]

end FaxVerif.C08
