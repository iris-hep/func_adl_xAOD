/-
C08 (c) — job script blocks in a dependency chain of ANY length.
-/
import FaxVerif.C08.MdModel
import FaxVerif.Common.Dict

namespace FaxVerif.C08

/-- a chain that continues after the block named `prev` (`none`: starts): every block depends on exactly its predecessor -/
def isChainFrom : Option String → List SBlk → Prop
  | _, [] => True
  | prev, b :: bs => b.deps = prev.toList ∧ isChainFrom (some b.name) bs

theorem sbBuild_nodup (bs acc : List SBlk) (h : ((acc ++ bs).map (·.name)).Nodup) : sbBuild bs acc = .ok (acc ++ bs) := by
  induction bs generalizing acc with
  | nil => simp [sbBuild]
  | cons b bs ih =>
    -- `==` on strings is `decide (· = ·)`: the search of `sbAdd` is `Dict.firstBy SBlk.name`
    have hnone : acc.find? (·.name == b.name) = none := Dict.firstBy_none_of_nodup SBlk.name h
    have h' : (((acc ++ [b]) ++ bs).map (·.name)).Nodup := by simpa [List.append_assoc] using h
    simp only [sbBuild, sbAdd, hnone]
    simpa [List.append_assoc] using ih (acc ++ [b]) h'

theorem chain_deps_known (prev : Option String) (bs : List SBlk) (h : isChainFrom prev bs) :
    ∀ e ∈ bs, ∀ d ∈ e.deps, d ∈ prev.toList ∨ d ∈ bs.map (·.name) := by
  induction bs generalizing prev with
  | nil => intro e he; cases he
  | cons b bs ih =>
    intro e he d hd
    rcases List.mem_cons.1 he with rfl | he'
    · left; rw [h.1] at hd; exact hd
    · rcases ih (some b.name) h.2 e he' d hd with h1 | h1
      · right; simp at h1; simp [h1]
      · right; simp only [List.map_cons, List.mem_cons]; right; exact h1

theorem sbPass_chain (bs : List SBlk) (prev : Option String) (seen out : List String) (em : Bool)
    (hc : isChainFrom prev bs) (hp : ∀ d ∈ prev.toList, d ∈ seen) (hn : ((bs.map (·.name))).Nodup)
    (hs : ∀ b ∈ bs, b.name ∉ seen) :
    sbPass bs ⟨seen, out, em⟩ = ⟨seen ++ bs.map (·.name), out ++ bs.flatMap (·.script), em || !bs.isEmpty⟩ := by
  induction bs generalizing prev seen out em with
  | nil => simp [sbPass]
  | cons b bs ih =>
    have hb : b.name ∉ seen := hs b (List.mem_cons_self)
    have hd : (b.deps.all (· ∈ seen)) = true := by
      rw [hc.1]; simp only [List.all_eq_true, decide_eq_true_eq]; exact hp
    simp only [List.map_cons, List.nodup_cons] at hn
    simp only [sbPass, hb, if_false, hd, if_true]
    rw [ih (some b.name) (seen ++ [b.name]) (out ++ b.script) true hc.2 (by simp) hn.2
      (by
        intro x hx hmem
        rcases List.mem_append.1 hmem with h1 | h1
        · exact hs x (List.mem_cons_of_mem _ hx) h1
        · simp at h1; exact hn.1 (h1 ▸ List.mem_map_of_mem hx))]
    simp [List.append_assoc]

/-- **C08.scripts_chain_any_length** — a dependency chain of job script blocks of ANY length (names pairwise different,
every block depending on exactly its predecessor), listed in dependency order: accepted, and every block's lines are
emitted, in that order, in one pass.  (For the other orders of the `MetaData` calls: `scripts_chain_any_order` for two
blocks with arbitrary names and texts, all 6 / 24 orders of a three / four block chain by evaluation (MdTheorems.lean /
below); the harness compares `emitScripts` on both orders for every pair it samples, and C15's theorems say that any
accepted output is a topological order of the blocks — of which a chain has exactly one.) -/
theorem scripts_chain_any_length (c : List SBlk) (hn : (c.map (·.name)).Nodup) (hc : isChainFrom none c) :
    emitScripts c = .ok (c.flatMap (·.script)) := by
  have hb : sbBuild c [] = .ok c := by simpa using sbBuild_nodup c [] (by simpa using hn)
  have hm : sbMissing c = false := by
    simp only [sbMissing, List.any_eq_false, Bool.not_eq_true, List.any_eq_true, not_exists, not_and,
      Bool.not_eq_eq_eq_not, Bool.not_true]
    intro e he d hd
    rcases chain_deps_known none c hc e he d hd with h | h
    · cases h
    · obtain ⟨x, hx, hxe⟩ := List.mem_map.1 h
      have : c.any (fun y => y.name == d) = true := List.any_eq_true.2 ⟨x, hx, by simp [hxe]⟩
      simpa using this
  unfold emitScripts
  simp only [hb, hm]
  cases c with
  | nil => simp [sbLoop]
  | cons b bs =>
    have hp := sbPass_chain (b :: bs) none [] [] false hc (by simp) hn (by simp)
    simp only [sbLoop, List.length_cons, List.length_nil, Nat.zero_lt_succ, if_true, hp]
    simp

def insertAll {α} (x : α) : List α → List (List α)
  | [] => [[x]]
  | y :: ys => (x :: y :: ys) :: (insertAll x ys).map (y :: ·)

def perms {α} : List α → List (List α)
  | [] => [[]]
  | x :: xs => (perms xs).flatMap (insertAll x)

/-- a chain of four, all 24 orders of the MetaData calls: one result -/
example :
    let c : List SBlk := [⟨"s1", ["1"], []⟩, ⟨"s2", ["2"], ["s1"]⟩, ⟨"s3", ["3"], ["s2"]⟩, ⟨"s4", ["4"], ["s3"]⟩]
    (perms c).length = 24 ∧ (perms c).all (fun l => (emitScripts l).toOption == some ["1", "2", "3", "4"]) = true ∧
    (c.map (·.name)).Nodup ∧ isChainFrom none c := by
  refine ⟨by decide +kernel, by decide +kernel, by decide +kernel, by simp [isChainFrom]⟩

end FaxVerif.C08
