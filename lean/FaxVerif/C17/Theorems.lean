/-
C17 — property theorems. But for the last two groups (a sequence of executions on one dataset object: `stepIn`,
`runSeq`, `executeSeq`; the generated `backends` table), every statement is about `execute`, the model of
`<Dataset>(files, image, tag, output_directory)` followed by `execute_result_async`, for all
dataset arguments `a`, query facts `q`, file-system facts `fs` and container outcomes `o` (any
number of chunks, failure at the call or after any chunk, result file present or not).
`observe` is what the harness can see of such an execution; the clauses (`ValidateFirst`, …) are
the ones the driver evaluates on the real code's observations.
-/
import FaxVerif.C17.Proofs
namespace FaxVerif.C17
open FaxVerif.Generated.C17 (BackendRow backends volumePrefix resultFileName unrecognised)

/-- **C17.validate_first** — an empty file list or a missing file makes the *constructor* raise:
no container, nothing returned (no temporary directory either: `constructor_exact`); arguments that are fine are never refused
by the constructor; files from different directories make the execution raise, again without any
`docker.run`. -/
theorem validate_first (a : DatasetArgs) (q : QueryFacts) (fs : FsFacts) (o : Outcome) :
    ValidateFirst a fs (observe a (execute a q fs o)) := by
  by_cases hr : Runnable a q fs
  · rw [execute_runnable a q fs o hr, observe_ran]
    simp [ValidateFirst, hr.1, hr.2.1]
  · obtain ⟨_, _, _, ho⟩ := (execute_noRun a q fs o hr).observe
    simp [ValidateFirst, ho]

/-- **C17.constructor_exact** — the constructor's refusals, exactly: no file ⇒ `noFiles`
(RuntimeError); otherwise the *first* file that does not exist ⇒ `fileMissing` (FileNotFoundError);
in both cases the trace is empty (nothing was created, nothing has to be released). Valid
arguments always reach the `with TemporaryDirectory()` block. -/
theorem constructor_exact (a : DatasetArgs) (q : QueryFacts) (fs : FsFacts) (o : Outcome) :
    (paths a = [] → execute a q fs o = ([], .error .noFiles)) ∧
    (paths a ≠ [] → (¬ ∀ f ∈ paths a, fs.exists f = true) →
      ∃ f, (paths a).find? (fun f => !fs.exists f) = some f ∧ execute a q fs o = ([], .error (.fileMissing f))) ∧
    (Valid a fs → ∃ evs, (execute a q fs o).1 = .tmpCreate :: evs) := by
  refine ⟨?_, ?_, ?_⟩
  · intro h
    unfold execute; rw [construct_of_empty a fs h]
  · intro hne hm
    cases hf : (paths a).find? (fun f => !fs.exists f) with
    | none => exact absurd (fun f hfm => by simpa using List.find?_eq_none.1 hf f hfm) hm
    | some f => exact ⟨f, rfl, by unfold execute; rw [construct_of_missing a fs f hne hf]⟩
  · intro hv
    unfold execute; rw [construct_of_valid a fs hv]
    exact ⟨_, rfl⟩

/-- **C17.filelist** — whenever a container is started, the `filelist.txt` it finds next to the main
script is `/data/<name>` for every input file, one per line, in the order given. -/
theorem filelist (a : DatasetArgs) (q : QueryFacts) (fs : FsFacts) (o : Outcome) :
    FileListOk a (observe a (execute a q fs o)) := by
  intro hc
  rw [execute_runnable a q fs o (runnable_of_call hc), observe_ran]
  rfl

/-- **C17.name_has_no_slash** — the `<name>` written after `/data/` never contains a `/`: every line
of the file list points directly into the directory mounted at `/data`. -/
theorem name_has_no_slash (s : String) : '/' ∉ (parsePath s).name.toList := by
  unfold parsePath parseChars PPath.name
  generalize (splitRoot s.toList) = sr
  obtain ⟨root, rel⟩ := sr
  simp only
  cases hl : (((splitSlash rel).filter keepWord).map String.ofList).getLast? with
  | none => simp
  | some n =>
    have hmem := List.mem_of_getLast? hl
    simp only [List.mem_map, List.mem_filter] at hmem
    obtain ⟨w, ⟨hw, _⟩, rfl⟩ := hmem
    simp only [Option.getD_some, String.toList_ofList]
    exact splitSlash_no_slash rel w hw

/-- **C17.filelist_names_the_files** — on every input that gets a container: the directory
mounted at `/data` is the directory of every input file, and an input file is exactly
`<that directory>/<name>` (so `/data/<name>` inside the container *is* that file); only a path
without any component (`/`, `.`) has no such name. -/
theorem filelist_names_the_files (a : DatasetArgs) (q : QueryFacts) (fs : FsFacts) (o : Outcome)
    (c : DockerCall) (hc : c ∈ (observe a (execute a q fs o)).calls) :
    ∃ dir, (⟨.path dir, "/data/", some "ro"⟩ : Volume) ∈ c.volumes ∧
      ∀ f ∈ paths a, f.parent = dir ∧ (f.parts ≠ [] → dir.child f.name = f) := by
  obtain ⟨hr, rfl⟩ := call_of_mem hc
  refine ⟨((paths a).head hr.1.1).parent, by simp [mkCall, mkCallT, volumesFor], ?_⟩
  intro f hf
  have hfu := hr.2.1 f hf _ (List.head_mem hr.1.1)
  refine ⟨hfu, fun hne => ?_⟩
  rw [← hfu]
  obtain ⟨root, parts⟩ := f
  simp only [PPath.parent, PPath.child, PPath.name, PPath.mk.injEq, true_and]
  simp only at hne
  rw [List.getLast?_eq_some_getLast hne]
  simpa using List.dropLast_concat_getLast hne

/-- **C17.image** — every container is started on the image the innermost `docker` metadata entry
names (`md[-1]` of `extract_metadata`'s outermost-first list); when that entry has no `image` key,
or the query has no such entry, on the dataset's `image:tag` (explicit arguments or the backend's
defaults from the generated table). -/
theorem image (a : DatasetArgs) (q : QueryFacts) (fs : FsFacts) (o : Outcome) :
    ImageOk a q (observe a (execute a q fs o)) := by
  intro c hc
  obtain ⟨_, rfl⟩ := call_of_mem hc
  exact chooseImage_eq _ _

/-- **C17.image_default_without_docker_md** — metadata of other kinds never changes the image; with
no `docker` entry the container runs `image:tag`, which is `<default image>:<default tag>` of the
backend when the caller gave neither. -/
theorem image_default_without_docker_md (a : DatasetArgs) (q : QueryFacts) (fs : FsFacts) (o : Outcome)
    (hno : ∀ m ∈ q.mds, m.isDocker = false) :
    ∀ c ∈ (observe a (execute a q fs o)).calls,
      c.image = a.image.getD a.row.defaultImage ++ ":" ++ a.tag.getD a.row.defaultTag := by
  intro c hc
  have hnone : q.mds.find? MdEntry.isDocker = none :=
    List.find?_eq_none.2 fun m hm => by simp [hno m hm]
  rw [image a q fs o c hc, expectedImage, hnone]
  rfl

theorem strip_scripts : stripSlash "/scripts" = "/scripts" := by decide +kernel
theorem strip_results : stripSlash "/results" = "/results" := by decide +kernel
theorem strip_data : stripSlash "/data/" = "/data" := by decide +kernel

theorem canon_volumesFor (row : BackendRow) (dir : PPath) :
    (volumesFor row dir).map Volume.canon = expectedVolumes row dir := by
  unfold volumesFor expectedVolumes
  simp [Volume.canon, cacheVolume, strip_scripts, strip_results, strip_data]

theorem mounts_volumesFor (row : BackendRow) (dir : PPath) :
    (volumesFor row dir).map (fun v => stripSlash v.mount) =
      ["/scripts", "/results", "/data"] ++ row.cacheVolumes.map fun v => stripSlash v.2 := by
  unfold volumesFor
  simp [cacheVolume, strip_scripts, strip_results, strip_data]

/-- **C17.volumes** — every container gets: the package directory read-only at `/scripts` and
writable at `/results`, the directory of the input files read-only at `/data`, and the docker
volumes `func_adl_<name>` the backend's `docker_cache_volume()` lists (generated table) at their
mount points — nothing else, and no two at the same mount point.
Hypothesis on the backend row (decidable, proved for the generated table in
`generated_backends_wellformed`): its cache mount points differ from each other and from
`/scripts`, `/results`, `/data` — otherwise a cache volume would shadow the package or the data. -/
theorem volumes (a : DatasetArgs) (q : QueryFacts) (fs : FsFacts) (o : Outcome) (hm : RowMounts a.row) :
    VolumesOk a (observe a (execute a q fs o)) := by
  intro c hc
  obtain ⟨hr, rfl⟩ := call_of_mem hc
  constructor
  · unfold volumesMatch
    rw [List.head?_eq_some_head hr.1.1]
    simp only [mkCall, mkCallT, mkDataset, canon_volumesFor]
    exact ⟨rfl, fun _ h => h, fun _ h => h⟩
  · unfold MountsDistinct
    simp only [mkCall, mkCallT, mkDataset, mounts_volumesFor]
    exact hm

/-- **C17.call_exactly_when_runnable** — `docker.run` is called at most once, and exactly on the
inputs that are valid, share a directory and translate; its command is the package's main script
`/scripts/<runner>`; at that moment the complete package (every file of the executor, the main
script among them, and the file list) is in the run directory, which still exists.
Hypothesis on the backend row (decidable, proved for the generated table in
`generated_backends_wellformed`): the main script is one of the package's files. -/
theorem call_exactly_when_runnable (a : DatasetArgs) (q : QueryFacts) (fs : FsFacts) (o : Outcome)
    (hrow : a.row.runner ∈ a.row.fileNames) :
    CallOk a q fs (observe a (execute a q fs o)) := by
  by_cases hr : Runnable a q fs
  · rw [execute_runnable a q fs o hr, observe_ran]
    simp [CallOk, hr, hrow, mkCall, mkCallT, mkDataset]
  · obtain ⟨_, _, _, ho⟩ := (execute_noRun a q fs o hr).observe
    simp [CallOk, ho, hr]

/-- **C17.plan_is_the_call** — `plan` (constructor validation, translation, same-directory check,
image choice, volume list) decides the run: when it yields a call, that call is the one and only
`docker.run`; when it yields an error, no container is started and that error is the result. -/
theorem plan_is_the_call (a : DatasetArgs) (q : QueryFacts) (fs : FsFacts) (o : Outcome) :
    (∀ c, plan a q fs = .ok c → (observe a (execute a q fs o)).calls = [c]) ∧
    (∀ e, plan a q fs = .error e →
      (observe a (execute a q fs o)).calls = [] ∧ (execute a q fs o).2 = .error e) := by
  by_cases hr : Runnable a q fs
  · rw [plan_runnable a q fs hr, execute_runnable a q fs o hr, observe_ran]
    exact ⟨fun c hc => by cases hc; rfl, fun e he => nomatch he⟩
  · obtain ⟨e, hp, he, ho⟩ := (execute_noRun a q fs o hr).observe
    rw [hp, ho]
    exact ⟨fun c hc => (nomatch hc), fun e' he' => by cases he'; exact ⟨rfl, he⟩⟩

/-- **C17.failure_propagates** — if a container was started and it fails (the stream ends in a
`DockerException` or any other exception, raised by `docker.run` itself or after any number of
chunks), the caller gets an exception: nothing is returned, nothing is copied. -/
theorem failure_propagates (a : DatasetArgs) (q : QueryFacts) (fs : FsFacts) (o : Outcome) :
    FailurePropagates o (observe a (execute a q fs o)) := by
  intro hc hne
  obtain ⟨e, he, _⟩ := finish_of_failure (mkDataset a fs) fs o hne
  rw [execute_runnable a q fs o (runnable_of_call hc), he, observe_ran]
  exact ⟨rfl, rfl, rfl⟩

/-- **C17.failure_class** — the exception that arrives is the container's own: `DockerException`
re-raised after logging, any other exception untouched — whatever the container printed (chunks
are decoded with `errors='replace'`, which cannot raise). -/
theorem failure_class (a : DatasetArgs) (q : QueryFacts) (fs : FsFacts) (o : Outcome) :
    FailureClass o (observe a (execute a q fs o)) := by
  intro hc hne
  obtain ⟨e, he, hcls⟩ := finish_of_failure (mkDataset a fs) fs o hne
  rw [execute_runnable a q fs o (runnable_of_call hc), he, observe_ran, ← hcls]

/-- **C17.missing_result** — a container that was started and does not leave the result file in
`/results` means an exception for the caller (`FileNotFoundError` from the copy when the stream
ended well), never a returned path. -/
theorem missing_result (a : DatasetArgs) (q : QueryFacts) (fs : FsFacts) (o : Outcome) :
    MissingResult o (observe a (execute a q fs o)) := by
  intro hc hmiss
  rw [execute_runnable a q fs o (runnable_of_call hc), observe_ran]
  cases hf : finish (mkDataset a fs) fs o with
  | ok p => rw [((finish_eq_ok _ _ _ _).1 hf).2.1] at hmiss; cases hmiss
  | error e => exact ⟨rfl, rfl, rfl⟩

/-- **C17.success_returns** — valid files in one directory, a query that translates, a container
that ends well and leaves its result, an existing output directory: the caller gets exactly
`[<output directory or temp root>/<result file>]` and that file is the copy of the container's
result — whatever the container printed. -/
theorem success_returns (a : DatasetArgs) (q : QueryFacts) (fs : FsFacts) (o : Outcome) :
    SuccessReturns a q fs o (observe a (execute a q fs o)) := by
  intro hr hend hres hout
  rw [execute_runnable a q fs o hr, (finish_eq_ok _ _ _ _).2 ⟨hend, hres, hout, rfl⟩, observe_ran]
  exact ⟨rfl, rfl, rfl⟩

/-- **C17.returns_only_on_success** — a path is returned only when everything went well: valid
files in one directory, the query translated, a container ran and ended well, its result file was
there and the output directory existed. No half results. -/
theorem returns_only_on_success (a : DatasetArgs) (q : QueryFacts) (fs : FsFacts) (o : Outcome) :
    ReturnsOnlyOnSuccess a q fs o (observe a (execute a q fs o)) := by
  intro hret
  by_cases hr : Runnable a q fs
  · rw [execute_runnable a q fs o hr, observe_ran] at hret ⊢
    cases hf : finish (mkDataset a fs) fs o with
    | error e => rw [hf] at hret; exact absurd rfl hret
    | ok p =>
      obtain ⟨hend, hres, hout, _⟩ := (finish_eq_ok _ _ _ _).1 hf
      exact ⟨hr, hend, hres, hout, rfl, List.cons_ne_nil _ _⟩
  · obtain ⟨_, _, _, ho⟩ := (execute_noRun a q fs o hr).observe
    exact absurd (by rw [ho]) hret

/-- **C17.result_is_plan_then_finish** — the `plan` / `finish` decomposition of the plan table in DESIGN.md §4: the caller's result is `plan`'s
error when planning fails (constructor validation, translation, same-directory check), and
otherwise `finish` applied to the container's outcome (stream, then result extraction). -/
theorem result_is_plan_then_finish (a : DatasetArgs) (q : QueryFacts) (fs : FsFacts) (o : Outcome) :
    (execute a q fs o).2 = match plan a q fs with
      | .error e => .error e
      | .ok _ => finish (mkDataset a fs) fs o := by
  by_cases hr : Runnable a q fs
  · rw [plan_runnable a q fs hr, execute_runnable a q fs o hr]
  · obtain ⟨e, hp, he, _⟩ := (execute_noRun a q fs o hr).observe
    rw [hp, he]

/-- **C17.pulled_count** — the whole stream is read before anything else happens: all `k` chunks
when the container fails after chunk `k` (or succeeds), none when `docker.run` itself raises. -/
theorem pulled_count (a : DatasetArgs) (q : QueryFacts) (fs : FsFacts) (o : Outcome)
    (hcall : (observe a (execute a q fs o)).calls ≠ []) :
    (observe a (execute a q fs o)).pulled =
      if o.atCall = true ∧ o.ending ≠ .success then 0 else o.chunks.length := by
  rw [execute_runnable a q fs o (runnable_of_call hcall), observe_ran, runContainer_fst]

/-- **C17.output_content_irrelevant** — what the container prints never changes what the caller
gets: two outcomes with the same number of chunks, the same ending and the same result file lead
to the same events and the same result, whatever bytes the chunks hold (valid UTF-8 or not, on
stdout or stderr). This is the regression statement for the repaired `UnicodeDecodeError`. -/
theorem output_content_irrelevant (a : DatasetArgs) (q : QueryFacts) (fs : FsFacts) (o o' : Outcome)
    (hl : o.chunks.length = o'.chunks.length) (he : o.ending = o'.ending) (ha : o.atCall = o'.atCall)
    (hr : o.resultPresent = o'.resultPresent) : execute a q fs o = execute a q fs o' := by
  have h1 : runContainer o = runContainer o' := by unfold runContainer; rw [hl, he, ha]
  have h2 : ∀ ds, deliver ds fs o = deliver ds fs o' := by intro ds; unfold deliver; rw [hr]
  have h3 : ∀ ds, body ds q fs o = body ds q fs o' := by intro ds; unfold body bodyT; simp only [h1, h2]
  unfold execute
  cases construct a fs with
  | error e => rfl
  | ok ds => simp only [h3]

/-- **C17.tempdir_released** — after every execution (refused, untranslatable, different
directories, container failed at any point, result missing, output directory missing, success) no
temporary directory is left; and package generation, file list, `docker.run` and the copy all
happen while it exists. (`TemporaryDirectory`'s own contract — removal on every exit of the `with`
block — is trusted; the harness counts leftovers on the real code in every case.) -/
theorem tempdir_released (a : DatasetArgs) (q : QueryFacts) (fs : FsFacts) (o : Outcome) :
    TempReleased (observe a (execute a q fs o)) ∧ (observe a (execute a q fs o)).runDirLive = true := by
  by_cases hr : Runnable a q fs
  · rw [execute_runnable a q fs o hr, observe_ran]
    exact ⟨rfl, rfl⟩
  · obtain ⟨_, _, _, ho⟩ := (execute_noRun a q fs o hr).observe
    rw [ho]; exact ⟨rfl, rfl⟩

/-- **C17.machine** — the four-state machine `validated → packaged → ran → delivered`: a refused
constructor leaves no event at all; otherwise the events are `tmpCreate`, then the first `k` of
`package, filelist, run, pulled, copy` in this order, then `tmpRemove` — with `k = 0` exactly when
the query does not translate (left `validated`), `k = 2` only when the files are in different
directories (package written, no container), `k = 4` when the container ran but nothing was
delivered, and `k = 5` exactly when a path is returned (`delivered`). -/
theorem machine (a : DatasetArgs) (q : QueryFacts) (fs : FsFacts) (o : Outcome) :
    (¬ Valid a fs ∧ (execute a q fs o).1 = [] ∧ ∃ e, (execute a q fs o).2 = .error e) ∨
    (Valid a fs ∧ ∃ k, (execute a q fs o).1.map Ev.kind = .tmpCreate :: steps.take k ++ [.tmpRemove] ∧
      (k = 0 ∨ k = 2 ∨ k = 4 ∨ k = 5) ∧ (k = 0 ↔ q.translates = false) ∧ (k = 2 → ¬ SameDir a) ∧
      (4 ≤ k ↔ Runnable a q fs) ∧ ((∃ p, (execute a q fs o).2 = .ok p) ↔ k = 5)) := by
  by_cases hr : Runnable a q fs
  · rw [execute_runnable a q fs o hr]
    refine Or.inr ⟨hr.1, ?_⟩
    cases finish (mkDataset a fs) fs o with
    | error e => exact ⟨4, by simp [Ev.kind, steps, copyEv], by simp [hr, hr.2.2]⟩
    | ok p => exact ⟨5, by simp [Ev.kind, steps, copyEv], by simp [hr, hr.2.2]⟩
  · have h := execute_noRun a q fs o hr
    generalize execute a q fs o = r at h
    cases h with
    | refused e hv => exact Or.inl ⟨hv, rfl, e, rfl⟩
    | untranslatable hv ht => exact Or.inr ⟨hv, 0, by simp [Ev.kind, steps], by simp [ht, hr]⟩
    | differentDirs hv ht hs ls => exact Or.inr ⟨hv, 2, by simp [Ev.kind, steps], by simp [ht, hs, hr]⟩

/-- **C17.spec_holds** — the whole specification holds of every execution. The two hypotheses are
decidable sanity conditions on the backend row (main script in its package, cache mount points
distinct), both proved of the generated table (`generated_backends_wellformed`, `spec_generated`). -/
theorem spec_holds (a : DatasetArgs) (q : QueryFacts) (fs : FsFacts) (o : Outcome)
    (hrow : a.row.runner ∈ a.row.fileNames) (hm : RowMounts a.row) :
    Spec a q fs o (observe a (execute a q fs o)) :=
  ⟨validate_first a q fs o, filelist a q fs o, image a q fs o, volumes a q fs o hm,
   call_exactly_when_runnable a q fs o hrow, failure_propagates a q fs o,
   failure_class a q fs o, missing_result a q fs o,
   success_returns a q fs o, returns_only_on_success a q fs o, (tempdir_released a q fs o).1⟩

/-- the state shared between executors never reaches the result: every step overwrites the
`"docker"` template with its own dataset's image before using it -/
theorem step_ignores_shared_state (s : Shared) (ds : Dataset) (q : QueryFacts) (fs : FsFacts) (o : Outcome) :
    (stepIn s ds q fs o).2 = (.tmpCreate :: (body ds q fs o).1 ++ [.tmpRemove], (body ds q fs o).2) := rfl

theorem runSeq_eq (s : Shared) (ds : Dataset) (fs : FsFacts) (steps : List (QueryFacts × Outcome)) :
    runSeq s ds fs steps =
      steps.map fun st => (.tmpCreate :: (body ds st.1 fs st.2).1 ++ [.tmpRemove], (body ds st.1 fs st.2).2) := by
  induction steps generalizing s with
  | nil => rfl
  | cons st rest ih =>
    obtain ⟨q, o⟩ := st
    simp only [runSeq, List.map_cons, step_ignores_shared_state, ih]

/-- **C17.sequence_independent** — any number of executions on ONE dataset object, started in ANY
shared state (whatever earlier datasets and queries left behind): the i-th execution is exactly
the single execution of the i-th query with the i-th container outcome. Nothing — image, file
list, volumes, result — depends on the executions before it. -/
theorem sequence_independent (s : Shared) (a : DatasetArgs) (fs : FsFacts) (steps : List (QueryFacts × Outcome))
    (hv : Valid a fs) :
    executeSeq s a fs steps = .ok (steps.map fun st => execute a st.1 fs st.2) := by
  unfold executeSeq execute
  rw [construct_of_valid a fs hv]
  simp only [runSeq_eq]

theorem sequence_refused (s : Shared) (a : DatasetArgs) (fs : FsFacts) (steps : List (QueryFacts × Outcome))
    (hv : ¬ Valid a fs) : ∃ e, executeSeq s a fs steps = .error e ∧ construct a fs = .error e := by
  unfold executeSeq
  cases hc : construct a fs with
  | error e => exact ⟨e, rfl, rfl⟩
  | ok ds => exact absurd (construct_ok_valid a fs ds hc).1 hv

theorem spec_sequence_obs (s : Shared) (a : DatasetArgs) (fs : FsFacts) (steps : List (QueryFacts × Outcome))
    (hv : Valid a fs) :
    observeSeq s a fs steps = steps.map (fun st => observe a (execute a st.1 fs st.2)) := by
  unfold observeSeq
  rw [sequence_independent s a fs steps hv]
  simp only [List.map_map]
  rfl

/-- **C17.spec_sequence** — the whole specification holds of EVERY execution of a sequence on one
dataset object, each judged with its own query and its own container outcome: in particular the
image of execution i is the one chosen by query i's docker metadata, else the dataset's
`image:tag`, whatever images earlier queries asked for. -/
theorem spec_sequence (s : Shared) (a : DatasetArgs) (fs : FsFacts) (steps : List (QueryFacts × Outcome))
    (hv : Valid a fs) (hrow : a.row.runner ∈ a.row.fileNames) (hm : RowMounts a.row) :
    observeSeq s a fs steps = steps.map (fun st => observe a (execute a st.1 fs st.2)) ∧
    ∀ st ∈ steps, Spec a st.1 fs st.2 (observe a (execute a st.1 fs st.2)) :=
  ⟨spec_sequence_obs s a fs steps hv, fun st _ => spec_holds a st.1 fs st.2 hrow hm⟩

/-- **C17.image_sequence** — spelled out for the image: in a sequence, every container of execution
i runs `expectedImage a qᵢ`. -/
theorem image_sequence (s : Shared) (a : DatasetArgs) (fs : FsFacts) (steps : List (QueryFacts × Outcome))
    (hv : Valid a fs) (i : Nat) (hi : i < steps.length) :
    ∃ ob, (observeSeq s a fs steps)[i]? = some ob ∧ ∀ c ∈ ob.calls, c.image = expectedImage a steps[i].1 := by
  rw [(spec_sequence_obs s a fs steps hv)]
  refine ⟨observe a (execute a steps[i].1 fs steps[i].2), by simp [hi], image a _ fs _⟩

/-- **C17.generated_recognised** — the translator understood everything it read in the three
`local_dataset.py`, their executors, their `runner.sh` and the two common files. -/
theorem generated_recognised : unrecognised = [] := by decide

/-- **C17.generated_backends_wellformed** — the three backends are there, each dataset class
with its own executor, and each row is consistent across files: main script in the package; the
script's result file is the one the translator reports (`ANALYSIS.root`) and lands in `/results`;
it reads `filelist.txt`; cache volumes are mounted at absolute paths away from `/scripts`,
`/results`, `/data`, and the ATLAS script's calibration cache directory is one of them. -/
theorem generated_backends_wellformed :
    backends.map (fun r => (r.key, r.datasetClass, r.executorClass)) =
      [("atlas", "xAODDataset", "atlas_xaod_executor"), ("cms_aod", "CMSRun1AODDataset", "cms_aod_executor"),
       ("cms_miniaod", "CMSRun2miniAODDataset", "cms_miniaod_executor")] ∧
    ∀ r ∈ backends, RowOk r := by decide +kernel

/-- **C17.spec_generated** — the specification, unconditionally, for the three real backends. -/
theorem spec_generated (a : DatasetArgs) (q : QueryFacts) (fs : FsFacts) (o : Outcome)
    (ha : a.row ∈ backends) : Spec a q fs o (observe a (execute a q fs o)) :=
  spec_holds a q fs o (generated_backends_wellformed.2 a.row ha).1 (generated_backends_wellformed.2 a.row ha).2.1

def exRow : BackendRow :=
  { key := "ex", datasetClass := "ExDataset", defaultImage := "ex/image", defaultTag := "1.0",
    cacheVolumes := [("ex_cache", "/ex_cache")], executorClass := "ex_executor", runner := "runner.sh",
    fileNames := ["query.cxx", "runner.sh"], templateDir := "t", runnerResultName := "ANALYSIS.root",
    runnerOutputDir := "/results", runnerFilelist := "filelist.txt", runnerCacheDirs := [] }

def exArgs : DatasetArgs :=
  { row := exRow, files := ["/d/a.root", "/d//b.root"], image := none, tag := none, outputDir := some "/out" }
def exFs : FsFacts :=
  { existing := [parsePath "/d/a.root", parsePath "/d/b.root", parsePath "/e/c.root"], tempRoot := "/tmp", outDirExists := true }
def exQ : QueryFacts := { mds := [.other, .docker (some "inner:1"), .docker (some "outer:2")], translates := true }
/-- two chunks ("ok\n" on stdout, "é" on stderr), success, result written -/
def exGood : Outcome :=
  { chunks := [⟨true, [111, 107, 10]⟩, ⟨false, [0xC3, 0xA9]⟩], ending := .success, atCall := false, resultPresent := true }
/-- the container prints `caf\xe9\n` (Latin-1, not UTF-8), ends well and leaves its result -/
def exLatin1 : Outcome :=
  { chunks := [⟨true, [99, 97, 102, 0xE9, 10]⟩], ending := .success, atCall := false, resultPresent := true }
/-- the same output, but the container then fails -/
def exLatin1Fail : Outcome := { exLatin1 with ending := .dockerError }

def exDs : Dataset :=
  { row := exRow, files := [⟨"/", ["d", "a.root"]⟩, ⟨"/", ["d", "b.root"]⟩], image := "ex/image:1.0", outDir := ⟨"/", ["out"]⟩ }

theorem exDs_eq : mkDataset exArgs exFs = exDs := by
  simp only [mkDataset, paths, exArgs, List.map, Option.getD_some]
  repeat rw [parsePath_ofList]
  rfl

theorem exPaths : paths exArgs = exDs.files := congrArg Dataset.files exDs_eq

theorem exFs_existing : exFs.existing = [⟨"/", ["d", "a.root"]⟩, ⟨"/", ["d", "b.root"]⟩, ⟨"/", ["e", "c.root"]⟩] := by
  simp only [exFs]
  repeat rw [parsePath_ofList]
  decide +kernel

theorem exRunnable (mds : List MdEntry) : Runnable exArgs ⟨mds, true⟩ exFs := by
  simp only [Runnable, Valid, SameDir, exPaths, FsFacts.exists, exFs_existing]
  decide +kernel

/-- The trace of the example arguments for every docker metadata and every container outcome, with
the paths parsed and the strings put together once: the examples read their answers off it. -/
theorem ex_execute (mds : List MdEntry) (o : Outcome) :
    execute exArgs ⟨mds, true⟩ exFs o =
      (.tmpCreate :: .package ["query.cxx", "runner.sh"] :: .filelist ["/data/a.root", "/data/b.root"] ::
        .run { image := chooseImage "ex/image:1.0" mds, command := ["/scripts/runner.sh"],
               volumes := [⟨.runDir, "/scripts", some "ro"⟩, ⟨.runDir, "/results", some "rw"⟩,
                 ⟨.path ⟨"/", ["d"]⟩, "/data/", some "ro"⟩, ⟨.named "func_adl_ex_cache", "/ex_cache", none⟩],
               remove := true, stream := true } ::
        .pulled (runContainer o).1 :: (copyEv (finish exDs exFs o) ++ [.tmpRemove]), finish exDs exFs o) := by
  rw [execute_runnable _ _ _ _ (exRunnable mds)]
  simp only [exPaths, exDs_eq]
  rfl

-- the two inputs of the `UnicodeDecodeError` defect: undecodable output changes nothing
example : (observe exArgs (execute exArgs exQ exFs exLatin1)).returned = ["/out/ANALYSIS.root"] ∧
    (observe exArgs (execute exArgs exQ exFs exLatin1)).err = none := by rw [exQ, ex_execute]; decide +kernel
example : (observe exArgs (execute exArgs exQ exFs exLatin1Fail)).err = some "DockerException" := by
  rw [exQ, ex_execute]; decide +kernel

-- non-vacuity: the row hypotheses are satisfiable and the success path is real
example : exRow.runner ∈ exRow.fileNames ∧ RowMounts exRow ∧ Runnable exArgs exQ exFs :=
  ⟨by decide +kernel, by decide +kernel, exRunnable _⟩
example : (observe exArgs (execute exArgs exQ exFs exGood)).returned = ["/out/ANALYSIS.root"] := by
  rw [exQ, ex_execute]; decide +kernel
example : ((observe exArgs (execute exArgs exQ exFs exGood)).calls.map (·.image)) = ["inner:1"] := by
  rw [exQ, ex_execute]; decide +kernel
example : (observe exArgs (execute exArgs exQ exFs exGood)).seenFilelist = some "/data/a.root\n/data/b.root\n" := by
  rw [exQ, ex_execute]; decide +kernel
example : (execute exArgs exQ exFs exGood).1.map Ev.kind =
    [.tmpCreate, .package, .filelist, .run, .pulled, .copy, .tmpRemove] := by rw [exQ, ex_execute]; decide +kernel
example : ¬ SameDir { exArgs with files := ["/d/a.root", "/e/c.root"] } ∧
    (execute { exArgs with files := ["/d/a.root", "/e/c.root"] } exQ exFs exGood).1.map Ev.kind =
      [.tmpCreate, .package, .filelist, .tmpRemove] := by decide +kernel
example : (execute { exArgs with files := ["/d/a.root", "/d/nope.root"] } exQ exFs exGood).1 = [] := by decide +kernel
example : ¬ Valid { exArgs with files := [] } exFs := by decide
-- a sequence on one dataset object: docker metadata, then none (after a failing container in between): the third
-- execution runs the dataset's own image again
example : ((observeSeq ⟨some "left/behind:0"⟩ exArgs exFs
      [(exQ, exGood), (⟨[.docker (some "x:1")], true⟩, exLatin1Fail), (⟨[], true⟩, exGood)]).map
        fun ob => ob.calls.map (·.image)) = [["inner:1"], ["x:1"], ["ex/image:1.0"]] := by
  rw [spec_sequence_obs _ _ _ _ (exRunnable []).1]
  simp only [List.map, exQ, ex_execute]
  decide +kernel
example : (observe exArgs (execute exArgs exQ exFs { exGood with ending := .dockerError })).err = some "DockerException" := by
  rw [exQ, ex_execute]; decide +kernel
example : ∀ r ∈ backends, r.runner ∈ r.fileNames := fun r hr => (generated_backends_wellformed.2 r hr).1

end FaxVerif.C17
