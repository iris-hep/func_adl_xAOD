/-
C17 — model of local docker execution:
  `func_adl_xAOD.common.local_dataset.LocalDataset.__init__` / `.execute_result_async`,
  `_extract_result_TTree`, the three backend subclasses (through the GENERATED per-backend table)
  and the image override of `common/executor.py` (`add_extended_md` / `extended_md`).

What is abstracted: the generated package's *content* (C02/C14/C16 own it) — here it is only the
list of file names the executor writes; the file system is the finite `FsFacts`; the container is
the scripted `Outcome`; `tempfile.TemporaryDirectory` is the pair of events `tmpCreate`/`tmpRemove`.
No Mathlib; everything is computable and is what the driver runs.
-/
import FaxVerif.Generated.C17Backends
namespace FaxVerif.C17
open FaxVerif.Generated.C17 (BackendRow volumePrefix resultFileName)

/-! ## `pathlib.PurePosixPath` (Python 3.12 `_parse_path` / `posixpath.splitroot`) -/

/-- A parsed path: `root` is `""`, `"/"` or `"//"`; `parts` has no empty and no `"."` entry. -/
structure PPath where
  root : String
  parts : List String
deriving DecidableEq, Repr, Inhabited

/-- `rel.split('/')` on a list of characters (always returns at least one word). -/
def splitSlash : List Char → List (List Char)
  | [] => [[]]
  | c :: cs =>
    if c = '/' then [] :: splitSlash cs
    else match splitSlash cs with
      | [] => [[c]]
      | w :: ws => (c :: w) :: ws

/-- `posixpath.splitroot`: exactly two leading slashes are kept as the root `//`. -/
def splitRoot : List Char → String × List Char
  | '/' :: '/' :: '/' :: rest => ("/", '/' :: '/' :: rest)
  | '/' :: '/' :: rest => ("//", rest)
  | '/' :: rest => ("/", rest)
  | cs => ("", cs)

def keepWord (w : List Char) : Bool := !(w == [] || w == ['.'])

def parseChars (cs : List Char) : PPath :=
  let (root, rel) := splitRoot cs
  ⟨root, ((splitSlash rel).filter keepWord).map String.ofList⟩

/-- `Path(s)` -/
def parsePath (s : String) : PPath := parseChars s.toList

/-- `p.name` -/
def PPath.name (p : PPath) : String := p.parts.getLast?.getD ""

/-- `p.parent` (a path without parts is its own parent) -/
def PPath.parent (p : PPath) : PPath := ⟨p.root, p.parts.dropLast⟩

/-- `p / n` for a plain file name `n` -/
def PPath.child (p : PPath) (n : String) : PPath := ⟨p.root, p.parts ++ [n]⟩

/-- `str(p)` -/
def PPath.render (p : PPath) : String :=
  if p.root == "" && p.parts.isEmpty then "." else p.root ++ "/".intercalate p.parts

/-! ## inputs -/

/-- What is known about the file system: which (parsed) paths exist, where `tempfile.gettempdir()`
points, and whether the effective output directory exists (`shutil.copy` needs it). -/
structure FsFacts where
  existing : List PPath
  tempRoot : String
  outDirExists : Bool
deriving Repr

def FsFacts.exists (fs : FsFacts) (p : PPath) : Bool := decide (p ∈ fs.existing)

/-- Arguments of `xAODDataset(...)`, `CMSRun1AODDataset(...)`, `CMSRun2miniAODDataset(...)`;
`row` is the backend's line of the generated table; `none` = the subclass's default. -/
structure DatasetArgs where
  row : BackendRow
  files : List String
  image : Option String
  tag : Option String
  outputDir : Option String
deriving Repr

/-- One `.MetaData({...})` of the query, as far as this property cares: a `docker` entry (with or
without an `image` key) or any other entry the executor accepts. -/
inductive MdEntry where
  | docker (image : Option String)
  | other
deriving DecidableEq, Repr

def MdEntry.isDocker : MdEntry → Bool
  | .docker _ => true
  | .other => false

/-- The query: its metadata in the order the `.MetaData` calls were *applied* (innermost first) and
whether `apply_ast_transformations` + `write_cpp_files` accept it. -/
structure QueryFacts where
  mds : List MdEntry
  translates : Bool
deriving Repr

inductive Ending where
  | success | dockerError | otherError
deriving DecidableEq, Repr

/-- One `(stream_type, stream_content)` item of the output stream. -/
structure Chunk where
  stdout : Bool
  bytes : List Nat
deriving DecidableEq, Repr

/-- Scripted behaviour of the container: the chunks it prints, how the stream ends (`atCall`: the
failure is raised by `docker.run(...)` itself, before any chunk), and whether it leaves the result
file in `/results`. -/
structure Outcome where
  chunks : List Chunk
  ending : Ending
  atCall : Bool
  resultPresent : Bool
deriving Repr

/-! ## outputs -/

inductive Err where
  | noFiles                    -- RuntimeError          (constructor)
  | fileMissing (f : PPath)    -- FileNotFoundError     (constructor)
  | translate                  -- whatever the translator raises
  | differentDirs              -- RuntimeError          (before any container starts)
  | docker                     -- DockerException       (logged, re-raised)
  | containerOther             -- any other exception of the container machinery
  | resultMissing              -- FileNotFoundError     (`shutil.copy` source)
  | outDirMissing              -- FileNotFoundError     (`shutil.copy` destination)
deriving DecidableEq, Repr

inductive VolSrc where
  | runDir                 -- the temporary directory holding the package
  | path (p : PPath)
  | named (n : String)     -- a docker volume
deriving DecidableEq, Repr

/-- One entry of `volumes=`: `(source, mount point[, mode])`. -/
structure Volume where
  src : VolSrc
  mount : String
  mode : Option String
deriving DecidableEq, Repr

/-- The recorded `docker.run(image, command, volumes=…, remove=…, stream=…)`. -/
structure DockerCall where
  image : String
  command : List String
  volumes : List Volume
  remove : Bool
  stream : Bool
deriving DecidableEq, Repr

/-- Observable steps of one execution, in order. -/
inductive Ev where
  | tmpCreate                          -- `with tempfile.TemporaryDirectory()` entered
  | package (files : List String)      -- `write_cpp_files` wrote these into the run directory
  | filelist (lines : List String)     -- lines written to `filelist.txt` (each ends in a newline in the file)
  | run (c : DockerCall)               -- `docker.run(...)`
  | pulled (n : Nat)                   -- chunks taken from the output stream
  | copy (dst : PPath)                 -- result file copied to `dst`
  | tmpRemove                          -- the `with` block left: directory removed
deriving DecidableEq, Repr

/-! ## the constructor (`validated`) -/

/-- What `__init__` leaves in the object. -/
structure Dataset where
  row : BackendRow
  files : List PPath
  image : String
  outDir : PPath
deriving Repr

def dsImage (a : DatasetArgs) : String :=
  a.image.getD a.row.defaultImage ++ ":" ++ a.tag.getD a.row.defaultTag

def construct (a : DatasetArgs) (fs : FsFacts) : Except Err Dataset :=
  let files := a.files.map parsePath
  if files.isEmpty then .error .noFiles
  else match files.find? (fun f => !fs.exists f) with
    | some f => .error (.fileMissing f)
    | none => .ok { row := a.row, files := files, image := dsImage a,
                    outDir := parsePath (a.outputDir.getD fs.tempRoot) }

/-! ## package, file list, image, volumes (`packaged`) -/

/-- `process_metadata` copies the template `DockerImageSpecification(self._docker_image)` for every
`docker` entry and overwrites `image` when the entry has that key. -/
def mdImage (dsImg : String) : MdEntry → Option String
  | .docker (some i) => some i
  | .docker none => some dsImg
  | .other => none

/-- `extract_metadata` lists the entries outermost first, i.e. in reverse order of application;
`apply_ast_transformations` keeps that order in `_found_extended_md["docker"]`. -/
def foundDocker (dsImg : String) (mds : List MdEntry) : List String :=
  mds.reverse.filterMap (mdImage dsImg)

/-- `docker_image = self._docker_image; md = exe.extended_md("docker"); if len(md) > 0: md[-1].image`,
with the template `DockerImageSpecification` the executor holds under the key `"docker"` made
explicit (`tpl`): an entry without `image` key inherits the template's image. -/
def chooseImageT (dsImg tpl : String) (mds : List MdEntry) : String :=
  (foundDocker tpl mds).getLast?.getD dsImg

/-- … in one execution the template is the dataset's own `image:tag` (`add_extended_md` has just
put it there). -/
def chooseImage (dsImg : String) (mds : List MdEntry) : String := chooseImageT dsImg dsImg mds

/-- The loop over `self.files`: one line per file until a file from another directory is met
(the line of the offending file is written before the check). Returns the lines and the
directory, or the lines written so far. -/
def walkFiles (dir : PPath) : List PPath → List String × Bool
  | [] => ([], true)
  | u :: us =>
    let line := "/data/" ++ u.name
    if u.parent = dir then
      let (ls, ok) := walkFiles dir us
      (line :: ls, ok)
    else ([line], false)

def fileLines (files : List PPath) : List String := files.map fun u => "/data/" ++ u.name

def cacheVolume (v : String × String) : Volume := ⟨.named (volumePrefix ++ v.1), v.2, none⟩

def volumesFor (row : BackendRow) (dir : PPath) : List Volume :=
  [⟨.runDir, "/scripts", some "ro"⟩, ⟨.runDir, "/results", some "rw"⟩, ⟨.path dir, "/data/", some "ro"⟩]
    ++ row.cacheVolumes.map cacheVolume

def mkCallT (ds : Dataset) (tpl : String) (q : QueryFacts) (dir : PPath) : DockerCall :=
  { image := chooseImageT ds.image tpl q.mds,
    command := ["/scripts/" ++ ds.row.runner],
    volumes := volumesFor ds.row dir,
    remove := true, stream := true }

def mkCall (ds : Dataset) (q : QueryFacts) (dir : PPath) : DockerCall := mkCallT ds ds.image q dir

/-- Everything up to (not including) `docker.run`: the events and either the call to make or the
error. `tpl` is the image of the executor's `"docker"` template at that moment. -/
def prepareT (ds : Dataset) (tpl : String) (q : QueryFacts) : List Ev × Except Err DockerCall :=
  if !q.translates then ([], .error .translate)
  else match ds.files with
    | [] => ([.package ds.row.fileNames, .filelist []], .error .noFiles)   -- unreachable: `construct_ok_valid`
    | u :: us =>
      let (ls, ok) := walkFiles u.parent (u :: us)
      if ok then ([.package ds.row.fileNames, .filelist ls], .ok (mkCallT ds tpl q u.parent))
      else ([.package ds.row.fileNames, .filelist ls], .error .differentDirs)

def prepare (ds : Dataset) (q : QueryFacts) : List Ev × Except Err DockerCall := prepareT ds ds.image q

/-- DESIGN's `plan`: the docker call a dataset/query/file-system triple leads to, or the error. -/
def plan (a : DatasetArgs) (q : QueryFacts) (fs : FsFacts) : Except Err DockerCall :=
  match construct a fs with
  | .error e => .error e
  | .ok ds => (prepare ds q).2

/-! ## the streaming run (`ran`) -/

def endingErr : Ending → Option Err
  | .success => none
  | .dockerError => some .docker
  | .otherError => some .containerOther

/-- The `try:` block around `docker.run` and the loop over its stream. Every chunk is decoded with
`errors='replace'`, which cannot fail: the content of the chunks plays no role, only how many
there are and how the stream ends. Returns the number of chunks taken from the stream. -/
def runContainer (o : Outcome) : Nat × Except Err Unit :=
  match (if o.atCall then endingErr o.ending else none) with
  | some e => (0, .error e)
  | none =>
    match endingErr o.ending with
    | some e => (o.chunks.length, .error e)
    | none => (o.chunks.length, .ok ())

/-! ## result extraction (`delivered`) -/

/-- `_extract_result_TTree`: `shutil.copy(run_dir / filename, output_dir / filename)`. -/
def deliver (ds : Dataset) (fs : FsFacts) (o : Outcome) : Except Err PPath :=
  if !o.resultPresent then .error .resultMissing
  else if !fs.outDirExists then .error .outDirMissing
  else .ok (ds.outDir.child resultFileName)

/-- DESIGN's `finish`: from the container's outcome to the returned path. -/
def finish (ds : Dataset) (fs : FsFacts) (o : Outcome) : Except Err PPath :=
  match (runContainer o).2 with
  | .error e => .error e
  | .ok () => deliver ds fs o

/-! ## the whole execution -/

/-- The body of the `with tempfile.TemporaryDirectory()` block. -/
def bodyT (ds : Dataset) (tpl : String) (q : QueryFacts) (fs : FsFacts) (o : Outcome) : List Ev × Except Err PPath :=
  match prepareT ds tpl q with
  | (evs, .error e) => (evs, .error e)
  | (evs, .ok call) =>
    match runContainer o with
    | (n, .error e) => (evs ++ [.run call, .pulled n], .error e)
    | (n, .ok ()) =>
      match deliver ds fs o with
      | .error e => (evs ++ [.run call, .pulled n], .error e)
      | .ok p => (evs ++ [.run call, .pulled n, .copy p], .ok p)

def body (ds : Dataset) (q : QueryFacts) (fs : FsFacts) (o : Outcome) : List Ev × Except Err PPath :=
  bodyT ds ds.image q fs o

/-- Constructor, then `execute_result_async`. A constructor error leaves no trace at all; anything
after it happens between `tmpCreate` and `tmpRemove`. -/
def execute (a : DatasetArgs) (q : QueryFacts) (fs : FsFacts) (o : Outcome) : List Ev × Except Err PPath :=
  match construct a fs with
  | .error e => ([], .error e)
  | .ok ds => (.tmpCreate :: (body ds q fs o).1 ++ [.tmpRemove], (body ds q fs o).2)

/-! ## several executions on ONE dataset object

What outlives one `execute_result_async`: (1) the dataset object itself — immutable after
`__init__`; (2) the executor — `get_executor_obj()` builds a NEW one for every execution, so its
`_found_extended_md` (never cleared by `reset()`) starts empty each time; (3) the dict object that
is `executor.__init__`'s default `extended_md={}` — shared by every executor ever built;
`add_extended_md` stores the `"docker"` template in it and `reset()` only re-binds the attribute,
so the template of the previous execution (possibly of another dataset) is still there when the
next executor is built.  `Shared` is (3); each step overwrites it before using it. -/

structure Shared where
  template : Option String
deriving Repr, DecidableEq

/-- One `execute_result_async` on an already constructed dataset, in the shared state `s`. -/
def stepIn (s : Shared) (ds : Dataset) (q : QueryFacts) (fs : FsFacts) (o : Outcome) :
    Shared × (List Ev × Except Err PPath) :=
  -- `exe.add_extended_md({"docker": DockerImageSpecification(self._docker_image)})`
  let s' : Shared := { s with template := some ds.image }
  let tpl := s'.template.getD ds.image
  (s', (.tmpCreate :: (bodyT ds tpl q fs o).1 ++ [.tmpRemove], (bodyT ds tpl q fs o).2))

def runSeq (s : Shared) (ds : Dataset) (fs : FsFacts) : List (QueryFacts × Outcome) → List (List Ev × Except Err PPath)
  | [] => []
  | (q, o) :: rest => (stepIn s ds q fs o).2 :: runSeq (stepIn s ds q fs o).1 ds fs rest

/-- The constructor once, then the executions one after another, starting from any shared state. -/
def executeSeq (s : Shared) (a : DatasetArgs) (fs : FsFacts) (steps : List (QueryFacts × Outcome)) :
    Except Err (List (List Ev × Except Err PPath)) :=
  match construct a fs with
  | .error e => .error e
  | .ok ds => .ok (runSeq s ds fs steps)

end FaxVerif.C17
