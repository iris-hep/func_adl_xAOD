/-
C17 — path parsing, the constructor, the walk over the files, the image choice, the stream, and what every
execution looks like: either no container is started (`NoRun`, `execute_noRun`) or the trace is
the one of `execute_runnable`, a function of the container's outcome, of which the harness sees
what `observe_ran` says.
-/
import FaxVerif.C17.Spec
namespace FaxVerif.C17
open FaxVerif.Generated.C17 (BackendRow volumePrefix resultFileName)

def mkDataset (a : DatasetArgs) (fs : FsFacts) : Dataset :=
  { row := a.row, files := paths a, image := dsImage a, outDir := parsePath (a.outputDir.getD fs.tempRoot) }

/-- A string literal is `String.ofList` of its characters: parsing one needs no UTF-8 decoding. -/
theorem parsePath_ofList (cs : List Char) : parsePath (String.ofList cs) = parseChars cs := by
  rw [parsePath, String.toList_ofList]

theorem splitSlash_no_slash (cs : List Char) : ∀ w ∈ splitSlash cs, '/' ∉ w := by
  induction cs with
  | nil => simp [splitSlash]
  | cons c cs ih =>
    unfold splitSlash
    by_cases hc : c = '/'
    · simpa [hc] using ih
    · have hc' : ¬ '/' = c := fun h => hc h.symm
      cases hs : splitSlash cs with
      | nil => simp [hc, hc']
      | cons w ws =>
        rw [hs] at ih
        simp only [hc, if_false, List.forall_mem_cons] at ih ⊢
        exact ⟨fun h => (List.mem_cons.1 h).elim hc' ih.1, ih.2⟩

theorem construct_of_empty (a : DatasetArgs) (fs : FsFacts) (h : paths a = []) :
    construct a fs = .error .noFiles := by
  unfold paths at h
  simp [construct, h]

theorem construct_of_missing (a : DatasetArgs) (fs : FsFacts) (f : PPath) (hne : paths a ≠ [])
    (hf : (paths a).find? (fun f => !fs.exists f) = some f) : construct a fs = .error (.fileMissing f) := by
  have hne' : a.files ≠ [] := fun e => hne (by simp [paths, e])
  unfold paths at hf
  simp [construct, hne', hf]

theorem construct_of_valid (a : DatasetArgs) (fs : FsFacts) (h : Valid a fs) :
    construct a fs = .ok (mkDataset a fs) := by
  have hnone : (paths a).find? (fun f => !fs.exists f) = none :=
    List.find?_eq_none.2 fun f hf => by simp [h.2 f hf]
  have hne : a.files ≠ [] := fun e => h.1 (by simp [paths, e])
  unfold paths at hnone
  simp [construct, hne, hnone, mkDataset, paths]

theorem construct_ok_valid (a : DatasetArgs) (fs : FsFacts) (ds : Dataset)
    (h : construct a fs = .ok ds) : Valid a fs ∧ ds = mkDataset a fs := by
  by_cases hne : paths a = []
  · rw [construct_of_empty a fs hne] at h; cases h
  · cases hf : (paths a).find? (fun f => !fs.exists f) with
    | some f => rw [construct_of_missing a fs f hne hf] at h; cases h
    | none =>
      have hv : Valid a fs := ⟨hne, fun f hm => by simpa using List.find?_eq_none.1 hf f hm⟩
      rw [construct_of_valid a fs hv] at h
      exact ⟨hv, by cases h; rfl⟩

theorem walkFiles_same (d : PPath) (us : List PPath) (h : ∀ u ∈ us, u.parent = d) :
    walkFiles d us = (fileLines us, true) := by
  induction us with
  | nil => rfl
  | cons u us ih =>
    have hu : u.parent = d := h u (by simp)
    have := ih (fun v hv => h v (by simp [hv]))
    simp [walkFiles, hu, this, fileLines]

theorem walkFiles_diff (d : PPath) (us : List PPath) (h : ¬ ∀ u ∈ us, u.parent = d) :
    ∃ ls, walkFiles d us = (ls, false) := by
  induction us with
  | nil => exact absurd (by simp) h
  | cons u us ih =>
    by_cases hu : u.parent = d
    · have h' : ¬ ∀ v ∈ us, v.parent = d := fun hall => h (by simpa [hu] using hall)
      obtain ⟨ls, hls⟩ := ih h'
      exact ⟨("/data/" ++ u.name) :: ls, by simp [walkFiles, hu, hls]⟩
    · exact ⟨["/data/" ++ u.name], by simp [walkFiles, hu]⟩

theorem sameDir_iff_head (a : DatasetArgs) (u : PPath) (us : List PPath) (h : paths a = u :: us) :
    SameDir a ↔ ∀ v ∈ u :: us, v.parent = u.parent := by
  unfold SameDir
  rw [h]
  exact ⟨fun hs v hv => hs v hv u (by simp), fun hs f hf g hg => by rw [hs f hf, hs g hg]⟩

theorem prepare_no_translate (ds : Dataset) (q : QueryFacts) (h : q.translates = false) :
    prepare ds q = ([], .error .translate) := by
  unfold prepare prepareT; simp [h]

theorem prepare_same (ds : Dataset) (q : QueryFacts) (u : PPath) (us : List PPath)
    (ht : q.translates = true) (hf : ds.files = u :: us) (hs : ∀ v ∈ u :: us, v.parent = u.parent) :
    prepare ds q = ([.package ds.row.fileNames, .filelist (fileLines (u :: us))], .ok (mkCall ds q u.parent)) := by
  unfold prepare prepareT
  simp only [ht, hf, walkFiles_same u.parent (u :: us) hs]
  simp [mkCall]

theorem prepare_diff (ds : Dataset) (q : QueryFacts) (u : PPath) (us : List PPath)
    (ht : q.translates = true) (hf : ds.files = u :: us) (hs : ¬ ∀ v ∈ u :: us, v.parent = u.parent) :
    ∃ ls, prepare ds q = ([.package ds.row.fileNames, .filelist ls], .error .differentDirs) := by
  obtain ⟨ls, hls⟩ := walkFiles_diff u.parent (u :: us) hs
  refine ⟨ls, ?_⟩
  unfold prepare prepareT
  simp only [ht, hf, hls]
  simp

theorem runContainer_fst (o : Outcome) :
    (runContainer o).1 = if o.atCall = true ∧ o.ending ≠ .success then 0 else o.chunks.length := by
  unfold runContainer
  cases he : o.ending <;> cases ha : o.atCall <;> simp [endingErr]

theorem finish_eq_ok (ds : Dataset) (fs : FsFacts) (o : Outcome) (p : PPath) :
    finish ds fs o = .ok p ↔ o.ending = .success ∧ o.resultPresent = true ∧ fs.outDirExists = true ∧
      p = ds.outDir.child resultFileName := by
  unfold finish runContainer deliver
  cases he : o.ending <;> cases ha : o.atCall <;> simp [endingErr]
  all_goals cases o.resultPresent <;> cases fs.outDirExists <;> simp [eq_comm]

theorem finish_of_failure (ds : Dataset) (fs : FsFacts) (o : Outcome) (he : o.ending ≠ .success) :
    ∃ e, finish ds fs o = .error e ∧ e.className = o.ending.className := by
  unfold finish runContainer
  cases hen : o.ending with
  | success => exact absurd hen he
  | dockerError => cases o.atCall <;> exact ⟨.docker, rfl, rfl⟩
  | otherError => cases o.atCall <;> exact ⟨.containerOther, rfl, rfl⟩

def copyEv : Except Err PPath → List Ev
  | .ok p => [.copy p]
  | .error _ => []

theorem body_of_prepare_error (ds : Dataset) (q : QueryFacts) (fs : FsFacts) (o : Outcome) (evs : List Ev) (e : Err)
    (h : prepare ds q = (evs, .error e)) : body ds q fs o = (evs, .error e) := by
  unfold prepare at h
  unfold body bodyT; simp [h]

theorem body_of_prepare_ok (ds : Dataset) (q : QueryFacts) (fs : FsFacts) (o : Outcome) (evs : List Ev) (c : DockerCall)
    (h : prepare ds q = (evs, .ok c)) :
    body ds q fs o =
      (evs ++ .run c :: .pulled (runContainer o).1 :: copyEv (finish ds fs o), finish ds fs o) := by
  unfold prepare at h
  unfold body bodyT finish
  simp only [h]
  cases runContainer o with
  | mk n res =>
    cases res with
    | error e => rfl
    | ok u => cases u; cases deliver ds fs o <;> rfl

/-- An execution that starts no container: `plan` has failed, and its error is the result. -/
inductive NoRun (a : DatasetArgs) (q : QueryFacts) (fs : FsFacts) : List Ev × Except Err PPath → Prop
  | refused (e : Err) (hv : ¬ Valid a fs) (hp : plan a q fs = .error e) : NoRun a q fs ([], .error e)
  | untranslatable (hv : Valid a fs) (ht : q.translates = false) (hp : plan a q fs = .error .translate) :
      NoRun a q fs ([.tmpCreate, .tmpRemove], .error .translate)
  | differentDirs (hv : Valid a fs) (ht : q.translates = true) (hs : ¬ SameDir a) (ls : List String)
      (hp : plan a q fs = .error .differentDirs) :
      NoRun a q fs ([.tmpCreate, .package a.row.fileNames, .filelist ls, .tmpRemove], .error .differentDirs)

/-- what the harness sees of an execution that starts no container -/
theorem NoRun.observe {a : DatasetArgs} {q : QueryFacts} {fs : FsFacts} {r : List Ev × Except Err PPath}
    (h : NoRun a q fs r) : ∃ e, C17.plan a q fs = .error e ∧ r.2 = .error e ∧ observe a r =
      { ctorFailed := decide (¬ Valid a fs), err := some e.className, returned := [], calls := [],
        seenFilelist := none, packageOk := false, pulled := 0, delivered := false, runDirLive := true, leftover := 0 } := by
  cases h <;> exact ⟨_, ‹_›, rfl, by simp [C17.observe, callsOf, pulledOf, liveAfter, liveAtWork, *]⟩

theorem execute_noRun (a : DatasetArgs) (q : QueryFacts) (fs : FsFacts) (o : Outcome) (h : ¬ Runnable a q fs) :
    NoRun a q fs (execute a q fs o) := by
  unfold execute
  cases hc : construct a fs with
  | error e =>
    exact .refused e (fun hv => by rw [construct_of_valid a fs hv] at hc; cases hc) (by simp only [plan, hc])
  | ok ds =>
    obtain ⟨hv, rfl⟩ := construct_ok_valid a fs ds hc
    cases ht : q.translates with
    | false =>
      have hprep := prepare_no_translate (mkDataset a fs) q ht
      simp only [body_of_prepare_error _ q fs o _ _ hprep]
      exact .untranslatable hv ht (by simp only [plan, hc, hprep])
    | true =>
      cases hp : paths a with
      | nil => exact absurd hp hv.1
      | cons u us =>
        have hs : ¬ SameDir a := fun hs => h ⟨hv, hs, ht⟩
        obtain ⟨ls, hprep⟩ := prepare_diff (mkDataset a fs) q u us ht hp
          (fun h => hs ((sameDir_iff_head a u us hp).2 h))
        simp only [body_of_prepare_error _ q fs o _ _ hprep]
        exact .differentDirs hv ht hs ls (by simp only [plan, hc, hprep])

theorem execute_runnable (a : DatasetArgs) (q : QueryFacts) (fs : FsFacts) (o : Outcome) (h : Runnable a q fs) :
    execute a q fs o =
      (.tmpCreate :: .package a.row.fileNames :: .filelist (fileLines (paths a)) ::
        .run (mkCall (mkDataset a fs) q ((paths a).head h.1.1).parent) :: .pulled (runContainer o).1 ::
          (copyEv (finish (mkDataset a fs) fs o) ++ [.tmpRemove]), finish (mkDataset a fs) fs o) := by
  obtain ⟨hv, hs, ht⟩ := h
  obtain ⟨u, us, hp⟩ := List.exists_cons_of_ne_nil hv.1
  unfold execute
  rw [construct_of_valid a fs hv]
  simp only [body_of_prepare_ok _ q fs o _ _
    (prepare_same (mkDataset a fs) q u us ht hp ((sameDir_iff_head a u us hp).1 hs))]
  simp [hp, mkDataset]

theorem chooseImage_eq (d : String) (mds : List MdEntry) :
    chooseImage d mds = match mds.find? MdEntry.isDocker with
      | some (.docker (some i)) => i
      | _ => d := by
  unfold chooseImage chooseImageT foundDocker
  induction mds with
  | nil => simp
  | cons m ms ih =>
    simp only [List.reverse_cons, List.filterMap_append, List.filterMap_cons, List.filterMap_nil]
    cases m with
    | other =>
      simp only [mdImage, List.append_nil, List.find?_cons, MdEntry.isDocker]
      exact ih
    | docker img =>
      cases img with
      | none => simp [mdImage, MdEntry.isDocker]
      | some i => simp [mdImage, List.find?, MdEntry.isDocker]

theorem plan_runnable (a : DatasetArgs) (q : QueryFacts) (fs : FsFacts) (h : Runnable a q fs) :
    plan a q fs = .ok (mkCall (mkDataset a fs) q ((paths a).head h.1.1).parent) := by
  obtain ⟨hv, hs, ht⟩ := h
  obtain ⟨u, us, hp⟩ := List.exists_cons_of_ne_nil hv.1
  simp only [plan, construct_of_valid a fs hv,
    prepare_same (mkDataset a fs) q u us ht hp ((sameDir_iff_head a u us hp).1 hs), hp, List.head_cons]

theorem all_mem_self (l : List String) : l.all (· ∈ l) = true := by
  rw [List.all_eq_true]; intro x hx; simpa using hx

theorem observe_ran (a : DatasetArgs) (c : DockerCall) (n : Nat) (r : Except Err PPath) :
    observe a (.tmpCreate :: .package a.row.fileNames :: .filelist (fileLines (paths a)) ::
        .run c :: .pulled n :: (copyEv r ++ [.tmpRemove]), r) =
      { ctorFailed := false
        err := match r with | .error e => some e.className | .ok _ => none
        returned := match r with | .ok p => [p.render] | .error _ => []
        calls := [c]
        seenFilelist := some (fileText (fileLines (paths a)))
        packageOk := decide (a.row.runner ∈ a.row.fileNames)
        pulled := n
        delivered := match r with | .ok _ => true | .error _ => false
        runDirLive := true
        leftover := 0 } := by
  cases r <;>
    simp [observe, copyEv, callsOf, filelistOf, packageOf, pulledOf, copiesOf, liveAfter, liveAtWork, all_mem_self]

theorem runnable_of_call {a : DatasetArgs} {q : QueryFacts} {fs : FsFacts} {o : Outcome}
    (h : (observe a (execute a q fs o)).calls ≠ []) : Runnable a q fs :=
  Decidable.byContradiction fun hr => by
    obtain ⟨_, _, _, ho⟩ := (execute_noRun a q fs o hr).observe
    exact h (by rw [ho])

theorem call_of_mem {a : DatasetArgs} {q : QueryFacts} {fs : FsFacts} {o : Outcome} {c : DockerCall}
    (hc : c ∈ (observe a (execute a q fs o)).calls) :
    ∃ hr : Runnable a q fs, c = mkCall (mkDataset a fs) q ((paths a).head hr.1.1).parent := by
  have hr := runnable_of_call (List.ne_nil_of_mem hc)
  rw [execute_runnable a q fs o hr, observe_ran] at hc
  exact ⟨hr, List.mem_singleton.1 hc⟩

end FaxVerif.C17
