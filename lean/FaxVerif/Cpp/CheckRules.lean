/-
Cpp — what the static checkers of `Check.lean` compute, rule by rule, and nothing of the semantics: membership in the
analysis states `da` builds, one equivalence per statement form for `da` (with the induction `DaRules` over them) and
for the forms on which `emp` recurses, that `da` only ever enlarges `D` and `A` and keeps `A ⊆ D`, and `WellFormed` /
`EventLocal` taken apart. The acceptance proofs Gen/WfCorrectBase, …Chain and …Cols use no lemma of Cpp/ beyond this file;
what acceptance means for a run is `CheckSound.lean` (`da`) and `EventLocal.lean` (`emp`).
-/
import FaxVerif.Cpp.Check
namespace FaxVerif.Cpp

-- `WellFormed`, `classDA` and `UniqueNames` (Check.lean) write this out as `vars.map (·.2)`
def classNames (vars : List (String × String)) : List String := vars.map (·.2)

theorem subset_iff (xs ys : List String) : subset xs ys = true ↔ ∀ x ∈ xs, x ∈ ys := by
  simp [subset, List.all_eq_true]

theorem okE_iff {s : DA} {e : CExpr} : okE s e = true ↔ clean e = true ∧ ∀ x ∈ vars e, x ∈ s.A := by
  simp only [okE, Bool.and_eq_true, subset_iff]

theorem mem_ite_cons {α : Type} {c : Prop} [Decidable c] {a x : α} {l : List α} :
    x ∈ (if c then a :: l else l) ↔ (c ∧ x = a) ∨ x ∈ l := by
  split <;> simp [*]

theorem mem_inter (x : String) (xs ys : List String) : x ∈ inter xs ys ↔ x ∈ xs ∧ x ∈ ys := by
  simp [inter, List.mem_filter]

theorem inD_iff (D0 : List String) (p : String × String) : inD D0 p = true ↔ p.1 ∈ D0 ∧ p.2 ∈ D0 := by
  simp [inD]

theorem eff_iff (s : DA) (p : String × String) :
    s.eff p = true ↔ p ∈ s.G ∨ p.2 ∈ s.A ∨ p.1 ∈ s.T := by
  simp [DA.eff, or_assoc]

theorem mem_assign_G (s : DA) (x : String) (p : String × String) :
    p ∈ (s.assign x).G ↔ p ∈ s.G ∧ (p.1 ≠ x ∨ p.2 = x ∨ p.2 ∈ s.A) := by
  simp [DA.assign, List.mem_filter]

theorem mem_assign_T (s : DA) (x f : String) : f ∈ (s.assign x).T ↔ f ∈ s.T ∧ f ≠ x := by
  simp [DA.assign, List.mem_filter]

theorem mem_restrict_G (s : DA) (D0 : List String) (p : String × String) :
    p ∈ (s.restrict D0).G ↔ p ∈ s.G ∧ p.1 ∈ D0 ∧ p.2 ∈ D0 := by
  simp only [DA.restrict, List.mem_filter, inD_iff]

theorem mem_restrict_T (s : DA) (D0 : List String) (f : String) :
    f ∈ (s.restrict D0).T ↔ f ∈ s.T ∧ f ∈ D0 := by
  simp [DA.restrict, List.mem_filter]

theorem mem_restrict_A (s : DA) (D0 : List String) (f : String) :
    f ∈ (s.restrict D0).A ↔ f ∈ s.A ∧ f ∈ D0 := by
  simp [DA.restrict, List.mem_filter]

theorem mem_join_G (D0 : List String) (st se : DA) (p : String × String) :
    p ∈ (DA.join D0 st se).G ↔ ((p ∈ st.G ∧ se.eff p = true) ∨ (p ∈ se.G ∧ st.eff p = true)) ∧ p.1 ∈ D0 ∧ p.2 ∈ D0 := by
  simp only [DA.join, List.mem_filter, List.mem_append, inD_iff]

theorem mem_join_A (D0 : List String) (st se : DA) (y : String) :
    y ∈ (DA.join D0 st se).A ↔ (y ∈ st.A ∧ y ∈ se.A) ∧ y ∈ D0 := by
  simp only [DA.join, List.mem_filter, mem_inter, decide_eq_true_eq]

theorem mem_join_T (D0 : List String) (st se : DA) (y : String) :
    y ∈ (DA.join D0 st se).T ↔ (y ∈ st.T ∧ y ∈ se.T) ∧ y ∈ D0 := by
  simp only [DA.join, List.mem_filter, mem_inter, decide_eq_true_eq]

theorem mem_fresh_G (s : DA) (n : String) (p : String × String) :
    p ∈ (s.fresh n).G ↔ p ∈ s.G ∧ p.1 ≠ n ∧ p.2 ≠ n := by
  simp [DA.fresh, List.mem_filter]

theorem mem_fresh_T (s : DA) (n f : String) : f ∈ (s.fresh n).T ↔ f ∈ s.T ∧ f ≠ n := by
  simp [DA.fresh, List.mem_filter]

theorem mem_loopCand (s : DA) (p : String × String) :
    p ∈ loopCand s ↔ (p ∈ s.G ∨ p.1 ∈ s.T) ∧ p.1 ∈ s.D ∧ p.2 ∈ s.D := by
  simp only [loopCand, List.mem_filter, List.mem_append, List.mem_flatMap, List.mem_map, inD_iff]
  constructor
  · rintro ⟨h | ⟨f, hf, y, hy, rfl⟩, h1, h2⟩
    · exact ⟨Or.inl h, h1, h2⟩
    · exact ⟨Or.inr hf, h1, h2⟩
  · rintro ⟨h | h, h1, h2⟩
    · exact ⟨Or.inl h, h1, h2⟩
    · exact ⟨Or.inr ⟨p.1, h, p.2, h2, rfl⟩, h1, h2⟩

theorem mem_knowFalse_A (s : DA) (f y : String) :
    y ∈ (s.knowFalse (.var f)).A ↔ ((f, y) ∈ s.G ∧ y ∈ s.D) ∨ y ∈ s.A := by
  simp only [DA.knowFalse, List.mem_append, List.mem_filter, List.mem_map, decide_eq_true_eq, beq_iff_eq]
  constructor
  · rintro (⟨⟨p, ⟨hp, rfl⟩, rfl⟩, hy⟩ | h)
    · exact Or.inl ⟨hp, hy⟩
    · exact Or.inr h
  · rintro (⟨hp, hy⟩ | h)
    · exact Or.inl ⟨⟨(f, y), ⟨hp, rfl⟩, rfl⟩, hy⟩
    · exact Or.inr h

theorem knowFalse_A (s : DA) (c : CExpr) : ∀ x ∈ s.A, x ∈ (s.knowFalse c).A := by
  cases c with
  | var f => exact fun x hx => (mem_knowFalse_A s f x).2 (Or.inr hx)
  | _ => exact fun x hx => hx

theorem knowFalse_D (s : DA) (c : CExpr) : (s.knowFalse c).D = s.D := by cases c <;> rfl
theorem knowFalse_G (s : DA) (c : CExpr) : (s.knowFalse c).G = s.G := by cases c <;> rfl
theorem knowFalse_T (s : DA) (c : CExpr) : (s.knowFalse c).T = s.T := by cases c <;> rfl

theorem isThrow_eq (l : List Stmt) (h : isThrow l = true) : ∃ m, l = [.throw m] := by
  match l, h with
  | [.throw m], _ => exact ⟨m, rfl⟩

theorem isTrueLit_eq {e : CExpr} (h : isTrueLit e = true) : e = .bool true := by
  cases e with
  | bool b => cases b <;> simp [isTrueLit] at h ⊢
  | _ => simp [isTrueLit] at h

section
variable {C : DACtx} {s t : DA}

theorem da_block_iff {body : List Stmt} :
    da C (.block body) s = some t ↔ ∃ s1, das C body s = some s1 ∧ s1.restrict s.D = t := by
  simp only [da]
  cases das C body s <;> simp

theorem da_loop_iff {x : String} {coll : CExpr} {body : List Stmt} :
    da C (.loop x coll body) s = some t ↔
      okE s coll = true ∧ x ∉ s.D ∧ ∃ sb1 sb2, das C body (loopHead s x (loopCand s)) = some sb1 ∧
        das C body (loopHead s x ((loopCand s).filter sb1.eff)) = some sb2 ∧
        (∀ p ∈ (loopCand s).filter sb1.eff, sb2.eff p = true) ∧
        { s with T := [], G := (loopCand s).filter sb1.eff } = t := by
  simp only [da]
  by_cases hc : okE s coll = true
  · by_cases hx : x ∈ s.D
    · simp [hc, hx]
    · simp only [hc, hx, decide_false, Bool.not_false, Bool.and_self, if_true, true_and, not_false_eq_true]
      cases das C body (loopHead s x (loopCand s)) with
      | none => simp
      | some sb1 =>
        simp only [Option.some.injEq, exists_and_left, exists_eq_left']
        cases das C body (loopHead s x ((loopCand s).filter sb1.eff)) with
        | none => simp
        | some sb2 =>
          simp only [Option.some.injEq, exists_eq_left', List.all_eq_true, Option.ite_none_right_eq_some]
  · simp [hc]

theorem da_ite_iff {c : CExpr} {thn els : List Stmt} :
    da C (.ite c thn els) s = some t ↔
      okE s c = true ∧ ∃ st se, das C thn s = some st ∧ das C els (s.knowFalse c) = some se ∧
        (if isThrow thn then se.restrict s.D else DA.join s.D st se) = t := by
  simp only [da]
  by_cases hc : okE s c = true <;> simp only [hc]
  · cases das C thn s with
    | none => simp
    | some st =>
      cases das C els (s.knowFalse c) with
      | none => simp
      | some se => by_cases ht : isThrow thn = true <;> simp [ht]
  · simp

theorem da_decl_some_iff {ty n : String} {e : CExpr} :
    da C (.decl ty n (some e)) s = some t ↔ n ∉ s.D ∧ okE s e = true ∧
      { D := n :: s.D, A := n :: s.A,
        T := if ty = "bool" ∧ isTrueLit e = true then n :: (s.fresh n).T else (s.fresh n).T, G := (s.fresh n).G } = t := by
  simp only [da]
  by_cases hn : n ∈ s.D <;> simp [hn]

theorem da_decl_none_iff {ty n : String} :
    da C (.decl ty n none) s = some t ↔ n ∉ s.D ∧
      { D := n :: s.D, A := if isVecType ty then n :: s.A else s.A, T := (s.fresh n).T, G := (s.fresh n).G } = t := by
  simp only [da]
  by_cases hn : n ∈ s.D <;> by_cases hv : isVecType ty = true <;> simp [hn, hv]

theorem da_set_iff {x : String} {e : CExpr} :
    da C (.set x e) s = some t ↔ x ∈ s.D ∧ okE s e = true ∧ s.assign x = t := by
  simp [da, and_assoc]

theorem da_push_iff {x : String} {e : CExpr} :
    da C (.push x e) s = some t ↔ x ∈ s.A ∧ okE s e = true ∧ s.assign x = t := by
  simp [da, and_assoc]

theorem da_clear_iff {x : String} : da C (.clear x) s = some t ↔ x ∈ s.A ∧ s.assign x = t := by
  simp [da]

theorem da_fill_iff {tr : String} : da C (.fill tr) s = some t ↔ subset C.cols s.A = true ∧ s = t := by
  simp [da]

theorem da_throw_iff {m : String} : da C (.throw m) s = some t ↔ s = t := by
  simp [da]

theorem da_retrieve_iff {how ty v token : String} {bank : CExpr} :
    da C (.retrieve how ty v bank token) s = some t ↔
      v ∈ s.D ∧ retrOk C s how bank token = true ∧ s.assign v = t := by
  simp [da, and_assoc]

theorem das_cons_iff {st : Stmt} {rest : List Stmt} :
    das C (st :: rest) s = some t ↔ ∃ s1, da C st s = some s1 ∧ das C rest s1 = some t := by
  simp only [das]
  cases da C st s <;> simp

theorem da_decl_shape {ty n : String} {init : Option CExpr} (h : da C (.decl ty n init) s = some t) :
    n ∉ s.D ∧ t.D = n :: s.D ∧ t.G = (s.fresh n).G ∧ (∀ f ∈ (s.fresh n).T, f ∈ t.T) ∧
      (∀ x ∈ s.A, x ∈ t.A) ∧ (∀ x ∈ t.A, x = n ∨ x ∈ s.A) := by
  cases init with
  | some e =>
    obtain ⟨hn, _, rfl⟩ := da_decl_some_iff.1 h
    exact ⟨hn, rfl, rfl, fun f hf => mem_ite_cons.2 (Or.inr hf), fun x hx => List.mem_cons_of_mem _ hx,
      fun x hx => List.mem_cons.1 hx⟩
  | none =>
    obtain ⟨hn, rfl⟩ := da_decl_none_iff.1 h
    exact ⟨hn, rfl, rfl, fun f hf => hf, fun x hx => mem_ite_cons.2 (Or.inr hx),
      fun x hx => (mem_ite_cons.1 hx).imp (·.2) id⟩

end

/-- The rules of `da` as one induction: to prove `P` of every accepted statement (and `Q` of every accepted list),
show it rule by rule; in the rule of a statement with parts, the acceptance of the parts and `Q` of them are at hand.
The recursion over the nested `Stmt` is done once, in `DaRules.da` / `DaRules.das`. -/
structure DaRules (C : DACtx) (P : Stmt → DA → DA → Prop) (Q : List Stmt → DA → DA → Prop) : Prop where
  nil : ∀ {s}, Q [] s s
  cons : ∀ {st rest s s1 t}, da C st s = some s1 → P st s s1 → Q rest s1 t → Q (st :: rest) s t
  block : ∀ {body s s1}, das C body s = some s1 → Q body s s1 → P (.block body) s (s1.restrict s.D)
  loop : ∀ {x coll body s sb1 sb2}, okE s coll = true → x ∉ s.D →
    das C body (loopHead s x (loopCand s)) = some sb1 → Q body (loopHead s x (loopCand s)) sb1 →
    das C body (loopHead s x ((loopCand s).filter sb1.eff)) = some sb2 →
    Q body (loopHead s x ((loopCand s).filter sb1.eff)) sb2 →
    (∀ p ∈ (loopCand s).filter sb1.eff, sb2.eff p = true) →
    P (.loop x coll body) s { s with T := [], G := (loopCand s).filter sb1.eff }
  ite : ∀ {c thn els s st se}, okE s c = true → das C thn s = some st → Q thn s st →
    das C els (s.knowFalse c) = some se → Q els (s.knowFalse c) se →
    P (.ite c thn els) s (if isThrow thn then se.restrict s.D else DA.join s.D st se)
  decl : ∀ {ty n init s t}, da C (.decl ty n init) s = some t → P (.decl ty n init) s t
  set : ∀ {x e s}, x ∈ s.D → okE s e = true → P (.set x e) s (s.assign x)
  push : ∀ {x e s}, x ∈ s.A → okE s e = true → P (.push x e) s (s.assign x)
  clear : ∀ {x s}, x ∈ s.A → P (.clear x) s (s.assign x)
  fill : ∀ {tr s}, subset C.cols s.A = true → P (.fill tr) s s
  throw : ∀ {m s}, P (.throw m) s s
  retrieve : ∀ {how ty v bank token s}, v ∈ s.D → retrOk C s how bank token = true →
    P (.retrieve how ty v bank token) s (s.assign v)

section
variable {C : DACtx} {P : Stmt → DA → DA → Prop} {Q : List Stmt → DA → DA → Prop}

mutual
  theorem DaRules.da (R : DaRules C P Q) : ∀ st s t, da C st s = some t → P st s t
    | .block body, s, t, h => by
      obtain ⟨s1, h1, rfl⟩ := da_block_iff.1 h; exact R.block h1 (R.das body s s1 h1)
    | .loop x coll body, s, t, h => by
      obtain ⟨hc, hx, sb1, sb2, h1, h2, hall, rfl⟩ := da_loop_iff.1 h
      exact R.loop hc hx h1 (R.das body _ sb1 h1) h2 (R.das body _ sb2 h2) hall
    | .ite c thn els, s, t, h => by
      obtain ⟨hc, st, se, h1, h2, rfl⟩ := da_ite_iff.1 h
      exact R.ite hc h1 (R.das thn s st h1) h2 (R.das els _ se h2)
    | .decl ty n init, s, t, h => R.decl h
    | .set x e, s, t, h => by obtain ⟨hx, he, rfl⟩ := da_set_iff.1 h; exact R.set hx he
    | .push x e, s, t, h => by obtain ⟨hx, he, rfl⟩ := da_push_iff.1 h; exact R.push hx he
    | .clear x, s, t, h => by obtain ⟨hx, rfl⟩ := da_clear_iff.1 h; exact R.clear hx
    | .fill _, s, t, h => by obtain ⟨hc, rfl⟩ := da_fill_iff.1 h; exact R.fill hc
    | .throw _, s, t, h => by obtain rfl := da_throw_iff.1 h; exact R.throw
    | .retrieve how _ v bank token, s, t, h => by
      obtain ⟨hv, hr, rfl⟩ := da_retrieve_iff.1 h; exact R.retrieve hv hr
    | .line _, s, t, h => by simp [Cpp.da] at h
  theorem DaRules.das (R : DaRules C P Q) : ∀ l s t, das C l s = some t → Q l s t
    | [], s, t, h => by simp only [Cpp.das, Option.some.injEq] at h; subst h; exact R.nil
    | st :: rest, s, t, h => by
      obtain ⟨s1, h1, h2⟩ := das_cons_iff.1 h
      exact R.cons h1 (R.da st s s1 h1) (R.das rest s1 t h2)
end
end

theorem dmono_rules (C : DACtx) : DaRules C (fun _ s t => ∀ x ∈ s.D, x ∈ t.D) (fun _ s t => ∀ x ∈ s.D, x ∈ t.D) where
  nil _ h := h
  cons _ h1 h2 x hx := h2 x (h1 x hx)
  block _ _ _ h := h
  loop _ _ _ _ _ _ _ _ h := h
  ite _ _ _ _ _ _ h := by split <;> exact h
  decl h x hx := (da_decl_shape h).2.1 ▸ List.mem_cons_of_mem _ hx
  set _ _ _ h := h
  push _ _ _ h := h
  clear _ _ h := h
  fill _ _ h := h
  throw _ h := h
  retrieve _ _ _ h := h

theorem da_Dmono (C : DACtx) (st : Stmt) (s t : DA) : da C st s = some t → ∀ x ∈ s.D, x ∈ t.D :=
  (dmono_rules C).da st s t

theorem das_Dmono (C : DACtx) (l : List Stmt) (s t : DA) : das C l s = some t → ∀ x ∈ s.D, x ∈ t.D :=
  (dmono_rules C).das l s t

def AsubD (s : DA) : Prop := ∀ x ∈ s.A, x ∈ s.D

theorem AsubD.assign {s : DA} (h : AsubD s) (x : String) (hx : x ∈ s.D) : AsubD (s.assign x) := by
  intro y hy
  rcases List.mem_cons.1 hy with rfl | hy
  · exact hx
  · exact h y hy

theorem AsubD.knowFalse {s : DA} (h : AsubD s) (c : CExpr) : AsubD (s.knowFalse c) := by
  cases c with
  | var f => exact fun x hx => ((mem_knowFalse_A s f x).1 hx).elim (·.2) (h x)
  | _ => exact h

theorem AsubD.loopHead {s : DA} (h : AsubD s) (x : String) (G : List (String × String)) :
    AsubD (loopHead s x G) := by
  intro y hy
  rcases List.mem_cons.1 hy with rfl | hy
  · exact List.mem_cons_self ..
  · exact List.mem_cons_of_mem _ (h y hy)

theorem mono_rules (C : DACtx) : DaRules C (fun _ s t => AsubD s → AsubD t ∧ ∀ x ∈ s.A, x ∈ t.A)
    (fun _ s t => AsubD s → AsubD t ∧ ∀ x ∈ s.A, x ∈ t.A) where
  nil hs := ⟨hs, fun _ h => h⟩
  cons _ h1 h2 hs := ⟨(h2 (h1 hs).1).1, fun x hx => (h2 (h1 hs).1).2 x ((h1 hs).2 x hx)⟩
  block _ ih hs := ⟨fun x hx => ((mem_restrict_A ..).1 hx).2, fun x hx => (mem_restrict_A ..).2 ⟨(ih hs).2 x hx, hs x hx⟩⟩
  loop _ _ _ _ _ _ _ hs := ⟨hs, fun _ h => h⟩
  ite {c _ _ s _ _} _ _ iht _ ihe hs := by
    have hAe := (ihe (hs.knowFalse c)).2
    split
    · exact ⟨fun x hx => ((mem_restrict_A ..).1 hx).2,
        fun x hx => (mem_restrict_A ..).2 ⟨hAe x (knowFalse_A s c x hx), hs x hx⟩⟩
    · exact ⟨fun x hx => ((mem_join_A ..).1 hx).2,
        fun x hx => (mem_join_A ..).2 ⟨⟨(iht hs).2 x hx, hAe x (knowFalse_A s c x hx)⟩, hs x hx⟩⟩
  decl h hs := by
    obtain ⟨_, hD, _, _, hA, hA'⟩ := da_decl_shape h
    refine ⟨fun x hx => ?_, hA⟩
    rw [hD]
    exact (hA' x hx).elim (fun e => e ▸ List.mem_cons_self ..) (fun hx => List.mem_cons_of_mem _ (hs x hx))
  set hx _ hs := ⟨hs.assign _ hx, fun y hy => List.mem_cons_of_mem _ hy⟩
  push hx _ hs := ⟨hs.assign _ (hs _ hx), fun y hy => List.mem_cons_of_mem _ hy⟩
  clear hx hs := ⟨hs.assign _ (hs _ hx), fun y hy => List.mem_cons_of_mem _ hy⟩
  fill _ hs := ⟨hs, fun _ h => h⟩
  throw hs := ⟨hs, fun _ h => h⟩
  retrieve hv _ hs := ⟨hs.assign _ hv, fun y hy => List.mem_cons_of_mem _ hy⟩

theorem da_mono (C : DACtx) (st : Stmt) (s s' : DA) : da C st s = some s' → AsubD s →
    AsubD s' ∧ ∀ x ∈ s.A, x ∈ s'.A := (mono_rules C).da st s s'

theorem das_mono (C : DACtx) (l : List Stmt) (s s' : DA) : das C l s = some s' → AsubD s →
    AsubD s' ∧ ∀ x ∈ s.A, x ∈ s'.A := (mono_rules C).das l s s'

theorem emp_loop_iff {x : String} {coll : CExpr} {body : List Stmt} {E E' : List String} :
    emp (.loop x coll body) E = some E' ↔ ∃ E1 E2, emps body (E.filter (· ≠ x)) = some E1 ∧
      emps body (inter (E.filter (· ≠ x)) E1) = some E2 ∧
      subset (inter (E.filter (· ≠ x)) E1) E2 = true ∧ inter (E.filter (· ≠ x)) E1 = E' := by
  simp only [emp]
  cases emps body (E.filter (· ≠ x)) with
  | none => simp
  | some E1 =>
    simp only [Option.some.injEq, exists_and_left, exists_eq_left']
    cases emps body (inter (E.filter (· ≠ x)) E1) <;> simp

theorem emp_ite_iff {c : CExpr} {thn els : List Stmt} {E E' : List String} :
    emp (.ite c thn els) E = some E' ↔ ∃ Et Ee, emps thn E = some Et ∧ emps els E = some Ee ∧ inter Et Ee = E' := by
  simp only [emp]
  cases emps thn E <;> cases emps els E <;> simp

theorem emps_cons_iff {st : Stmt} {rest : List Stmt} {E E' : List String} :
    emps (st :: rest) E = some E' ↔ ∃ E1, emp st E = some E1 ∧ emps rest E1 = some E' := by
  simp only [emps]
  cases emp st E <;> simp

theorem vecCols_sub (P : Package) : ∀ x ∈ vecCols P, x ∈ classNames P.classVars := by
  intro x hx
  simp only [vecCols, List.mem_map, List.mem_filter] at hx
  obtain ⟨p, ⟨hm, _⟩, rfl⟩ := hx
  exact List.mem_map.2 ⟨p, hm, rfl⟩

theorem classDA_AsubD (vars : List (String × String)) : AsubD (classDA vars) := by
  intro x hx
  simp only [classDA, List.mem_map, List.mem_filter] at hx ⊢
  obtain ⟨p, ⟨hm, _⟩, rfl⟩ := hx
  exact ⟨p, hm, rfl⟩

theorem wellFormed_iff (P : Package) : WellFormed P = true ↔
    (∃ s', da P.daCtx P.body (classDA P.classVars) = some s') ∧ (classNames P.classVars).Nodup ∧
      ∀ b ∈ P.branches, b.2 ∈ classNames P.classVars := by
  simp only [WellFormed, classNames, Bool.and_eq_true, decide_eq_true_eq, Option.isSome_iff_exists, List.all_eq_true,
    List.contains_iff_mem, and_assoc]

theorem eventLocal_iff (P : Package) : EventLocal P = true ↔
    WellFormed P = true ∧ ∃ E, emp P.body (vecCols P) = some E ∧ ∀ x ∈ vecCols P, x ∈ E := by
  simp only [EventLocal, Bool.and_eq_true]
  cases emp P.body (vecCols P) <;> simp [subset_iff]

/-- `EventLocal` is `WellFormed` and the emptiness check; to refute it, it is enough to evaluate the latter -/
theorem eventLocal_eq (P : Package) :
    EventLocal P = (WellFormed P && (emp P.body (vecCols P)).any (subset (vecCols P))) := by
  unfold EventLocal; cases emp P.body (vecCols P) <;> rfl

theorem eventLocal_false_of_emp {P : Package} (h : (emp P.body (vecCols P)).any (subset (vecCols P)) = false) :
    EventLocal P = false := by rw [eventLocal_eq, h, Bool.and_false]

theorem eventLocal_of_emp {P : Package} (hwf : WellFormed P = true)
    (h : (emp P.body (vecCols P)).any (subset (vecCols P)) = true) : EventLocal P = true := by
  rw [eventLocal_eq, hwf, h]; rfl

end FaxVerif.Cpp
