/-
Cpp — what the semantics of `Sem.lean` and the runs of `Run.lean` do, as equations: `Env.set` / `Env.declare` read back
name by name; what a run of each statement form that ends in `.ok` looks like, and the other way round what a sequence,
a `set`, an `ite` does once its parts have run; evaluation of an expression depends only on the variables that occur in
it (`evalE_congr`, over `vars` of Check.lean); the class state between events (`classInit`, `keepClass` of Run.lean),
variable by variable — over `classNames`, for which alone CheckRules.lean is imported.
-/
import FaxVerif.Cpp.CheckRules
namespace FaxVerif.Cpp
variable {D : Type}

theorem Env.set_eq (σ : Env D) (x : String) (v : Val D) : (σ.set x v) x = some (.val v) := by
  simp [Env.set]

theorem Env.set_ne (σ : Env D) (x y : String) (v : Val D) (h : y ≠ x) : (σ.set x v) y = σ y := by
  simp [Env.set, h]

theorem Env.declare_eq (σ : Env D) (x : String) : (σ.declare x) x = some .uninit := by
  simp [Env.declare]

theorem Env.declare_ne (σ : Env D) (x y : String) (h : y ≠ x) : (σ.declare x) y = σ y := by
  simp [Env.declare, h]

-- A run that ends in `.ok`, form by form. `exec C (.block b)` is `execs C b` by definition; `throw` and `line` never end so.
section
variable {C : Ctx D} {t t' : St D}

theorem execs_cons_ok_iff {st : Stmt} {rest : List Stmt} :
    execs C (st :: rest) t = .ok t' ↔ ∃ u, exec C st t = .ok u ∧ execs C rest u = .ok t' := by
  simp only [execs]
  cases exec C st t <;> simp

theorem exec_loop_ok_iff {x : String} {coll : CExpr} {body : List Stmt} :
    exec C (.loop x coll body) t = .ok t' ↔ ∃ l, evalE C.N t.env coll = .ok (.vec l) ∧
      iter (fun s v => execs C body { s with env := s.env.set x v }) l t = .ok t' := by
  simp only [exec]
  cases evalE C.N t.env coll with
  | error f => simp
  | ok v => cases v <;> simp

theorem exec_ite_ok_iff {c : CExpr} {thn els : List Stmt} :
    exec C (.ite c thn els) t = .ok t' ↔ ∃ v b, evalE C.N t.env c = .ok v ∧ asBool C.N v = some b ∧
      execs C (if b then thn else els) t = .ok t' := by
  simp only [exec]
  cases evalE C.N t.env c with
  | error f => simp
  | ok v =>
    cases hb : asBool C.N v with
    | none => simp [hb]
    | some b => cases b <;> simp [hb]

theorem exec_decl_none {ty n : String} : exec C (.decl ty n none) t =
    .ok { t with env := if isVecType ty then t.env.set n (.vec []) else t.env.declare n } := by
  simp only [exec]

theorem exec_decl_some_ok_iff {ty n : String} {e : CExpr} :
    exec C (.decl ty n (some e)) t = .ok t' ↔ ∃ v v', evalE C.N t.env e = .ok v ∧ castTo C.N ty v = .ok v' ∧
      { t with env := t.env.set n v' } = t' := by
  simp only [exec]
  cases evalE C.N t.env e with
  | error f => simp
  | ok v => cases hc : castTo C.N ty v <;> simp [hc]

theorem exec_set_ok_iff {x : String} {e : CExpr} :
    exec C (.set x e) t = .ok t' ↔ (t.env x).isSome = true ∧ ∃ v, evalE C.N t.env e = .ok v ∧
      { t with env := t.env.set x v } = t' := by
  simp only [exec]
  cases t.env x with
  | none => simp
  | some _ => cases evalE C.N t.env e <;> simp

theorem exec_push_ok_iff {x : String} {e : CExpr} :
    exec C (.push x e) t = .ok t' ↔ ∃ l v, t.env x = some (.val (.vec l)) ∧ evalE C.N t.env e = .ok v ∧
      { t with env := t.env.set x (.vec (l ++ [v])) } = t' := by
  simp only [exec]
  cases t.env x with
  | none => simp
  | some sl =>
    cases sl with
    | uninit => simp
    | val w => cases w <;> simp <;> cases evalE C.N t.env e <;> simp

theorem exec_clear_ok_iff {x : String} :
    exec C (.clear x) t = .ok t' ↔ ∃ l, t.env x = some (.val (.vec l)) ∧ { t with env := t.env.set x (.vec []) } = t' := by
  simp only [exec]
  cases t.env x with
  | none => simp
  | some sl =>
    cases sl with
    | uninit => simp
    | val w => cases w <;> simp

theorem exec_fill_ok_iff {tr : String} :
    exec C (.fill tr) t = .ok t' ↔ ∃ r, readCols t.env C.cols = .ok r ∧ { t with rows := t.rows ++ [r] } = t' := by
  simp only [exec]
  cases readCols t.env C.cols <;> simp

theorem exec_retrieve_ok_iff {how ty v token : String} {bank : CExpr} :
    exec C (.retrieve how ty v bank token) t = .ok t' ↔ (t.env v).isSome = true ∧
      ∃ content, retrReq C t.env how ty bank token = .ok content ∧ { t with env := t.env.set v content } = t' := by
  simp only [exec]
  cases t.env v with
  | none => simp
  | some _ => cases retrReq C t.env how ty bank token <;> simp

end

-- Forwards, for putting a run together: a sequence runs its parts in order; `set` and `ite` once their expression is evaluated.
theorem execs_single (C : Ctx D) (st : Stmt) (s : St D) : execs C [st] s = exec C st s := by
  simp only [execs]
  cases exec C st s <;> rfl

theorem execs_cons_ok (C : Ctx D) {st : Stmt} (rs : List Stmt) {s s1 : St D} (h : exec C st s = .ok s1) :
    execs C (st :: rs) s = execs C rs s1 := by
  simp only [execs, h]

theorem execs_append (C : Ctx D) : ∀ (a b : List Stmt) (s : St D),
    execs C (a ++ b) s = (match execs C a s with
      | .ok s' => execs C b s'
      | .error f => .error f)
  | [], b, s => by simp [execs]
  | st :: a, b, s => by
    simp only [List.cons_append, execs]
    cases exec C st s with
    | error f => rfl
    | ok s' => simp only []; exact execs_append C a b s'

theorem execs_append_ok (C : Ctx D) {a : List Stmt} (b : List Stmt) {s s1 : St D} (h : execs C a s = .ok s1) :
    execs C (a ++ b) s = execs C b s1 := by
  rw [execs_append, h]

theorem execs_append_err (C : Ctx D) {a : List Stmt} (b : List Stmt) {s : St D} {f : Fault} (h : execs C a s = .error f) :
    execs C (a ++ b) s = .error f := by
  rw [execs_append, h]

theorem exec_set_ok (C : Ctx D) (s : St D) (x : String) (e : CExpr) (v : Val D)
    (hx : (s.env x).isSome = true) (he : evalE C.N s.env e = .ok v) :
    exec C (.set x e) s = .ok { s with env := s.env.set x v } :=
  exec_set_ok_iff.2 ⟨hx, v, he, rfl⟩

theorem exec_set_err (C : Ctx D) (s : St D) (x : String) (e : CExpr) (f : Fault)
    (hx : (s.env x).isSome = true) (he : evalE C.N s.env e = .error f) :
    exec C (.set x e) s = .error f := by
  simp only [exec, he]
  cases h : s.env x with
  | none => rw [h] at hx; simp at hx
  | some _ => rfl

theorem exec_ite_of (C : Ctx D) (s : St D) (c : CExpr) (t e : List Stmt) (v : Val D) (b : Bool)
    (hc : evalE C.N s.env c = .ok v) (hb : asBool C.N v = some b) :
    exec C (.ite c t e) s = execs C (if b then t else e) s := by
  simp only [exec, hc, hb]
  cases b <;> rfl

theorem exec_ite_err (C : Ctx D) (s : St D) (c : CExpr) (t e : List Stmt) (f : Fault)
    (hc : evalE C.N s.env c = .error f) : exec C (.ite c t e) s = .error f := by
  simp only [exec, hc]

theorem runEvent_of_exec {P : Package} {N : Num D} {σc : Env D} {ev : Event D} {s : St D}
    (h : exec (P.ctx N ev) P.body ⟨σc, []⟩ = .ok s) :
    runEvent P N σc ev = .ok (s.rows, keepClass P.classVars s.env) := by
  simp only [runEvent, h]

theorem unop_not (N : Num D) (v : Val D) (b : Bool) (h : asBool N v = some b) : unop N "!" v = .ok (.bool (!b)) := by
  cases v <;> simp_all [unop]

mutual
  theorem evalE_congr (N : Num D) (σ σ' : Env D) :
      ∀ e : CExpr, (∀ x ∈ vars e, σ x = σ' x) → evalE N σ e = evalE N σ' e
    | .var n, h => by simp only [evalE, h n (by simp [vars])]
    | .int _, _ => by simp [evalE]
    | .dbl _ _ _, _ => by simp [evalE]
    | .bool _, _ => by simp [evalE]
    | .str _, _ => by simp [evalE]
    | .un op a, h => by
      simp only [evalE, evalE_congr N σ σ' a (fun x hx => h x (by simpa [vars] using hx))]
    | .bin op a b, h => by
      simp only [evalE, evalE_congr N σ σ' a (fun x hx => h x (by simp [vars, hx])),
        evalE_congr N σ σ' b (fun x hx => h x (by simp [vars, hx]))]
    | .deref a, h => by
      simp only [evalE, evalE_congr N σ σ' a (fun x hx => h x (by simpa [vars] using hx))]
    | .mem o _ name args, h => by
      simp only [evalE, evalE_congr N σ σ' o (fun x hx => h x (by simp [vars, hx])),
        evalEs_congr N σ σ' args (fun x hx => h x (by simp [vars, hx]))]
    | .call f args, h => by
      simp only [evalE, evalEs_congr N σ σ' args (fun x hx => h x (by simpa [vars] using hx))]
    | .cast ty a, h => by
      simp only [evalE, evalE_congr N σ σ' a (fun x hx => h x (by simpa [vars] using hx))]
    | .opaque _, _ => by simp [evalE]
  theorem evalEs_congr (N : Num D) (σ σ' : Env D) :
      ∀ es : List CExpr, (∀ x ∈ varsL es, σ x = σ' x) → evalEs N σ es = evalEs N σ' es
    | [], _ => by simp [evalEs]
    | e :: es, h => by
      simp only [evalEs, evalE_congr N σ σ' e (fun x hx => h x (by simp [varsL, hx])),
        evalEs_congr N σ σ' es (fun x hx => h x (by simp [varsL, hx]))]
end

theorem classInit_cons_ne (ty x : String) (rest : List (String × String)) {y : String} (h : y ≠ x) :
    (classInit ((ty, x) :: rest) : Env D) y = classInit rest y := by
  simp only [classInit]; split
  · exact Env.set_ne _ x y _ h
  · exact Env.declare_ne _ x y h

theorem classInit_cons_self (ty x : String) (rest : List (String × String)) :
    (classInit ((ty, x) :: rest) : Env D) x = if isVecType ty then some (.val (.vec [])) else some .uninit := by
  simp only [classInit]; split
  · exact Env.set_eq ..
  · exact Env.declare_eq ..

theorem classInit_decl : ∀ (vars : List (String × String)) (x : String), x ∈ classNames vars →
    ((classInit vars : Env D) x).isSome = true
  | [], x, h => by simp [classNames] at h
  | (ty, n) :: rest, x, h => by
    by_cases hx : x = n
    · subst hx; rw [classInit_cons_self]; split <;> rfl
    · rw [classInit_cons_ne ty n rest hx]
      exact classInit_decl rest x (by simpa [classNames, hx] using h)

theorem classInit_vec : ∀ (vars : List (String × String)), (classNames vars).Nodup → ∀ ty n, (ty, n) ∈ vars →
    isVecType ty = true → (classInit vars : Env D) n = some (.val (.vec []))
  | [], _, ty, n, h, _ => by simp at h
  | (ty0, n0) :: rest, hnd, ty, n, h, hv => by
    simp only [classNames, List.map_cons, List.nodup_cons] at hnd
    rcases List.mem_cons.1 h with heq | hmem
    · simp only [Prod.mk.injEq] at heq
      obtain ⟨rfl, rfl⟩ := heq
      rw [classInit_cons_self, if_pos hv]
    · have hne : n ≠ n0 := fun e => hnd.1 (List.mem_map.2 ⟨(ty, n), hmem, e ▸ rfl⟩)
      rw [classInit_cons_ne ty0 n0 rest hne]
      exact classInit_vec rest hnd.2 ty n hmem hv

theorem keepClass_of_mem {vars : List (String × String)} {x : String} (hx : x ∈ classNames vars) (σ : Env D) :
    keepClass vars σ x = σ x := by
  obtain ⟨p, hm, rfl⟩ := List.mem_map.1 hx
  have : vars.any (fun q => decide (q.2 = p.2)) = true := List.any_eq_true.2 ⟨p, hm, by simp⟩
  simp [keepClass, this]

end FaxVerif.Cpp
