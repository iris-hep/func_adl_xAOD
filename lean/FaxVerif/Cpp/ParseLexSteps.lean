/-
Cpp.ParseLexSteps — the tokenizer of Cpp/Parse.lean, one step at a time: its one-step lemmas (operators, strings,
blanks); identifier and numeral tokens are local (a text that is one token on its own is the same token in front of any
text that cannot extend it); the tokenizer over one printed token followed by such a text, as the relation `Lexes`, which
composes by concatenation; what may follow a printed expression.
-/
import FaxVerif.Cpp.ParseBaseProofs
namespace FaxVerif.Cpp.Parse
open FaxVerif.Cpp

theorem lexAux_nil (n : Nat) : lexAux (n + 1) [] = some [] := by simp [lexAux]

theorem lexAux_ws (n : Nat) (c : Char) (r : Str) (h : isWs c = true) : lexAux n (c :: r) = lexAux n r := by
  cases n <;> simp [lexAux, h]

theorem map_map_cons (o : Option (List Tok)) (t : Tok) (ts : List Tok) :
    (o.map (ts ++ ·)).map (t :: ·) = o.map ((t :: ts) ++ ·) := by cases o <;> simp

theorem map_map_app (o : Option (List Tok)) (ts us : List Tok) :
    (o.map (us ++ ·)).map (ts ++ ·) = o.map ((ts ++ us) ++ ·) := by cases o <;> simp

/-- the tokenizer reads the tokens `ts` off `s` when `rest` follows, one unit of fuel per token; and there are no more
tokens than characters (what makes the fuel `s.length + 1` of `tokenize` enough) -/
structure Lexes (s : Str) (ts : List Tok) (rest : Str) : Prop where
  len : ts.length ≤ s.length
  run : ∀ fuel, lexAux (fuel + ts.length) (s ++ rest) = (lexAux fuel rest).map (ts ++ ·)

theorem Lexes.tok {c : Char} {w rest : Str} {t : Tok} (hws : isWs c = false)
    (h : lexOne c (w ++ rest) = some (t, rest)) : Lexes (c :: w) [t] rest :=
  ⟨by simp, fun fuel => by cases h2 : lexAux fuel rest <;> simp [lexAux, hws, h, h2]⟩

theorem Lexes.append {s s' : Str} {ts ts' : List Tok} {rest : Str} (h : Lexes s ts (s' ++ rest)) (h' : Lexes s' ts' rest) :
    Lexes (s ++ s') (ts ++ ts') rest :=
  ⟨by have := h.len; have := h'.len; simp only [List.length_append]; omega, fun fuel => by
    rw [show fuel + (ts ++ ts').length = fuel + ts'.length + ts.length by simp; omega, List.append_assoc, h.run, h'.run,
      map_map_app]⟩

theorem Lexes.ws {c : Char} {s : Str} {ts : List Tok} {rest : Str} (hc : isWs c = true) (h : Lexes s ts rest) :
    Lexes (c :: s) ts rest :=
  ⟨by have := h.len; simp only [List.length_cons]; omega, fun fuel => by
    rw [List.cons_append, lexAux_ws _ _ _ hc]
    exact h.run fuel⟩

theorem Lexes.tokenize {s : Str} {ts : List Tok} (h : Lexes s ts []) : tokenize s = some ts := by
  obtain ⟨k, hk⟩ : ∃ k, s.length + 1 = (k + 1) + ts.length := ⟨s.length - ts.length, by have := h.len; omega⟩
  have := h.run (k + 1)
  rw [List.append_nil, lexAux_nil, Option.map_some, List.append_nil] at this
  rw [Parse.tokenize, hk, this]

theorem lexOne_op1 (c : Char) (rest : Str) (h1 : ops1.contains c = true) (hd : c.isDigit = false)
    (hi : isIdStart c = false) (hq : c ≠ '"')
    (hdot : c = '.' → Runs.HeadFails Char.isDigit rest)
    (h2 : Runs.HeadIs (fun d => ops2.contains [c, d] = false) rest) :
    lexOne c rest = some (.op [c], rest) := by
  have hn : lexNum c rest = none := by
    unfold lexNum
    simp only [hd]
    by_cases hc : c = '.'
    · have := hdot hc
      cases rest with
      | nil => simp [hc]
      | cons d r => simp [hc, this d rfl]
    · simp [hc]
  have h1' : c ∈ ops1 := by simpa using h1
  unfold lexOne
  simp only [hn, hi, hq]
  cases rest with
  | nil => simp [h1']
  | cons d r =>
    have : ¬ [c, d] ∈ ops2 := by simpa using h2 d rfl
    simp [this, h1']

theorem ops2_chars (c d : Char) (h : ops2.contains [c, d] = true) : c ∈ cl!"-<>=!&|" ∧ d ∈ cl!">=&|" :=
  (by decide : ∀ o ∈ ops2, o.headD ' ' ∈ cl!"-<>=!&|" ∧ o.tail.headD ' ' ∈ cl!">=&|") [c, d] (by simpa using h)

theorem op2First_facts : ∀ c ∈ cl!"-<>=!&|",
    c.isDigit = false ∧ c ≠ '.' ∧ isIdStart c = false ∧ c ≠ '"' ∧ isWs c = false := by decide

theorem lexOne_op2 (c d : Char) (rest : Str) (h : ops2.contains [c, d] = true) :
    lexOne c (d :: rest) = some (.op [c, d], rest) := by
  obtain ⟨hd, hdot, hi, hq, _⟩ := op2First_facts c (ops2_chars c d h).1
  have hn : lexNum c (d :: rest) = none := by simp [lexNum, hd, hdot]
  have h' : [c, d] ∈ ops2 := by simpa using h
  unfold lexOne
  simp [hn, hi, hq, h']

theorem lexOne_str (s rest : Str) (h : s.all (fun c => c != '"' && c != '\\') = true) :
    lexOne '"' (s ++ '"' :: rest) = some (.str s, rest) := by
  have hn : lexNum '"' (s ++ '"' :: rest) = none := by unfold lexNum; simp
  unfold lexOne
  simp [hn, scanStr_plain s rest h, show isIdStart '"' = false by decide]

/-- what may follow a numeral: not a digit, not `.`, not `e` / `E` -/
def safeNum (rest : Str) : Prop := Runs.HeadIs (fun d => d.isDigit = false ∧ d ≠ '.' ∧ d ≠ 'e' ∧ d ≠ 'E') rest

theorem safeNum_digit {rest : Str} (h : safeNum rest) : Runs.HeadFails Char.isDigit rest := h.mono fun _ => And.left

theorem signSplit_append (X rest : Str) (hX : X ≠ []) : signSplit (X ++ rest) = ((signSplit X).1, (signSplit X).2 ++ rest) := by
  cases X with
  | nil => exact absurd rfl hX
  | cons c r => by_cases hc : c = '+' ∨ c = '-' <;> simp [signSplit, hc]

theorem lexExp_local (X rest : Str) (hs : safeNum rest) (a : Str) (h : lexExp X = (a, [])) :
    lexExp (X ++ rest) = (a, rest) := by
  have hd := safeNum_digit hs
  cases X with
  | nil =>
    simp only [lexExp] at h
    have : a = [] := by simpa using (congrArg Prod.fst h).symm
    subst this
    cases rest with
    | nil => simp [lexExp]
    | cons d r =>
      obtain ⟨_, _, h3, h4⟩ := hs d rfl
      simp [lexExp, h3, h4]
  | cons e r4 =>
    by_cases he : e = 'e' ∨ e = 'E'
    · by_cases hr4 : r4 = []
      · subst hr4; simp [lexExp, he, signSplit] at h
      · simp only [lexExp, he, if_true, List.cons_append] at h ⊢
        rw [signSplit_append r4 rest hr4]
        simp only
        rw [Runs.takeWhile_append_stop _ hd, Runs.dropWhile_append_stop _ hd]
        by_cases hds : (signSplit r4).2.takeWhile Char.isDigit = []
        · simp [hds] at h
        · simp only [hds, if_false] at h ⊢
          have h1 := congrArg Prod.fst h
          have h2 := congrArg Prod.snd h
          simp only at h1 h2
          rw [h1, h2]; simp
    · simp [lexExp, he] at h

/-- what may follow an identifier: not a word character, not `:` -/
def safeId (rest : Str) : Prop := Runs.HeadIs (fun d => isWord d = false ∧ d ≠ ':') rest

theorem safeId_word {rest : Str} (h : safeId rest) : Runs.HeadFails isWord rest := h.mono fun _ => And.left

theorem idSeg_local (X rest : Str) (hs : safeId rest) :
    idSeg (X ++ rest) = (idSeg X).map (fun p => (p.1, p.2 ++ rest)) := by
  have h1 := safeId_word hs
  have hstart : ∀ d r, rest = d :: r → isIdStart d = false := by
    intro d r e
    have := (hs d (by rw [e]; rfl)).1
    cases hi : isIdStart d with
    | false => rfl
    | true => rw [isWord_of_isIdStart d hi] at this; cases this
  match X with
  | a :: b :: c :: r =>
    by_cases hc : a = ':' ∧ b = ':' ∧ isIdStart c = true
    · simp [idSeg, hc, Runs.takeWhile_append_stop r h1, Runs.dropWhile_append_stop r h1]
    · simp [idSeg, hc]
  | [] =>
    match rest with
    | [] => simp [idSeg]
    | [d] => simp [idSeg]
    | [d, e] => simp [idSeg]
    | d :: e :: f :: r => simp [idSeg, (hs d rfl).2]
  | [a] =>
    match rest with
    | [] => simp [idSeg]
    | [d] => simp [idSeg]
    | d :: e :: r => simp [idSeg, (hs d rfl).2]
  | [a, b] =>
    match rest with
    | [] => simp [idSeg]
    | d :: r => simp [idSeg, hstart d r rfl]

theorem idSeg_length (s seg rest : Str) (h : idSeg s = some (seg, rest)) : rest.length < s.length := by
  match s with
  | a :: b :: c :: r =>
    by_cases hc : a = ':' ∧ b = ':' ∧ isIdStart c = true
    · simp [idSeg, hc] at h
      have hl : (r.dropWhile isWord).length ≤ r.length := (List.dropWhile_sublist _).length_le
      rw [← h.2]; simp; omega
    · simp [idSeg, hc] at h
  | [] => simp [idSeg] at h
  | [a] => simp [idSeg] at h
  | [a, b] => simp [idSeg] at h

theorem lexIdTail_fuel : ∀ (f f' : Nat) (X : Str), X.length ≤ f → X.length ≤ f' → lexIdTail f X = lexIdTail f' X := by
  intro f
  induction f with
  | zero =>
    intro f' X h _
    have : X = [] := by cases X <;> simp_all
    subst this
    cases f' <;> simp [lexIdTail, idSeg]
  | succ f ih =>
    intro f' X h h'
    cases f' with
    | zero =>
      have : X = [] := by cases X <;> simp_all
      subst this
      simp [lexIdTail, idSeg]
    | succ f' =>
      simp only [lexIdTail]
      cases hs : idSeg X with
      | none => rfl
      | some p =>
        have := idSeg_length X p.1 p.2 hs
        simp only
        rw [ih f' p.2 (by omega) (by omega)]

theorem lexIdTail_local : ∀ (f : Nat) (X rest : Str), safeId rest →
    lexIdTail f (X ++ rest) = ((lexIdTail f X).1, (lexIdTail f X).2 ++ rest) := by
  intro f
  induction f with
  | zero => intro X rest _; simp [lexIdTail]
  | succ f ih =>
    intro X rest hr
    simp only [lexIdTail, idSeg_local X rest hr]
    cases hs : idSeg X with
    | none => simp
    | some p => simp [ih p.2 rest hr]

theorem lexNum_idStart (c : Char) (r : Str) (h : isIdStart c = true) : lexNum c r = none := by
  have h1 : c.isDigit = false := by
    cases hd : c.isDigit with
    | false => rfl
    | true =>
      have := isIdStart_toNat h
      have := isDigit_toNat hd
      omega
  have h2 : c ≠ '.' := by intro e; subst e; revert h; decide
  simp [lexNum, h1, h2]

theorem lexOne_id (c : Char) (w rest : Str) (hc : isIdStart c = true)
    (h : lexOne c w = some (.id (c :: w), [])) (hs : safeId rest) :
    lexOne c (w ++ rest) = some (.id (c :: w), rest) := by
  have hn := lexNum_idStart c w hc
  have hn' := lexNum_idStart c (w ++ rest) hc
  simp only [lexOne, hn, hc, if_true, Option.some.injEq, Prod.mk.injEq, Tok.id.injEq] at h
  obtain ⟨h1, h2⟩ := h
  have hl : (w.dropWhile isWord).length ≤ w.length := (List.dropWhile_sublist _).length_le
  simp only [lexOne, hn', hc, if_true]
  rw [Runs.takeWhile_append_stop w (safeId_word hs), Runs.dropWhile_append_stop w (safeId_word hs),
    lexIdTail_local _ _ rest hs,
    lexIdTail_fuel (w ++ rest).length w.length _ (by simp; omega) hl, h2]
  simp [h1]

theorem lexNum_local (c : Char) (w rest t : Str) (hs : safeNum rest) (h : lexNum c w = some (t, [])) :
    lexNum c (w ++ rest) = some (t, rest) := by
  have hd := safeNum_digit hs
  have hdot : rest.head? ≠ some '.' := by
    cases rest with
    | nil => simp
    | cons d r => simpa using (hs d rfl).2.1
  unfold lexNum at h ⊢
  by_cases hc : c.isDigit = true
  · simp only [hc, if_true] at h ⊢
    have e1 : c :: (w ++ rest) = (c :: w) ++ rest := rfl
    rw [e1, Runs.takeWhile_append_stop (c :: w) hd, Runs.dropWhile_append_stop (c :: w) hd]
    by_cases hdt : ((c :: w).dropWhile Char.isDigit).head? = some '.'
    · have hr1 : (c :: w).dropWhile Char.isDigit ≠ [] := fun e => by simp [e] at hdt
      rw [List.head?_append, hdt, Option.some_or, List.tail_append_of_ne_nil hr1]
      simp only [hdt, if_true] at h ⊢
      rw [Runs.takeWhile_append_stop _ hd, Runs.dropWhile_append_stop _ hd]
      simp only [Option.some.injEq, Prod.mk.injEq] at h
      rw [lexExp_local _ rest hs _ (Prod.ext rfl h.2)]
      simp [h.1]
    · have hdt' : ((c :: w).dropWhile Char.isDigit ++ rest).head? ≠ some '.' := by
        cases hD : (c :: w).dropWhile Char.isDigit with
        | nil => exact hdot
        | cons x y => simpa [hD] using hdt
      simp only [hdt, hdt', if_false] at h ⊢
      simp only [Option.some.injEq, Prod.mk.injEq] at h
      rw [lexExp_local _ rest hs _ (Prod.ext rfl h.2)]
      simp [h.1]
  · simp only [hc] at h ⊢
    by_cases hp : c = '.'
    · simp only [hp, if_true] at h ⊢
      rw [Runs.takeWhile_append_stop w hd, Runs.dropWhile_append_stop w hd]
      by_cases hfs : w.takeWhile Char.isDigit = []
      · simp [hfs] at h
      · have h' : '.' :: w.takeWhile Char.isDigit ++ (lexExp (w.dropWhile Char.isDigit)).1 = t ∧
            (lexExp (w.dropWhile Char.isDigit)).2 = [] := by simpa [hfs] using h
        rw [lexExp_local _ rest hs _ (Prod.ext rfl h'.2)]
        simp [hfs, h'.1]
    · simp [hp] at h

theorem lexOne_num (c : Char) (w rest : Str) (hs : safeNum rest) (h : lexNum c w = some (c :: w, [])) :
    lexOne c (w ++ rest) = some (.num (c :: w), rest) := by
  simp [lexOne, lexNum_local c w rest _ hs h]

/-- the character cannot be the second one of a two-character operator -/
abbrev okFirst (d : Char) : Prop := d ∉ cl!">=&|"

theorem not_mem_of_isWord {c : Char} {l : Str} (hw : isWord c = true) (hl : l.all (fun d => !isWord d) = true) : c ∉ l :=
  fun hm => by simpa [hw] using List.all_eq_true.mp hl c hm

theorem no_op2_of_okFirst (c d : Char) (h : okFirst d) : ops2.contains [c, d] = false := by
  cases hc : ops2.contains [c, d] with
  | false => rfl
  | true => exact absurd (ops2_chars c d hc).2 h

theorem no_op2_of_first (c d : Char) (h : c ∉ cl!"-<>=!&|") : ops2.contains [c, d] = false := by
  cases hc : ops2.contains [c, d] with
  | false => rfl
  | true => exact absurd (ops2_chars c d hc).1 h

/-- the single-character operator tokens the printer writes -/
abbrev op1Char (c : Char) : Prop := c ∈ cl!"()*<>.,-+!/%"

theorem op1Char_facts : ∀ c ∈ cl!"()*<>.,-+!/%",
    ops1.contains c = true ∧ c.isDigit = false ∧ isIdStart c = false ∧ c ≠ '"' ∧ isWs c = false := by decide +kernel

theorem lex_step_op1 (c : Char) (rest : Str) (hc : op1Char c)
    (hdot : c = '.' → Runs.HeadFails Char.isDigit rest)
    (h2 : Runs.HeadIs (fun d => ops2.contains [c, d] = false) rest) : Lexes [c] [.op [c]] rest := by
  obtain ⟨f1, f2, f3, f4, f5⟩ := op1Char_facts c hc
  exact .tok f5 (lexOne_op1 c rest f1 f2 f3 f4 hdot h2)

theorem lex_step_op1' (c : Char) (rest : Str) (hc : op1Char c) (hne : c ≠ '.') (hf : c ∉ cl!"-<>=!&|") :
    Lexes [c] [.op [c]] rest :=
  lex_step_op1 c rest hc (fun h => absurd h hne) (fun d _ => no_op2_of_first c d hf)

theorem lex_step_op1_of_next (c : Char) (rest : Str) (hc : op1Char c) (hne : c ≠ '.') (hf : Runs.HeadIs okFirst rest) :
    Lexes [c] [.op [c]] rest :=
  lex_step_op1 c rest hc (fun h => absurd h hne) (hf.mono (no_op2_of_okFirst c))

theorem lex_step_op2 (c d : Char) (rest : Str) (h : ops2.contains [c, d] = true) : Lexes [c, d] [.op [c, d]] rest :=
  .tok (op2First_facts c (ops2_chars c d h).1).2.2.2.2 (lexOne_op2 c d rest h)

theorem idTokOk_spec (n : Str) (h : idTokOk n = true) :
    ∃ c w, n = c :: w ∧ isIdStart c = true ∧ lexOne c w = some (.id (c :: w), []) := by
  cases n with
  | nil => simp [idTokOk] at h
  | cons c w =>
    simp only [idTokOk, Bool.and_eq_true, beq_iff_eq] at h
    exact ⟨c, w, rfl, h.1, h.2⟩

theorem lex_step_sel (ar : Bool) (n rest : Str) (hn : idTokOk n = true) :
    Lexes (if ar then cl!"->" else cl!".") [.op (if ar then cl!"->" else ['.'])] (n ++ rest) := by
  cases ar with
  | true => exact lex_step_op2 '-' '>' (n ++ rest) (by decide)
  | false =>
    obtain ⟨cn, wn, rfl, hcs, _⟩ := idTokOk_spec _ hn
    refine lex_step_op1 '.' _ (by decide) (fun _ => Runs.headFails_cons _ ?_) (fun d _ => no_op2_of_first '.' d (by decide))
    cases hdg : cn.isDigit with
    | false => rfl
    | true =>
      have := isIdStart_toNat hcs
      have := isDigit_toNat hdg
      omega

theorem lex_step_id (n rest : Str) (h : idTokOk n = true) (hs : safeId rest) : Lexes n [.id n] rest := by
  obtain ⟨c, w, rfl, hc, hl⟩ := idTokOk_spec n h
  exact .tok (isWs_of_isWord c (isWord_of_isIdStart c hc)) (lexOne_id c w rest hc hl hs)

theorem lexNum_first (c : Char) (w t r : Str) (h : lexNum c w = some (t, r)) : c.isDigit = true ∨ c = '.' := by
  by_cases hd : c.isDigit = true
  · exact Or.inl hd
  · by_cases hp : c = '.'
    · exact Or.inr hp
    · simp [lexNum, hd, hp] at h

theorem isWs_of_isDigit (c : Char) (h : c.isDigit = true) : isWs c = false := by
  apply isWs_of_isWord
  simp [isWord, Char.isAlphanum, h]

theorem numTokOk_spec (t : Str) (h : numTokOk t = true) :
    ∃ c w, t = c :: w ∧ lexNum c w = some (c :: w, []) ∧ (c.isDigit = true ∨ c = '.') := by
  cases t with
  | nil => simp [numTokOk] at h
  | cons c w =>
    simp only [numTokOk, beq_iff_eq] at h
    exact ⟨c, w, rfl, h, lexNum_first c w _ _ h⟩

theorem lex_step_num (t rest : Str) (h : numTokOk t = true) (hs : safeNum rest) : Lexes t [.num t] rest := by
  obtain ⟨c, w, rfl, hl, hc⟩ := numTokOk_spec t h
  have hws : isWs c = false := by
    rcases hc with hc | hc
    · exact isWs_of_isDigit c hc
    · subst hc; decide
  exact .tok hws (lexOne_num c w rest hs hl)

theorem lex_step_str (s rest : Str) (h : s.all (fun c => c != '"' && c != '\\') = true) :
    Lexes ('"' :: s ++ ['"']) [.str s] rest :=
  .tok (by decide) (by simpa using lexOne_str s rest h)

/-- the characters the printer puts behind a printed expression; `.` (a member access) only when the text does not end
in a numeral (`endsNum`), which would read it as its own -/
def safeHead (num : Bool) (d : Char) : Bool :=
  [')', ',', '|', '&', '=', '!', '<', '>', '+', '-', '*', '/', '%'].contains d || (!num && d == '.')

def safeAfter (num : Bool) (rest : Str) : Prop := ∀ d r, rest = d :: r → safeHead num d = true

theorem safeHead_facts (num : Bool) (d : Char) (h : safeHead num d = true) :
    isWord d = false ∧ d ≠ ':' ∧ d.isDigit = false ∧ d ≠ 'e' ∧ d ≠ 'E' ∧ (num = true → d ≠ '.') := by
  simp only [safeHead, List.contains_eq_mem, Bool.or_eq_true, decide_eq_true_eq, Bool.and_eq_true,
    Bool.not_eq_true', beq_iff_eq] at h
  rcases h with h | ⟨h1, rfl⟩
  · obtain ⟨a1, a2, a3, a4, a5, a6⟩ := (by decide : ∀ d ∈ cl!"),|&=!<>+-*/%",
      isWord d = false ∧ d ≠ ':' ∧ d.isDigit = false ∧ d ≠ 'e' ∧ d ≠ 'E' ∧ d ≠ '.') d h
    exact ⟨a1, a2, a3, a4, a5, fun _ => a6⟩
  · exact ⟨by decide, by decide, by decide, by decide, by decide, fun hn => by rw [h1] at hn; cases hn⟩

theorem safeAfter_iff {num : Bool} {rest : Str} : safeAfter num rest ↔ Runs.HeadIs (safeHead num · = true) rest :=
  Runs.headIs_iff.symm

theorem safeAfter_id {num : Bool} {rest : Str} (h : safeAfter num rest) : safeId rest :=
  (safeAfter_iff.1 h).mono fun d hd => ⟨(safeHead_facts num d hd).1, (safeHead_facts num d hd).2.1⟩

theorem safeAfter_num {rest : Str} (h : safeAfter true rest) : safeNum rest :=
  (safeAfter_iff.1 h).mono fun d hd =>
    have f := safeHead_facts true d hd
    ⟨f.2.2.1, f.2.2.2.2.2 rfl, f.2.2.2.1, f.2.2.2.2.1⟩

theorem safeAfter_weaken {num : Bool} {rest : Str} (h : safeAfter true rest) : safeAfter num rest := by
  intro d r e
  have := h d r e
  simp only [safeHead, Bool.or_eq_true] at this ⊢
  rcases this with h1 | h1
  · exact Or.inl h1
  · simp at h1

theorem safeAfter_cons (num : Bool) (d : Char) (r : Str) (h : safeHead num d = true) : safeAfter num (d :: r) :=
  fun _ _ e => (List.cons.inj e).1 ▸ h

theorem safeAfter_nil (num : Bool) : safeAfter num [] := fun d r e => by cases e

end FaxVerif.Cpp.Parse
