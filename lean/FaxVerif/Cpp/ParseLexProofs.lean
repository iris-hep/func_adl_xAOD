/-
Cpp.ParseLexProofs — the tokenizer of Cpp/Parse.lean splits the printed text of an expression into the printer's tokens:
`tokenize (renderE e) = some (toksE e)` for every expression satisfying `wfT` and `wfL` (C02.lex_render). At the end,
where tokenizer and token parser (ParseExprProofs) meet: `parseExpr (renderE e) = e`, and with it the decidable `exprWf` /
`StmtWf` / `ListWf` imply the hypotheses `exprOk` / `StmtOk` / `ListOk` of the round trip of ParseProofs.
-/
import FaxVerif.Cpp.ParseLexSteps
import FaxVerif.Cpp.ParseExprProofs
namespace FaxVerif.Cpp.Parse
open FaxVerif.Cpp

theorem renderArgs_cons (a : CExpr) (l : List CExpr) : renderArgs (a :: l) = renderE a ++ renderMore l := by
  induction l generalizing a with
  | nil => simp [renderArgs, renderMore]
  | cons b r ih => simp [renderArgs, renderMore, ih b]

/-- the first character of a printed expression: a word character, `.` (a numeral), `"`, `(` or `*` -/
theorem renderE_first_of (P : Char → Prop) (hw : ∀ c, isWord c = true → P c) (hdot : P '.') (hq : P '"')
    (hopen : P '(') (hstar : P '*') (e : CExpr) (h : wfT e = true) (hl : wfL e = true) :
    ∃ d, (renderE e).head? = some d ∧ P d := by
  have num : ∀ t : Str, numTokOk t = true → ∃ d, t.head? = some d ∧ P d := fun t ht => by
    obtain ⟨c, w, rfl, _, hc⟩ := numTokOk_spec _ ht
    refine ⟨c, rfl, ?_⟩
    rcases hc with hc | rfl
    · exact hw c (by simp [isWord, Char.isAlphanum, hc])
    · exact hdot
  have name : ∀ n : Str, idTokOk n = true → ∀ r, ∃ d, (n ++ r).head? = some d ∧ P d := fun n hn r => by
    obtain ⟨c, w, rfl, hc, _⟩ := idTokOk_spec _ hn
    exact ⟨c, rfl, hw c (isWord_of_isIdStart c hc)⟩
  induction e using CExpr.rec (motive_2 := fun _ => True) with
  | var n => simpa [renderE] using name n.toList hl []
  | int v => exact num (toString v).toList hl
  | dbl t m ex => exact num t.toList hl
  | bool b => cases b <;> exact ⟨_, rfl, hw _ (by decide)⟩
  | str s => exact ⟨'"', rfl, hq⟩
  | un op a _ => exact ⟨'(', rfl, hopen⟩
  | bin op a b _ _ => exact ⟨'(', rfl, hopen⟩
  | deref a _ => exact ⟨'*', rfl, hstar⟩
  | mem o ar n args ih _ =>
    simp only [wfT, wfL, Bool.and_eq_true] at h hl
    obtain ⟨d, hr, hd⟩ := ih h.1.2 hl.1.1.2
    refine ⟨d, ?_, hd⟩
    cases hro : renderE o with
    | nil => simp [hro] at hr
    | cons x y => simpa [renderE, hro] using hr
  | call f args _ =>
    simp only [wfL, Bool.and_eq_true] at hl
    simpa [renderE] using name f.toList hl.1 ('(' :: (renderArgs args ++ [')']))
  | cast t a _ => exact ⟨'s', rfl, hw _ (by decide)⟩
  | «opaque» t => simp [wfT] at h
  | nil => trivial
  | cons a as _ _ => trivial

theorem renderE_first (e : CExpr) (h : wfT e = true) (hl : wfL e = true) (x : Str) :
    Runs.HeadIs okFirst (renderE e ++ x) := by
  obtain ⟨d0, hd0, hok⟩ := renderE_first_of okFirst (fun _ hw => not_mem_of_isWord hw (by decide)) (by decide) (by decide)
    (by decide) (by decide) e h hl
  exact Runs.headIs_append hd0 hok x

theorem safeAfter_close {num : Bool} {r : Str} : safeAfter num (')' :: r) := safeAfter_cons _ _ _ (by simp [safeHead])

theorem okFirst_open {r : Str} : Runs.HeadIs okFirst ('(' :: r) := Runs.headIs_cons r (by decide)

theorem lex_close (rest : Str) : Lexes [')'] [.op [')']] rest :=
  lex_step_op1' ')' rest (by decide) (by decide) (by decide)

theorem lex_open (rest : Str) : Lexes ['('] [.op ['(']] rest :=
  lex_step_op1' '(' rest (by decide) (by decide) (by decide)

/-- the token a binary operator is: one character of `op1Char` other than `.`, or one of `ops2`; and it may follow
any printed expression -/
def binTokOk (o : Str) : Bool :=
  match o with
  | [c] => decide (op1Char c) && c != '.' && safeHead true c
  | [c, d] => ops2.contains [c, d] && safeHead true c
  | _ => false

theorem opsAt_tok : ∀ L < 6, ∀ o ∈ opsAt L, binTokOk o = true := by decide +kernel

theorem lex_step_binop (o : Str) (L : Nat) (ho : o ∈ opsAt L) (rest : Str) (hf : Runs.HeadIs okFirst rest) :
    Lexes o [.op o] rest := by
  have h := opsAt_tok L (opsAt_lt ho) o ho
  match o, h with
  | [c], h =>
    simp only [binTokOk, Bool.and_eq_true, decide_eq_true_eq, bne_iff_ne, ne_eq] at h
    exact lex_step_op1_of_next c rest h.1.1 h.1.2 hf
  | [c, d], h =>
    simp only [binTokOk, Bool.and_eq_true] at h
    exact lex_step_op2 c d rest h.1

theorem binop_safe (o : Str) (L : Nat) (ho : o ∈ opsAt L) (num : Bool) (rest : Str) : safeAfter num (o ++ rest) := by
  have h := opsAt_tok L (opsAt_lt ho) o ho
  match o, h with
  | [c], h | [c, d], h =>
    simp only [binTokOk, Bool.and_eq_true] at h
    exact safeAfter_weaken (safeAfter_cons true c _ h.2)

theorem safeId_cons (d : Char) (r : Str) (h1 : isWord d = false) (h2 : d ≠ ':') : safeId (d :: r) :=
  Runs.headIs_cons r ⟨h1, h2⟩

theorem renderMore_safe (l : List CExpr) (rest : Str) (num : Bool) : safeAfter num (renderMore l ++ ')' :: rest) := by
  cases l with
  | nil => exact safeAfter_close
  | cons b r => simpa [renderMore] using safeAfter_cons num ',' _ (by simp [safeHead])

mutual
theorem lex_main (e : CExpr) (h : wfT e = true) (hl : wfL e = true) (rest : Str) (hs : safeAfter (endsNum e) rest) :
    Lexes (renderE e) (toksE e) rest := by
  cases e with
  | var n =>
    simp only [wfL] at hl
    simpa [toksE, renderE] using lex_step_id n.toList rest hl (safeAfter_id hs)
  | int v =>
    simp only [wfL] at hl
    simpa only [toksE, renderE] using lex_step_num (toString v).toList rest hl (safeAfter_num hs)
  | dbl t m ex =>
    simp only [wfL] at hl
    simpa only [toksE, renderE] using lex_step_num t.toList rest hl (safeAfter_num hs)
  | bool b =>
    cases b
    · simpa [toksE, renderE] using lex_step_id cl!"false" rest (by decide) (safeAfter_id hs)
    · simpa [toksE, renderE] using lex_step_id cl!"true" rest (by decide) (safeAfter_id hs)
  | str s =>
    simp only [wfL] at hl
    simpa [toksE, renderE] using lex_step_str s.toList rest hl
  | un op a =>
    simp only [wfT, Bool.and_eq_true, Bool.or_eq_true, beq_iff_eq] at h
    simp only [wfL] at hl
    obtain ⟨hop, ha⟩ := h
    obtain ⟨c, hc, hc1, hcd⟩ : ∃ c, op.toList = [c] ∧ op1Char c ∧ c ≠ '.' := by
      rcases hop with (rfl | rfl) | rfl <;> exact ⟨_, rfl, by decide, by decide⟩
    have := (lex_open _).append (lex_step_op1_of_next c _ hc1 hcd okFirst_open) |>.append (lex_open _)
      |>.append (lex_main a ha hl _ safeAfter_close) |>.append (lex_close _) |>.append (lex_close rest)
    simpa [toksE, renderE, hc] using this
  | bin op a b =>
    simp only [wfT, wfL, Bool.and_eq_true] at h hl
    obtain ⟨⟨hop, ha⟩, hb⟩ := h
    obtain ⟨L, hL⟩ := binOpOk_spec _ hop
    have := (lex_open _).append (lex_main a ha hl.1 _ (binop_safe _ L hL _ _))
      |>.append (lex_step_binop op.toList L hL _ (renderE_first b hb hl.2 _))
      |>.append (lex_main b hb hl.2 _ safeAfter_close) |>.append (lex_close rest)
    simpa [toksE, renderE] using this
  | deref a =>
    simp only [wfT, wfL] at h hl
    have := (lex_step_op1' '*' _ (by decide) (by decide) (by decide)).append (lex_main a h hl rest (by simpa [endsNum] using hs))
    simpa [toksE, renderE] using this
  | mem o ar n args =>
    simp only [wfT, Bool.and_eq_true] at h
    simp only [wfL, Bool.and_eq_true, Bool.not_eq_true'] at hl
    obtain ⟨⟨hso, ho⟩, hargs⟩ := h
    obtain ⟨⟨⟨hen, hlo⟩, hn⟩, hlargs⟩ := hl
    have := (lex_main o ho hlo _ (by rw [hen]; cases ar <;> exact safeAfter_cons _ _ _ (by simp [safeHead]))).append
        (lex_step_sel ar n.toList _ hn)
      |>.append (lex_step_id n.toList _ hn (safeId_cons _ _ (by decide) (by decide))) |>.append (lex_open _)
      |>.append (lexes_args args hargs hlargs rest)
    simpa [toksE, renderE] using this
  | call fn args =>
    simp only [wfT, wfL, Bool.and_eq_true] at h hl
    have := (lex_step_id fn.toList _ hl.1 (safeId_cons _ _ (by decide) (by decide))).append (lex_open _)
      |>.append (lexes_args args h.2 hl.2 rest)
    simpa [toksE, renderE] using this
  | cast t a =>
    simp only [wfT, wfL, Bool.and_eq_true] at h hl
    obtain ⟨ct, wt, hct, hcs, _⟩ := idTokOk_spec _ hl.1
    have hlt : ∀ x, Runs.HeadIs okFirst (t.toList ++ x) := fun x => by
      rw [hct]
      exact Runs.headIs_cons _ (not_mem_of_isWord (isWord_of_isIdStart _ hcs) (by decide))
    have := (lex_step_id cl!"static_cast" _ (by decide) (safeId_cons _ _ (by decide) (by decide))).append
        (lex_step_op1_of_next '<' _ (by decide) (by decide) (hlt _))
      |>.append (lex_step_id t.toList _ hl.1 (safeId_cons _ _ (by decide) (by decide)))
      |>.append (lex_step_op1_of_next '>' _ (by decide) (by decide) okFirst_open) |>.append (lex_open _)
      |>.append (lex_main a h.2 hl.2 _ safeAfter_close) |>.append (lex_close rest)
    simpa [toksE, renderE] using this
  | «opaque» t => simp [wfT] at h
theorem lexes_args (args : List CExpr) (h : wfTArgs args = true) (hl : wfLArgs args = true) (rest : Str) :
    Lexes (renderArgs args ++ [')']) (toksArgs args ++ [.op [')']]) rest := by
  cases args with
  | nil => simpa [toksArgs, renderArgs] using lex_close rest
  | cons a l =>
    simp only [wfTArgs, wfLArgs, Bool.and_eq_true] at h hl
    have := (lex_main a h.1 hl.1 (renderMore l ++ [')'] ++ rest) (by simpa using renderMore_safe l rest _)).append
      (lexes_more l h.2 hl.2 rest)
    simpa [toksArgs, renderArgs_cons] using this
theorem lexes_more (l : List CExpr) (h : wfTArgs l = true) (hl : wfLArgs l = true) (rest : Str) :
    Lexes (renderMore l ++ [')']) (toksMore l ++ [.op [')']]) rest := by
  cases l with
  | nil => simpa [toksMore, renderMore] using lex_close rest
  | cons b r =>
    simp only [wfTArgs, wfLArgs, Bool.and_eq_true] at h hl
    have ih := lex_main b h.1 hl.1 (renderMore r ++ [')'] ++ rest) (by simpa using renderMore_safe r rest _)
    have := (lex_step_op1' ',' _ (by decide) (by decide) (by decide)).append
      (.ws (c := ' ') (by decide) (ih.append (lexes_more r h.2 hl.2 rest)))
    simpa [toksMore, renderMore] using this
end

theorem lex_args (args : List CExpr) (h : wfTArgs args = true) (hl : wfLArgs args = true) (fuel : Nat) (rest : Str) :
    lexAux (fuel + (toksArgs args).length + 1) (renderArgs args ++ ')' :: rest) =
      (lexAux fuel rest).map (toksArgs args ++ .op [')'] :: ·) := by
  simpa [Nat.add_assoc] using (lexes_args args h hl rest).run fuel

theorem lex_more (l : List CExpr) (h : wfTArgs l = true) (hl : wfLArgs l = true) (fuel : Nat) (rest : Str) :
    lexAux (fuel + (toksMore l).length + 1) (renderMore l ++ ')' :: rest) =
      (lexAux fuel rest).map (toksMore l ++ .op [')'] :: ·) := by
  simpa [Nat.add_assoc] using (lexes_more l h hl rest).run fuel

theorem len_args (args : List CExpr) (h : wfTArgs args = true) (hl : wfLArgs args = true) :
    (toksArgs args).length ≤ (renderArgs args).length := by
  simpa using (lexes_args args h hl []).len

theorem len_more (l : List CExpr) (h : wfTArgs l = true) (hl : wfLArgs l = true) :
    (toksMore l).length ≤ (renderMore l).length := by
  simpa using (lexes_more l h hl []).len

theorem tokenize_renderE (e : CExpr) (h : wfT e = true) (hl : wfL e = true) : tokenize (renderE e) = some (toksE e) :=
  (lex_main e h hl [] (safeAfter_nil _)).tokenize

theorem parseExpr_renderE (e : CExpr) (h : wfT e = true) (hl : wfL e = true) : parseExpr (renderE e) = e := by
  simp [parseExpr, tokenize_renderE e h hl, parseToks_toksE e h]

theorem exprOk_of_exprWf (e : CExpr) (h : exprWf e = true) : exprOk e = true := by
  simp only [exprWf, Bool.and_eq_true] at h
  obtain ⟨d, hd, hws⟩ :=
    renderE_first_of (isWs · = false) isWs_of_isWord (by decide) (by decide) (by decide) (by decide) e h.1 h.2
  simp only [exprOk, parseExpr_renderE e h.1 h.2, beqE_refl, Bool.true_and]
  cases hr : renderE e with
  | nil => simp [hr] at hd
  | cons c r =>
    have : c = d := by simpa [hr] using hd
    simp [this, hws]

theorem leafOk_of_leafWf (s : Stmt) (h : leafWf s = true) : leafOk s = true := by
  cases s with
  | decl ty n i => cases i <;> simp_all [leafWf, leafOk, exprOk_of_exprWf]
  | retrieve how ty v bank tok =>
    simp only [leafWf, leafOk, Bool.and_eq_true, Bool.or_eq_true] at h ⊢
    exact ⟨h.1, h.2.imp (.imp (.imp_right (exprOk_of_exprWf _)) (.imp_right (exprOk_of_exprWf _))) id⟩
  | _ => simp_all [leafWf, leafOk, exprOk_of_exprWf]

mutual
theorem StmtOk_of_StmtWf (s : Stmt) (h : StmtWf s = true) : StmtOk s = true := by
  cases s with
  | block b => simp only [StmtWf] at h; simp only [StmtOk]; exact ListOk_of_ListWf b h
  | loop x c b =>
    simp only [StmtWf, Bool.and_eq_true] at h
    simp [StmtOk, h.1.1, exprOk_of_exprWf c h.1.2, ListOk_of_ListWf b h.2]
  | ite c t e =>
    simp only [StmtWf, Bool.and_eq_true] at h
    simp [StmtOk, exprOk_of_exprWf c h.1.1, ListOk_of_ListWf t h.1.2, ListOk_of_ListWf e h.2]
  | _ => simp only [StmtWf] at h; simp only [StmtOk]; exact leafOk_of_leafWf _ h
theorem ListOk_of_ListWf (b : List Stmt) (h : ListWf b = true) : ListOk b = true := by
  cases b with
  | nil => rfl
  | cons s r =>
    simp only [ListWf, Bool.and_eq_true] at h
    simp [ListOk, StmtOk_of_StmtWf s h.1, ListOk_of_ListWf r h.2]
end

end FaxVerif.Cpp.Parse
