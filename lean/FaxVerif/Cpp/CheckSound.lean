/-
Cpp — soundness of the definite-assignment checker `da` with respect to the semantics `exec`, as an instance of
`DaRules` (`sound_rules`). `exec_sound`: if `da` accepts a statement from analysis state `s` (with `s.A ⊆ s.D`), then from
ANY two machine states with the same rows that agree on the initialised names `s.A` (with the names of `s.D` declared and
the flag facts of `s.T`, `s.G` true of both: `Good2`) the statement has the same outcome (`ResGood`; `Sound` is the two
together): the same fault — never `unbound` — or states that again
agree on the resulting `A`, with the same rows written. The two states equal: no read of an undeclared or uninitialised
name (C02); different: the outcome depends on nothing outside `A` (C05).
-/
import FaxVerif.Cpp.Frame
namespace FaxVerif.Cpp
variable {D : Type}

def Good (s : DA) (σ σ' : Env D) : Prop :=
  (∀ x ∈ s.A, ∃ v, σ x = some (.val v) ∧ σ' x = some (.val v)) ∧
  (∀ x ∈ s.D, (σ x).isSome = true ∧ (σ' x).isSome = true)

theorem Good.weaken {s s' : DA} {σ σ' : Env D} (h : Good s σ σ')
    (hA : ∀ x ∈ s'.A, x ∈ s.A) (hD : ∀ x ∈ s'.D, x ∈ s.D) : Good s' σ σ' :=
  ⟨fun x hx => h.1 x (hA x hx), fun x hx => h.2 x (hD x hx)⟩

theorem Good.eq_on {s : DA} {σ σ' : Env D} (h : Good s σ σ') {x : String} (hx : x ∈ s.A) : σ x = σ' x := by
  obtain ⟨v, h1, h2⟩ := h.1 x hx; rw [h1, h2]

theorem Good.declared {s : DA} {σ σ' : Env D} (h : Good s σ σ') {x : String} (hx : x ∈ s.D) :
    ∃ sl sl', σ x = some sl ∧ σ' x = some sl' :=
  ⟨_, _, (Option.some_get (h.2 x hx).1).symm, (Option.some_get (h.2 x hx).2).symm⟩

theorem Good.set {s s' : DA} {σ σ' : Env D} (h : Good s σ σ') (x : String) (v : Val D)
    (hA : ∀ y ∈ s'.A, y = x ∨ y ∈ s.A) (hD : ∀ y ∈ s'.D, y = x ∨ y ∈ s.D) :
    Good s' (σ.set x v) (σ'.set x v) := by
  refine ⟨fun y hy => ?_, fun y hy => ?_⟩ <;> by_cases hyx : y = x
  · subst hyx; exact ⟨v, Env.set_eq .., Env.set_eq ..⟩
  · rw [Env.set_ne σ x y v hyx, Env.set_ne σ' x y v hyx]; exact h.1 y ((hA y hy).resolve_left hyx)
  · subst hyx; rw [Env.set_eq, Env.set_eq]; exact ⟨rfl, rfl⟩
  · rw [Env.set_ne σ x y v hyx, Env.set_ne σ' x y v hyx]; exact h.2 y ((hD y hy).resolve_left hyx)

theorem Good.declare {s : DA} {σ σ' : Env D} (h : Good s σ σ') (x : String) (hx : x ∉ s.A) :
    Good { D := x :: s.D, A := s.A } (σ.declare x) (σ'.declare x) := by
  refine ⟨fun y hy => ?_, fun y hy => ?_⟩
  · have hyx : y ≠ x := fun e => hx (e ▸ hy)
    rw [Env.declare_ne σ x y hyx, Env.declare_ne σ' x y hyx]; exact h.1 y hy
  · by_cases hyx : y = x
    · subst hyx; rw [Env.declare_eq, Env.declare_eq]; exact ⟨rfl, rfl⟩
    · rw [Env.declare_ne σ x y hyx, Env.declare_ne σ' x y hyx]
      exact h.2 y ((List.mem_cons.1 hy).resolve_left hyx)

def NotUnbound {α} (r : Except Fault α) : Prop := ∀ n, r ≠ .error (.unbound n)

theorem NotUnbound.err {α} {r : Except Fault α} {f : Fault} (h : NotUnbound r) (hr : r = .error f) :
    ∀ n, f ≠ .unbound n := fun n e => h n (by rw [hr, e])

theorem arith_nu (N : Num D) (op : String) (a b : Val D) : NotUnbound (arith N op a b) := by
  intro n
  unfold arith
  repeat' split
  all_goals simp

theorem unop_nu (N : Num D) (op : String) (a : Val D) : NotUnbound (unop N op a) := by
  intro n
  unfold unop
  repeat' split
  all_goals simp

theorem castTo_nu (N : Num D) (ty : String) (a : Val D) : NotUnbound (castTo N ty a) := by
  intro n
  unfold castTo
  repeat' split
  all_goals simp

theorem member_nu (r : Val D) (name : String) (args : List (Val D)) : NotUnbound (member r name args) := by
  intro n
  unfold member
  repeat' split
  all_goals simp

mutual
  theorem evalE_nu (N : Num D) (σ : Env D) :
      ∀ e : CExpr, clean e = true → (∀ x ∈ vars e, ∃ v, σ x = some (.val v)) → NotUnbound (evalE N σ e)
    | .var n, _, hv, m => by
      obtain ⟨v, h1⟩ := hv n (by simp [vars])
      simp [evalE, h1]
    | .int _, _, _, m | .dbl _ _ _, _, _, m | .bool _, _, _, m | .str _, _, _, m => by simp [evalE]
    | .un op a, hc, hv, n => by
      have ih := evalE_nu N σ a hc hv
      simp only [evalE]
      cases hr : evalE N σ a with
      | ok v => exact unop_nu N op v n
      | error f => exact fun e => ih.err hr n (Except.error.inj e)
    | .bin op a b, hc, hv, n => by
      have hc' : clean a = true ∧ clean b = true := by simpa [clean] using hc
      have iha := evalE_nu N σ a hc'.1 (fun x hx => hv x (by simp [vars, hx]))
      have ihb := evalE_nu N σ b hc'.2 (fun x hx => hv x (by simp [vars, hx]))
      simp only [evalE]
      cases hra : evalE N σ a with
      | error f => exact fun e => iha.err hra n (Except.error.inj e)
      | ok va =>
        -- whichever branch is taken, the result is a value, a type error, `b`'s fault or `arith`'s
        cases hrb : evalE N σ b with
        | error f =>
          have : (Except.error f : Except Fault (Val D)) ≠ .error (.unbound n) :=
            fun e => ihb.err hrb n (Except.error.inj e)
          simp only []
          repeat' split
          all_goals first | exact this | simp
        | ok vb =>
          have := arith_nu N op va vb n
          simp only []
          repeat' split
          all_goals first | exact this | simp
    | .deref a, hc, hv, n => by
      have ih := evalE_nu N σ a hc hv
      simp only [evalE]
      cases hr : evalE N σ a with
      | ok v => cases v <;> simp
      | error f => exact fun e => ih.err hr n (Except.error.inj e)
    | .mem o arrow name args, hc, hv, n => by
      have hc' : clean o = true ∧ cleanL args = true := by simpa [clean] using hc
      have iho := evalE_nu N σ o hc'.1 (fun x hx => hv x (by simp [vars, hx]))
      have iha := evalEs_nu N σ args hc'.2 (fun x hx => hv x (by simp [vars, hx]))
      simp only [evalE]
      cases hro : evalE N σ o with
      | error f => exact fun e => iho.err hro n (Except.error.inj e)
      | ok r =>
        cases hra : evalEs N σ args with
        | error f => exact fun e => iha.err hra n (Except.error.inj e)
        | ok vs => exact member_nu r name vs n
    | .call f args, hc, hv, n => by
      have iha := evalEs_nu N σ args hc hv
      simp only [evalE]
      cases hra : evalEs N σ args with
      | error f => exact fun e => iha.err hra n (Except.error.inj e)
      | ok vs =>
        simp only []
        repeat' split
        all_goals simp
    | .cast ty a, hc, hv, n => by
      have ih := evalE_nu N σ a hc hv
      simp only [evalE]
      cases hr : evalE N σ a with
      | ok v => exact castTo_nu N ty v n
      | error f => exact fun e => ih.err hr n (Except.error.inj e)
    | .opaque _, hc, _, _ => by simp [clean] at hc
  theorem evalEs_nu (N : Num D) (σ : Env D) :
      ∀ es : List CExpr, cleanL es = true → (∀ x ∈ varsL es, ∃ v, σ x = some (.val v)) → NotUnbound (evalEs N σ es)
    | [], _, _, n => by simp [evalEs]
    | e :: es, hc, hv, n => by
      have hc' : clean e = true ∧ cleanL es = true := by simpa [cleanL] using hc
      have ihe := evalE_nu N σ e hc'.1 (fun x hx => hv x (by simp [varsL, hx]))
      have ihs := evalEs_nu N σ es hc'.2 (fun x hx => hv x (by simp [varsL, hx]))
      simp only [evalEs]
      cases hre : evalE N σ e with
      | error f => exact fun e => ihe.err hre n (Except.error.inj e)
      | ok v =>
        cases hrs : evalEs N σ es with
        | error f => exact fun e => ihs.err hrs n (Except.error.inj e)
        | ok vs => simp
end

theorem evalEs_good (N : Num D) (s : DA) (σ σ' : Env D) (h : Good s σ σ') :
      ∀ es : List CExpr, cleanL es = true → (∀ x ∈ varsL es, x ∈ s.A) →
        evalEs N σ es = evalEs N σ' es ∧ NotUnbound (evalEs N σ es) :=
  fun es hc hv => ⟨evalEs_congr N σ σ' es fun x hx => h.eq_on (hv x hx),
    evalEs_nu N σ es hc fun x hx => (h.1 x (hv x hx)).imp fun _ hv => hv.1⟩

theorem okE_good (N : Num D) (s : DA) (σ σ' : Env D) (h : Good s σ σ') (e : CExpr) (hok : okE s e = true) :
    evalE N σ e = evalE N σ' e ∧ NotUnbound (evalE N σ e) :=
  have ⟨hc, hv⟩ := okE_iff.1 hok
  ⟨evalE_congr N σ σ' e fun x hx => h.eq_on (hv x hx),
    evalE_nu N σ e hc fun x hx => (h.1 x (hv x hx)).imp fun _ hv => hv.1⟩

def Falsy (N : Num D) (σ : Env D) (f : String) : Prop :=
  ∃ v, σ f = some (.val v) ∧ asBool N v = some false

/-- flags in `T` hold `true` in both states; a fact `(f, x)` says: when `f` is false in the first
state, `x` is initialised — to the same value in both states. -/
def Extra (N : Num D) (s : DA) (σ σ' : Env D) : Prop :=
  (∀ f ∈ s.T, σ f = some (.val (.bool true)) ∧ σ' f = some (.val (.bool true))) ∧
  (∀ p ∈ s.G, Falsy N σ p.1 → ∃ v, σ p.2 = some (.val v) ∧ σ' p.2 = some (.val v))

def Good2 (N : Num D) (s : DA) (σ σ' : Env D) : Prop := Good s σ σ' ∧ Extra N s σ σ'

theorem Extra.not_falsy {N : Num D} {s : DA} {σ σ' : Env D} (h : Extra N s σ σ') {f : String} (hf : f ∈ s.T) :
    ¬ Falsy N σ f := by
  rintro ⟨v, hv, hb⟩
  rw [(h.1 f hf).1] at hv
  simp only [Option.some.injEq, Slot.val.injEq] at hv
  subst hv
  simp [asBool] at hb

theorem eff_sound {N : Num D} {s : DA} {σ σ' : Env D} (h : Good2 N s σ σ') (p : String × String)
    (he : s.eff p = true) (hf : Falsy N σ p.1) : ∃ v, σ p.2 = some (.val v) ∧ σ' p.2 = some (.val v) := by
  rcases (eff_iff s p).1 he with he | he | he
  · exact h.2.2 p he hf
  · exact h.1.1 p.2 he
  · exact absurd hf (h.2.not_falsy he)

theorem cand_sound {N : Num D} {s : DA} {σ σ' : Env D} (h : Good2 N s σ σ') :
    ∀ p ∈ loopCand s, Falsy N σ p.1 → ∃ v, σ p.2 = some (.val v) ∧ σ' p.2 = some (.val v) :=
  fun p hp => eff_sound h p ((eff_iff s p).2 (((mem_loopCand s p).1 hp).1.imp_right Or.inr))

theorem fact_set {N : Num D} {σ σ' : Env D} (p : String × String) (x : String) (v : Val D)
    (hp : p.1 ≠ x)
    (h : Falsy N σ p.1 → ∃ w, σ p.2 = some (.val w) ∧ σ' p.2 = some (.val w)) :
    Falsy N (σ.set x v) p.1 → ∃ w, (σ.set x v) p.2 = some (.val w) ∧ (σ'.set x v) p.2 = some (.val w) := by
  intro hf
  by_cases h2 : p.2 = x
  · rw [h2]; exact ⟨v, Env.set_eq σ x v, Env.set_eq σ' x v⟩
  · rw [Env.set_ne σ x p.2 v h2, Env.set_ne σ' x p.2 v h2]
    apply h
    unfold Falsy at hf
    rwa [Env.set_ne σ x p.1 v hp] at hf

theorem Extra.set_other {N : Num D} {s s' : DA} {σ σ' : Env D} (h : Extra N s σ σ') (x : String) (v : Val D)
    (hT : ∀ f ∈ s'.T, f ∈ s.T ∧ f ≠ x) (hG : ∀ p ∈ s'.G, p ∈ s.G ∧ p.1 ≠ x) :
    Extra N s' (σ.set x v) (σ'.set x v) := by
  refine ⟨fun f hf => ?_, fun p hp => ?_⟩
  · obtain ⟨h1, h2⟩ := hT f hf
    rw [Env.set_ne σ x f v h2, Env.set_ne σ' x f v h2]
    exact h.1 f h1
  · obtain ⟨h1, h2⟩ := hG p hp
    exact fact_set p x v h2 (h.2 p h1)

theorem Extra.declare_other {N : Num D} {s s' : DA} {σ σ' : Env D} (h : Extra N s σ σ') (x : String)
    (hT : ∀ f ∈ s'.T, f ∈ s.T ∧ f ≠ x) (hG : ∀ p ∈ s'.G, p ∈ s.G ∧ p.1 ≠ x ∧ p.2 ≠ x) :
    Extra N s' (σ.declare x) (σ'.declare x) := by
  refine ⟨fun f hf => ?_, fun p hp => ?_⟩
  · obtain ⟨h1, h2⟩ := hT f hf
    rw [Env.declare_ne σ x f h2, Env.declare_ne σ' x f h2]
    exact h.1 f h1
  · obtain ⟨h1, h2, h3⟩ := hG p hp
    unfold Falsy
    rw [Env.declare_ne σ x p.1 h2, Env.declare_ne σ x p.2 h3, Env.declare_ne σ' x p.2 h3]
    exact h.2 p h1

theorem Good2.assign {N : Num D} {s : DA} {σ σ' : Env D} (h : Good2 N s σ σ') (x : String) (v : Val D) :
    Good2 N (s.assign x) (σ.set x v) (σ'.set x v) := by
  have hg : Good (s.assign x) (σ.set x v) (σ'.set x v) :=
    h.1.set x v (fun _ hy => List.mem_cons.1 hy) (fun _ hy => Or.inr hy)
  refine ⟨hg, fun f hf => ?_, fun p hp => ?_⟩
  · obtain ⟨hf, hfx⟩ := (mem_assign_T s x f).1 hf
    rw [Env.set_ne σ x f v hfx, Env.set_ne σ' x f v hfx]
    exact h.2.1 f hf
  · obtain ⟨hp, hx | hx | hx⟩ := (mem_assign_G s x p).1 hp
    · exact fact_set p x v hx (h.2.2 p hp)
    · exact fun _ => hg.1 p.2 (hx ▸ List.mem_cons_self ..)
    · exact fun _ => hg.1 p.2 (List.mem_cons_of_mem _ hx)

theorem Good2.declSet {N : Num D} {s : DA} {σ σ' : Env D} (h : Good2 N s σ σ') (n : String) (v : Val D) :
    Good2 N { D := n :: s.D, A := n :: s.A, T := (s.fresh n).T, G := (s.fresh n).G } (σ.set n v) (σ'.set n v) :=
  ⟨h.1.set n v (fun _ hy => List.mem_cons.1 hy) (fun _ hy => List.mem_cons.1 hy),
    h.2.set_other n v (fun f hf => (mem_fresh_T s n f).1 hf)
      fun p hp => ⟨((mem_fresh_G s n p).1 hp).1, ((mem_fresh_G s n p).1 hp).2.1⟩⟩

theorem Good2.weaken {N : Num D} {s s' : DA} {σ σ' : Env D} (h : Good2 N s σ σ') (hA : ∀ x ∈ s'.A, x ∈ s.A)
    (hD : ∀ x ∈ s'.D, x ∈ s.D) (hT : ∀ f ∈ s'.T, f ∈ s.T) (hG : ∀ p ∈ s'.G, s.eff p = true) : Good2 N s' σ σ' :=
  ⟨h.1.weaken hA hD, fun f hf => h.2.1 f (hT f hf), fun p hp => eff_sound h p (hG p hp)⟩

theorem Good2.restrict {N : Num D} {s : DA} {σ σ' : Env D} (h : Good2 N s σ σ') (D0 : List String)
    (hD : ∀ x ∈ D0, x ∈ s.D) : Good2 N (s.restrict D0) σ σ' :=
  h.weaken (fun x hx => ((mem_restrict_A s D0 x).1 hx).1) hD (fun f hf => ((mem_restrict_T s D0 f).1 hf).1)
    fun p hp => (eff_iff s p).2 (Or.inl ((mem_restrict_G s D0 p).1 hp).1)

theorem Good2.join_left {N : Num D} {st se : DA} {σ σ' : Env D} (h : Good2 N st σ σ') (D0 : List String)
    (hD : ∀ x ∈ D0, x ∈ st.D) : Good2 N (DA.join D0 st se) σ σ' :=
  h.weaken (fun x hx => ((mem_join_A D0 st se x).1 hx).1.1) hD (fun f hf => ((mem_join_T D0 st se f).1 hf).1.1)
    fun p hp => ((mem_join_G D0 st se p).1 hp).1.elim (fun h1 => (eff_iff st p).2 (Or.inl h1.1)) (·.2)

theorem Good2.join_right {N : Num D} {st se : DA} {σ σ' : Env D} (h : Good2 N se σ σ') (D0 : List String)
    (hD : ∀ x ∈ D0, x ∈ se.D) : Good2 N (DA.join D0 st se) σ σ' :=
  h.weaken (fun x hx => ((mem_join_A D0 st se x).1 hx).1.2) hD (fun f hf => ((mem_join_T D0 st se f).1 hf).1.2)
    fun p hp => ((mem_join_G D0 st se p).1 hp).1.elim (·.2) (fun h1 => (eff_iff se p).2 (Or.inl h1.1))

theorem Good2.knowFalse {N : Num D} {s : DA} {σ σ' : Env D} (h : Good2 N s σ σ') (c : CExpr)
    (hc : ∀ f, c = .var f → Falsy N σ f) : Good2 N (s.knowFalse c) σ σ' := by
  cases c with
  | var f =>
    refine ⟨⟨fun x hx => ?_, h.1.2⟩, h.2.1, h.2.2⟩
    rcases (mem_knowFalse_A s f x).1 hx with hx | hx
    · exact h.2.2 (f, x) hx.1 (hc f rfl)
    · exact h.1.1 x hx
  | _ => exact h

theorem castTo_bool_true (N : Num D) : castTo N "bool" (.bool true) = .ok (.bool true) := by
  simp [castTo, asBool]

def ResGood (N : Num D) (s' : DA) (r r' : Except Fault (St D)) : Prop :=
  (∃ f, r = .error f ∧ r' = .error f ∧ ∀ n, f ≠ .unbound n) ∨
  (∃ t t', r = .ok t ∧ r' = .ok t' ∧ Good2 N s' t.env t'.env ∧ t.rows = t'.rows)

theorem ResGood.map {N : Num D} {s s' : DA} {r r' : Except Fault (St D)} (h : ResGood N s' r r')
    (hm : ∀ σ σ' : Env D, Good2 N s' σ σ' → Good2 N s σ σ') : ResGood N s r r' := by
  rcases h with h | ⟨t, t', h1, h2, hg, hr⟩
  · exact Or.inl h
  · exact Or.inr ⟨t, t', h1, h2, hm _ _ hg, hr⟩

theorem resGood_err {N : Num D} {s' : DA} (f : Fault) (hf : ∀ n, f ≠ .unbound n) :
    ResGood N s' (.error f) (.error f) := Or.inl ⟨f, rfl, rfl, hf⟩

theorem readCols_good (s : DA) (σ σ' : Env D) (h : Good s σ σ') :
    ∀ cols : List String, (∀ c ∈ cols, c ∈ s.A) → readCols σ cols = readCols σ' cols ∧ NotUnbound (readCols σ cols)
  | [], _ => by simp [readCols, NotUnbound]
  | c :: cs, hc => by
    obtain ⟨v, h1, h2⟩ := h.1 c (hc c (by simp))
    have ih := readCols_good s σ σ' h cs (fun x hx => hc x (by simp [hx]))
    refine ⟨by simp only [readCols, h1, h2, ih.1], fun n => ?_⟩
    simp only [readCols, h1]
    cases hr : readCols σ cs with
    | ok vs => simp
    | error f => exact fun e => ih.2.err hr n (Except.error.inj e)

theorem retrReq_good (C : Ctx D) (DC : DACtx) (htok : ∀ t ∈ DC.tokens, (C.tokenBank t).isSome = true)
    (s : DA) (σ σ' : Env D) (h : Good s σ σ') (how ty : String) (bank : CExpr) (token : String)
    (hok : retrOk DC s how bank token = true) :
    retrReq C σ how ty bank token = retrReq C σ' how ty bank token ∧ NotUnbound (retrReq C σ how ty bank token) := by
  unfold retrOk at hok
  unfold retrReq
  by_cases hh : how = "token"
  · simp only [hh, if_true] at hok ⊢
    have ht := htok token (by simpa using hok)
    cases htb : C.tokenBank token with
    | none => rw [htb] at ht; simp at ht
    | some p =>
      refine ⟨trivial, ?_⟩
      intro n
      obtain ⟨tty, b⟩ := p
      simp only []
      repeat' split
      all_goals simp
  · simp only [hh, if_false] at hok ⊢
    have he := okE_good C.N s σ σ' h bank hok
    constructor
    · rw [he.1]
    · intro n
      have hnu := he.2 n
      generalize evalE C.N σ bank = r at hnu
      cases r with
      | error f => simpa using hnu
      | ok v =>
        cases v <;> simp only [] <;> (repeat' split) <;> simp

theorem iter_good {N : Num D} {sI : DA} (f : St D → Val D → Except Fault (St D))
    (hf : ∀ t t' v, Good2 N sI t.env t'.env → t.rows = t'.rows → ResGood N sI (f t v) (f t' v)) :
    ∀ (l : List (Val D)) (t t' : St D), Good2 N sI t.env t'.env → t.rows = t'.rows →
      ResGood N sI (iter f l t) (iter f l t')
  | [], t, t', hg, hr => Or.inr ⟨t, t', rfl, rfl, hg, hr⟩
  | v :: vs, t, t', hg, hr => by
    rcases hf t t' v hg hr with ⟨e, h1, h2, he⟩ | ⟨u, u', h1, h2, hgu, hru⟩
    · simp only [iter, h1, h2]; exact resGood_err e he
    · simp only [iter, h1, h2]
      exact iter_good f hf vs u u' hgu hru

theorem falsy_of_eval {N : Num D} {σ : Env D} {f : String} {v : Val D} (he : evalE N σ (.var f) = .ok v)
    (hb : asBool N v = some false) : Falsy N σ f := by
  simp only [evalE] at he
  cases hx : σ f with
  | none => rw [hx] at he; simp at he
  | some sl =>
    rw [hx] at he
    cases sl with
    | uninit => simp at he
    | val w =>
      simp only [Except.ok.injEq] at he
      exact ⟨w, hx, he ▸ hb⟩

/-- from any two states that are good for `s` (`s.A ⊆ s.D`) and have written the same rows, `run` has the same outcome,
good for `s'` -/
def Sound (C : Ctx D) (run : St D → Except Fault (St D)) (s s' : DA) : Prop :=
  ∀ t t' : St D, AsubD s → Good2 C.N s t.env t'.env → t.rows = t'.rows → ResGood C.N s' (run t) (run t')

theorem sound_rules (C : Ctx D) (DC : DACtx) (hcols : DC.cols = C.cols)
    (htok : ∀ t ∈ DC.tokens, (C.tokenBank t).isSome = true) :
    DaRules DC (fun st => Sound C (exec C st)) (fun l => Sound C (execs C l)) where
  nil t t' _ hg hr := Or.inr ⟨t, t', rfl, rfl, hg, hr⟩
  cons {st _ s s1 _} h1 ih1 ih2 t t' hs hg hr := by
    rcases ih1 t t' hs hg hr with ⟨e, e1, e2, he⟩ | ⟨u, u', e1, e2, hgu, hru⟩
    · simp only [execs, e1, e2]; exact resGood_err e he
    · simp only [execs, e1, e2]
      exact ih2 u u' (da_mono DC st s s1 h1 hs).1 hgu hru
  block {body s s1} h1 ih t t' hs hg hr := by
    simp only [exec]
    exact (ih t t' hs hg hr).map fun σ σ' hg1 => hg1.restrict s.D (das_Dmono DC body s s1 h1)
  loop {x coll body s sb1 sb2} hc hx _ _ hb2 ih2 hall t t' hs hg hr := by
    have he := okE_good C.N s t.env t'.env hg.1 coll hc
    simp only [exec, ← he.1]
    cases hr' : evalE C.N t.env coll with
    | error f => exact resGood_err f (he.2.err hr')
    | ok v =>
      cases v with
      | vec l =>
        -- the invariant: good for `s`, no flag known, the candidate facts that survive the body
        have hcand : ∀ p ∈ (loopCand s).filter sb1.eff, p ∈ loopCand s := fun p hp => (List.mem_filter.1 hp).1
        have hsx := hs.loopHead x ((loopCand s).filter sb1.eff)
        obtain ⟨_, hAb⟩ := das_mono DC body _ sb2 hb2 hsx
        have hDb := das_Dmono DC body _ sb2 hb2
        refine iter_good _ (fun u u' w hgu hru => ?_) l t t'
          ⟨hg.1, nofun, fun p hp => cand_sound hg p (hcand p hp)⟩ hr
        have hhead : Good2 C.N (loopHead s x ((loopCand s).filter sb1.eff)) (u.env.set x w) (u'.env.set x w) :=
          ⟨hgu.1.set x w (fun _ hy => List.mem_cons.1 hy) (fun _ hy => List.mem_cons.1 hy),
            hgu.2.set_other x w nofun
              fun p hp => ⟨hp, fun e => hx (e ▸ ((mem_loopCand s p).1 (hcand p hp)).2.1)⟩⟩
        exact (ih2 { u with env := u.env.set x w } { u' with env := u'.env.set x w } hsx hhead hru).map fun σ σ' h3 =>
            h3.weaken (fun y hy => hAb y (List.mem_cons_of_mem _ hy)) (fun y hy => hDb y (List.mem_cons_of_mem _ hy))
              nofun hall
      | _ => exact resGood_err _ nofun
  ite {c thn els s st se} hc hst iht hse ihe t t' hs hg hr := by
    have he := okE_good C.N s t.env t'.env hg.1 c hc
    have hDt := das_Dmono DC thn s st hst
    have hDe := das_Dmono DC els (s.knowFalse c) se hse
    rw [knowFalse_D] at hDe
    simp only [exec, ← he.1]
    cases hr' : evalE C.N t.env c with
    | error f => exact resGood_err f (he.2.err hr')
    | ok v =>
      simp only []
      cases hb : asBool C.N v with
      | none => exact resGood_err _ nofun
      | some b =>
        cases b with
        | true =>
          simp only []
          split
          · rename_i hthrow
            obtain ⟨m, rfl⟩ := isThrow_eq thn hthrow
            simp only [execs, exec]
            exact resGood_err _ nofun
          · exact (iht t t' hs hg hr).map fun σ σ' hg1 => hg1.join_left s.D hDt
        | false =>
          simp only []
          have hkf : Good2 C.N (s.knowFalse c) t.env t'.env :=
            hg.knowFalse c fun f hcf => falsy_of_eval (hcf ▸ hr') hb
          have hres := ihe t t' (hs.knowFalse c) hkf hr
          split
          · exact hres.map fun σ σ' hg1 => hg1.restrict s.D hDe
          · exact hres.map fun σ σ' hg1 => hg1.join_right s.D hDe
  decl {ty n init s s'} h t t' hs hg hr := by
    cases init with
    | some e =>
      obtain ⟨hn, hc, rfl⟩ := da_decl_some_iff.1 h
      have he := okE_good C.N s t.env t'.env hg.1 e hc
      simp only [exec, ← he.1]
      cases hr' : evalE C.N t.env e with
      | error f => exact resGood_err f (he.2.err hr')
      | ok v =>
        simp only []
        cases hcst : castTo C.N ty v with
        | error f => exact resGood_err f ((castTo_nu C.N ty v).err hcst)
        | ok v' =>
          have hbase := hg.declSet n v'
          refine Or.inr ⟨_, _, rfl, rfl, ⟨hbase.1, fun f hf => ?_, hbase.2.2⟩, hr⟩
          rcases mem_ite_cons.1 hf with ⟨⟨rfl, hlit⟩, rfl⟩ | hf'
          · -- the declared flag itself: `bool n (true)`
            rw [isTrueLit_eq hlit] at hr'
            simp only [evalE, Except.ok.injEq] at hr'
            subst hr'
            rw [castTo_bool_true] at hcst
            simp only [Except.ok.injEq] at hcst
            subst hcst
            exact ⟨Env.set_eq _ _ _, Env.set_eq _ _ _⟩
          · exact hbase.2.1 f hf'
    | none =>
      obtain ⟨hn, rfl⟩ := da_decl_none_iff.1 h
      simp only [exec]
      by_cases hv : isVecType ty = true
      · simp only [hv, if_true]
        exact Or.inr ⟨_, _, rfl, rfl, hg.declSet n _, hr⟩
      · simp only [hv]
        -- `Good.declare` speaks of the state with `T`, `G` empty; `Good` reads `A` and `D` only, so `weaken` changes nothing
        exact Or.inr ⟨_, _, rfl, rfl,
          ⟨(hg.1.declare n fun hA => hn (hs n hA)).weaken (fun _ hy => hy) (fun _ hy => hy),
            hg.2.declare_other n (fun f hf => (mem_fresh_T s n f).1 hf) fun p hp => (mem_fresh_G s n p).1 hp⟩, hr⟩
  set {x e s} hx hc t t' hs hg hr := by
    have he := okE_good C.N s t.env t'.env hg.1 e hc
    obtain ⟨sl, sl', h1, h2⟩ := hg.1.declared hx
    simp only [exec, h1, h2, ← he.1]
    cases hr' : evalE C.N t.env e with
    | error f => exact resGood_err f (he.2.err hr')
    | ok v => exact Or.inr ⟨_, _, rfl, rfl, hg.assign x v, hr⟩
  push {x e s} hx hc t t' hs hg hr := by
    have he := okE_good C.N s t.env t'.env hg.1 e hc
    obtain ⟨v, h1, h2⟩ := hg.1.1 x hx
    simp only [exec, h1, h2, ← he.1]
    cases v with
    | vec l =>
      simp only []
      cases hr' : evalE C.N t.env e with
      | error f => exact resGood_err f (he.2.err hr')
      | ok w => exact Or.inr ⟨_, _, rfl, rfl, hg.assign x _, hr⟩
    | _ => exact resGood_err _ nofun
  clear {x s} hx t t' hs hg hr := by
    obtain ⟨v, h1, h2⟩ := hg.1.1 x hx
    simp only [exec, h1, h2]
    cases v with
    | vec l => exact Or.inr ⟨_, _, rfl, rfl, hg.assign x _, hr⟩
    | _ => exact resGood_err _ nofun
  fill {_ s} hc t t' hs hg hr := by
    have hcs := readCols_good s t.env t'.env hg.1 C.cols (by rw [← hcols]; exact (subset_iff _ _).1 hc)
    simp only [exec, ← hcs.1]
    cases hr' : readCols t.env C.cols with
    | error f => exact resGood_err f (hcs.2.err hr')
    | ok r => exact Or.inr ⟨_, _, rfl, rfl, hg, by simp [hr]⟩
  throw t t' hs hg hr := by simp only [exec]; exact resGood_err _ nofun
  retrieve {how ty v bank token s} hv hc t t' hs hg hr := by
    have hq := retrReq_good C DC htok s t.env t'.env hg.1 how ty bank token hc
    obtain ⟨sl, sl', h1, h2⟩ := hg.1.declared hv
    simp only [exec, h1, h2, ← hq.1]
    cases hr' : retrReq C t.env how ty bank token with
    | error f => exact resGood_err f (hq.2.err hr')
    | ok content => exact Or.inr ⟨_, _, rfl, rfl, hg.assign v content, hr⟩

theorem exec_sound (C : Ctx D) (DC : DACtx) (hcols : DC.cols = C.cols)
    (htok : ∀ t ∈ DC.tokens, (C.tokenBank t).isSome = true) :
    ∀ (st : Stmt) (s s' : DA) (t t' : St D), da DC st s = some s' → AsubD s →
      Good2 C.N s t.env t'.env → t.rows = t'.rows → ResGood C.N s' (exec C st t) (exec C st t') :=
  fun st s s' t t' h => (sound_rules C DC hcols htok).da st s s' h t t'

theorem execs_sound (C : Ctx D) (DC : DACtx) (hcols : DC.cols = C.cols)
    (htok : ∀ t ∈ DC.tokens, (C.tokenBank t).isSome = true) :
    ∀ (l : List Stmt) (s s' : DA) (t t' : St D), das DC l s = some s' → AsubD s →
      Good2 C.N s t.env t'.env → t.rows = t'.rows → ResGood C.N s' (execs C l t) (execs C l t') :=
  fun l s s' t t' h => (sound_rules C DC hcols htok).das l s s' h t t'

end FaxVerif.Cpp