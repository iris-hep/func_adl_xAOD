/-
Cpp.ParseExprProofs — the expression parser reads the printer's fully parenthesised output back, at the level of
TOKENS: `toksE e` is the token sequence of `renderE e`; for every expression satisfying the decidable predicate `wfT`
the precedence-climbing parser returns `e` on `toksE e` (`parseToks_toksE`; C02/TheoremsParseExpr.lean). The statements
about the fuel-driven parser functions (the model's seven and `pPrimPost`, primary-then-postfix, defined here) have the
form `Settles n p (some r)` (Fuel.lean): the call returns `r` for every fuel from `n` on, the results of the inner calls
as hypotheses, thresholds composing by `max` and `+ 1`; only `args_main` / `more_main` name a fuel above their threshold. The
induction over expressions (`main`) carries `UnaryOk` (the unary level reads the expression back in front of anything
that cannot continue it) and, for the expressions a member access may follow, `PostOk` (the postfix loop goes on after
it); a form that `pPrimary` reads alone (atom, parenthesised group, call, cast) enters both through `PrimOk`. The
thresholds are `12 * (number of tokens)` plus a small constant (for `PostOk` the larger of that and what the postfix loop
asks), which `exprFuel` exceeds.
-/
import FaxVerif.Fuel
import FaxVerif.Cpp.ParseBaseProofs
namespace FaxVerif.Cpp.Parse
open FaxVerif.Cpp

/-- if `ts` starts with an operator token, `Q` holds of the operator: the form of everything the parser functions ask of
the token they stop in front of (`primStart`, `noParen`, `stopAt`) -/
def OpHead (Q : Str → Prop) (ts : List Tok) : Prop := Runs.HeadIs (fun t => ∀ o, t = .op o → Q o) ts

theorem opHead_nil {Q : Str → Prop} : OpHead Q [] := Runs.headIs_nil

theorem opHead_op {Q : Str → Prop} {o : Str} (r : List Tok) (h : Q o) : OpHead Q (.op o :: r) :=
  Runs.headIs_cons r fun _ e => Tok.op.inj e ▸ h

theorem OpHead.op {Q : Str → Prop} {o : Str} {r : List Tok} (h : OpHead Q (.op o :: r)) : Q o := h _ rfl o rfl

theorem OpHead.mono {Q Q' : Str → Prop} {ts : List Tok} (h : OpHead Q ts) (hq : ∀ o, Q o → Q' o) : OpHead Q' ts :=
  Runs.HeadIs.mono h fun _ ht o e => hq o (ht o e)

section
variable {n m : Nat} {ts rest r : List Tok} {a b e : CExpr} {lvl : Nat} {o : Str}

theorem pLevel_top (h : 6 ≤ lvl) {res : CExpr × List Tok} (h1 : Settles n (pUnary · ts) (some res)) : Settles (n + 1) (pLevel · lvl ts) (some res) :=
  .step (fun f => by simp [pLevel, h]) h1

theorem pLevel_step (h : lvl < 6) {res : CExpr × List Tok} (h1 : Settles n (pLevel · (lvl + 1) ts) (some (a, rest)))
    (h2 : Settles m (pLoop · lvl a rest) (some res)) : Settles (max n m + 1) (pLevel · lvl ts) (some res) :=
  .bind_max h1 (fun f e1 => by simp [pLevel, Nat.not_le.2 h, e1]) h2

theorem pLoop_stop (lvl : Nat) (a : CExpr) (ts : List Tok)
    (h : OpHead (· ∉ opsAt lvl) ts) : Settles 1 (pLoop · lvl a ts) (some (a, ts)) :=
  .ret fun f => by
    cases ts with
    | nil => simp [pLoop]
    | cons t r =>
      cases t with
      | op o => simp [pLoop, h.op]
      | _ => simp [pLoop]

theorem pLoop_op {rest' : List Tok} {res : CExpr × List Tok} (h : o ∈ opsAt lvl)
    (h1 : Settles n (pLevel · (lvl + 1) rest) (some (b, rest'))) (h2 : Settles m (pLoop · lvl (.bin (String.ofList o) a b) rest') (some res)) :
    Settles (max n m + 1) (pLoop · lvl a (.op o :: rest)) (some res) :=
  .bind_max h1 (fun f e1 => by simp [pLoop, h, e1]) h2

theorem pUnary_un (h : o = ['-'] ∨ o = ['+'] ∨ o = ['!']) (h1 : Settles n (pUnary · rest) (some (a, r))) :
    Settles (n + 1) (pUnary · (.op o :: rest)) (some (.un (String.ofList o) a, r)) :=
  .call h1 fun f e1 => by simp [pUnary, h, e1]

theorem pUnary_deref (h1 : Settles n (pUnary · rest) (some (a, r))) : Settles (n + 1) (pUnary · (.op ['*'] :: rest)) (some (.deref a, r)) :=
  .call h1 fun f e1 => by simp [pUnary, e1]

def primStart (ts : List Tok) : Prop :=
  OpHead (fun o => o ≠ ['-'] ∧ o ≠ ['+'] ∧ o ≠ ['!'] ∧ o ≠ ['*'] ∧ o ≠ ['&']) ts

/-- a primary followed by the postfix loop, as `pUnary` calls them -/
def pPrimPost (f : Nat) (ts : List Tok) : Option (CExpr × List Tok) := (pPrimary f ts).bind (fun p => pPostfix f p.1 p.2)

theorem pPrimPost_of {res : CExpr × List Tok} (h1 : Settles n (pPrimary · ts) (some (a, r))) (h2 : Settles m (pPostfix · a r) (some res)) :
    Settles (max n m) (pPrimPost · ts) (some res) := fun f hf => by
  simp [pPrimPost, h1 f (by omega), h2 f (by omega)]

theorem pUnary_prim {res : CExpr × List Tok} (h : primStart ts) (h1 : Settles n (pPrimPost · ts) (some res)) :
    Settles (n + 1) (pUnary · ts) (some res) :=
  .call h1 fun f (e1 : (pPrimary f ts).bind (fun p => pPostfix f p.1 p.2) = some res) => by
    rw [← e1]
    have key : pUnary (f + 1) ts = match pPrimary f ts with | some (a, r) => pPostfix f a r | none => none := by
      cases ts with
      | nil => simp [pUnary]; rfl
      | cons t r0 =>
        cases t with
        | op o =>
          obtain ⟨a1, a2, a3, a4, a5⟩ := OpHead.op h
          simp [pUnary, a1, a2, a3, a4, a5]; rfl
        | _ => simp [pUnary]; rfl
    rw [key]
    cases pPrimary f ts <;> rfl

theorem pPostfix_mem {name : Str} {args : List CExpr} {rest2 : List Tok} {res : CExpr × List Tok}
    (h : o = ['.'] ∨ o = cl!"->") (h1 : Settles n (pArgs · rest2) (some (args, r)))
    (h2 : Settles m (pPostfix · (.mem a (o = cl!"->") (String.ofList name) args) r) (some res)) :
    Settles (max n m + 1) (pPostfix · a (.op o :: .id name :: .op ['('] :: rest2)) (some res) :=
  .bind_max h1 (fun f e1 => by simp [pPostfix, h, e1]) h2

theorem pPrimary_num (s : Str) (rest : List Tok) : Settles 1 (pPrimary · (.num s :: rest)) (some (numLit s, rest)) :=
  .ret fun f => by simp [pPrimary]

theorem pPrimary_str (s : Str) (rest : List Tok) :
    Settles 1 (pPrimary · (.str s :: rest)) (some (.str (String.ofList (unescape s)), rest)) :=
  .ret fun f => by simp [pPrimary]

theorem pPrimary_bool (v : Bool) (rest : List Tok) :
    Settles 1 (pPrimary · (.id (if v then cl!"true" else cl!"false") :: rest)) (some (.bool v, rest)) :=
  .ret fun f => by cases v <;> simp [pPrimary]

theorem plainIdB_iff {v : Str} : plainIdB v = true ↔ v ≠ cl!"true" ∧ v ≠ cl!"false" ∧ v ≠ cl!"static_cast" := by
  simp only [plainIdB, Bool.and_eq_true, bne_iff_ne, ne_eq, and_assoc]

def noParen (rest : List Tok) : Prop := OpHead (· ≠ ['(']) rest

theorem pPrimary_var (v : Str) (rest : List Tok) (hv : plainIdB v = true) (h : noParen rest) :
    Settles 1 (pPrimary · (.id v :: rest)) (some (.var (String.ofList v), rest)) :=
  .ret fun f => by
    obtain ⟨h1, h2, h3⟩ := plainIdB_iff.1 hv
    cases rest with
    | nil => simp [pPrimary, h1, h2, h3]
    | cons t r0 =>
      cases t with
      | op o => simp [pPrimary, h1, h2, h3, OpHead.op h]
      | _ => simp [pPrimary, h1, h2, h3]

theorem pPrimary_call {v : Str} {args : List CExpr} {rest1 : List Tok} (hv : plainIdB v = true)
    (h1 : Settles n (pArgs · rest1) (some (args, r))) :
    Settles (n + 1) (pPrimary · (.id v :: .op ['('] :: rest1)) (some (.call (String.ofList v) args, r)) :=
  .call h1 fun f e1 => by
    obtain ⟨a1, a2, a3⟩ := plainIdB_iff.1 hv
    simp [pPrimary, a1, a2, a3, e1]

theorem pPrimary_paren {r' : List Tok} (h1 : Settles n (pLevel · 0 rest) (some (e, .op [')'] :: r'))) :
    Settles (n + 1) (pPrimary · (.op ['('] :: rest)) (some (e, r')) :=
  .call h1 fun f e1 => by simp [pPrimary, e1]

theorem pPrimary_cast {vs : List Str} {rest1 rest3 r' : List Tok}
    (ha : angle 1 rest1 = some (vs, .op ['('] :: rest3)) (h1 : Settles n (pLevel · 0 rest3) (some (e, .op [')'] :: r'))) :
    Settles (n + 1) (pPrimary · (.id cl!"static_cast" :: .op ['<'] :: rest1)) (some (.cast (String.ofList (castType vs)) e, r')) :=
  .call h1 fun f e1 => by simp [pPrimary, ha, e1]

theorem pArgs_nil (rest : List Tok) : Settles 1 (pArgs · (.op [')'] :: rest)) (some (([] : List CExpr), rest)) :=
  .ret fun f => by simp [pArgs]

theorem pArgs_cons {as : List CExpr} {r' : List Tok} (h : OpHead (· ≠ [')']) ts)
    (h1 : Settles n (pLevel · 0 ts) (some (a, r))) (h2 : Settles m (pArgsMore · r) (some (as, r'))) :
    Settles (max n m + 1) (pArgs · ts) (some (a :: as, r')) :=
  .call₂ h1 h2 fun f e1 e2 => by
    cases ts with
    | nil => simp [pArgs, e1, e2]
    | cons t r0 =>
      cases t with
      | op o => simp [pArgs, h.op, e1, e2]
      | _ => simp [pArgs, e1, e2]

theorem pArgsMore_close (rest : List Tok) : Settles 1 (pArgsMore · (.op [')'] :: rest)) (some (([] : List CExpr), rest)) :=
  .ret fun f => by simp [pArgsMore]

theorem pArgsMore_comma {as : List CExpr} {r' : List Tok}
    (h1 : Settles n (pLevel · 0 rest) (some (a, r))) (h2 : Settles m (pArgsMore · r) (some (as, r'))) :
    Settles (max n m + 1) (pArgsMore · (.op [','] :: rest)) (some (a :: as, r')) :=
  .call₂ h1 h2 fun f e1 e2 => by simp [pArgsMore, e1, e2]

theorem opsAt_lt {o : Str} {L : Nat} (h : o ∈ opsAt L) : L < 6 := by
  rcases L with _ | _ | _ | _ | _ | _ | L
  all_goals first | omega | simp [opsAt] at h

theorem opsAt_unique : ∀ L < 6, ∀ o ∈ opsAt L, ∀ l < 6, o ∈ opsAt l → l = L := by decide +kernel

theorem opsAt_not_punct : ∀ L < 6, ∀ o ∈ opsAt L, o ∉ [['('], ['.'], cl!"->", ['['], [')'], [',']] := by
  decide +kernel

theorem opsAt_ne {o : Str} {L : Nat} (ho : o ∈ opsAt L) :
    o ≠ ['('] ∧ o ≠ ['.'] ∧ o ≠ cl!"->" ∧ o ≠ ['['] ∧ o ≠ [')'] ∧ o ≠ [','] := by
  simpa only [List.mem_cons, List.not_mem_nil, or_false, not_or] using opsAt_not_punct L (opsAt_lt ho) o ho

theorem binOpOk_spec (o : Str) (h : binOpOk o = true) : ∃ L, o ∈ opsAt L := by
  simp only [binOpOk, List.any_eq_true, List.contains_eq_mem, decide_eq_true_eq] at h
  obtain ⟨l, _, hl⟩ := h
  exact ⟨l, hl⟩

/-- what may follow an expression parsed at level `lvl`: no opening parenthesis, no postfix continuation, no binary
operator of that level or a tighter one -/
def stopAt (lvl : Nat) (rest : List Tok) : Prop :=
  OpHead (fun o => o ≠ ['('] ∧ o ≠ ['.'] ∧ o ≠ cl!"->" ∧ o ≠ ['['] ∧ ∀ l, lvl ≤ l → o ∉ opsAt l) rest

theorem stopAt_sep (lvl : Nat) {o : Str} (h : o = [')'] ∨ o = [',']) (r : List Tok) : stopAt lvl (.op o :: r) := by
  have hno : ∀ l, o ∉ opsAt l := fun l hm => by
    have t := (opsAt_ne hm).2.2.2.2
    rcases h with rfl | rfl
    · exact t.1 rfl
    · exact t.2 rfl
  refine opHead_op r ⟨?_, ?_, ?_, ?_, fun l _ => hno l⟩ <;> rcases h with rfl | rfl <;> decide

theorem stopAt_close (lvl : Nat) (r : List Tok) : stopAt lvl (.op [')'] :: r) := stopAt_sep lvl (.inl rfl) r

theorem stopAt_comma (lvl : Nat) (r : List Tok) : stopAt lvl (.op [','] :: r) := stopAt_sep lvl (.inr rfl) r

theorem stopAt_nil (lvl : Nat) : stopAt lvl [] := opHead_nil

theorem stopAt_mono {lvl lvl' : Nat} {rest : List Tok} (h : stopAt lvl rest) (hl : lvl ≤ lvl') : stopAt lvl' rest :=
  OpHead.mono h fun _ ⟨a1, a2, a3, a4, a5⟩ => ⟨a1, a2, a3, a4, fun l hl' => a5 l (by omega)⟩

theorem stopAt_noParen {lvl : Nat} {rest : List Tok} (h : stopAt lvl rest) : noParen rest :=
  OpHead.mono h fun _ => And.left

theorem pPostfix_stop (a : CExpr) (ts : List Tok) {lvl : Nat} (h : stopAt lvl ts) : Settles 1 (pPostfix · a ts) (some (a, ts)) :=
  .ret fun f => by
    cases ts with
    | nil => simp [pPostfix]
    | cons t r0 =>
      cases t with
      | op o =>
        obtain ⟨_, a1, a2, a3, _⟩ := OpHead.op h
        simp [pPostfix, a1, a2, a3]
      | _ => simp [pPostfix]

/-- from a level to the looser ones: the loops above find nothing to do -/
theorem lift_level {l : Nat} (k : Nat) (hL : l + k ≤ 6) (h0 : Settles n (pLevel · (l + k) ts) (some (e, rest))) (hn : 1 ≤ n)
    (hs : stopAt l rest) : Settles (n + k) (pLevel · l ts) (some (e, rest)) := by
  induction k generalizing l with
  | zero => exact h0
  | succ k ih =>
    have ih' := ih (l := l + 1) (by omega) (by rwa [show l + 1 + k = l + (k + 1) by omega]) (stopAt_mono hs (by omega))
    exact (pLevel_step (by omega) ih' (pLoop_stop l e rest (OpHead.mono hs fun _ ho => ho.2.2.2.2 l (Nat.le_refl l)))).mono (by omega)

theorem lift_unary (hl : lvl ≤ 6) (h0 : Settles n (pUnary · ts) (some (e, rest))) (hs : stopAt lvl rest) :
    Settles (n + 7 - lvl) (pLevel · lvl ts) (some (e, rest)) :=
  (lift_level (6 - lvl) (by omega) (pLevel_top (by omega) h0) (by omega) hs).mono (by omega)

theorem toksE_head (e : CExpr) (h : wfT e = true) :
    ∃ t r, toksE e = t :: r ∧ t ≠ .op [')'] ∧ (postfixSafe e = true → ∀ o, t = .op o → o = ['(']) := by
  induction e using CExpr.rec (motive_2 := fun _ => True) with
  | var n => exact ⟨_, _, rfl, by simp, by simp⟩
  | int v => exact ⟨_, _, rfl, by simp, by simp⟩
  | dbl t m e => exact ⟨_, _, rfl, by simp, by simp⟩
  | bool b => exact ⟨_, _, rfl, by simp, by simp⟩
  | str s => exact ⟨_, _, rfl, by simp, by simp⟩
  | un op a _ => exact ⟨_, _, rfl, by simp, by simp⟩
  | bin op a b _ _ => exact ⟨_, _, rfl, by simp, by simp⟩
  | deref a _ => exact ⟨_, _, rfl, by simp, by simp [postfixSafe]⟩
  | mem o ar n args ih _ =>
    simp only [wfT, Bool.and_eq_true] at h
    obtain ⟨t, r, hr, h1, h2⟩ := ih h.1.2
    exact ⟨t, _, by simp only [toksE, hr]; rfl, h1, fun _ => h2 h.1.1⟩
  | call f args _ => exact ⟨_, _, rfl, by simp, by simp⟩
  | cast t a _ => exact ⟨_, _, rfl, by simp, by simp⟩
  | «opaque» t => simp [wfT] at h
  | nil => trivial
  | cons a as _ _ => trivial

theorem paren_group {rest' : List Tok} (hU : Settles n (pUnary · (ts ++ .op [')'] :: rest')) (some (a, .op [')'] :: rest'))) :
    Settles (n + 8) (pPrimary · (.op ['('] :: (ts ++ .op [')'] :: rest'))) (some (a, rest')) :=
  pPrimary_paren (lift_unary (by omega) hU (stopAt_close 0 rest'))

theorem toksMore_stop (l : List CExpr) (rest : List Tok) : stopAt 0 (toksMore l ++ .op [')'] :: rest) := by
  cases l with
  | nil => simpa [toksMore] using stopAt_close 0 rest
  | cons b r => simpa [toksMore] using stopAt_comma 0 (toksE b ++ (toksMore r ++ .op [')'] :: rest))

end

/- The factor 12 in the four thresholds below is `exprFuel`'s. What the proofs need of it: one token pays for the chain of
calls that consume nothing, from `pLevel 0` through the levels to `pUnary` and `pPrimary` (`lift_unary`: 7, `paren_group`:
8; hence the `+ 8` of `UnaryOk.level` and the `+ 9` of `ArgsOk`). -/
/-- `pPrimary` reads `e` back in front of anything but an opening parenthesis -/
def PrimOk (e : CExpr) : Prop :=
  ∀ rest, noParen rest → Settles (12 * (toksE e).length) (pPrimary · (toksE e ++ rest)) (some (e, rest))

/-- whatever the postfix loop goes on to do after `e` (from fuel `G` on), primary-then-postfix does on `toksE e`;
one unit more per member access -/
def PostOk (e : CExpr) : Prop :=
  ∀ (G : Nat) (rest : List Tok) (res : CExpr × List Tok), noParen rest → Settles G (pPostfix · e rest) (some res) →
    Settles (max (12 * (toksE e).length) (G + (toksE e).length)) (pPrimPost · (toksE e ++ rest)) (some res)

def UnaryOk (e : CExpr) : Prop :=
  ∀ rest, stopAt 6 rest → Settles (12 * (toksE e).length + 1) (pUnary · (toksE e ++ rest)) (some (e, rest))

def ArgsOk (args : List CExpr) : Prop :=
  ∀ rest, Settles (12 * (toksArgs args).length + 9) (pArgs · (toksArgs args ++ .op [')'] :: rest)) (some (args, rest))

def Main (e : CExpr) : Prop := (postfixSafe e = true → PostOk e) ∧ UnaryOk e

theorem UnaryOk.level {e : CExpr} (hU : UnaryOk e) {lvl : Nat} (hl : lvl ≤ 6) {rest : List Tok} (hs : stopAt lvl rest) :
    Settles (12 * (toksE e).length + 8 - lvl) (pLevel · lvl (toksE e ++ rest)) (some (e, rest)) :=
  (lift_unary hl (hU rest (stopAt_mono hs hl)) hs).mono (by omega)

theorem UnaryOk.of_post (e : CExpr) (h : wfT e = true) (hs : postfixSafe e = true) (hA : PostOk e) : UnaryOk e := by
  intro rest hst
  obtain ⟨t, r, hr, _, hfirst⟩ := toksE_head e h
  have hT : 1 ≤ (toksE e).length := by simp [hr]
  have hstart : primStart (toksE e ++ rest) := by
    rw [hr, List.cons_append]
    refine Runs.headIs_cons _ fun o e1 => ?_
    have := hfirst hs o e1
    subst this
    exact ⟨by decide, by decide, by decide, by decide, by decide⟩
  exact (pUnary_prim hstart (hA 1 rest (e, rest) (stopAt_noParen hst) (pPostfix_stop e rest hst))).mono (by omega)

theorem PostOk.of_prim (e : CExpr) (hP : PrimOk e) : PostOk e := fun _ rest _ hnp hcont =>
  (pPrimPost_of (hP rest hnp) hcont).mono (by omega)

theorem Main.of_prim (e : CExpr) (h : wfT e = true) (hs : postfixSafe e = true) (hP : PrimOk e) : Main e :=
  have hA := PostOk.of_prim e hP
  ⟨fun _ => hA, UnaryOk.of_post e h hs hA⟩

theorem PrimOk.of_token (e : CExpr) (t : Tok) (ht : toksE e = [t])
    (h : ∀ rest, noParen rest → Settles 1 (pPrimary · (t :: rest)) (some (e, rest))) : PrimOk e := by
  intro rest hnp
  rw [ht]
  exact (h rest hnp).mono (by simp)

/-- `(op(a))`: two parenthesised groups -/
theorem PrimOk.un {op : String} {a : CExpr} (hop : op.toList = ['-'] ∨ op.toList = ['+'] ∨ op.toList = ['!'])
    (hB : UnaryOk a) : PrimOk (.un op a) := by
  intro rest _
  have h2 := paren_group (hB (.op [')'] :: .op [')'] :: rest) (stopAt_close 6 _))
  have h4 := pUnary_un hop (pUnary_prim (opHead_op _ (by decide)) (pPrimPost_of h2 (pPostfix_stop a _ (stopAt_close 0 _))))
  have e1 : (.op op.toList :: .op ['('] :: (toksE a ++ .op [')'] :: .op [')'] :: rest)) =
      (.op op.toList :: .op ['('] :: (toksE a ++ [.op [')']])) ++ .op [')'] :: rest := by simp
  rw [e1] at h4
  have h5 := (paren_group h4).mono (m := 12 * (toksE (.un op a)).length) (by simp [toksE]; omega)
  simpa [toksE] using h5

/-- `(a op b)` with `op` on level `L`: both operands are read at level `L + 1`, the loop of level `L` takes the operator
once, the loops of the looser levels find `)` -/
theorem PrimOk.bin {op : String} {a b : CExpr} {L : Nat} (hL : op.toList ∈ opsAt L) (hBa : UnaryOk a) (hBb : UnaryOk b) :
    PrimOk (.bin op a b) := by
  have hL6 := opsAt_lt hL
  obtain ⟨hn1, hn2, hn3, hn4, _⟩ := opsAt_ne hL
  intro rest _
  have hb := hBb.level (lvl := L + 1) (by omega) (stopAt_close _ rest)
  have hstopa : stopAt (L + 1) (.op op.toList :: (toksE b ++ .op [')'] :: rest)) :=
    opHead_op _ ⟨hn1, hn2, hn3, hn4, fun l hl hm => by have := opsAt_unique L hL6 _ hL l (opsAt_lt hm) hm; omega⟩
  have ha := hBa.level (lvl := L + 1) (by omega) hstopa
  have hloop := pLoop_op (a := a) hL hb
    (pLoop_stop L _ _ (OpHead.mono (stopAt_close 0 rest) fun _ ho => ho.2.2.2.2 L (by omega)))
  have hl0 := lift_level (l := 0) L (by omega) (by rw [Nat.zero_add]; exact pLevel_step hL6 ha hloop) (by omega)
    (stopAt_close 0 rest)
  have := (pPrimary_paren hl0).mono (m := 12 * (toksE (.bin op a b)).length) (by simp [toksE]; omega)
  simpa [toksE] using this

theorem UnaryOk.deref {a : CExpr} (hB : UnaryOk a) : UnaryOk (.deref a) := fun rest hst =>
  (pUnary_deref (hB rest hst)).mono (by simp [toksE]; omega)

/-- `o.n(args)` / `o->n(args)`: the postfix loop after `o` takes the member access and goes on -/
theorem PostOk.mem {o : CExpr} (ar : Bool) (n : String) {args : List CExpr} (hAo : PostOk o) (hargs : ArgsOk args) :
    PostOk (.mem o ar n args) := by
  intro G rest res hnp hcont
  have e1 : toksE (.mem o ar n args) ++ rest =
      toksE o ++ (.op (if ar then cl!"->" else ['.']) :: .id n.toList :: .op ['('] :: (toksArgs args ++ .op [')'] :: rest)) := by
    simp [toksE]
  rw [e1]
  have hc : Settles G (pPostfix · (.mem o ((if ar then cl!"->" else ['.']) = cl!"->") (String.ofList n.toList) args) rest) (some res) := by
    have : ((if ar then cl!"->" else ['.']) = cl!"->") = (ar = true) := by cases ar <;> simp
    simp only [this, String.ofList_toList]
    cases ar <;> simpa using hcont
  exact (hAo _ _ res (opHead_op _ (by cases ar <;> decide))
    (pPostfix_mem (by cases ar <;> simp) (hargs rest) hc)).mono (by simp [toksE]; omega)

theorem PrimOk.call {fn : String} {args : List CExpr} (hv : plainIdB fn.toList = true) (hargs : ArgsOk args) :
    PrimOk (.call fn args) := fun rest _ => by
  have := (pPrimary_call hv (hargs rest)).mono (m := 12 * (toksE (.call fn args)).length) (by simp [toksE]; omega)
  simpa [toksE] using this

theorem PrimOk.cast {t : String} {a : CExpr} (ht : castType [t.toList] = t.toList) (hB : UnaryOk a) :
    PrimOk (.cast t a) := fun rest _ => by
  have hang : angle 1 (.id t.toList :: .op ['>'] :: .op ['('] :: (toksE a ++ .op [')'] :: rest)) =
      some ([t.toList], .op ['('] :: (toksE a ++ .op [')'] :: rest)) := by
    simp [angle, Tok.val]
  have := (pPrimary_cast hang (hB.level (lvl := 0) (by omega) (stopAt_close 0 rest))).mono
    (m := 12 * (toksE (.cast t a)).length) (by simp [toksE]; omega)
  rw [ht, String.ofList_toList] at this
  simpa [toksE] using this

theorem arg_level {a : CExpr} (hU : UnaryOk a) (l : List CExpr) (rest : List Tok) :
    Settles (12 * (toksE a).length + 8) (pLevel · 0 (toksE a ++ (toksMore l ++ .op [')'] :: rest))) (some (a, toksMore l ++ .op [')'] :: rest)) :=
  hU.level (lvl := 0) (by omega) (toksMore_stop l rest)

mutual
theorem main (e : CExpr) (h : wfT e = true) : Main e := by
  have h0 := h
  cases e with
  | var n =>
    have hv : plainIdB n.toList = true := by simpa [wfT] using h
    exact .of_prim _ h0 rfl (.of_token _ _ rfl fun rest hnp => by simpa using pPrimary_var n.toList rest hv hnp)
  | int v =>
    have hv := beqE_eq _ _ (by simpa [wfT] using h : beqE (numLit (toString v).toList) (.int v) = true)
    exact .of_prim _ h0 rfl (.of_token _ _ rfl fun rest _ => hv ▸ pPrimary_num (toString v).toList rest)
  | dbl t m ex =>
    have hv := beqE_eq _ _ (by simpa [wfT] using h : beqE (numLit t.toList) (.dbl t m ex) = true)
    exact .of_prim _ h0 rfl (.of_token _ _ rfl fun rest _ => hv ▸ pPrimary_num t.toList rest)
  | bool b => exact .of_prim _ h0 rfl (.of_token _ _ rfl fun rest _ => pPrimary_bool b rest)
  | str s =>
    have hv : unescape s.toList = s.toList := unescape_id _ (by simpa [wfT] using h)
    exact .of_prim _ h0 rfl (.of_token _ _ rfl fun rest _ => by simpa [hv] using pPrimary_str s.toList rest)
  | un op a =>
    simp only [wfT, Bool.and_eq_true, Bool.or_eq_true, beq_iff_eq] at h
    have hop : op.toList = ['-'] ∨ op.toList = ['+'] ∨ op.toList = ['!'] := by
      rcases h.1 with (rfl | rfl) | rfl <;> decide
    exact .of_prim _ h0 rfl (.un hop (main a h.2).2)
  | bin op a b =>
    simp only [wfT, Bool.and_eq_true] at h
    obtain ⟨L, hL⟩ := binOpOk_spec _ h.1.1
    exact .of_prim _ h0 rfl (.bin hL (main a h.1.2).2 (main b h.2).2)
  | deref a =>
    simp only [wfT] at h
    exact ⟨fun hs => by simp [postfixSafe] at hs, .deref (main a h).2⟩
  | mem o ar n args =>
    simp only [wfT, Bool.and_eq_true] at h
    have hA := PostOk.mem ar n ((main o h.1.2).1 h.1.1) (fun rest f hf => args_main args h.2 f rest hf)
    exact ⟨fun _ => hA, .of_post _ h0 rfl hA⟩
  | call fn args =>
    simp only [wfT, Bool.and_eq_true] at h
    exact .of_prim _ h0 rfl (.call h.1 (fun rest f hf => args_main args h.2 f rest hf))
  | cast t a =>
    simp only [wfT, Bool.and_eq_true, beq_iff_eq] at h
    exact .of_prim _ h0 rfl (.cast h.1 (main a h.2).2)
  | «opaque» t => simp [wfT] at h
theorem args_main (args : List CExpr) (h : wfTArgs args = true) (f : Nat) (rest : List Tok)
    (hf : 12 * (toksArgs args).length + 9 ≤ f) :
    pArgs f (toksArgs args ++ .op [')'] :: rest) = some (args, rest) := by
  cases args with
  | nil => exact pArgs_nil rest f (by omega)
  | cons a l =>
    simp only [wfTArgs, Bool.and_eq_true] at h
    obtain ⟨t, r, hr, hne, _⟩ := toksE_head a h.1
    have e1 : toksArgs (a :: l) ++ .op [')'] :: rest = toksE a ++ (toksMore l ++ .op [')'] :: rest) := by simp [toksArgs]
    rw [e1]
    refine pArgs_cons ?_ (arg_level (main a h.1).2 l rest) (fun g hg => more_main l h.2 g rest hg) f
      (by simp only [toksArgs, List.length_append] at hf; omega)
    rw [hr, List.cons_append]
    exact Runs.headIs_cons _ fun o e ho => hne (ho ▸ e)
theorem more_main (l : List CExpr) (h : wfTArgs l = true) (f : Nat) (rest : List Tok)
    (hf : 12 * (toksMore l).length + 1 ≤ f) :
    pArgsMore f (toksMore l ++ .op [')'] :: rest) = some (l, rest) := by
  cases l with
  | nil => exact pArgsMore_close rest f (by omega)
  | cons b r =>
    simp only [wfTArgs, Bool.and_eq_true] at h
    have e1 : toksMore (b :: r) ++ .op [')'] :: rest = .op [','] :: (toksE b ++ (toksMore r ++ .op [')'] :: rest)) := by
      simp [toksMore]
    rw [e1]
    exact pArgsMore_comma (arg_level (main b h.1).2 r rest) (fun g hg => more_main r h.2 g rest hg) f
      (by simp only [toksMore, List.length_cons, List.length_append] at hf; omega)
end

theorem parseToks_toksE (e : CExpr) (h : wfT e = true) : parseToks (toksE e) = some e := by
  have := (main e h).2.level (lvl := 0) (by omega) (stopAt_nil 0) (exprFuel (toksE e).length) (by unfold exprFuel; omega)
  simp only [List.append_nil] at this
  rw [parseToks, this]

end FaxVerif.Cpp.Parse
