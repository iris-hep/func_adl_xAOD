/-
Cpp.ParseSpec — the DECIDABLE well-formedness predicates under which the round-trip theorem
`parseLines (renderLines (.block b)) = some (.block (eraseL b))` is proved (Cpp/ParseProofs.lean, C02/TheoremsParse.lean), evaluated by the
driver on the parser's output for every program of the tie stream (how much of the real output the theorem covers).
No Mathlib.
-/
import FaxVerif.Cpp.Parse
namespace FaxVerif.Cpp.Parse
open FaxVerif.Cpp

/-! ### equality test on expressions (`CExpr` is a nested inductive: no derived `DecidableEq`) -/

mutual
def beqE : CExpr → CExpr → Bool
  | .var a, .var b => a == b
  | .int a, .int b => a == b
  | .dbl t m e, .dbl t' m' e' => t == t' && m == m' && e == e'
  | .bool a, .bool b => a == b
  | .str a, .str b => a == b
  | .un o a, .un o' a' => o == o' && beqE a a'
  | .bin o a b, .bin o' a' b' => o == o' && beqE a a' && beqE b b'
  | .deref a, .deref a' => beqE a a'
  | .mem o ar n as, .mem o' ar' n' as' => beqE o o' && ar == ar' && n == n' && beqArgs as as'
  | .call f as, .call f' as' => f == f' && beqArgs as as'
  | .cast t a, .cast t' a' => t == t' && beqE a a'
  | .opaque a, .opaque b => a == b
  | _, _ => false
def beqArgs : List CExpr → List CExpr → Bool
  | [], [] => true
  | a :: r, b :: r' => beqE a b && beqArgs r r'
  | _, _ => false
end

/-! ### what the text cannot carry: the requested container type of a retrieve -/

mutual
def eraseS : Stmt → Stmt
  | .block b => .block (eraseL b)
  | .loop x c b => .loop x c (eraseL b)
  | .ite c t e => .ite c (eraseL t) (eraseL e)
  | .retrieve how _ v bank tok => .retrieve how "" v bank tok
  | .decl ty n i => .decl ty n i
  | .set x e => .set x e
  | .push x e => .push x e
  | .clear x => .clear x
  | .fill t => .fill t
  | .throw m => .throw m
  | .line t => .line t
def eraseL : List Stmt → List Stmt
  | [] => []
  | s :: r => eraseS s :: eraseL r
end

mutual
/-- no retrieve of the tree carries a requested container type (what the parser produces before `attachS`) -/
def tyFreeS : Stmt → Bool
  | .block b => tyFreeL b
  | .loop _ _ b => tyFreeL b
  | .ite _ t e => tyFreeL t && tyFreeL e
  | .retrieve _ ty _ _ _ => ty == ""
  | _ => true
def tyFreeL : List Stmt → Bool
  | [] => true
  | s :: r => tyFreeS s && tyFreeL r
end

/-! ### names, types, literals -/

def reserved : List Str := [cl!"throw", cl!"tree", cl!"myTree", cl!"ANA_CHECK", cl!"iEvent"]

/-- an identifier that is not the leading word of one of the fixed statement shapes -/
def nameOk (x : String) : Bool := isIdent x.toList && !reserved.contains x.toList

def identOk (x : String) : Bool := isIdent x.toList

/-- `\w+` -/
def wordOk (x : String) : Bool := x.toList != [] && x.toList.all isWord

/-- a type text the declaration pattern reads back unchanged -/
def typeOk (ty : String) : Bool :=
  let t := ty.toList
  typeRe t && normType t == t
    && !reserved.contains (t.takeWhile isWord)
    && !keywords.contains (t.takeWhile (fun c => !isWs c))
    && t.all (fun c => c != '(' && c != '=' && c != ';' && c != ')')
    && (match t.getLast? with | some c => !isWs c | none => false)
    && (match t.dropWhile isWord with | c :: _ => c != '.' | [] => true)

/-- the expression's text reads back as the expression (by evaluation), and does not begin with a blank -/
def exprOk (e : CExpr) : Bool :=
  beqE (parseExpr (renderE e)) e && (match renderE e with | c :: _ => !isWs c | [] => false)

/-- a tree name / message the printer can put between quotes as it is -/
def quotedOk (t : String) : Bool := t.toList.all (fun c => c != '"' && c != '\\')
def msgOk (m : String) : Bool := m.toList.all (fun c => c != '\\')

/-- a line of no recognised shape, as the parser keeps it -/
def lineOk (t : String) : Bool :=
  let l := t.toList
  l != [] && strip l == l && l != ['{'] && l != ['}'] && l != cl!"else"
    && (forHead l).isNone && (ifHead l).isNone
    && (specialLine l).isNone && (identLine l).isNone && (declLine l).isNone && (assignLine l).isNone

def leafOk : Stmt → Bool
  | .decl ty n none => typeOk ty && identOk n
  | .decl ty n (some e) => typeOk ty && identOk n && exprOk e
  | .set x e => nameOk x && exprOk e
  | .push x e => nameOk x && exprOk e
  | .clear x => nameOk x
  | .fill t => quotedOk t
  | .throw m => msgOk m
  | .retrieve how _ v bank tok =>
    wordOk v &&
      ((how == "atlas" && tok == "" && exprOk bank) || (how == "label" && tok == "" && exprOk bank)
        || (how == "token" && wordOk tok && beqE bank (.opaque "")))
  | .line t => lineOk t
  | _ => true

mutual
/-- hypothesis of the round-trip theorem -/
def StmtOk : Stmt → Bool
  | .block b => ListOk b
  | .loop x c b => identOk x && exprOk c && ListOk b
  | .ite c t e => exprOk c && ListOk t && ListOk e
  | .decl ty n i => leafOk (.decl ty n i)
  | .set x e => leafOk (.set x e)
  | .push x e => leafOk (.push x e)
  | .clear x => leafOk (.clear x)
  | .fill t => leafOk (.fill t)
  | .throw m => leafOk (.throw m)
  | .retrieve how ty v bank tok => leafOk (.retrieve how ty v bank tok)
  | .line t => leafOk (.line t)
def ListOk : List Stmt → Bool
  | [] => true
  | s :: r => StmtOk s && ListOk r
end

/-! ### the printer on tokens -/

mutual
/-- the tokens of `renderE e` -/
def toksE : CExpr → List Tok
  | .var n => [.id n.toList]
  | .int v => [.num (toString v).toList]
  | .dbl t _ _ => [.num t.toList]
  | .bool b => [.id (if b then cl!"true" else cl!"false")]
  | .str s => [.str s.toList]
  | .un op a => .op ['('] :: .op op.toList :: .op ['('] :: toksE a ++ [.op [')'], .op [')']]
  | .bin op a b => .op ['('] :: toksE a ++ .op op.toList :: toksE b ++ [.op [')']]
  | .deref a => .op ['*'] :: toksE a
  | .mem o arrow n args =>
    toksE o ++ .op (if arrow then cl!"->" else ['.']) :: .id n.toList :: .op ['('] :: toksArgs args ++ [.op [')']]
  | .call f args => .id f.toList :: .op ['('] :: toksArgs args ++ [.op [')']]
  | .cast t a => .id cl!"static_cast" :: .op ['<'] :: .id t.toList :: .op ['>'] :: .op ['('] :: toksE a ++ [.op [')']]
  | .opaque _ => []
def toksArgs : List CExpr → List Tok
  | [] => []
  | a :: r => toksE a ++ toksMore r
def toksMore : List CExpr → List Tok
  | [] => []
  | a :: r => .op [','] :: toksE a ++ toksMore r
end

/-- one of the thirteen binary operators -/
def binOpOk (o : Str) : Bool := (List.range 6).any (fun l => (opsAt l).contains o)

def postfixSafe : CExpr → Bool
  | .deref _ => false
  | .opaque _ => false
  | _ => true

def plainIdB (v : Str) : Bool := v != cl!"true" && v != cl!"false" && v != cl!"static_cast"

mutual
/-- the expressions whose token sequence reads back (decidable) -/
def wfT : CExpr → Bool
  | .var n => plainIdB n.toList
  | .int v => beqE (numLit (toString v).toList) (.int v)
  | .dbl t m e => beqE (numLit t.toList) (.dbl t m e)
  | .bool _ => true
  | .str s => s.toList.all (fun c => c != '\\')
  | .un op a => (op == "-" || op == "+" || op == "!") && wfT a
  | .bin op a b => binOpOk op.toList && wfT a && wfT b
  | .deref a => wfT a
  | .mem o _ _ args => postfixSafe o && wfT o && wfTArgs args
  | .call f args => plainIdB f.toList && wfTArgs args
  | .cast t a => (castType [t.toList] == t.toList) && wfT a
  | .opaque _ => false
def wfTArgs : List CExpr → Bool
  | [] => true
  | a :: r => wfT a && wfTArgs r
end


/-! ### names and numerals that are one token (decidable: the tokenizer is run on the atom alone) -/

/-- `[A-Za-z_]\w*(::[A-Za-z_]\w*)*` -/
def idTokOk (n : Str) : Bool :=
  match n with
  | c :: r => isIdStart c && (lexOne c r == some (.id n, []))
  | [] => false

/-- a numeral of the tokenizer's shape -/
def numTokOk (t : Str) : Bool :=
  match t with
  | c :: r => lexNum c r == some (t, [])
  | [] => false

/-- the printed text ends with a numeral -/
def endsNum : CExpr → Bool
  | .int _ => true
  | .dbl _ _ _ => true
  | .deref a => endsNum a
  | _ => false

mutual
/-- the names and literals of the expression are single tokens (with `wfT`: the hypothesis of `lex_render`) -/
def wfL : CExpr → Bool
  | .var n => idTokOk n.toList
  | .int v => numTokOk (toString v).toList
  | .dbl t _ _ => numTokOk t.toList
  | .bool _ => true
  | .str s => quotedOk s
  | .un _ a => wfL a
  | .bin _ a b => wfL a && wfL b
  | .deref a => wfL a
  | .mem o _ n args => !endsNum o && wfL o && idTokOk n.toList && wfLArgs args
  | .call f args => idTokOk f.toList && wfLArgs args
  | .cast t a => idTokOk t.toList && wfL a
  | .opaque _ => false
def wfLArgs : List CExpr → Bool
  | [] => true
  | a :: r => wfL a && wfLArgs r
end

/-- the text of the arguments after the first: `, b, c` -/
def renderMore : List CExpr → Str
  | [] => []
  | b :: r => cl!", " ++ renderE b ++ renderMore r

/-! ### the purely syntactic hypothesis of `parse_render` (C02/TheoremsParseExpr.lean) -/

/-- precedence-safe shape (`wfT`) and single-token names / numerals (`wfL`) -/
def exprWf (e : CExpr) : Bool := wfT e && wfL e

def leafWf : Stmt → Bool
  | .decl ty n none => typeOk ty && identOk n
  | .decl ty n (some e) => typeOk ty && identOk n && exprWf e
  | .set x e => nameOk x && exprWf e
  | .push x e => nameOk x && exprWf e
  | .clear x => nameOk x
  | .fill t => quotedOk t
  | .throw m => msgOk m
  | .retrieve how _ v bank tok =>
    wordOk v &&
      ((how == "atlas" && tok == "" && exprWf bank) || (how == "label" && tok == "" && exprWf bank)
        || (how == "token" && wordOk tok && beqE bank (.opaque "")))
  | .line t => lineOk t
  | _ => true

mutual
/-- `StmtOk` with the evaluated expression hypothesis `exprOk` replaced by the syntactic `exprWf` -/
def StmtWf : Stmt → Bool
  | .block b => ListWf b
  | .loop x c b => identOk x && exprWf c && ListWf b
  | .ite c t e => exprWf c && ListWf t && ListWf e
  | .decl ty n i => leafWf (.decl ty n i)
  | .set x e => leafWf (.set x e)
  | .push x e => leafWf (.push x e)
  | .clear x => leafWf (.clear x)
  | .fill t => leafWf (.fill t)
  | .throw m => leafWf (.throw m)
  | .retrieve how ty v bank tok => leafWf (.retrieve how ty v bank tok)
  | .line t => leafWf (.line t)
def ListWf : List Stmt → Bool
  | [] => true
  | s :: r => StmtWf s && ListWf r
end

/-- the tokenizer splits the printed expression into the printer's tokens (decidable; by evaluation) -/
def lexOk (e : CExpr) : Bool := tokenize (renderE e) == some (toksE e)

/-! ### how much of a tree the expression-level theorems cover (driver statistics) -/

def exprsOfLeaf : Stmt → List CExpr
  | .decl _ _ (some e) => [e]
  | .set _ e => [e]
  | .push _ e => [e]
  | .retrieve how _ _ bank _ => if how == "token" then [] else [bank]
  | _ => []

mutual
def exprsOfS : Stmt → List CExpr
  | .block b => exprsOfL b
  | .loop _ c b => c :: exprsOfL b
  | .ite c t e => c :: exprsOfL t ++ exprsOfL e
  | .decl ty n i => exprsOfLeaf (.decl ty n i)
  | .set x e => exprsOfLeaf (.set x e)
  | .push x e => exprsOfLeaf (.push x e)
  | .retrieve how ty v bank tok => exprsOfLeaf (.retrieve how ty v bank tok)
  | _ => []
def exprsOfL : List Stmt → List CExpr
  | [] => []
  | s :: r => exprsOfS s ++ exprsOfL r
end

end FaxVerif.Cpp.Parse
