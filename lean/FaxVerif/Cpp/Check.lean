/-
Cpp — static checkers that run on the implementation's own (parsed) output.

`da` is a definite-assignment analysis: it tracks the set `D` of declared names, the set `A ⊆ D`
of names that are known to hold a defined value and, for the `First()` idiom, the flags known to hold
`true` (`T`) and guard facts (`G`; see `DA`). It accepts a statement only if every read is of
a name in `A`, every write is to a name in `D`, no initialised name is re-declared, and nothing
opaque occurs. Its soundness (`exec_sound`, `CheckSound.lean`) gives:
  * no accepted program can hit the fault `unbound` (C02: declared before use, initialised before read);
  * the outcome of an accepted program does not depend on anything outside `A` (C05: what an
    event writes is a function of the event alone).
`emp` tracks which vector columns are known to be empty (C05: cleared after every fill).
Computable, no Mathlib.
-/
import FaxVerif.Cpp.Run
namespace FaxVerif.Cpp

mutual
  def vars : CExpr → List String
    | .var n => [n]
    | .int _ => []
    | .dbl _ _ _ => []
    | .bool _ => []
    | .str _ => []
    | .un _ a => vars a
    | .bin _ a b => vars a ++ vars b
    | .deref a => vars a
    | .mem o _ _ args => vars o ++ varsL args
    | .call _ args => varsL args
    | .cast _ a => vars a
    | .opaque _ => []
  def varsL : List CExpr → List String
    | [] => []
    | e :: es => vars e ++ varsL es
end

mutual
  /-- no opaque fragment inside -/
  def clean : CExpr → Bool
    | .un _ a => clean a
    | .bin _ a b => clean a && clean b
    | .deref a => clean a
    | .mem o _ _ args => clean o && cleanL args
    | .call _ args => cleanL args
    | .cast _ a => clean a
    | .opaque _ => false
    | _ => true
  def cleanL : List CExpr → Bool
    | [] => true
    | e :: es => clean e && cleanL es
end

def subset (xs ys : List String) : Bool := xs.all (· ∈ ys)

def inter (xs ys : List String) : List String := xs.filter (· ∈ ys)

/-- analysis state: declared names `D`, definitely initialised names `A ⊆ D`, flags known to hold
`true` (`T`), and guard facts `G`: `(f, x) ∈ G` means "if `f` holds a false value then `x` is
initialised". The facts make the analysis path-sensitive enough for the `First()` idiom
(`bool is_first (true); for … { if (is_first) { is_first = false; x = v; } } if (is_first) throw …;`):
after the emptiness check has fallen through, `x` is known to be initialised. -/
structure DA where
  D : List String
  A : List String
  T : List String := []
  G : List (String × String) := []
deriving Repr, DecidableEq

def okE (s : DA) (e : CExpr) : Bool := clean e && subset (vars e) s.A

/-- the fact `p` is known to hold in analysis state `s` (listed, or trivially true) -/
def DA.eff (s : DA) (p : String × String) : Bool :=
  decide (p ∈ s.G) || decide (p.2 ∈ s.A) || decide (p.1 ∈ s.T)

/-- `x` receives a (new) defined value -/
def DA.assign (s : DA) (x : String) : DA :=
  { D := s.D, A := x :: s.A, T := s.T.filter (· != x),
    G := s.G.filter fun p => p.1 != x || decide (p.2 ∈ x :: s.A) }

/-- forget everything about a name that is being declared -/
def DA.fresh (s : DA) (n : String) : DA :=
  { s with T := s.T.filter (· != n), G := s.G.filter fun p => p.1 != n && p.2 != n }

def inD (D0 : List String) (p : String × String) : Bool := decide (p.1 ∈ D0) && decide (p.2 ∈ D0)

/-- leave a scope: only the names of `D0` remain -/
def DA.restrict (s : DA) (D0 : List String) : DA :=
  { D := D0, A := s.A.filter (· ∈ D0), T := s.T.filter (· ∈ D0), G := s.G.filter (inD D0) }

/-- what holds after either branch -/
def DA.join (D0 : List String) (st se : DA) : DA :=
  { D := D0, A := (inter st.A se.A).filter (· ∈ D0), T := (inter st.T se.T).filter (· ∈ D0),
    G := ((st.G.filter se.eff) ++ (se.G.filter st.eff)).filter (inD D0) }

/-- the condition `c` evaluated to false: the targets of the facts guarded by `c` are initialised -/
def DA.knowFalse (s : DA) : CExpr → DA
  | .var f => { s with A := (((s.G.filter fun p => p.1 == f).map (·.2)).filter (· ∈ s.D)) ++ s.A }
  | _ => s

def isTrueLit : CExpr → Bool
  | .bool true => true
  | _ => false

def isThrow : List Stmt → Bool
  | [.throw _] => true
  | _ => false

structure DACtx where
  cols : List String       -- branch variables read by `fill`
  tokens : List String     -- miniAOD token names (class level, initialised at booking time)

def retrOk (C : DACtx) (s : DA) (how : String) (bank : CExpr) (token : String) : Bool :=
  if how = "token" then decide (token ∈ C.tokens) else okE s bank

/-- state at a loop head: the loop variable is declared and initialised, no flag is known true
(the body may have run), the candidate facts `G` are assumed -/
def loopHead (s : DA) (x : String) (G : List (String × String)) : DA :=
  { D := x :: s.D, A := x :: s.A, T := [], G := G }

/-- candidate loop invariant: the facts known before the loop (explicitly, or through a flag that
is still `true`), about names of the enclosing scope -/
def loopCand (s : DA) : List (String × String) :=
  (s.G ++ s.T.flatMap fun f => s.D.map fun y => (f, y)).filter (inD s.D)

mutual
  def da (C : DACtx) : Stmt → DA → Option DA
    | .block body, s =>
      -- names declared inside go out of scope at the closing brace
      match das C body s with
      | some s' => some (s'.restrict s.D)
      | none => none
    | .loop x coll body, s =>
      if okE s coll && !(x ∈ s.D) then
        match das C body (loopHead s x (loopCand s)) with
        | none => none
        | some sb1 =>
          -- keep the facts the body preserves, and check that they are an invariant
          let inv := (loopCand s).filter sb1.eff
          match das C body (loopHead s x inv) with
          | none => none
          | some sb2 => if inv.all sb2.eff then some { s with T := [], G := inv } else none
      else none
    | .ite c thn els, s =>
      if okE s c then
        match das C thn s with
        | none => none
        | some st =>
          match das C els (s.knowFalse c) with
          | none => none
          | some se => if isThrow thn then some (se.restrict s.D) else some (DA.join s.D st se)
      else none
    | .decl ty n init, s =>
      if n ∈ s.D then none
      else match init with
        | some e =>
          if okE s e then
            some { D := n :: s.D, A := n :: s.A,
                   T := if ty = "bool" ∧ isTrueLit e = true then n :: (s.fresh n).T else (s.fresh n).T, G := (s.fresh n).G }
          else none
        | none =>
          if isVecType ty then some { D := n :: s.D, A := n :: s.A, T := (s.fresh n).T, G := (s.fresh n).G }
          else some { D := n :: s.D, A := s.A, T := (s.fresh n).T, G := (s.fresh n).G }
    | .set x e, s => if x ∈ s.D && okE s e then some (s.assign x) else none
    | .push x e, s => if x ∈ s.A && okE s e then some (s.assign x) else none
    | .clear x, s => if x ∈ s.A then some (s.assign x) else none
    | .fill _, s => if subset C.cols s.A then some s else none
    | .throw _, s => some s
    | .retrieve how _ v bank token, s =>
      if v ∈ s.D && retrOk C s how bank token then some (s.assign v) else none
    | .line _, _ => none
  def das (C : DACtx) : List Stmt → DA → Option DA
    | [], s => some s
    | st :: rest, s => match da C st s with
      | some s' => das C rest s'
      | none => none
end

/-- Names declared by class-level declarations: all are declared; vector columns are known to
be (empty, hence) initialised — `EventLocal` is what justifies that at every event start. -/
def classDA (vars : List (String × String)) : DA :=
  { D := vars.map (·.2), A := (vars.filter fun p => isVecType p.1).map (·.2) }

def Package.daCtx (P : Package) : DACtx :=
  { cols := P.branches.map (·.2), tokens := P.tokens.map (·.1) }

/-- C02 (static part): every identifier is declared before use in the flat scope discipline
described above, initialised before it is read, nothing is declared twice on a path. -/
def WellFormed (P : Package) : Bool :=
  (da P.daCtx P.body (classDA P.classVars)).isSome &&
  (P.classVars.map (·.2)).Nodup &&
  (P.branches.all fun b => (P.classVars.map (·.2)).contains b.2)

/-! ### emptiness of vector columns -/

-- `E` = vector names known to be empty.
mutual
  def emp : Stmt → List String → Option (List String)
    | .block body, E => emps body E
    | .loop x _ body, E =>
      -- the state at the loop head must be invariant: whatever the body may leave non-empty is
      -- removed first, then the body must preserve what is left
      let E0 := E.filter (· ≠ x)
      match emps body E0 with
      | none => none
      | some E1 =>
        let inv := inter E0 E1
        match emps body inv with
        | none => none
        | some E2 => if subset inv E2 then some inv else none
    | .ite _ thn els, E =>
      match emps thn E with
      | none => none
      | some Et => match emps els E with
        | none => none
        | some Ee => some (inter Et Ee)
    | .decl ty n init, E => some (if isVecType ty && init.isNone then n :: E else E.filter (· ≠ n))
    | .set x _, E => some (E.filter (· ≠ x))
    | .push x _, E => some (E.filter (· ≠ x))
    | .clear x, E => some (x :: E)
    | .fill _, E => some E
    | .throw _, E => some E
    | .retrieve _ _ v _ _, E => some (E.filter (· ≠ v))
    | .line _, _ => none
  def emps : List Stmt → List String → Option (List String)
    | [], E => some E
    | st :: rest, E => match emp st E with
      | some E' => emps rest E'
      | none => none
end

/-! ### generated names are declared exactly once in the whole package -/

mutual
  def declNames : Stmt → List String
    | .block body => declNamesL body
    | .loop x _ body => x :: declNamesL body
    | .ite _ thn els => declNamesL thn ++ declNamesL els
    | .decl _ n _ => [n]
    | _ => []
  def declNamesL : List Stmt → List String
    | [] => []
    | s :: ss => declNames s ++ declNamesL ss
end

/-- C02: every identifier the translator introduces is declared exactly once (the retrieval
blocks' fixed local `result` is the one name that recurs, always in its own block). -/
def UniqueNames (P : Package) : Bool :=
  ((declNames P.body ++ P.classVars.map (·.2)).filter (· ≠ "result")).Nodup

def vecCols (P : Package) : List String := (P.classVars.filter fun p => isVecType p.1).map (·.2)

/-- C05 (static part): the per-event body reads nothing it has not written in the same event
(apart from vector columns, which it finds empty), and it leaves every vector column empty. -/
def EventLocal (P : Package) : Bool :=
  WellFormed P &&
  match emp P.body (vecCols P) with
  | some E => subset (vecCols P) E
  | none => false

end FaxVerif.Cpp
