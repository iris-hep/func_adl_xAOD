/-
Cpp.ParseBaseProofs — what the proofs about statement lines (ParseProofs), about the expression parser (ParseExprProofs)
and about the tokenizer (ParseLexSteps) share: literals stripped off a text, runs of characters, character classes by
code range, texts without escapes, and that `beqE` decides equality.
-/
import FaxVerif.Cpp.ParseSpec
import FaxVerif.Common.Runs
namespace FaxVerif.Cpp.Parse
open FaxVerif.Cpp

theorem isPrefixOf?_append (p r : Str) : List.isPrefixOf? p (p ++ r) = some r := by
  induction p with
  | nil => simp [List.isPrefixOf?]
  | cons c p ih => simp [List.isPrefixOf?, ih]

theorem stripPrefix_append (p r : Str) : stripPrefix p (p ++ r) = some r := isPrefixOf?_append p r

theorem stripSuffix_append (a suf : Str) : stripSuffix suf (a ++ suf) = some a := by
  simp [stripSuffix, List.reverse_append, isPrefixOf?_append]

theorem takeWhile_all {p : Char → Bool} {a : Str} (ha : a.all p = true) : a.takeWhile p = a := by
  simpa using List.takeWhile_append_of_pos (l₂ := []) (List.all_eq_true.1 ha)

theorem dropWhile_all {p : Char → Bool} {a : Str} (ha : a.all p = true) : a.dropWhile p = [] := by
  simpa using List.dropWhile_append_of_pos (l₂ := []) (List.all_eq_true.1 ha)

theorem takeWhile_app {p : Char → Bool} {a : Str} {c : Char} {r : Str} (ha : a.all p = true) (hc : p c = false) :
    (a ++ c :: r).takeWhile p = a :=
  Runs.takeWhile_run (List.all_eq_true.1 ha) (Runs.headFails_cons r hc)

theorem dropWhile_app {p : Char → Bool} {a : Str} {c : Char} {r : Str} (ha : a.all p = true) (hc : p c = false) :
    (a ++ c :: r).dropWhile p = c :: r :=
  Runs.dropWhile_run (List.all_eq_true.1 ha) (Runs.headFails_cons r hc)

theorem isDigit_toNat {c : Char} (h : c.isDigit = true) : 48 ≤ c.toNat ∧ c.toNat ≤ 57 := by
  simpa [Char.isDigit, UInt32.le_iff_toNat_le] using h

theorem isAlpha_toNat {c : Char} (h : c.isAlpha = true) : 65 ≤ c.toNat ∧ c.toNat ≤ 122 := by
  have : (65 ≤ c.toNat ∧ c.toNat ≤ 90) ∨ (97 ≤ c.toNat ∧ c.toNat ≤ 122) := by
    simpa [Char.isAlpha, Char.isUpper, Char.isLower, UInt32.le_iff_toNat_le] using h
  omega

theorem isIdStart_toNat {c : Char} (h : isIdStart c = true) : 65 ≤ c.toNat ∧ c.toNat ≤ 122 := by
  rcases Bool.or_eq_true_iff.mp h with h | h
  · exact isAlpha_toNat h
  · rw [eq_of_beq h]; decide

theorem isWord_toNat {c : Char} (h : isWord c = true) : 48 ≤ c.toNat ∧ c.toNat ≤ 122 := by
  rcases Bool.or_eq_true_iff.mp h with h | h
  · rcases Bool.or_eq_true_iff.mp h with h | h
    · have := isAlpha_toNat h; omega
    · have := isDigit_toNat h; omega
  · rw [eq_of_beq h]; decide

theorem isWs_of_isWord (c : Char) (h : isWord c = true) : isWs c = false := by
  have := isWord_toNat h
  simp [isWs]; omega

theorem isWord_of_isIdStart (c : Char) (h : isIdStart c = true) : isWord c = true := by
  simp only [isIdStart, isWord, Char.isAlphanum, Bool.or_eq_true] at h ⊢
  rcases h with h | h
  · exact Or.inl (Or.inl h)
  · exact Or.inr h

theorem isIdent_all {x : Str} (h : isIdent x = true) : x.all isWord = true := by
  cases x with
  | nil => simp [isIdent] at h
  | cons c r =>
    simp only [isIdent, Bool.and_eq_true] at h
    simp [isWord_of_isIdStart c h.1, h.2]

theorem isIdent_ne_nil {x : Str} (h : isIdent x = true) : x ≠ [] := by
  cases x with
  | nil => simp [isIdent] at h
  | cons c r => simp

theorem dropWhile_reverse {p : Char → Bool} {l : Str} {d : Char} (h : l.getLast? = some d) (hd : p d = false) :
    l.reverse.dropWhile p = l.reverse := by
  cases hr : l.reverse with
  | nil => rfl
  | cons e r =>
    have : l.getLast? = some e := by simpa [List.head?_reverse] using congrArg List.head? hr
    obtain rfl : d = e := Option.some.inj (h.symm.trans this)
    simp [hd]

theorem isIdent_reverse {x : Str} (h : isIdent x = true) : ∃ c r, x.reverse = c :: r ∧ isWord c = true := by
  cases hxr : x.reverse with
  | nil => exact absurd (by simpa using hxr) (isIdent_ne_nil h)
  | cons c r => exact ⟨c, r, rfl, List.all_eq_true.mp (isIdent_all h) c (by rw [← List.mem_reverse, hxr]; simp)⟩

theorem endsWith_snoc (a : Str) (c : Char) : endsWith (a ++ [c]) c = true := by simp [endsWith]

theorem unescape_id (m : Str) (h : m.all (fun c => c != '\\') = true) : unescape m = m := by
  induction m with
  | nil => rfl
  | cons c r ih =>
    simp only [List.all_cons, Bool.and_eq_true, bne_iff_ne, ne_eq] at h
    have ih' := ih (by simpa using h.2)
    cases r with
    | nil => simp [unescape]
    | cons d r' =>
      rw [unescape.eq_def]
      simp [h.1, ih']

theorem scanStr_plain (t rest : Str) (h : t.all (fun c => c != '"' && c != '\\') = true) :
    scanStr (t ++ '"' :: rest) = some (t, rest) := by
  induction t with
  | nil => simp [scanStr]
  | cons c r ih =>
    simp only [List.all_cons, Bool.and_eq_true, bne_iff_ne, ne_eq] at h
    have ih' := ih (by simpa using h.2)
    have h1 : c ≠ '"' := h.1.1
    have h2 : c ≠ '\\' := h.1.2
    rw [List.cons_append, scanStr.eq_def]
    simp [h2, ih']

theorem beqE_iff : ∀ (a b : CExpr), beqE a b = true ↔ a = b := by
  intro a
  induction a using CExpr.rec (motive_2 := fun as => ∀ bs, beqArgs as bs = true ↔ as = bs) with
  | un o a ih => intro b; cases b <;> simp [beqE, ih]
  | bin o a a' ih ih' => intro b; cases b <;> simp [beqE, ih, ih', and_assoc]
  | deref a ih => intro b; cases b <;> simp [beqE, ih]
  | mem o ar n as ih ih' => intro b; cases b <;> simp [beqE, ih, ih', and_assoc]
  | call f as ih => intro b; cases b <;> simp [beqE, ih]
  | cast t a ih => intro b; cases b <;> simp [beqE, ih]
  | nil => rename_i bs; cases bs <;> simp [beqArgs]
  | cons a as ih ih' => rename_i bs; cases bs <;> simp [beqArgs, ih, ih']
  | _ => intro b; cases b <;> simp [beqE, and_assoc]

theorem beqE_eq (a b : CExpr) (h : beqE a b = true) : a = b := (beqE_iff a b).1 h

theorem beqE_refl (a : CExpr) : beqE a a = true := (beqE_iff a a).2 rfl

end FaxVerif.Cpp.Parse
