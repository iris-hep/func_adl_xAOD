/-
Cpp — soundness of the emptiness analysis `emp`, and the job-level consequences of
`EventLocal` (C05): what a job writes is the concatenation of what each event writes when
processed alone from the initial class state.
-/
import FaxVerif.Cpp.CheckSound
namespace FaxVerif.Cpp
variable {D : Type}

def EmptyOn (E : List String) (σ : Env D) : Prop := ∀ x ∈ E, σ x = some (.val (.vec []))

theorem EmptyOn.sub {E E' : List String} {σ : Env D} (h : EmptyOn E σ) (hs : ∀ x ∈ E', x ∈ E) : EmptyOn E' σ :=
  fun x hx => h x (hs x hx)

theorem EmptyOn.set_other {E : List String} {σ : Env D} (h : EmptyOn E σ) (x : String) (v : Val D) :
    EmptyOn (E.filter (· ≠ x)) (σ.set x v) := by
  intro y hy
  simp only [List.mem_filter, decide_eq_true_eq] at hy
  rw [Env.set_ne σ x y v hy.2]; exact h y hy.1

theorem EmptyOn.declare_other {E : List String} {σ : Env D} (h : EmptyOn E σ) (x : String) :
    EmptyOn (E.filter (· ≠ x)) (σ.declare x) := by
  intro y hy
  simp only [List.mem_filter, decide_eq_true_eq] at hy
  rw [Env.declare_ne σ x y hy.2]; exact h y hy.1

theorem EmptyOn.set_empty {E : List String} {σ : Env D} (h : EmptyOn E σ) (x : String) :
    EmptyOn (x :: E) (σ.set x (.vec [])) := by
  intro y hy
  by_cases hyx : y = x
  · subst hyx; exact Env.set_eq ..
  · rw [Env.set_ne σ x y _ hyx]; exact h y ((List.mem_cons.1 hy).resolve_left hyx)

theorem iter_empty (inv : List String) (f : St D → Val D → Except Fault (St D))
    (hf : ∀ t t' v, EmptyOn inv t.env → f t v = .ok t' → EmptyOn inv t'.env) :
    ∀ (l : List (Val D)) (t t' : St D), EmptyOn inv t.env → iter f l t = .ok t' → EmptyOn inv t'.env
  | [], t, t', h, hr => by simp only [iter, Except.ok.injEq] at hr; subst hr; exact h
  | v :: vs, t, t', h, hr => by
    simp only [iter] at hr
    cases hfv : f t v with
    | error e => rw [hfv] at hr; simp at hr
    | ok u => rw [hfv] at hr; exact iter_empty inv f hf vs u t' (hf t u v h hfv) hr

mutual
  theorem emp_sound (C : Ctx D) : ∀ (st : Stmt) (E E' : List String) (t t' : St D),
      emp st E = some E' → EmptyOn E t.env → exec C st t = .ok t' → EmptyOn E' t'.env
    | .block body, E, E', t, t', h, he, hx => by
      simp only [emp] at h; simp only [exec] at hx
      exact emps_sound C body E E' t t' h he hx
    | .loop x coll body, E, E', t, t', h, he, hx => by
      obtain ⟨E1, E2, _, h2, hsub, rfl⟩ := emp_loop_iff.1 h
      obtain ⟨l, _, hx⟩ := exec_loop_ok_iff.1 hx
      -- names of the invariant are known empty at the head and are not the loop variable
      have hinv : ∀ y ∈ inter (E.filter (· ≠ x)) E1, y ∈ E ∧ y ≠ x := fun y hy => by
        simpa using ((mem_inter y _ _).1 hy).1
      refine iter_empty _ _ (fun u u' w hu hb => ?_) l t t' (he.sub fun y hy => (hinv y hy).1) hx
      have hu' : EmptyOn (inter (E.filter (· ≠ x)) E1) (u.env.set x w) := fun y hy => by
        rw [Env.set_ne _ x y w (hinv y hy).2]; exact hu y hy
      exact (emps_sound C body _ E2 { u with env := u.env.set x w } u' h2 hu' hb).sub ((subset_iff _ _).1 hsub)
    | .ite c thn els, E, E', t, t', h, he, hx => by
      obtain ⟨Et, Ee, ht, hee, rfl⟩ := emp_ite_iff.1 h
      obtain ⟨_, b, _, _, hx⟩ := exec_ite_ok_iff.1 hx
      cases b with
      | true => exact (emps_sound C thn E Et t t' ht he hx).sub (fun y hy => ((mem_inter y _ _).1 hy).1)
      | false => exact (emps_sound C els E Ee t t' hee he hx).sub (fun y hy => ((mem_inter y _ _).1 hy).2)
    | .decl ty n init, E, E', t, t', h, he, hx => by
      simp only [emp, Option.some.injEq] at h; subst h
      cases init with
      | none =>
        rw [exec_decl_none, Except.ok.injEq] at hx; subst hx
        by_cases hv : isVecType ty = true
        · simpa [hv] using he.set_empty n
        · simpa [hv] using he.declare_other n
      | some e =>
        obtain ⟨_, v', _, _, rfl⟩ := exec_decl_some_ok_iff.1 hx
        simpa using he.set_other n v'
    | .set x e, E, E', t, t', h, he, hx => by
      simp only [emp, Option.some.injEq] at h; subst h
      obtain ⟨_, v, _, rfl⟩ := exec_set_ok_iff.1 hx
      exact he.set_other x v
    | .push x e, E, E', t, t', h, he, hx => by
      simp only [emp, Option.some.injEq] at h; subst h
      obtain ⟨l, v, _, _, rfl⟩ := exec_push_ok_iff.1 hx
      exact he.set_other x _
    | .clear x, E, E', t, t', h, he, hx => by
      simp only [emp, Option.some.injEq] at h; subst h
      obtain ⟨_, _, rfl⟩ := exec_clear_ok_iff.1 hx
      exact he.set_empty x
    | .fill _, E, E', t, t', h, he, hx => by
      simp only [emp, Option.some.injEq] at h; subst h
      obtain ⟨_, _, rfl⟩ := exec_fill_ok_iff.1 hx
      exact he
    | .throw _, E, E', t, t', h, he, hx => by simp [exec] at hx
    | .retrieve how ty v bank token, E, E', t, t', h, he, hx => by
      simp only [emp, Option.some.injEq] at h; subst h
      obtain ⟨_, content, _, rfl⟩ := exec_retrieve_ok_iff.1 hx
      exact he.set_other v content
    | .line _, E, E', t, t', h, _, _ => by simp [emp] at h
  theorem emps_sound (C : Ctx D) : ∀ (l : List Stmt) (E E' : List String) (t t' : St D),
      emps l E = some E' → EmptyOn E t.env → execs C l t = .ok t' → EmptyOn E' t'.env
    | [], E, E', t, t', h, he, hx => by
      simp only [emps, Option.some.injEq] at h; subst h
      simp only [execs, Except.ok.injEq] at hx; subst hx; exact he
    | st :: rest, E, E', t, t', h, he, hx => by
      obtain ⟨E1, h1, h2⟩ := emps_cons_iff.1 h
      obtain ⟨u, hs, hx⟩ := execs_cons_ok_iff.1 hx
      exact emps_sound C rest E1 E' u t' h2 (emp_sound C st E E1 t u h1 he hs) hx
end

/-- The class state at the start of an event is *clean*: every class variable is declared and
every vector column is empty. Scalar columns may hold anything (stale values included). -/
def ClassClean (P : Package) (σ : Env D) : Prop :=
  EmptyOn (vecCols P) σ ∧ ∀ x ∈ classNames P.classVars, (σ x).isSome = true

theorem classInit_clean (P : Package) (hnd : (classNames P.classVars).Nodup) :
    ClassClean P (classInit P.classVars : Env D) := by
  refine ⟨fun x hx => ?_, classInit_decl P.classVars⟩
  simp only [vecCols, List.mem_map, List.mem_filter] at hx
  obtain ⟨⟨ty, n⟩, ⟨hm, hv⟩, rfl⟩ := hx
  exact classInit_vec P.classVars hnd ty n hm hv

theorem tokenBank_some (P : Package) (N : Num D) (ev : Event D) :
    ∀ t ∈ P.daCtx.tokens, ((P.ctx N ev).tokenBank t).isSome = true := by
  intro t ht
  simp only [Package.daCtx, List.mem_map] at ht
  obtain ⟨⟨tk, ty, b⟩, hm, rfl⟩ := ht
  simp only [Ctx.tokenBank, Package.ctx]
  generalize P.tokens = l at hm
  induction l with
  | nil => simp at hm
  | cons hd tl ih =>
    obtain ⟨t0, ty0, b0⟩ := hd
    simp only [Ctx.tokenBank.go]
    by_cases h0 : t0 = tk
    · simp [h0]
    · simp only [h0, if_false]
      rcases List.mem_cons.1 hm with heq | hm'
      · simp only [Prod.mk.injEq] at heq; exact absurd heq.1.symm h0
      · exact ih hm'

theorem good_of_clean (P : Package) (N : Num D) (σ σ' : Env D) (h : ClassClean P σ) (h' : ClassClean P σ') :
    Good2 N (classDA P.classVars) σ σ' :=
  ⟨⟨fun x hx => ⟨.vec [], h.1 x hx, h'.1 x hx⟩, fun x hx => ⟨h.2 x hx, h'.2 x hx⟩⟩, nofun, nofun⟩

theorem wellFormed_init (P : Package) (h : WellFormed P = true) : ClassClean P (classInit P.classVars : Env D) :=
  classInit_clean P ((wellFormed_iff P).1 h).2.1

theorem body_sound (P : Package) (N : Num D) {s' : DA} (hda : da P.daCtx P.body (classDA P.classVars) = some s')
    (σ σ' : Env D) (h : ClassClean P σ) (h' : ClassClean P σ') (ev : Event D) :
    ResGood N s' (exec (P.ctx N ev) P.body { env := σ, rows := [] }) (exec (P.ctx N ev) P.body { env := σ', rows := [] }) :=
  exec_sound (P.ctx N ev) P.daCtx rfl (tokenBank_some P N ev) P.body _ s' _ _ hda (classDA_AsubD _)
    (good_of_clean P N σ σ' h h') rfl

/-- The core of C05: from any clean class state, an event writes what it writes from the
initial class state (same rows, or the same fault), and leaves a clean class state behind. -/
theorem runEvent_local (P : Package) (N : Num D) (hP : EventLocal P = true)
    (σc : Env D) (hc : ClassClean P σc) (ev : Event D) :
    (∀ f, runEvent P N σc ev = .error f ↔ runEvent P N (classInit P.classVars) ev = .error f) ∧
    (∀ rows σc', runEvent P N σc ev = .ok (rows, σc') →
        ClassClean P σc' ∧ ∃ σ0', runEvent P N (classInit P.classVars) ev = .ok (rows, σ0')) := by
  obtain ⟨hwf, E, hE, hsub⟩ := (eventLocal_iff P).1 hP
  obtain ⟨⟨s', hda⟩, _, _⟩ := (wellFormed_iff P).1 hwf
  have hDm := da_Dmono P.daCtx P.body _ s' hda
  unfold runEvent
  rcases body_sound P N hda σc _ hc (wellFormed_init P hwf) ev with ⟨f, e1, e2, _⟩ | ⟨t, t', e1, e2, hg, hr⟩
  · rw [e1, e2]
    exact ⟨fun g => Iff.rfl, fun rows σc' h => by simp at h⟩
  · rw [e1, e2]
    refine ⟨fun g => by simp, fun rows σc' h => ?_⟩
    simp only [Except.ok.injEq, Prod.mk.injEq] at h
    obtain ⟨rfl, rfl⟩ := h
    refine ⟨⟨fun x hx => ?_, fun x hx => ?_⟩, keepClass P.classVars t'.env, by simp [hr]⟩
    · -- vector columns are empty again
      rw [keepClass_of_mem (vecCols_sub P x hx)]
      exact emp_sound (P.ctx N ev) P.body (vecCols P) E { env := σc, rows := [] } t hE hc.1 e1 x (hsub x hx)
    · rw [keepClass_of_mem hx]
      exact (hg.1.2 x (hDm x (by simpa [classDA, classNames] using hx))).1

def perEvent (P : Package) (N : Num D) : List (Event D) → Except Fault (List (List (Val D)))
  | [] => .ok []
  | ev :: evs => match runEvent P N (classInit P.classVars) ev with
    | .error f => .error f
    | .ok (rows, _) => match perEvent P N evs with
      | .ok more => .ok (rows ++ more)
      | .error f => .error f

theorem perEvent_error (P : Package) (N : Num D) {f : Fault} : ∀ {evs : List (Event D)}, perEvent P N evs = .error f →
    ∃ ev ∈ evs, runEvent P N (classInit P.classVars) ev = .error f
  | [], h => by cases h
  | ev :: evs, h => by
    simp only [perEvent] at h
    cases he : runEvent P N (classInit P.classVars) ev with
    | error g => rw [he] at h; exact ⟨ev, List.mem_cons_self .., Except.error.inj h ▸ he⟩
    | ok r =>
      obtain ⟨rows, σ⟩ := r
      rw [he] at h
      cases hj : perEvent P N evs with
      | ok more => rw [hj] at h; cases h
      | error g =>
        rw [hj] at h
        obtain ⟨ev', hm, he'⟩ := perEvent_error P N hj
        exact ⟨ev', List.mem_cons_of_mem _ hm, Except.error.inj h ▸ he'⟩

theorem perEvent_append (P : Package) (N : Num D) : ∀ (xs ys : List (Event D)),
    perEvent P N (xs ++ ys) = match perEvent P N xs with
      | .error f => .error f
      | .ok r => match perEvent P N ys with
        | .ok more => .ok (r ++ more)
        | .error f => .error f
  | [], ys => by simp only [List.nil_append, perEvent]; cases perEvent P N ys <;> rfl
  | ev :: xs, ys => by
    simp only [List.cons_append, perEvent, perEvent_append P N xs ys]
    cases runEvent P N (classInit P.classVars) ev with
    | error f => rfl
    | ok r => cases perEvent P N xs <;> cases perEvent P N ys <;> simp

def alone (P : Package) (N : Num D) (ev : Event D) : Option (List (List (Val D))) :=
  match runEvent P N (classInit P.classVars) ev with
  | .ok (rows, _) => some rows
  | .error _ => none

theorem perEvent_ok_iff (P : Package) (N : Num D) : ∀ (evs : List (Event D)) (r : List (List (Val D))),
    perEvent P N evs = .ok r ↔
      (∀ ev ∈ evs, (alone P N ev).isSome = true) ∧ r = (evs.filterMap (alone P N)).flatten
  | [], r => ⟨fun h => ⟨nofun, (Except.ok.inj h).symm⟩, fun h => h.2 ▸ rfl⟩
  | ev :: evs, r => by
    have ih := perEvent_ok_iff P N evs
    simp only [perEvent, List.forall_mem_cons]
    cases he : runEvent P N (classInit P.classVars) ev with
    | error f => simp [alone, he]
    | ok p =>
      obtain ⟨rows, σ'⟩ := p
      have ha : alone P N ev = some rows := by simp [alone, he]
      simp only [List.filterMap_cons, ha, Option.isSome_some, true_and, List.flatten_cons]
      cases hr : perEvent P N evs with
      | error f =>
        have hn : ¬ ∀ ev ∈ evs, (alone P N ev).isSome = true := fun h => by
          have := (ih _).2 ⟨h, rfl⟩
          rw [hr] at this; cases this
        simp [hn]
      | ok more =>
        obtain ⟨h1, rfl⟩ := (ih more).1 hr
        exact ⟨fun h => ⟨h1, (Except.ok.inj h).symm⟩, fun h => h.2 ▸ rfl⟩

theorem runJobFrom_eq (P : Package) (N : Num D) (hP : EventLocal P = true) :
    ∀ (evs : List (Event D)) (σc : Env D), ClassClean P σc → runJobFrom P N σc evs = perEvent P N evs
  | [], _, _ => rfl
  | ev :: evs, σc, hc => by
    obtain ⟨herr, hok⟩ := runEvent_local P N hP σc hc ev
    simp only [runJobFrom, perEvent]
    cases h : runEvent P N σc ev with
    | error f => rw [(herr f).1 h]
    | ok r =>
      obtain ⟨rows, σc'⟩ := r
      obtain ⟨hcl, σ0', h0⟩ := hok rows σc' h
      rw [h0]
      simp only [runJobFrom_eq P N hP evs σc' hcl]
      cases perEvent P N evs <;> rfl

end FaxVerif.Cpp
