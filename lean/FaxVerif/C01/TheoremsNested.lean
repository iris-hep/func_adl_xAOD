/-
C01 for NESTED iteration — a lambda whose body iterates a collection returned by a method of the element:
`y.m().{Select|Where}*.Count()` / `.Sum()` / a bare inner sequence inside the lambda of an outer `Select`
(`Gen.compNE` / `Gen.compileN`, Gen/Nested.lean, which names the shapes (a), (b), (c); tied to the translator's output
by tools/gentie_nested.py).

Proved for all queries of the fragment, all events, number models and every backend satisfying `BackendBase`, in the
success direction only (`denoteRows = ok rows → runEvent = ok rows`) and under the side conditions
`NElemHyp` / `NColHyp`: static well-typedness (`wtOuter`: the outer chain filters objects; `wtNE` / `wtIChain`),
accessors and the elements of method-returned collections are of the declared kinds (`MethTyped`,
`InnerTyped`, `InnerIsVec`), and `ISumNonEmpty` (an empty FLOATING inner `Sum` is 0.0 in C++ and the integer
0 in Python — equal numbers, different values of the model; left to the numeric comparison of the tie stream).
-/
import FaxVerif.Gen.NestedRowsCorrect
import FaxVerif.C01.Instances
namespace FaxVerif.C01
open FaxVerif.Cpp FaxVerif.Linq FaxVerif.Gen
variable {D : Type}

/-- **C01.inner_loop_is_fold** — the loop emitted for `cur.m().{Select|Where}*` inside the body of an outer
loop computes the fold of the continuation's step function over the elements the inner chain keeps of `v.m()`,
`v` the outer element (element-at-a-time meaning of the query's steps). The collection is an arbitrary collection-valued EXPRESSION of the current
element (evaluated once, at loop entry), not a retrieved bank; the elements may be numbers or objects. -/
theorem inner_loop_is_fold {β : Type} (C : Ctx D) (QC : QCtx D) (hN : QC.N = C.N) (nm : Nat → String)
    (hinj : ∀ i j, nm i = nm j → i = j) (cur : CExpr) (ptr : Bool) (ic : IChain) (n : Nat)
    (K : CExpr → Option Ty → List Stmt) (hwt : wtSteps ic.elem ic.steps = true)
    (v : Val D) (l ws : List (Val D)) (hmem : member v ic.meth [] = .ok (.vec l)) (hit : InnerTyped v ic)
    (P : St D → β → Prop) (g : β → Val D → Except Fault β)
    (hstable : ∀ (s s' : St D) b, P s b → s'.rows = s.rows →
        (∀ y, ¬ InRange nm n (innerLoop nm cur ptr ic n K).2 y → s'.env y = s.env y) → P s' b)
    (hK : ∀ (s : St D) b b' w, P s b → g b w = .ok b' →
        evalE C.N s.env (innerCur nm ic n) = .ok w → (∀ t, innerTy nm ic n = some t → HasTy w t) →
        ∃ s', execs C (K (innerCur nm ic n) (innerTy nm ic n)) s = .ok s' ∧ P s' b')
    (s : St D) (b b' : β) (hcur : evalE C.N s.env cur = .ok v)
    (hel : elemsSem QC ic.steps l = .ok ws) (hfold : foldG g ws b = .ok b') (hP : P s b) :
    ∃ s', execs C (innerLoop nm cur ptr ic n K).1 s = .ok s' ∧ P s' b' :=
  innerLoop_correct C QC hN nm hinj cur ptr ic n K hwt v l ws hmem hit hel s hcur P g (fun _ _ _ => trivial) hstable hK b b' hfold hP

/-- **C01.inner_aggregate_correct** — every element-level expression built from pure parts, inner aggregates
`it.m().{Select|Where}*.Count()` / `.Sum()` (numbers or objects inside), arithmetic and comparisons, nested
without bound: from ANY state in which the current-value expression evaluates to the outer element `v`, the
emitted block — the accumulators' declarations-with-initialiser first (hoisted to the top of the block that
contains the inner loops), then one inner loop per aggregate — terminates in a state in which the emitted
value expression evaluates to EXACTLY what the query expression denotes with its parameter bound to `v`;
only the fragment's own fresh names are touched; the value has the statically computed C++ type. -/
theorem inner_aggregate_correct (C : Ctx D) (QC : QCtx D) (hN : QC.N = C.N) (nm : Nat → String)
    (hinj : ∀ i j, nm i = nm j → i = j) (ptr : Bool) (cur : CExpr) (v : Val D) (x : String) (ρ : LEnv D)
    (e : NE) (n : Nat) (s : St D) (w : Val D)
    (hfr : ∀ y ∈ vars cur, ∀ j, n ≤ j → y ≠ nm j) (hcur : evalE C.N s.env cur = .ok v)
    (hwt : wtNE e = true) (hhyp : NEHyp QC v e)
    (hden : denote QC ((x, v) :: ρ) (neQ x e) = .ok w) :
    ∃ s', execs C ((compNE nm ptr cur e n).decls ++ (compNE nm ptr cur e n).stmts) s = .ok s' ∧ s'.rows = s.rows ∧
      evalE C.N s'.env (compNE nm ptr cur e n).val = .ok w ∧ HasTy w (tyNE e) ∧
      (∀ y, ¬ InRange nm n (compNE nm ptr cur e n).next y → s'.env y = s.env y) :=
  compNE_block_correct C QC hN nm hinj ptr cur v x ρ e n s w hfr hcur hwt hhyp hden

/-- **C01.nestedRows_correct_partial** — END TO END for
`ds.SelectMany(e → coll(bank).Where*).Select(r → {name: expression with inner aggregates, …})`:
one row per outer element the `Where`s keep, in order, every column holding the value of its expression (a
Count / Sum over a collection returned by a method of THAT element, restarted for every element) — the
package the translator model emits (retrieval, the outer loop, the lowered outer condition, and per kept
element the accumulators' declarations, the inner loops, the branch assignments, the Fill) writes exactly the
rows the query denotes, from the class state at event start; the class state it leaves has the column
variables declared again (the precondition of the next event). All three backends. -/
theorem nestedRows_correct_partial (B : Backend) (hB : BackendBase B) (nm cn : Nat → String)
    (hinj : ∀ i j, nm i = nm j → i = j) (hcinj : ∀ i j, cn i = cn j → i = j)
    (hres : ∀ j, nm j ≠ "result") (hcres : ∀ k, cn k ≠ "result") (hdisj : ∀ j k, nm j ≠ cn k)
    (QC : QCtx D) (hcollT : ∀ name, B.collType name = QC.collType name)
    (c : Chain) (cols : List (String × NE)) (hhyp : NElemHyp QC c cols)
    (σc : Env D) (hσ : ∀ k, k < cols.length → (σc (cn k)).isSome = true)
    (rows : List (List (Val D)))
    (hden : denoteRows QC (NQ.toQuery (.elemRows c cols)) = .ok rows) :
    ∃ σ', runEvent (compileN B nm cn (.elemRows c cols)) QC.N σc QC.ev = .ok (rows, σ') ∧
      ∀ k, k < cols.length → (σ' (cn k)).isSome = true :=
  nestedElemRows_correct_post B hB nm cn ⟨hinj, hcinj, hres, hcres, hdisj⟩ QC hcollT c cols hhyp σc hσ rows hden

/-- **C01.nestedEventRows_correct_partial** — END TO END for event-level rows whose columns iterate inner
collections, shapes (a) and (b) in any mixture:
`ds.Select(e → {a: coll(bank).Where*.Select(y → expression with inner aggregates),
               b: coll(bank).Where*.Select(y → y.m().{Select|Where}*), …})`:
from a class state in which the column vectors are empty, the package the translator model emits writes
exactly the ONE row the query denotes (a vector per (a)-column: one value per kept outer element; a vector of
vectors per (b)-column: one inner vector per kept outer element) and leaves the column vectors empty again. -/
theorem nestedEventRows_correct_partial (B : Backend) (hB : BackendBase B) (nm cn : Nat → String)
    (hinj : ∀ i j, nm i = nm j → i = j) (hcinj : ∀ i j, cn i = cn j → i = j)
    (hres : ∀ j, nm j ≠ "result") (hcres : ∀ k, cn k ≠ "result") (hdisj : ∀ j k, nm j ≠ cn k)
    (QC : QCtx D) (hcollT : ∀ name, B.collType name = QC.collType name)
    (cols : List (String × NCol)) (hhyp : ∀ p ∈ cols, NColHyp QC p.2)
    (σc : Env D) (hσ : NColsPre cn cols.length 0 σc)
    (rows : List (List (Val D)))
    (hden : denoteRows QC (NQ.toQuery (.eventRows cols)) = .ok rows) :
    ∃ σ', runEvent (compileN B nm cn (.eventRows cols)) QC.N σc QC.ev = .ok (rows, σ') ∧
      NColsPre cn cols.length 0 σ' :=
  nestedEventRows_correct_post B hB nm cn ⟨hinj, hcinj, hres, hcres, hdisj⟩ QC hcollT cols hhyp σc hσ rows hden

/-- **C01.twoD_column_correct_partial** — the 2-D column `ds.Select(e → {name: coll(bank).Where*.Select(y →
y.m().{Select|Where}*)})` alone: if the query denotes `rows`, then `rows` is ONE row holding ONE value, a vector
of vectors, and the emitted package — the storage vector `std::vector<T> ntupleN;` declared in the outer
loop's body (empty again for every outer element), the inner loop pushing the kept inner values into it, then
`col.push_back(ntupleN)` — writes exactly that row from a class state in which the column vector is empty. -/
theorem twoD_column_correct_partial (B : Backend) (hB : BackendBase B) (nm cn : Nat → String)
    (hinj : ∀ i j, nm i = nm j → i = j) (hcinj : ∀ i j, cn i = cn j → i = j)
    (hres : ∀ j, nm j ≠ "result") (hcres : ∀ k, cn k ≠ "result") (hdisj : ∀ j k, nm j ≠ cn k)
    (QC : QCtx D) (hcollT : ∀ name, B.collType name = QC.collType name)
    (name : String) (c : Chain) (ic : IChain) (hhyp : NColHyp QC (.twoD c ic))
    (σc : Env D) (hσ : σc (cn 0) = some (.val (.vec [])))
    (rows : List (List (Val D)))
    (hden : denoteRows QC (NQ.toQuery (.eventRows [(name, .twoD c ic)])) = .ok rows) :
    ∃ σ', runEvent (compileN B nm cn (.eventRows [(name, .twoD c ic)])) QC.N σc QC.ev = .ok (rows, σ') ∧
      σ' (cn 0) = some (.val (.vec [])) := by
  obtain ⟨σ', hrun, hpost⟩ := nestedEventRows_correct_post B hB nm cn ⟨hinj, hcinj, hres, hcres, hdisj⟩ QC hcollT
    [(name, .twoD c ic)] (List.forall_mem_singleton.2 hhyp) σc (nColsPre_one.2 hσ) rows hden
  exact ⟨σ', hrun, nColsPre_one.1 hpost⟩


/-- `y.vs().Where(v → v > 1).Count() / (y.kids().Select(k → k.i()).Sum() + 1) + y.d()` — two aggregates, the int/int
division cast, a pure part -/
def exNE : NE :=
  .bin .add (.bin .div (.icount ⟨"vs", some .double, [.whr (.cmp .gt .it (.int 1))]⟩)
    (.bin .add (.isum ⟨"kids", none, [.sel (.meth "i" .int)]⟩) (.pure (.int 1)))) (.pure (.meth "d" .double))

/-- `y.kids().Where(k → k.b()).Where(k → k.i() > 0).Select(k → k.d() * 2)` — objects inside, two fused `Where`s -/
def exIC : IChain := ⟨"kids", none, [.whr (.meth "b" .bool), .whr (.cmp .gt (.meth "i" .int) (.int 0)), .sel (.bin .mul (.meth "d" .double) (.int 2))]⟩

example : wtNE exNE = true := by decide
example : tyNE exNE = .double := by decide
example : wtIChain exIC = true := by decide
example : ichainNumTy exIC = some .double := by decide
example : wtNCol (.agg ⟨"As", "ba", [.whr (.cmp .gt (.meth "i" .int) (.int 0))]⟩ exNE) = true := by decide
example : wtNCol (.twoD ⟨"As", "ba", []⟩ exIC) = true := by decide
/-- an outer `Select` to numbers leaves the fragment (the inner collection needs an object) -/
example : wtOuter ⟨"As", "ba", [.sel (.meth "i" .int)]⟩ = false := by decide
/-- a 2-D column of objects is outside the fragment -/
example : wtNCol (.twoD ⟨"As", "ba", []⟩ ⟨"kids", none, []⟩) = false := by decide

def nestNum : Num Int :=
  { ofInt := id, ofDec := fun m _ => m, add := (· + ·), sub := (· - ·), mul := (· * ·), div := Int.tdiv, neg := (- ·),
    lt := fun a b => decide (a < b), le := fun a b => decide (a ≤ b), eq := fun a b => decide (a = b), toInt := id,
    fn := fun _ _ => none }

def nestKid (i : Int) : Val Int := .obj "A" [("i", .int i)]
def nestA1 : Val Int := .obj "A" [("i", .int 3), ("vs", .vec [.dbl 1, .dbl 2, .dbl 5]), ("kids", .vec [nestKid 7, nestKid 1])]
def nestA2 : Val Int := .obj "A" [("i", .int 5), ("vs", .vec []), ("kids", .vec [])]
def nestEv1 : Event Int := ⟨[("ba", "std::vector<pat::Aa>", .vec [nestA1, nestA2])]⟩
def nestEv2 : Event Int := ⟨[("ba", "std::vector<pat::Aa>", .vec [])]⟩
def nestQC : QCtx Int := { N := nestNum, ev := nestEv1, collTypes := [("As", "std::vector<pat::Aa>")] }

def nestCountVs : IChain := ⟨"vs", some .double, [.whr (.cmp .gt .it (.int 1))]⟩
def nestSumKids : IChain := ⟨"kids", none, [.sel (.meth "i" .int)]⟩

/-- `ds.SelectMany(e → e.As("ba").Where(a → a.i() > 0)).Select(r → {n: r.vs().Where(v → v > 1).Count(), s: r.kids().Select(k → k.i()).Sum()})` -/
def nestQc : NQ := .elemRows ⟨"As", "ba", [.whr (.cmp .gt (.meth "i" .int) (.int 0))]⟩
  [("n", .icount nestCountVs), ("s", .isum nestSumKids)]

/-- `ds.Select(e → {a: e.As("ba").Select(y → y.vs().Count() + y.i()), b: e.As("ba").Select(y → y.vs().Select(v → v * 2))})` -/
def nestQe : NQ := .eventRows
  [("a", .agg ⟨"As", "ba", []⟩ (.bin .add (.icount ⟨"vs", some .double, []⟩) (.pure (.meth "i" .int)))),
   ("b", .twoD ⟨"As", "ba", []⟩ ⟨"vs", some .double, [.sel (.bin .mul .it (.int 2))]⟩)]

theorem nestDenC : denoteRows nestQC nestQc.toQuery = .ok [[.int 2, .int 8], [.int 0, .int 0]] := rfl
theorem nestDenE : denoteRows nestQC nestQe.toQuery =
    .ok [[.vec [.int 6, .int 5], .vec [.vec [.dbl 2, .dbl 4, .dbl 10], .vec []]]] := rfl

theorem nestCollT : ∀ name, cmsMiniAodB.collType name = nestQC.collType name :=
  fun name => (collType_single rfl name).symm

theorem nestFind (cty : String) (l : List (Val Int)) (hf : nestQC.ev.find "ba" = some (cty, .vec l)) :
    l = [nestA1, nestA2] := by
  simp [nestQC, nestEv1, Event.find, Event.find.go] at hf
  exact hf.2.symm

theorem methTyped_i (v : Val Int) (i : Int) (rest : List (String × Val Int)) (hv : v = .obj "A" (("i", .int i) :: rest)) :
    MethTyped v [("i", .int)] := by
  intro p hp w hw
  simp only [List.mem_singleton] at hp; subst hp; subst hv
  simp [member, lookupAttr] at hw; subst hw; simp [HasTy]

theorem nestInnerVs (v : Val Int) (hv : v = nestA1 ∨ v = nestA2) (steps : List Step)
    (hs : ∀ u : Val Int, MethTyped u (methsSteps steps)) : InnerTyped v ⟨"vs", some .double, steps⟩ := by
  intro l hl u hu
  refine ⟨?_, hs u⟩
  intro t ht
  simp only [Option.some.injEq] at ht; subst ht
  rcases hv with rfl | rfl
  · simp [nestA1, member, lookupAttr] at hl; subst hl
    simp at hu; rcases hu with rfl | rfl | rfl <;> simp [HasTy]
  · simp [nestA2, member, lookupAttr] at hl; subst hl; simp at hu

theorem methTyped_nil (u : Val Int) : MethTyped u [] := by intro p hp; simp at hp

theorem nestInnerKids (v : Val Int) (hv : v = nestA1 ∨ v = nestA2) : InnerTyped v nestSumKids := by
  intro l hl u hu
  refine ⟨by intro t ht; simp [nestSumKids] at ht, ?_⟩
  rcases hv with rfl | rfl
  · simp [nestA1, nestSumKids, member, lookupAttr] at hl; subst hl
    simp at hu
    rcases hu with rfl | rfl
    · exact methTyped_i _ 7 [] rfl
    · exact methTyped_i _ 1 [] rfl
  · simp [nestA2, nestSumKids, member, lookupAttr] at hl; subst hl; simp at hu

theorem nestHypC : NElemHyp nestQC ⟨"As", "ba", [.whr (.cmp .gt (.meth "i" .int) (.int 0))]⟩
    [("n", .icount nestCountVs), ("s", .isum nestSumKids)] := by
  refine ⟨by decide, by decide, ?_⟩
  intro cty l hf v hv
  rw [nestFind cty l hf] at hv
  have hv' : v = nestA1 ∨ v = nestA2 := by simpa using hv
  have hi : MethTyped v [("i", .int)] := by
    rcases hv' with rfl | rfl
    · exact methTyped_i _ 3 _ rfl
    · exact methTyped_i _ 5 _ rfl
  refine ⟨by simpa [methsSteps, methsPE] using hi, ?_⟩
  intro p hp
  simp only [List.mem_cons, List.not_mem_nil, or_false] at hp
  rcases hp with rfl | rfl
  · refine ⟨by intro q hq; simp [puresNE] at hq, ?_, by intro ic hic; simp [isumsNE] at hic⟩
    intro ic hic
    simp only [ichainsNE, List.mem_singleton] at hic; subst hic
    exact nestInnerVs v hv' _ (fun u => by simpa [methsSteps, methsPE] using methTyped_nil u)
  · refine ⟨by intro q hq; simp [puresNE] at hq, ?_, ?_⟩
    · intro ic hic
      simp only [ichainsNE, List.mem_singleton] at hic; subst hic
      exact nestInnerKids v hv'
    · intro ic hic
      simp only [isumsNE, List.mem_singleton] at hic; subst hic
      intro t ht hfl
      have : t = .int := by simpa [nestSumKids, ichainTy, chainTy, tyPE] using ht.symm
      subst this; simp [Ty.isFloating] at hfl

/-- shape (c) on miniAOD, all hypotheses discharged: the concrete rows (the second element's aggregates are
0 — not the first element's 2 and 8: the accumulators restarted) -/
example : ∃ σ', runEvent (compileN cmsMiniAodB exNm exCn nestQc) nestNum (classInit (compileN cmsMiniAodB exNm exCn nestQc).classVars) nestEv1 =
    .ok ([[.int 2, .int 8], [.int 0, .int 0]], σ') := by
  obtain ⟨σ', h, _⟩ := nestedRows_correct_partial cmsMiniAodB backendOK_cmsMiniAod exNm exCn exNm_inj exCn_inj
    exNm_ne_result exCn_ne_result exNm_ne_exCn nestQC nestCollT _ _ nestHypC _
    (nfragPre_classInit cmsMiniAodB exNm exCn exNm_ne_exCn nestQc) _ nestDenC
  exact ⟨σ', h⟩

theorem nestHypE : ∀ p ∈ [("a", NCol.agg ⟨"As", "ba", []⟩ (.bin .add (.icount ⟨"vs", some .double, []⟩) (.pure (.meth "i" .int)))),
    ("b", NCol.twoD ⟨"As", "ba", []⟩ ⟨"vs", some .double, [.sel (.bin .mul .it (.int 2))]⟩)], NColHyp nestQC p.2 := by
  intro p hp
  simp only [List.mem_cons, List.not_mem_nil, or_false] at hp
  have hct : ChainTyped nestQC ⟨"As", "ba", []⟩ := by
    intro cty l _ v _ q hq; simp [methsSteps] at hq
  rcases hp with rfl | rfl
  · refine ⟨by decide, by decide, hct, ?_⟩
    intro cty l hf v hv
    rw [nestFind cty l hf] at hv
    have hv' : v = nestA1 ∨ v = nestA2 := by simpa using hv
    refine ⟨?_, ?_, by intro ic hic; simp [isumsNE] at hic⟩
    · intro q hq
      simp only [puresNE, List.nil_append, List.mem_singleton] at hq; subst hq
      rcases hv' with rfl | rfl
      · have := methTyped_i nestA1 3 _ rfl
        simpa [methsPE] using this
      · have := methTyped_i nestA2 5 _ rfl
        simpa [methsPE] using this
    · intro ic hic
      simp only [ichainsNE, List.append_nil, List.mem_singleton] at hic; subst hic
      exact nestInnerVs v hv' _ (fun u => by simpa [methsSteps] using methTyped_nil u)
  · refine ⟨by decide, by decide, hct, ?_⟩
    intro cty l hf v hv
    rw [nestFind cty l hf] at hv
    have hv' : v = nestA1 ∨ v = nestA2 := by simpa using hv
    refine ⟨nestInnerVs v hv' _ (fun u => by simpa [methsSteps, methsPE] using methTyped_nil u), ?_⟩
    intro u hu
    rcases hv' with rfl | rfl
    · simp [nestA1, member, lookupAttr] at hu; exact ⟨_, hu.symm⟩
    · simp [nestA2, member, lookupAttr] at hu; exact ⟨_, hu.symm⟩

example : ∃ σ', runEvent (compileN cmsMiniAodB exNm exCn nestQe) nestNum (classInit (compileN cmsMiniAodB exNm exCn nestQe).classVars) nestEv1 =
    .ok ([[.vec [.int 6, .int 5], .vec [.vec [.dbl 2, .dbl 4, .dbl 10], .vec []]]], σ') := by
  obtain ⟨σ', h, _⟩ := nestedEventRows_correct_partial cmsMiniAodB backendOK_cmsMiniAod exNm exCn exNm_inj exCn_inj
    exNm_ne_result exCn_ne_result exNm_ne_exCn nestQC nestCollT _ nestHypE _
    (nfragPre_classInit cmsMiniAodB exNm exCn exNm_ne_exCn nestQe) _ nestDenE
  exact ⟨σ', h⟩

end FaxVerif.C01
