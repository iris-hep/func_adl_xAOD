/-
C01 for nesting of ARBITRARY DEPTH — a lambda over an object element whose body aggregates a collection returned by a
method of the element, the lambdas of that inner chain being again such expressions over the INNER element
(`Gen.compDE` / `Gen.compileD`, Gen/Deep.lean; tied to the translator's output by tools/gentie_deep.py):

    a.kids().Where(k → k.vs().Sum() > 1).Select(k → k.kids().Where(g → g.kids().Count() > 0).Count() * 2).Sum()

Proved by mutual structural induction over the expression, so with no bound on the nesting, the number of `Where`s per
chain or the expression size, in the success direction only (`denote = ok w → the code computes w`) and under the side
conditions `wtDE` (static well-typedness; decidable) and `DEHyp` (recursive over expression and data: accessors and the
elements of method-returned collections are of the declared kinds at every level; a FLOATING inner `Sum` ranges over at
least one kept element — an empty one is 0.0 in C++ and the integer 0 in Python, equal numbers, different values of the
model; left to the numeric comparison of the tie stream). The package-level theorems carry the side conditions of
`nestedEventRows_correct_partial` / `nestedRows_correct_partial` with `DEHyp` in the place of `NEHyp`; the outer chain is
the one of Gen/Nested.lean (pure `Where`s over an event collection, elements stay objects).
-/
import FaxVerif.Gen.DeepRowsCorrect
import FaxVerif.C01.TheoremsNested
namespace FaxVerif.C01
open FaxVerif.Cpp FaxVerif.Linq FaxVerif.Gen
variable {D : Type}

/-- **C01.deep_expr_correct_partial** — every element-level expression built from pure parts and `Count` / `Sum`
of inner chains `it.m().Where(…)*[.Select(…)]` whose lambdas are again such expressions over the inner element,
NESTED TO ANY DEPTH: from ANY state in which the current-value expression evaluates to the element `v`, the
emitted block — the accumulators' declarations-with-initialiser first, then the loops, each loop body again
such a block — terminates in a state in which the emitted value expression evaluates to EXACTLY what the query
expression denotes with its parameter bound to `v`; ONLY the block's own fresh names change (the frame condition on
everything declared outside). -/
theorem deep_expr_correct_partial (C : Ctx D) (QC : QCtx D) (hN : QC.N = C.N) (nm : Nat → String)
    (hinj : ∀ i j, nm i = nm j → i = j) (ptr : Bool) (cur : CExpr) (v : Val D) (x : String) (ρ : LEnv D) (d : Nat)
    (e : DE) (n : Nat) (s : St D) (w : Val D)
    (hfr : ∀ y ∈ vars cur, ∀ j, n ≤ j → y ≠ nm j) (hcur : evalE C.N s.env cur = .ok v)
    (hwt : wtDE none e = true) (hhyp : DEHyp QC e d x ρ v)
    (hden : denote QC ((x, v) :: ρ) (deQ d x e) = .ok w) :
    ∃ s', execs C ((compDE nm ptr none cur e n).decls ++ (compDE nm ptr none cur e n).stmts) s = .ok s' ∧ s'.rows = s.rows ∧
      evalE C.N s'.env (compDE nm ptr none cur e n).val = .ok w ∧ HasTy w (tyDE none e) ∧
      (∀ y, ¬ InRange nm n (compDE nm ptr none cur e n).next y → s'.env y = s.env y) :=
  (StmtSpec.block hinj (compDE_shape C.N nm hinj e ptr none cur n) hfr
    (compDE_correct C QC hN nm hinj e ptr none cur v d x ρ n w (.inRange hfr) nofun hwt hhyp hden)).val_ty s hcur trivial

/-- **C01.deep_loop_is_fold** — the loop emitted for a chain `cur.m().Where(c₁)…Where(cₙ)[.Select(f)]` whose
conditions and `Select` are expressions of ANY depth computes the fold of the continuation's step function over the
values the embedded chain denotes. The invariant must survive
changes of the loop's own names only; the continuation sees the value expression of a kept element evaluate to
the element's value (of the chain's static type when the chain ends in numbers). -/
theorem deep_loop_is_fold {β : Type} (C : Ctx D) (QC : QCtx D) (hN : QC.N = C.N) (nm : Nat → String)
    (hinj : ∀ i j, nm i = nm j → i = j) (c : DChain) (ptr : Bool) (cur : CExpr) (v : Val D) (d : Nat) (x : String) (ρ : LEnv D)
    (n : Nat) (K : CExpr → List Stmt) (P : St D → β → Prop) (g : β → Val D → Except Fault β)
    (hwt : wtChainD c = true) (hhyp : ChainHypD QC c d x ρ v)
    (hstable : ∀ (s s' : St D) b, P s b → s'.rows = s.rows →
      (∀ y, ¬ InRange nm n (compLoopD nm ptr cur c n K).2 y → s'.env y = s.env y) → P s' b)
    (hK : ∀ (s : St D) b b' w, P s b → g b w = .ok b' → evalE C.N s.env (loopValD nm c n) = .ok w →
      (c.endsNum = true → HasTy w (tyChainD c)) → ∃ s', execs C (K (loopValD nm c n)) s = .ok s' ∧ P s' b')
    (s : St D) (b b' : β) (ws : List (Val D)) (hcur : evalE C.N s.env cur = .ok v)
    (hden : denote QC ((x, v) :: ρ) (dchainQ d x c) = .ok (.vec ws)) (hfold : foldG g ws b = .ok b') (hP : P s b) :
    ∃ s', execs C (compLoopD nm ptr cur c n K).1 s = .ok s' ∧ P s' b' :=
  compLoopD_isFold C QC hN nm hinj c ptr cur v d x ρ n K hwt hhyp s ws hcur hden P g (fun _ _ _ => trivial) hstable hK b b' hfold hP

/-- **C01.deep_accumulators_restart** — the block of an expression of any depth, run as the body of a loop for
the element `v₁` and then for the element `v₂` (the loop variable `i` rebound, everything else — in particular
every accumulator of every level — left as the first run left it): afterwards the value expression evaluates to
what the query denotes for `v₂`. Every level's accumulator restarts per enclosing element (`deep_expr_correct_partial`, which
holds from any state, applied to the second run). -/
theorem deep_accumulators_restart (C : Ctx D) (QC : QCtx D) (hN : QC.N = C.N) (nm : Nat → String)
    (hinj : ∀ i j, nm i = nm j → i = j) (ptr : Bool) (i : String) (v₁ v₂ : Val D) (x : String) (ρ : LEnv D) (d : Nat)
    (e : DE) (n : Nat) (s : St D) (w₁ w₂ : Val D)
    (hi : ∀ j, n ≤ j → i ≠ nm j)
    (hwt : wtDE none e = true) (hhyp₁ : DEHyp QC e d x ρ v₁) (hhyp₂ : DEHyp QC e d x ρ v₂)
    (hden₁ : denote QC ((x, v₁) :: ρ) (deQ d x e) = .ok w₁) (hden₂ : denote QC ((x, v₂) :: ρ) (deQ d x e) = .ok w₂) :
    ∃ s', iter (fun s v => execs C ((compDE nm ptr none (.var i) e n).decls ++ (compDE nm ptr none (.var i) e n).stmts)
        { s with env := s.env.set i v }) [v₁, v₂] s = .ok s' ∧ s'.rows = s.rows ∧
      evalE C.N s'.env (compDE nm ptr none (.var i) e n).val = .ok w₂ := by
  have hfr : ∀ y ∈ vars (.var i), ∀ j, n ≤ j → y ≠ nm j := by
    intro y hy j hj
    simp only [vars, List.mem_singleton] at hy; subst hy; exact hi j hj
  obtain ⟨s1, hex1, hr1, _, _, _⟩ := deep_expr_correct_partial C QC hN nm hinj ptr (.var i) v₁ x ρ d e n
    { s with env := s.env.set i v₁ } w₁ hfr (by simp [evalE, Env.set]) hwt hhyp₁ hden₁
  obtain ⟨s2, hex2, hr2, hv2, _, _⟩ := deep_expr_correct_partial C QC hN nm hinj ptr (.var i) v₂ x ρ d e n
    { s1 with env := s1.env.set i v₂ } w₂ hfr (by simp [evalE, Env.set]) hwt hhyp₂ hden₂
  refine ⟨s2, ?_, by rw [hr2]; exact hr1, hv2⟩
  simp only [iter, hex1, hex2]

/-- **C01.deepColumn_correct_partial** — END TO END for ONE event-level vector column whose values nest loops to any
depth, `e.Coll(bank).Where(pure)*.Select(y → DE)`: from a state in which the collection variable is declared and
the column vector is empty, the emitted code — retrieval of the bank, the outer loop, the lowered outer
condition, and per kept outer element the expression's block (declarations, loops nested as deep as the
expression) followed by `col.push_back(value)` — terminates with the column variable holding EXACTLY the list the
query's `Select` denotes. All three backends (`BackendBase`; `TokChain` is the miniAOD token binding, vacuous elsewhere). -/
theorem deepColumn_correct_partial (C : Ctx D) (QC : QCtx D) (hN : QC.N = C.N) (hev : QC.ev = C.ev)
    (B : Backend) (hB : BackendBase B) (nm : Nat → String)
    (hinj : ∀ i j, nm i = nm j → i = j) (hres : ∀ j, nm j ≠ "result")
    (hcollT : ∀ name, B.collType name = QC.collType name)
    (c : Chain) (hwo : wtOuter c = true) (n : Nat) (htok : TokChain B nm C c n)
    (col : String) (hcol : ∀ j, nm j ≠ col) (hcolres : col ≠ "result")
    (e : DE) (hwt : wtDE none e = true)
    (hct : ChainTyped QC c)
    (hQ : ∀ cty l, QC.ev.find c.bank = some (cty, .vec l) → ∀ v ∈ l, DEHyp QC e 0 outerVar [("e", evtVal)] v)
    (s : St D) (hx : (s.env (nm n)).isSome = true) (hpre : s.env col = some (.val (.vec [])))
    (val : Val D) (hden : denote QC [("e", evtVal)] (dcolQ "e" ⟨c, e⟩) = .ok val) :
    ∃ us s', val = .vec us ∧ execs C (compChainN B nm c n (aggKD B nm col e)).stmts s = .ok s' ∧ s'.rows = s.rows ∧
      s'.env col = some (.val (.vec us)) ∧
      (∀ z, z ≠ col → ¬ Touch nm n (compChainN B nm c n (aggKD B nm col e)).next z → s'.env z = s.env z) :=
  pushCol_correct C QC hN hev B hB nm hinj hres hcollT c hwo n htok col hcol hcolres (aggKD B nm col e)
    (fun v => denote QC ((outerVar, v) :: [("e", evtVal)]) (deQ 0 outerVar e)) (fun v => DEHyp QC e 0 outerVar [("e", evtVal)] v)
    (aggKD_pushSpec C QC hN B nm hinj col hcol e hwt outerVar [("e", evtVal)])
    (fun cur m => aggKD_next_ge B nm hinj C.N col e cur none m)
    outerVar (deQ 0 outerVar e) (fun _ => rfl) hct hQ s hx hpre val hden

/-- **C01.deepRows_correct_partial** — END TO END at package level for event-level rows whose columns nest loops to
any depth, `ds.Select(e → {a: e.Coll(bank).Where*.Select(y → DE), b: …, …})`, any number of columns: from a class
state in which the column vectors are empty, if the query denotes `rows` (necessarily one row: a vector per column,
one value per kept outer element) on the event, the package the translator model emits — all retrieval variables,
per column the retrieval block and the outer loop whose body is the expression's block (loops nested as deep as the
expression, every accumulator declared in the block containing its loop) and the `push_back`, ONE Fill, the clears
— writes exactly `rows` and leaves the column vectors empty again. All three backends. -/
theorem deepRows_correct_partial (B : Backend) (hB : BackendBase B) (nm cn : Nat → String)
    (hinj : ∀ i j, nm i = nm j → i = j) (hcinj : ∀ i j, cn i = cn j → i = j)
    (hres : ∀ j, nm j ≠ "result") (hcres : ∀ k, cn k ≠ "result") (hdisj : ∀ j k, nm j ≠ cn k)
    (QC : QCtx D) (hcollT : ∀ name, B.collType name = QC.collType name)
    (cols : List (String × DCol)) (hhyp : ∀ p ∈ cols, DColHyp QC p.2)
    (σc : Env D) (hσ : NColsPre cn cols.length 0 σc)
    (rows : List (List (Val D)))
    (hden : denoteRows QC (DQ.toQuery (.eventRows cols)) = .ok rows) :
    ∃ σ', runEvent (compileD B nm cn (.eventRows cols)) QC.N σc QC.ev = .ok (rows, σ') ∧
      NColsPre cn cols.length 0 σ' :=
  deepEventRows_correct_post B hB nm cn ⟨hinj, hcinj, hres, hcres, hdisj⟩ QC hcollT cols hhyp σc hσ rows hden

/-- **C01.deepElemRows_correct_partial** — END TO END at package level for
`ds.SelectMany(e → coll(bank).Where*).Select(r → {name: DE, …})`: one row per outer element the `Where`s keep, in
order, every column holding the value of its expression (loops nested to any depth, restarted for every element):
the emitted package writes exactly the rows the query denotes, from the class state at event start; the class state
it leaves has the column variables declared again. All three backends. -/
theorem deepElemRows_correct_partial (B : Backend) (hB : BackendBase B) (nm cn : Nat → String)
    (hinj : ∀ i j, nm i = nm j → i = j) (hcinj : ∀ i j, cn i = cn j → i = j)
    (hres : ∀ j, nm j ≠ "result") (hcres : ∀ k, cn k ≠ "result") (hdisj : ∀ j k, nm j ≠ cn k)
    (QC : QCtx D) (hcollT : ∀ name, B.collType name = QC.collType name)
    (c : Chain) (cols : List (String × DE)) (hhyp : DElemHyp QC c cols)
    (σc : Env D) (hσ : ∀ k, k < cols.length → (σc (cn k)).isSome = true)
    (rows : List (List (Val D)))
    (hden : denoteRows QC (DQ.toQuery (.elemRows c cols)) = .ok rows) :
    ∃ σ', runEvent (compileD B nm cn (.elemRows c cols)) QC.N σc QC.ev = .ok (rows, σ') ∧
      ∀ k, k < cols.length → (σ' (cn k)).isSome = true :=
  deepElemRows_correct_post B hB nm cn ⟨hinj, hcinj, hres, hcres, hdisj⟩ QC hcollT c cols hhyp σc hσ rows hden

/-- **C01.deep_job_correct_partial** — for every query of the arbitrary-depth fragment (both shapes), every backend
satisfying `BackendBase`, every number model and EVERY list of events: if the query is defined on each event of the
job (with the per-event side conditions), the emitted package, run as one job from the initial class state, writes
exactly the rows the query denotes on the first event, then those of the second, … — no accumulator of any nesting
level and no column vector survives into the next event. -/
theorem deep_job_correct_partial (B : Backend) (hB : BackendBase B) (nm cn : Nat → String)
    (hinj : ∀ i j, nm i = nm j → i = j) (hcinj : ∀ i j, cn i = cn j → i = j)
    (hres : ∀ j, nm j ≠ "result") (hcres : ∀ k, cn k ≠ "result") (hdisj : ∀ j k, nm j ≠ cn k)
    (QC : QCtx D) (hcollT : ∀ name, B.collType name = QC.collType name)
    (dq : DQ) (evs : List (Event D)) (hhyp : ∀ ev ∈ evs, DFragHyp (QC.withEvent ev) dq)
    (rows : List (List (Val D))) (hden : denoteJob QC dq.toQuery evs = .ok rows) :
    runJob (compileD B nm cn dq) QC.N evs = .ok rows :=
  (dfragJobOK B hB nm cn ⟨hinj, hcinj, hres, hcres, hdisj⟩ QC hcollT dq).job hhyp hden

/-- **C01.deep_job_split_partial** — one job over `xs ++ ys` writes what a job over `xs` followed by a SEPARATE job
over `ys` (fresh class state) write. -/
theorem deep_job_split_partial (B : Backend) (hB : BackendBase B) (nm cn : Nat → String)
    (hinj : ∀ i j, nm i = nm j → i = j) (hcinj : ∀ i j, cn i = cn j → i = j)
    (hres : ∀ j, nm j ≠ "result") (hcres : ∀ k, cn k ≠ "result") (hdisj : ∀ j k, nm j ≠ cn k)
    (QC : QCtx D) (hcollT : ∀ name, B.collType name = QC.collType name)
    (dq : DQ) (xs ys : List (Event D)) (hhyp : ∀ ev ∈ xs ++ ys, DFragHyp (QC.withEvent ev) dq)
    (r₁ r₂ : List (List (Val D)))
    (h₁ : denoteJob QC dq.toQuery xs = .ok r₁) (h₂ : denoteJob QC dq.toQuery ys = .ok r₂) :
    runJob (compileD B nm cn dq) QC.N xs = .ok r₁ ∧ runJob (compileD B nm cn dq) QC.N ys = .ok r₂ ∧
    runJob (compileD B nm cn dq) QC.N (xs ++ ys) = .ok (r₁ ++ r₂) :=
  (dfragJobOK B hB nm cn ⟨hinj, hcinj, hres, hcres, hdisj⟩ QC hcollT dq).split hhyp h₁ h₂

/-- **C01.deep_job_prefix_independent_partial** — in a job `pre ++ ev :: post` the rows written for `ev` are exactly
those of running `ev` ALONE from the initial class state (= what the query denotes on `ev`). -/
theorem deep_job_prefix_independent_partial (B : Backend) (hB : BackendBase B) (nm cn : Nat → String)
    (hinj : ∀ i j, nm i = nm j → i = j) (hcinj : ∀ i j, cn i = cn j → i = j)
    (hres : ∀ j, nm j ≠ "result") (hcres : ∀ k, cn k ≠ "result") (hdisj : ∀ j k, nm j ≠ cn k)
    (QC : QCtx D) (hcollT : ∀ name, B.collType name = QC.collType name)
    (dq : DQ) (pre : List (Event D)) (ev : Event D) (post : List (Event D))
    (hhyp : ∀ e ∈ pre ++ ev :: post, DFragHyp (QC.withEvent e) dq)
    (r : List (List (Val D))) (hden : denoteJob QC dq.toQuery (pre ++ ev :: post) = .ok r) :
    ∃ rp re rq σ',
      runJob (compileD B nm cn dq) QC.N pre = .ok rp ∧
      runEvent (compileD B nm cn dq) QC.N (classInit (compileD B nm cn dq).classVars) ev = .ok (re, σ') ∧
      denoteRows (QC.withEvent ev) dq.toQuery = .ok re ∧
      runJob (compileD B nm cn dq) QC.N post = .ok rq ∧
      runJob (compileD B nm cn dq) QC.N (pre ++ ev :: post) = .ok (rp ++ re ++ rq) :=
  (dfragJobOK B hB nm cn ⟨hinj, hcinj, hres, hcres, hdisj⟩ QC hcollT dq).prefix_independent hhyp hden

/-- **C01.deep_job_perm_partial** — processing the events in any other order gives the same per-event row blocks in
that order: the two outputs are permutations of each other. -/
theorem deep_job_perm_partial (B : Backend) (hB : BackendBase B) (nm cn : Nat → String)
    (hinj : ∀ i j, nm i = nm j → i = j) (hcinj : ∀ i j, cn i = cn j → i = j)
    (hres : ∀ j, nm j ≠ "result") (hcres : ∀ k, cn k ≠ "result") (hdisj : ∀ j k, nm j ≠ cn k)
    (QC : QCtx D) (hcollT : ∀ name, B.collType name = QC.collType name)
    (dq : DQ) (evs evs' : List (Event D)) (hp : evs.Perm evs')
    (hhyp : ∀ ev ∈ evs, DFragHyp (QC.withEvent ev) dq)
    (r : List (List (Val D))) (hden : denoteJob QC dq.toQuery evs = .ok r) :
    ∃ r', runJob (compileD B nm cn dq) QC.N evs = .ok r ∧ runJob (compileD B nm cn dq) QC.N evs' = .ok r' ∧
      denoteJob QC dq.toQuery evs' = .ok r' ∧ r.Perm r' :=
  (dfragJobOK B hB nm cn ⟨hinj, hcinj, hres, hcres, hdisj⟩ QC hcollT dq).perm hp hhyp hden

/-- `deepTower (n+1) = it.kids().Where(z → deepTower n > 0).Count()` -/
def deepTower : Nat → DE
  | 0 => .pure (.meth "i" .int)
  | n + 1 => .count (.mk "kids" none (.snoc .nil (.cmp .gt (deepTower n) (.pure (.int 0)))) .none)

theorem deepTower_ty : ∀ n, tyDE none (deepTower n) = .int
  | 0 => by simp [deepTower, tyDE, tyPE]
  | n + 1 => by simp [deepTower, tyDE]

theorem deepTower_wt : ∀ n, wtDE none (deepTower n) = true
  | 0 => by simp [deepTower, wtDE, wtPE]
  | n + 1 => by
    simp [deepTower, wtDE, wtChainD, wtCondsD, wtSelD, deepTower_wt n, deepTower_ty n, tyDE, Ty.isNum, wtPE, tyPE]

theorem deepTower_depth : ∀ n, depthDE (deepTower n) = n
  | 0 => by simp [deepTower, depthDE]
  | n + 1 => by simp [deepTower, depthDE, depthChainD, depthCondsD, depthSelD, deepTower_depth n]

/-- **C01.deep_depth_unbounded** — for every `n` there is a well-typed expression of the fragment whose loops nest
`n` deep: `deep_expr_correct_partial` is not a statement about a bounded family. -/
theorem deep_depth_unbounded (n : Nat) : ∃ e : DE, wtDE none e = true ∧ depthDE e = n :=
  ⟨deepTower n, deepTower_wt n, deepTower_depth n⟩

/-- `a.kids().Where(k → k.kids().Where(g → g.i() > 1).Count() > 0).Select(k → k.kids().Count() + k.i()).Sum()` — depth 2,
a condition with a loop of its own, a `Select` with a loop of its own -/
def exDE : DE :=
  .sum (.mk "kids" none
    (.snoc .nil (.cmp .gt (.count (.mk "kids" none (.snoc .nil (.pure (.cmp .gt (.meth "i" .int) (.int 1)))) .none)) (.pure (.int 0))))
    (.some (.bin .add (.count (.mk "kids" none .nil .none)) (.pure (.meth "i" .int)))))

/-- three levels: `a.kids().Select(k → k.kids().Select(g → g.kids().Count()).Sum()).Sum()` -/
def exDE3 : DE :=
  .sum (.mk "kids" none .nil (.some (.sum (.mk "kids" none .nil (.some (.count (.mk "kids" none .nil .none)))))))

example : wtDE none exDE = true := by decide
example : tyDE none exDE = .int := by decide
example : depthDE exDE = 2 := by decide
example : wtDE none exDE3 = true := by decide
example : depthDE exDE3 = 3 := by decide
example : wtDCol ⟨⟨"As", "ba", [.whr (.cmp .gt (.meth "i" .int) (.int 0))]⟩, exDE3⟩ = true := by decide
/-- an aggregate over a NUMBER element is outside the fragment -/
example : wtDE (some .double) (.count (.mk "kids" none .nil .none)) = false := by decide
/-- a `Sum` over objects is outside the fragment -/
example : wtDE none (.sum (.mk "kids" none .nil .none)) = false := by decide

def deepLeaf (i : Int) : Val Int := .obj "A" [("i", .int i), ("kids", .vec [])]
def deepMid (i : Int) (ks : List (Val Int)) : Val Int := .obj "A" [("i", .int i), ("kids", .vec ks)]
/-- kids: one with grandchildren i = 2, 0 (kept: one grandchild has i > 1; value 2 + 10), one with none (dropped) -/
def deepTop : Val Int := deepMid 1 [deepMid 10 [deepLeaf 2, deepLeaf 0], deepMid 20 []]

theorem exDE_den : denote nestQC [("y", deepTop)] (deQ 0 "y" exDE) = .ok (.int 12) := rfl
theorem exDE3_den : denote nestQC [("y", deepMid 0 [deepTop, deepTop])] (deQ 0 "y" exDE3) = .ok (.int 4) := rfl

theorem methTyped_i_any (u : Val Int) (h : ∀ w, member u "i" [] = .ok w → ∃ k, w = .int k) : MethTyped u [("i", .int)] := by
  intro p hp w hw
  simp only [List.mem_singleton] at hp; subst hp
  obtain ⟨k, rfl⟩ := h w hw; simp [HasTy]

theorem exDE_hyp (QC : QCtx Int) (x : String) (ρ : LEnv Int) : DEHyp QC exDE 0 x ρ deepTop := by
  simp only [exDE, DEHyp, ChainHypD, CondsHypD, SelHypD, methsPE, List.append_nil, true_and, and_true]
  refine ⟨?_, fun hf => by simp [tyChainD, tySelD, tyDE, tyPE, Ty.join, Ty.isFloating] at hf⟩
  intro l hl u hu
  simp [deepTop, deepMid, member, lookupAttr] at hl; subst hl
  simp only [List.mem_cons, List.not_mem_nil, or_false] at hu
  refine ⟨(by intro t ht; cases ht), ⟨?_, (by intro p hp; simp at hp)⟩, ⟨?_, ?_⟩⟩
  · intro l' hl' u' hu'
    refine ⟨(by intro t ht; cases ht), ?_⟩
    rcases hu with rfl | rfl
    · simp [member, lookupAttr] at hl'; subst hl'
      simp only [List.mem_cons, List.not_mem_nil, or_false] at hu'
      rcases hu' with rfl | rfl <;>
        exact methTyped_i_any _ (fun w hw => by simp [deepLeaf, member, lookupAttr] at hw; exact ⟨_, hw.symm⟩)
    · simp [member, lookupAttr] at hl'; subst hl'; simp at hu'
  · intro l' _ u' _ t ht; cases ht
  · rcases hu with rfl | rfl <;>
      exact methTyped_i_any _ (fun w hw => by simp [member, lookupAttr] at hw; exact ⟨_, hw.symm⟩)

example : ∃ s', execs ({ N := nestNum, ev := nestEv1, cols := [], tokens := [] } : Ctx Int)
      ((compDE exNm false none (.var "y") exDE 0).decls ++ (compDE exNm false none (.var "y") exDE 0).stmts)
      ⟨fun z => if z = "y" then some (.val deepTop) else none, []⟩ = .ok s' ∧
    evalE nestNum s'.env (compDE exNm false none (.var "y") exDE 0).val = .ok (.int 12) := by
  obtain ⟨s', h1, _, h3, _, _⟩ := deep_expr_correct_partial ({ N := nestNum, ev := nestEv1, cols := [], tokens := [] } : Ctx Int)
    nestQC rfl exNm exNm_inj false (.var "y") deepTop "y" [] 0 exDE 0
    ⟨fun z => if z = "y" then some (.val deepTop) else none, []⟩ (.int 12)
    (by
      intro y hy j _ e
      simp only [vars, List.mem_singleton] at hy; subst hy
      exact (ne_of_head _ _ (by rw [exNm_head]; decide) : exNm j ≠ "y") e.symm)
    (by simp [evalE]) (by decide) (exDE_hyp nestQC "y" []) exDE_den
  exact ⟨s', h1, h3⟩

theorem exDE_hyp_leafless (QC : QCtx Int) (x : String) (ρ : LEnv Int) (i : Int) : DEHyp QC exDE 0 x ρ (deepMid i []) := by
  simp only [exDE, DEHyp, ChainHypD, CondsHypD, SelHypD, methsPE, List.append_nil, true_and, and_true]
  refine ⟨?_, fun hf => by simp [tyChainD, tySelD, tyDE, tyPE, Ty.join, Ty.isFloating] at hf⟩
  intro l hl u hu
  simp [deepMid, member, lookupAttr] at hl; subst hl; simp at hu

theorem exDE3_hyp (QC : QCtx Int) (x : String) (ρ : LEnv Int) (v : Val Int) : DEHyp QC exDE3 0 x ρ v := by
  simp only [exDE3, DEHyp, ChainHypD, CondsHypD, SelHypD, true_and, and_true]
  refine ⟨?_, fun hf => by simp [tyChainD, tySelD, tyDE, Ty.join, Ty.isFloating] at hf⟩
  intro l _ u _
  refine ⟨(by intro t ht; cases ht), ?_, fun hf => by simp [tyChainD, tySelD, tyDE, Ty.isFloating] at hf⟩
  intro l' _ u' _
  refine ⟨(by intro t ht; cases ht), ?_⟩
  intro l'' _ u'' _ t ht; cases ht

def deepEv : Event Int := ⟨[("ba", "std::vector<pat::Aa>", .vec [deepTop, deepMid 5 []])]⟩
def deepQC : QCtx Int := { N := nestNum, ev := deepEv, collTypes := [("As", "std::vector<pat::Aa>")] }

/-- `ds.Select(e → {a: e.As("ba").Select(y → ⟨exDE⟩), b: e.As("ba").Select(y → ⟨exDE3⟩)})` — a depth-2 and a depth-3 column -/
def deepQe : DQ := .eventRows [("a", ⟨⟨"As", "ba", []⟩, exDE⟩), ("b", ⟨⟨"As", "ba", []⟩, exDE3⟩)]
/-- `ds.SelectMany(e → e.As("ba")).Select(r → {a: ⟨exDE⟩, n: r.i()})` -/
def deepQc : DQ := .elemRows ⟨"As", "ba", []⟩ [("a", exDE), ("n", .pure (.meth "i" .int))]

theorem deepDenE : denoteRows deepQC deepQe.toQuery = .ok [[.vec [.int 12, .int 0], .vec [.int 0, .int 0]]] := rfl
theorem deepDenC : denoteRows deepQC deepQc.toQuery = .ok [[.int 12, .int 1], [.int 0, .int 5]] := rfl

theorem deepCollT : ∀ name, cmsMiniAodB.collType name = deepQC.collType name := fun name => nestCollT name

theorem deepFind (cty : String) (l : List (Val Int)) (hf : deepQC.ev.find "ba" = some (cty, .vec l)) :
    l = [deepTop, deepMid 5 []] := by
  simp [deepQC, deepEv, Event.find, Event.find.go] at hf
  exact hf.2.symm

theorem deepHypE : ∀ p ∈ [("a", (⟨⟨"As", "ba", []⟩, exDE⟩ : DCol)), ("b", ⟨⟨"As", "ba", []⟩, exDE3⟩)], DColHyp deepQC p.2 := by
  intro p hp
  simp only [List.mem_cons, List.not_mem_nil, or_false] at hp
  have hct : ChainTyped deepQC ⟨"As", "ba", []⟩ := by
    intro cty l _ v _ q hq; simp [methsSteps] at hq
  rcases hp with rfl | rfl
  · refine ⟨by decide, by decide, hct, ?_⟩
    intro cty l hf v hv
    rw [deepFind cty l hf] at hv
    simp only [List.mem_cons, List.not_mem_nil, or_false] at hv
    rcases hv with rfl | rfl
    · exact exDE_hyp _ _ _
    · exact exDE_hyp_leafless _ _ _ 5
  · exact ⟨by decide, by decide, hct, fun _ _ _ v _ => exDE3_hyp _ _ _ v⟩

/-- event-level rows on miniAOD, all hypotheses discharged: the concrete row (second element: 0, not the first
element's 12 — every accumulator of every level restarted) -/
example : ∃ σ', runEvent (compileD cmsMiniAodB exNm exCn deepQe) nestNum (classInit (compileD cmsMiniAodB exNm exCn deepQe).classVars) deepEv =
    .ok ([[.vec [.int 12, .int 0], .vec [.int 0, .int 0]]], σ') := by
  obtain ⟨σ', h, _⟩ := deepRows_correct_partial cmsMiniAodB backendOK_cmsMiniAod exNm exCn exNm_inj exCn_inj
    exNm_ne_result exCn_ne_result exNm_ne_exCn deepQC deepCollT _ deepHypE _
    (dfragPre_classInit cmsMiniAodB exNm exCn exNm_inj exNm_ne_exCn nestNum deepQe) _ deepDenE
  exact ⟨σ', h⟩

theorem deepHypC : DElemHyp deepQC ⟨"As", "ba", []⟩ [("a", exDE), ("n", .pure (.meth "i" .int))] := by
  refine ⟨by decide, by decide, ?_⟩
  intro cty l hf v hv
  rw [deepFind cty l hf] at hv
  simp only [List.mem_cons, List.not_mem_nil, or_false] at hv
  refine ⟨by intro q hq; simp [methsSteps] at hq, ?_⟩
  intro p hp
  simp only [List.mem_cons, List.not_mem_nil, or_false] at hp
  rcases hp with rfl | rfl
  · rcases hv with rfl | rfl
    · exact exDE_hyp _ _ _
    · exact exDE_hyp_leafless _ _ _ 5
  · simp only [DEHyp, methsPE]
    rcases hv with rfl | rfl <;>
      exact methTyped_i_any _ (fun w hw => by simp [deepTop, deepMid, member, lookupAttr] at hw; exact ⟨_, hw.symm⟩)

example : ∃ σ', runEvent (compileD cmsMiniAodB exNm exCn deepQc) nestNum (classInit (compileD cmsMiniAodB exNm exCn deepQc).classVars) deepEv =
    .ok ([[.int 12, .int 1], [.int 0, .int 5]], σ') := by
  obtain ⟨σ', h, _⟩ := deepElemRows_correct_partial cmsMiniAodB backendOK_cmsMiniAod exNm exCn exNm_inj exCn_inj
    exNm_ne_result exCn_ne_result exNm_ne_exCn deepQC deepCollT _ _ deepHypC _
    (dfragPre_classInit cmsMiniAodB exNm exCn exNm_inj exNm_ne_exCn nestNum deepQc) _ deepDenC
  exact ⟨σ', h⟩

example : runJob (compileD cmsMiniAodB exNm exCn deepQc) nestNum [deepEv, deepEv] =
    .ok [[.int 12, .int 1], [.int 0, .int 5], [.int 12, .int 1], [.int 0, .int 5]] :=
  deep_job_correct_partial cmsMiniAodB backendOK_cmsMiniAod exNm exCn exNm_inj exCn_inj
    exNm_ne_result exCn_ne_result exNm_ne_exCn deepQC deepCollT deepQc [deepEv, deepEv]
    (fun ev hm => by
      simp only [List.mem_cons, List.not_mem_nil, or_false, or_self] at hm; subst hm; exact deepHypC) _ rfl

end FaxVerif.C01
