/-
The three example backends (`atlasB`, `cmsAodB`, `cmsMiniAodB`) and the example name supplies (`exNm`, `exCn`) that the
non-vacuity examples of C01–C05 instantiate, with the hypotheses the theorems make of them: ATLAS and CMS AOD are
`BackendOK`; CMS miniAOD, which retrieves by token, is `BackendBase` and NOT `BackendOK`.
-/
import FaxVerif.Gen.LoopCorrect
namespace FaxVerif.C01
open FaxVerif.Cpp FaxVerif.Linq FaxVerif.Gen

def atlasB : Backend :=
  { name := "atlas", elemPtr := true, handleTy := fun t => "const " ++ t ++ "*", how := "atlas",
    resultInit := some (.int 0), fillTree := id, treeName := "atlas_xaod_tree",
    collType := fun n => if n = "As" then some "xAOD::AaContainer" else none, elemType := fun _ => none }

def cmsAodB : Backend :=
  { name := "cms_aod", elemPtr := false, handleTy := fun t => "edm::Handle<" ++ t ++ ">", how := "label",
    resultInit := none, fillTree := fun _ => "", treeName := "cms_aod_tree",
    collType := fun n => if n = "As" then some "reco::AaCollection" else none, elemType := fun _ => none }

theorem ne_of_head (a b : String) (h : a.toList.head? ≠ b.toList.head?) : a ≠ b := fun e => h (by rw [e])

/-- a handle type whose first character is none of `s d f i b` is neither a `std::vector<…>` nor an arithmetic type,
which is all `BackendBase` asks of it -/
theorem backendBase_of_head (B : Backend) (c : Char) (hc : c ∉ ['s', 'd', 'f', 'i', 'b'])
    (hh : ∀ t, (B.handleTy t).toList.head? = some c)
    (hr : B.resultInit = none ∨ B.resultInit = some (.int 0)) : BackendBase B := by
  simp only [List.mem_cons, List.not_mem_nil, or_false, not_or] at hc
  refine ⟨fun t => ?_, fun t => ?_, hr⟩
  · have h := hh t
    cases hl : (B.handleTy t).toList with
    | nil => simp [hl] at h
    | cons a tl =>
      simp only [hl, List.head?_cons, Option.some.injEq] at h
      simp [isVecType, hl, List.isPrefixOf, h, Ne.symm hc.1]
  · refine ⟨ne_of_head _ _ ?_, ne_of_head _ _ ?_, ne_of_head _ _ ?_, ne_of_head _ _ ?_⟩ <;>
      simp [hh t, hc.2.1, hc.2.2.1, hc.2.2.2.1, hc.2.2.2.2]

theorem backendOK_atlas : BackendOK atlasB :=
  have h := backendBase_of_head atlasB 'c' (by decide) (fun t => by simp [atlasB, String.toList_append]) (Or.inr rfl)
  ⟨by decide, h.handleNotVec, h.handlePlain, h.resultInit⟩

theorem backendOK_cmsAod : BackendOK cmsAodB :=
  have h := backendBase_of_head cmsAodB 'e' (by decide) (fun t => by simp [cmsAodB, String.toList_append]) (Or.inl rfl)
  ⟨by decide, h.handleNotVec, h.handlePlain, h.resultInit⟩

/-- the CMS miniAOD backend record (as `Gen.mkBackend` builds it for the text tie: handle type
`Handle<T>`, retrieval idiom "token", `result` declared without initialiser) -/
def cmsMiniAodB : Backend :=
  { name := "cms_miniaod", elemPtr := false, handleTy := fun t => "Handle<" ++ t ++ ">", how := "token",
    resultInit := none, fillTree := fun _ => "", treeName := "cms_miniaod_tree",
    collType := fun n => if n = "As" then some "std::vector<pat::Aa>" else none, elemType := fun _ => none }

example : cmsMiniAodB.how = "token" := rfl

/-- CMS miniAOD satisfies what the end-to-end theorems in their `*_miniaod_partial` form assume of a backend
(`BackendBase`; `BackendOK`, which the `*_partial` forms of C01/Theorems.lean assume, additionally excludes the token
idiom and is what the statements about code run without `compile`'s token table need). -/
theorem backendOK_cmsMiniAod : BackendBase cmsMiniAodB :=
  backendBase_of_head cmsMiniAodB 'H' (by decide) (fun t => by simp [cmsMiniAodB, String.toList_append]) (Or.inl rfl)

theorem backendBase_atlas : BackendBase atlasB := backendOK_atlas.base
theorem backendBase_cmsAod : BackendBase cmsAodB := backendOK_cmsAod.base

/-- miniAOD is NOT `BackendOK` (that predicate is "retrieves by bank name") -/
example : ¬ BackendOK cmsMiniAodB := fun h => h.notToken rfl

def exNm (k : Nat) : String := String.ofList (List.replicate (k + 1) 'v')
def exCn (k : Nat) : String := String.ofList ('_' :: List.replicate (k + 1) 'c')

theorem exNm_inj : ∀ i j, exNm i = exNm j → i = j := by
  intro i j h
  have := congrArg List.length (String.ofList_injective h)
  simpa using this

theorem exCn_inj : ∀ i j, exCn i = exCn j → i = j := by
  intro i j h
  have := congrArg List.length (String.ofList_injective h)
  simpa using this

theorem exNm_head (j : Nat) : (exNm j).toList.head? = some 'v' := by simp [exNm, List.replicate_succ]
theorem exCn_head (k : Nat) : (exCn k).toList.head? = some '_' := by simp [exCn]

theorem exNm_ne_result : ∀ j, exNm j ≠ "result" := fun j => ne_of_head _ _ (by rw [exNm_head]; decide)
theorem exCn_ne_result : ∀ k, exCn k ≠ "result" := fun k => ne_of_head _ _ (by rw [exCn_head]; decide)
theorem exNm_ne_exCn : ∀ j k, exNm j ≠ exCn k := fun j k => ne_of_head _ _ (by rw [exNm_head, exCn_head]; decide)

end FaxVerif.C01
