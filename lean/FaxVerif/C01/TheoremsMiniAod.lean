/-
C01 — the generated job computes exactly the rows the query denotes: CMS miniAOD (collections are
retrieved by TOKEN) inside the end-to-end theorems.

On miniAOD the translator emits, per use of a collection, a class member
`edm::EDGetTokenT<T> tokenK` initialised in the constructor with the bank's input tag, and the
per-event code retrieves through it (`iEvent.getByToken(tokenK, result)`). In the model this is
`Stmt.retrieve "token" T "result" _ tokenK`, resolved through the token table `Package.tokens`
(`Ctx.tokenBank`), and `Gen.compile` emits that table itself (`banksOf`/`colBanks`).

`Gen/TokenTable.lean` proves that the emitted table binds, for EVERY chain of the query, the token
its retrieval uses to that chain's own container type and bank (the name supply is injective, so
every retrieval has its own token and the first-match lookup finds it). With that the two
end-to-end theorems hold for every backend satisfying `Gen.BackendBase` — which, unlike
`BackendOK`, does not exclude the token idiom: ATLAS, CMS AOD and CMS miniAOD are instances
(`C01/Instances.lean`: `backendBase_atlas`, `backendBase_cmsAod`, `backendOK_cmsMiniAod` — so named, but it states
`BackendBase`). Compared with
`C01.eventRows_correct_partial` / `elemRows_correct_partial` the statements below are also
stronger in that they describe the class state left behind (the precondition holds again — what
the job-level theorems of C05 iterate).

What stays outside for miniAOD: the guard idiom package (`C04.guarded_package_correct`) is stated for
`BackendOK` (retrieval by bank name). The fault direction on all three backends is
`C04.event_first_empty_loud_all_backends`.
-/
import FaxVerif.C01.Instances
import FaxVerif.Gen.EventRowsCorrect
namespace FaxVerif.C01
open FaxVerif.Cpp FaxVerif.Linq FaxVerif.Gen
variable {D : Type}

/-- **C01.eventRows_correct_miniaod_partial** — event-level rows on EVERY backend satisfying
`BackendBase`, in particular CMS miniAOD (retrieval by token; no assumption on the token table: it
is the one `compile` emits): the emitted package writes exactly the row the query denotes, and the
class state it leaves satisfies the precondition `ColsPre` again (vector columns cleared, the other
column variables declared).
(Partial: success direction; hypotheses `ColHyp` as in `eventRows_correct_partial`.) -/
theorem eventRows_correct_miniaod_partial (B : Backend) (hB : BackendBase B) (nm cn : Nat → String)
    (hinj : ∀ i j, nm i = nm j → i = j) (hcinj : ∀ i j, cn i = cn j → i = j)
    (hres : ∀ j, nm j ≠ "result") (hcres : ∀ k, cn k ≠ "result") (hdisj : ∀ j k, nm j ≠ cn k)
    (QC : QCtx D) (hcollT : ∀ name, B.collType name = QC.collType name)
    (cols : List (String × Col)) (hhyp : ∀ p ∈ cols, ColHyp QC p.2)
    (σc : Env D) (hσ : ColsPre cn (cols.map (·.2)) 0 σc)
    (rows : List (List (Val D)))
    (hden : denoteRows QC (FQ.toQuery (.eventRows cols)) = .ok rows) :
    ∃ σ', runEvent (compile B nm cn (.eventRows cols)) QC.N σc QC.ev = .ok (rows, σ') ∧
      ColsPre cn (cols.map (·.2)) 0 σ' :=
  eventRows_correct_post B hB nm cn hinj hcinj hres hcres hdisj QC hcollT cols hhyp σc hσ rows hden

/-- **C01.elemRows_correct_miniaod_partial** — element-level rows on EVERY backend satisfying
`BackendBase`, in particular CMS miniAOD: the emitted package writes exactly the rows the query
denotes (one per kept element, in order), and the column variables are still declared afterwards.
(Partial: success direction.) -/
theorem elemRows_correct_miniaod_partial (B : Backend) (hB : BackendBase B) (nm cn : Nat → String)
    (hinj : ∀ i j, nm i = nm j → i = j) (hcinj : ∀ i j, cn i = cn j → i = j)
    (hres : ∀ j, nm j ≠ "result") (hcres : ∀ k, cn k ≠ "result") (hdisj : ∀ j k, nm j ≠ cn k)
    (QC : QCtx D) (hcollT : ∀ name, B.collType name = QC.collType name)
    (c : Chain) (cols : List (String × PE))
    (hwt : wtSteps none c.steps = true)
    (hwtc : ∀ p ∈ cols, wtPE (chainTy none c.steps) p.2 = true)
    (hmt : ∀ cty l, QC.ev.find c.bank = some (cty, .vec l) →
        ∀ v ∈ l, MethTyped v (methsSteps c.steps) ∧ ∀ p ∈ cols, MethTyped v (methsPE p.2))
    (σc : Env D) (hσ : ∀ k, k < cols.length → (σc (cn k)).isSome = true)
    (rows : List (List (Val D)))
    (hden : denoteRows QC (FQ.toQuery (.elemRows c cols)) = .ok rows) :
    ∃ σ', runEvent (compile B nm cn (.elemRows c cols)) QC.N σc QC.ev = .ok (rows, σ') ∧
      ∀ k, k < cols.length → (σ' (cn k)).isSome = true :=
  elemRows_correct_post B hB nm cn hinj hcinj hres hcres hdisj QC hcollT c cols hwt hwtc hmt σc hσ rows hden

/-- **C01.miniaod_token_table** — the token table `compile` emits for event-level rows binds, for
every chain of every column, the token its retrieval uses to that chain's container type and bank
(on a backend that retrieves by bank name the statement is vacuous). -/
theorem miniaod_token_table (B : Backend) (nm cn : Nat → String) (hinj : ∀ i j, nm i = nm j → i = j)
    (cols : List (String × Col)) (N : Num D) (ev : Event D) :
    TokCols B nm cn ((compile B nm cn (.eventRows cols)).ctx N ev) (cols.map (·.2)) 0 0 :=
  tokCols_eventRows B nm cn hinj cols N ev

end FaxVerif.C01
