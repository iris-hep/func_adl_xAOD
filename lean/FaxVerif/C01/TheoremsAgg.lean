/-
C01 for the GENERAL `Aggregate`, `seq.Aggregate(seed, lambda acc, x: body)` with a literal seed and a pure two-variable
body, as an event-level scalar column (`Gen.compileA`, Gen/Agg.lean; tied to the translator's output by
tools/gentie_agg.py, three backends, all four seed/body type combinations).

Full statement (not proved at this strength):
    ∀ b q, WellTyped q → ∃ p, pipeline b q = ok p ∧ ∀ ev, runEvent p ev = denoteRows q ev
Proved in the success direction (`BackendOK` = ATLAS / CMS AOD; `BackendBase` adds CMS miniAOD in the `_tok` / `_miniaod`
theorems) for aggregates that are
  * EXACTLY TYPED (`aggExact`): the accumulator keeps the seed's type and holds the body's value
    without a conversion of kind — int seed & int body, or float seed & floating body; or
  * WIDENED (`aggWiden`): int seed, floating body — this is what `Sum()` of floats is — with every
    occurrence of `acc` an operand of `/` or of `+ - *` whose other operand is of floating type
    (`accOK`), over AT LEAST ONE kept element (`AggNonEmpty`).
    The translator declares `double acc (seed)`: the C++ accumulator starts as the floating seed,
    Python's as the integer seed; the first step gives the same value from both
    (`aggregate_first_step_insensitive`), afterwards both hold the same floating value. TYPED
    equality of the results holds; it is false over an empty sequence (the query denotes the int
    seed, the code writes the floating seed: `aggExact_necessary_widened`) and, for an abstract
    number model, outside `accOK` (`acc * acc + x`: Python multiplies integers).
Outside the theorems (text tie + numeric comparison of the executed model only):
  * float seed, int body: `acc = static_cast<double>(body)` — Python's accumulator becomes an int
    (`aggExact_necessary_cast`); numerically equal;
  * widened aggregates over an empty sequence / outside `accOK`; numerically equal for C++ ints.
None of these is a defect w.r.t. Python numerics.
-/
import FaxVerif.Gen.AggRowsCorrect
import FaxVerif.C01.Instances
namespace FaxVerif.C01
open FaxVerif.Cpp FaxVerif.Linq FaxVerif.Gen
variable {D : Type}

/-- **C01.aggregate_body_correct** — the accumulation lambda's body (constants, `acc`, the
element or its accessors, `+ - * /`, unary minus — arbitrarily nested) is translated to a C++
expression that, wherever the accumulator variable holds `va` and the chain's current value is
`v`, evaluates to exactly what the body denotes with `acc ↦ va, x ↦ v` — value or fault — with the
statically computed type; `/` is real division (the `static_cast<double>` on int/int). -/
theorem aggregate_body_correct (C : QCtx D) (σ : Env D) (accE cur : CExpr) (accT : Ty) (curTy : Option Ty) (ptr : Bool)
    (va v : Val D) (a x : String) (hax : x ≠ a) (ρ : LEnv D)
    (hacc : evalE C.N σ accE = .ok va) (haty : HasTy va accT)
    (hcur : evalE C.N σ cur = .ok v) (hty : ∀ t, curTy = some t → HasTy v t)
    (f : AE) (hw : wtAE accT curTy f = true) (hm : MethTyped v (methsAE f)) :
    evalE C.N σ (compAE ptr accE cur accT (curT curTy) f) = denote C ((x, v) :: (a, va) :: ρ) (aeQ a x f) ∧
    ∀ w, denote C ((x, v) :: (a, va) :: ρ) (aeQ a x f) = .ok w → HasTy w (tyAE accT (curT curTy) f) :=
  (ae_correctUp (wide := False) C σ accE cur accT curTy ptr va v a x hax ρ hacc (Or.inl haty) hcur hty f hw hm).imp id
    fun h w hw' => tyUp_false.1 (h w hw')

/-- **C01.aggregate_is_fold** — the emitted code of `chain.Aggregate(seed, lambda acc, x: body)`
(retrieval, the accumulator `T acc (seed);` declared outside the loop, one loop with the chain's
`Where`s as nested ifs and `acc = body;` innermost) computes the LEFT FOLD of the body over exactly
the values the chain keeps, in order, from the seed (`List.foldlM` of the user-level step), and
leaves it in the accumulator variable; no row is written. Every chain, body, event, number model;
`BackendOK`; `wtAgg` (static typing + the exact typing side condition `aggExact`). -/
theorem aggregate_is_fold (C : Ctx D) (QC : QCtx D) (hN : QC.N = C.N) (hev : QC.ev = C.ev)
    (B : Backend) (hB : BackendOK B) (nm : Nat → String)
    (hinj : ∀ i j, nm i = nm j → i = j) (hres : ∀ j, nm j ≠ "result")
    (hcollT : ∀ name, B.collType name = QC.collType name)
    (g : Agg) (n : Nat) (s : St D) (ws : List (Val D)) (v : Val D)
    (hdone : DeclsDoneA C.N (compAgg B nm g n).decls s.env)
    (hwt : wtAgg g = true) (hmt : AggTyped QC g)
    (hchain : denote QC [("e", evtVal)] (chainQ "e" g.c) = .ok (.vec ws))
    (hfold : ws.foldlM (aggStep QC g) (g.seed.val QC.N) = .ok v) :
    ∃ s', execs C (compAgg B nm g n).stmts s = .ok s' ∧ s'.rows = s.rows ∧
      s'.env (nm n) = some (.val v) ∧ HasTy v g.accTy ∧
      (∀ y, ¬ Touch nm n (compAgg B nm g n).next y → s'.env y = s.env y) := by
  simp only [wtAgg, Bool.and_eq_true] at hwt
  exact agg_fold_correct C QC hN hev B hB.base nm hinj hres hcollT g n (tokChain_of_notToken hB.notToken nm C g.c (n + 1))
    s ws v hdone hwt.1 hmt (Or.inl hwt.2) hchain (by rw [foldG_eq_foldlM]; exact hfold)

/-- **C01.aggregate_is_foldl** — `aggregate_is_fold` for a body that is total on the values at
hand (`f` is its value function): the accumulator ends as `List.foldl f seed ws`. -/
theorem aggregate_is_foldl (C : Ctx D) (QC : QCtx D) (hN : QC.N = C.N) (hev : QC.ev = C.ev)
    (B : Backend) (hB : BackendOK B) (nm : Nat → String)
    (hinj : ∀ i j, nm i = nm j → i = j) (hres : ∀ j, nm j ≠ "result")
    (hcollT : ∀ name, B.collType name = QC.collType name)
    (g : Agg) (n : Nat) (s : St D) (ws : List (Val D)) (f : Val D → Val D → Val D)
    (hdone : DeclsDoneA C.N (compAgg B nm g n).decls s.env)
    (hwt : wtAgg g = true) (hmt : AggTyped QC g)
    (hchain : denote QC [("e", evtVal)] (chainQ "e" g.c) = .ok (.vec ws))
    (hf : ∀ a, ∀ w ∈ ws, aggStep QC g a w = .ok (f a w)) :
    ∃ s', execs C (compAgg B nm g n).stmts s = .ok s' ∧ s'.rows = s.rows ∧
      s'.env (nm n) = some (.val (ws.foldl f (g.seed.val QC.N))) ∧
      (∀ y, ¬ Touch nm n (compAgg B nm g n).next y → s'.env y = s.env y) := by
  obtain ⟨s', h1, h2, h3, _, h5⟩ := aggregate_is_fold C QC hN hev B hB nm hinj hres hcollT g n s ws _ hdone hwt hmt hchain
    (foldlM_eq_foldl (aggStep QC g) f ws (g.seed.val QC.N) hf)
  exact ⟨s', h1, h2, h3, h5⟩

theorem aggregate_denotes_fold (QC : QCtx D) (g : Agg) (v : Val D)
    (hden : denote QC [("e", evtVal)] (aggQ "e" g) = .ok v) :
    ∃ ws, denote QC [("e", evtVal)] (chainQ "e" g.c) = .ok (.vec ws) ∧
      ws.foldlM (aggStep QC g) (g.seed.val QC.N) = .ok v := by
  obtain ⟨ws, h1, h2⟩ := aggQ_denote QC g v hden
  exact ⟨ws, h1, by rw [← foldG_eq_foldlM]; exact h2⟩

/-- **C01.aggregate_scalar_correct_partial** — event-level scalars over general aggregates: for
every expression built from constants, `Aggregate`s over chains and arithmetic / comparisons /
unary minus / not, running the emitted statements leaves a state in which the emitted value
expression evaluates to what the query denotes, with the declared type, touching nothing but the
fragment's own generated names. (Partial: success direction; `wtGE` includes `aggExact`.) -/
theorem aggregate_scalar_correct_partial (C : Ctx D) (QC : QCtx D) (hN : QC.N = C.N) (hev : QC.ev = C.ev)
    (B : Backend) (hB : BackendOK B) (nm : Nat → String)
    (hinj : ∀ i j, nm i = nm j → i = j) (hres : ∀ j, nm j ≠ "result")
    (hcollT : ∀ name, B.collType name = QC.collType name)
    (e : GE) (n : Nat) (s : St D) (v : Val D)
    (hdone : DeclsDoneA C.N (compGE B nm e n).decls s.env)
    (hwt : wtGE e = true) (hct : ∀ g ∈ aggsGE e, AggHyp QC g)
    (hden : denote QC [("e", evtVal)] (geQ "e" e) = .ok v) :
    ∃ s', execs C (compGE B nm e n).stmts s = .ok s' ∧ s'.rows = s.rows ∧
      evalE C.N s'.env (compGE B nm e n).val = .ok v ∧ HasTy v (tyGE e) ∧
      (∀ y, ¬ Touch nm n (compGE B nm e n).next y → s'.env y = s.env y) :=
  compGE_correct_tok C QC hN hev B hB.base nm hinj hres hcollT e n s v
    ((compGE_toks B nm e n).of_notToken hB.notToken C) hdone hwt hct hden

/-- **C01.aggregateRows_correct_partial** — one row per event, every column holding the value
its expression evaluates to: for `ds.Select(e → {name: xe, …})` with every `xe` a scalar over
general aggregates, the emitted package — all declarations (handles, accumulators with their seeds)
hoisted to the top of the block, one retrieval + loop per aggregate, the scalar assignments, the
Fill — writes exactly the row the query denotes, from every class state in which the column
variables are declared. (Partial: success direction; `BackendOK`; static well-typedness incl. the
exact typing side condition; accessors returning the declared kinds.) -/
theorem aggregateRows_correct_partial (B : Backend) (hB : BackendOK B) (nm cn : Nat → String)
    (hinj : ∀ i j, nm i = nm j → i = j) (hcinj : ∀ i j, cn i = cn j → i = j)
    (hres : ∀ j, nm j ≠ "result") (hcres : ∀ k, cn k ≠ "result") (hdisj : ∀ j k, nm j ≠ cn k)
    (QC : QCtx D) (hcollT : ∀ name, B.collType name = QC.collType name)
    (cols : AQ) (hhyp : ∀ p ∈ cols, wtGE p.2 = true ∧ ∀ g ∈ aggsGE p.2, AggHyp QC g)
    (σc : Env D) (hσ : ∀ k, k < cols.length → (σc (cn k)).isSome = true)
    (rows : List (List (Val D)))
    (hden : denoteRows QC (AQ.toQuery cols) = .ok rows) :
    ∃ σ', runEvent (compileA B nm cn cols) QC.N σc QC.ev = .ok (rows, σ') :=
  aggRows_correct B hB.base nm cn ⟨hinj, hcinj, hres, hcres, hdisj⟩ QC hcollT cols hhyp σc hσ rows hden


/-- **C01.aggregate_first_step_insensitive** — if every occurrence of `acc` in the body is an
operand of `/` or of `+ - *` whose other operand is of floating type, one step of the user-level
fold gives the same value (or fault) from the INTEGER accumulator `k` and from the floating `k.0`. -/
theorem aggregate_first_step_insensitive (C : QCtx D) (curTy : Option Ty) (k : Int) (v : Val D) (a x : String)
    (hax : x ≠ a) (ρ : LEnv D) (hty : ∀ t, curTy = some t → HasTy v t)
    (f : AE) (hw : wtAE .int curTy f = true) (hok : accOK (curT curTy) f = true) (hm : MethTyped v (methsAE f)) :
    denote C ((x, v) :: (a, .int k) :: ρ) (aeQ a x f) = denote C ((x, v) :: (a, .dbl (C.N.ofInt k)) :: ρ) (aeQ a x f) :=
  accStep_insensitive C curTy k v a x hax ρ hty f hw hok hm

/-- **C01.aggregate_body_correct_widened** — the body's C++ text, translated for an int `acc`,
evaluates to what the body denotes also when the accumulator variable holds a FLOATING value
(the int/int division cast is then the identity); the value has the computed type up to widening. -/
theorem aggregate_body_correct_widened (C : QCtx D) (σ : Env D) (accE cur : CExpr) (curTy : Option Ty) (ptr : Bool)
    (xa : D) (v : Val D) (a x : String) (hax : x ≠ a) (ρ : LEnv D)
    (hacc : evalE C.N σ accE = .ok (.dbl xa))
    (hcur : evalE C.N σ cur = .ok v) (hty : ∀ t, curTy = some t → HasTy v t)
    (f : AE) (hw : wtAE .int curTy f = true) (hm : MethTyped v (methsAE f)) :
    evalE C.N σ (compAE ptr accE cur .int (curT curTy) f) = denote C ((x, v) :: (a, .dbl xa) :: ρ) (aeQ a x f) ∧
    ∀ w, denote C ((x, v) :: (a, .dbl xa) :: ρ) (aeQ a x f) = .ok w → HasTyW w (tyAE .int (curT curTy) f) :=
  (ae_correctUp (wide := True) C σ accE cur .int curTy ptr (.dbl xa) v a x hax ρ hacc (Or.inr ⟨trivial, rfl, xa, rfl⟩)
    hcur hty f hw hm).imp id fun h w hw' => (h w hw').hasTyW

/-- **C01.aggregate_widened_is_fold_partial** — int seed, floating body (`double acc (seed);`,
`acc = body;` without cast), `accOK`: over AT LEAST ONE kept element the emitted loop leaves in the
accumulator exactly the value `List.foldlM` of the user-level step gives from the INTEGER seed —
typed equality, every chain / event / number model. In particular `Sum()` of floats
(`Aggregate(0, acc + x)`). Full statement without `ws ≠ []` is false for the typed equality
(`aggExact_necessary_widened`); without `accOK` it needs `Num` to be a ring homomorphism on the
C++ `int` range, which the abstract number model does not state. -/
theorem aggregate_widened_is_fold_partial (C : Ctx D) (QC : QCtx D) (hN : QC.N = C.N) (hev : QC.ev = C.ev)
    (B : Backend) (hB : BackendOK B) (nm : Nat → String)
    (hinj : ∀ i j, nm i = nm j → i = j) (hres : ∀ j, nm j ≠ "result")
    (hcollT : ∀ name, B.collType name = QC.collType name)
    (g : Agg) (n : Nat) (s : St D) (ws : List (Val D)) (v : Val D)
    (hdone : DeclsDoneA C.N (compAgg B nm g n).decls s.env)
    (hwt : wtAggBase g = true) (hwd : aggWiden g = true) (hmt : AggTyped QC g)
    (hchain : denote QC [("e", evtVal)] (chainQ "e" g.c) = .ok (.vec ws)) (hne : ws ≠ [])
    (hfold : ws.foldlM (aggStep QC g) (g.seed.val QC.N) = .ok v) :
    ∃ s', execs C (compAgg B nm g n).stmts s = .ok s' ∧ s'.rows = s.rows ∧
      s'.env (nm n) = some (.val v) ∧ HasTy v g.accTy ∧
      (∀ y, ¬ Touch nm n (compAgg B nm g n).next y → s'.env y = s.env y) :=
  agg_fold_correct C QC hN hev B hB.base nm hinj hres hcollT g n (tokChain_of_notToken hB.notToken nm C g.c (n + 1))
    s ws v hdone hwt hmt (Or.inr ⟨hwd, hne⟩) hchain (by rw [foldG_eq_foldlM]; exact hfold)


/-- **C01.aggregate_is_fold_tok_partial** — `aggregate_is_fold` for EVERY backend satisfying
`BackendBase` (ATLAS, CMS AOD and CMS miniAOD): on the token idiom the retrieval
`iEvent.getByToken(token, result)` needs the token of this chain to be bound, in the run's token
table, to the chain's container type and bank (`TokChain`; vacuous for the backends retrieving by
bank name). `compileA` emits such a table entry per aggregate (checked by the text tie on
cms_miniaod) and the emitted table satisfies `TokChain` for every aggregate of the package
(`aggregate_token_table`), which lifts the end-to-end theorem to all three backends
(`aggregateRows_correct_miniaod_partial`). Exact typing (`wtAgg`) or, with `hw`, the widened case. -/
theorem aggregate_is_fold_tok_partial (C : Ctx D) (QC : QCtx D) (hN : QC.N = C.N) (hev : QC.ev = C.ev)
    (B : Backend) (hB : BackendBase B) (nm : Nat → String)
    (hinj : ∀ i j, nm i = nm j → i = j) (hres : ∀ j, nm j ≠ "result")
    (hcollT : ∀ name, B.collType name = QC.collType name)
    (g : Agg) (n : Nat) (htok : TokChain B nm C g.c (n + 1)) (s : St D) (ws : List (Val D)) (v : Val D)
    (hdone : DeclsDoneA C.N (compAgg B nm g n).decls s.env)
    (hbase : wtAggBase g = true) (hmt : AggTyped QC g)
    (hw : aggExact g.seed.ty g.bodyTy = true ∨ (aggWiden g = true ∧ ws ≠ []))
    (hchain : denote QC [("e", evtVal)] (chainQ "e" g.c) = .ok (.vec ws))
    (hfold : ws.foldlM (aggStep QC g) (g.seed.val QC.N) = .ok v) :
    ∃ s', execs C (compAgg B nm g n).stmts s = .ok s' ∧ s'.rows = s.rows ∧
      evalE C.N s'.env (compAgg B nm g n).val = .ok v ∧ HasTy v g.accTy ∧
      (∀ y, ¬ Touch nm n (compAgg B nm g n).next y → s'.env y = s.env y) := by
  obtain ⟨s', h1, h2, h3, h4, h5⟩ := agg_fold_correct C QC hN hev B hB nm hinj hres hcollT g n htok s ws v hdone hbase hmt hw
    hchain (by rw [foldG_eq_foldlM]; exact hfold)
  exact ⟨s', h1, h2, by simp [compAgg, evalE, h3], h4, h5⟩

/-- **C01.aggregate_token_table** — the token table `compileA` emits binds, for every aggregate
of the package, the token its retrieval uses to that aggregate's own container type and bank (one
entry per aggregate, token names pairwise distinct); vacuous on the backends retrieving by bank name. -/
theorem aggregate_token_table (B : Backend) (nm cn : Nat → String) (hinj : ∀ i j, nm i = nm j → i = j)
    (cols : AQ) (N : Num D) (ev : Event D) :
    TokGEs B nm ((compileA B nm cn cols).ctx N ev) (cols.map (·.2)) 0 :=
  tokGEs_compileA B nm cn hinj cols N ev

/-- **C01.aggregateRows_correct_miniaod_partial** — `aggregateRows_correct_partial` for EVERY
backend satisfying `BackendBase` — ATLAS, CMS AOD and CMS miniAOD (retrieval by token:
`iEvent.getByToken(token, result)`, the token initialised from the table `compileA` emits). -/
theorem aggregateRows_correct_miniaod_partial (B : Backend) (hB : BackendBase B) (nm cn : Nat → String)
    (hinj : ∀ i j, nm i = nm j → i = j) (hcinj : ∀ i j, cn i = cn j → i = j)
    (hres : ∀ j, nm j ≠ "result") (hcres : ∀ k, cn k ≠ "result") (hdisj : ∀ j k, nm j ≠ cn k)
    (QC : QCtx D) (hcollT : ∀ name, B.collType name = QC.collType name)
    (cols : AQ) (hhyp : ∀ p ∈ cols, wtGE p.2 = true ∧ ∀ g ∈ aggsGE p.2, AggHyp QC g)
    (σc : Env D) (hσ : ∀ k, k < cols.length → (σc (cn k)).isSome = true)
    (rows : List (List (Val D)))
    (hden : denoteRows QC (AQ.toQuery cols) = .ok rows) :
    ∃ σ', runEvent (compileA B nm cn cols) QC.N σc QC.ev = .ok (rows, σ') :=
  aggRows_correct B hB nm cn ⟨hinj, hcinj, hres, hcres, hdisj⟩ QC hcollT cols hhyp σc hσ rows hden

example : BackendBase cmsMiniAodB := backendOK_cmsMiniAod


/-- **C01.aggExact_necessary_widened** — int seed, floating body: the accumulator is declared
`double acc (seed)` and starts as the floating number `seed.0`, where Python's accumulator starts
as the INTEGER seed (so over an empty sequence the query denotes an int and the code writes a
double; numerically equal). -/
theorem aggExact_necessary_widened (N : Num D) (c : Chain) (k : Nat) (f : AE)
    (hb : (Agg.mk c (.int k) f).bodyTy = .double) :
    (Agg.mk c (.int k) f).accTy = .double ∧
    initValA N (Agg.mk c (.int k) f).accTy.cpp (Seed.int k).cexpr = .dbl (N.ofInt k) ∧
    (Seed.int k).val N = .int k ∧ aggExact (Seed.int k).ty (Agg.mk c (.int k) f).bodyTy = false := by
  have ha : (Agg.mk c (.int k) f).accTy = .double := by simp [Agg.accTy, hb, Seed.ty, Ty.join]
  refine ⟨ha, ?_, rfl, by simp [aggExact, hb, Seed.ty]⟩
  rw [ha]; exact initValA_int_fl N .double rfl k

/-- **C01.aggExact_necessary_cast** — float seed, int body: the update statement is
`acc = static_cast<double>(body);` — the code stores the floating number where Python's accumulator
becomes the int (numerically equal). -/
theorem aggExact_necessary_cast (ptr : Bool) (c : Chain) (m : Nat) (e : Int) (f : AE) (accV : String) (cur : CExpr)
    (hb : tyAE .double ((chainTy none c.steps).getD .double) f = .int) :
    aggUpdate ptr (Agg.mk c (.dbl m e) f) accV cur (chainTy none c.steps) =
      .set accV (.cast "double" (compAE (ptr && (chainTy none c.steps).isNone) (.var accV) cur .double
        ((chainTy none c.steps).getD .double) f)) ∧
    (∀ (N : Num D) (n : Int), castTo N "double" (.int n) = .ok (.dbl (N.ofInt n))) ∧
    aggExact (Seed.dbl m e).ty (Agg.mk c (.dbl m e) f).bodyTy = false := by
  refine ⟨?_, fun N n => by simp [castTo, asD], ?_⟩
  · simp [aggUpdate, Seed.ty, hb, Ty.join, Ty.cpp]
  · simp [aggExact, Agg.bodyTy, Seed.ty, hb, Ty.isFloating]


/-- **C01.aggregate_count_instance** — `Count()` is `Aggregate(0, lambda acc, x: acc + 1)`
(func_adl rewrites it so): the general model emits exactly the code of `Gen.compEE (.count c)`. -/
theorem aggregate_count_instance (B : Backend) (nm : Nat → String) (c : Chain) (n : Nat) :
    compGE B nm (.agg ⟨c, .int 0, .bin .add .acc (.int 1)⟩) n = compEE B nm (.count c) n := by
  simp [compGE, compAgg, compEE, aggUpdate, compAE, tyAE, Agg.accTy, Agg.bodyTy, Seed.ty, Seed.cexpr, Ty.join, Ty.cpp, AOp.str]

/-- **C01.aggregate_sum_instance** — `Sum()` is `Aggregate(0, lambda acc, x: acc + x)`: the
general model emits exactly the code of `Gen.compEE (.sum c)` (accumulator of type
`most_accurate_type([int, element type])`, no cast in the update). -/
theorem aggregate_sum_instance (B : Backend) (nm : Nat → String) (c : Chain) (n : Nat) :
    compGE B nm (.agg ⟨c, .int 0, .bin .add .acc .it⟩) n = compEE B nm (.sum c) n := by
  have hK : (fun (cur : CExpr) (cty : Option Ty) => [aggUpdate B.elemPtr ⟨c, .int 0, .bin .add .acc .it⟩ (nm n) cur cty]) =
      (fun cur _ => [Stmt.set (nm n) (.bin "+" (.var (nm n)) cur)]) := by
    funext cur cty
    simp [aggUpdate, compAE, tyAE, Seed.ty, join_int_join_int, AOp.str]
  simp only [compGE, compAgg, compEE, hK, Agg.accTy, Agg.bodyTy, Seed.ty, Seed.cexpr, tyAE, join_int_join_int]
  rfl


/-- `e.As("ba").Select(lambda j: j.d()).Aggregate(0.0, lambda a, v: a + v*v)` -/
def exAggSq : Agg :=
  ⟨⟨"As", "ba", [.sel (.meth "d" .double)]⟩, .dbl 0 (-1), .bin .add .acc (.bin .mul .it .it)⟩

/-- `e.As("ba").Where(lambda j: j.d() > 2).Aggregate(1, lambda a, j: a * 2 + j.i())` -/
def exAggInt : Agg :=
  ⟨⟨"As", "ba", [.whr (.cmp .gt (.meth "d" .double) (.int 2))]⟩, .int 1, .bin .add (.bin .mul .acc (.int 2)) (.meth "i" .int)⟩

example : wtAgg exAggSq = true := by decide
example : wtAgg exAggInt = true := by decide
example : exAggSq.accTy = .double ∧ exAggInt.accTy = .int := by decide
example : wtGE (.bin .div (.agg exAggInt) (.bin .add (.agg exAggSq) (.int 1))) = true := by decide
example : wtAE .int none (.bin .add (.bin .mul .acc (.int 2)) (.meth "i" .int)) = true := by decide
-- `Sum()` of floats / doubles written as an Aggregate is inside the theorems (widened case) ...
example : wtGE (.agg ⟨⟨"As", "ba", [.sel (.meth "f" .float)]⟩, .int 0, .bin .add .acc .it⟩) = true := by decide
example : aggWiden ⟨⟨"As", "ba", []⟩, .int 0, .bin .add .acc (.meth "d" .double)⟩ = true := by decide
example : aggWiden ⟨⟨"As", "ba", []⟩, .int 3, .bin .add (.bin .div .acc (.int 2)) (.meth "d" .double)⟩ = true := by decide
-- ... `acc * acc + x` (integer arithmetic on the accumulator before the float comes in) is not
example : aggWiden ⟨⟨"As", "ba", []⟩, .int 2, .bin .add (.bin .mul .acc .acc) (.meth "d" .double)⟩ = false := by decide
-- negative literal seeds (`int acc ((-(3)));`, `double acc ((-(5e-1)));`) are inside the exact fragment
example : wtAgg ⟨⟨"As", "ba", []⟩, .nint 3, .bin .sub .acc (.meth "i" .int)⟩ = true := by decide
example : wtAgg ⟨⟨"As", "ba", [.sel (.meth "d" .double)]⟩, .ndbl 5 (-1), .bin .mul .acc .it⟩ = true := by decide
example (N : Num D) : (Seed.nint 3).val N = .int (-3) ∧ (Seed.nint 3).ty = .int := ⟨rfl, rfl⟩
-- outside the exact fragment: Sum of doubles (int seed, floating body), and a float seed with an int body
example : wtAggBase ⟨⟨"As", "ba", []⟩, .int 0, .bin .add .acc (.meth "d" .double)⟩ = true ∧
    wtAgg ⟨⟨"As", "ba", []⟩, .int 0, .bin .add .acc (.meth "d" .double)⟩ = false := by decide
example : wtAgg ⟨⟨"As", "ba", []⟩, .dbl 5 (-1), .meth "i" .int⟩ = false := by decide
example : BackendOK atlasB ∧ BackendOK cmsAodB := ⟨backendOK_atlas, backendOK_cmsAod⟩
example : (∀ i j, exNm i = exNm j → i = j) ∧ (∀ j, exNm j ≠ "result") ∧ (∀ j k, exNm j ≠ exCn k) :=
  ⟨exNm_inj, exNm_ne_result, exNm_ne_exCn⟩
example : MethTyped (D := D) (.obj "xAOD::Aa" [("d", .dbl x), ("i", .int 3)]) (methsSteps exAggInt.c.steps ++ methsAE exAggInt.body) := by
  intro p hp w hw
  simp [exAggInt, methsSteps, methsPE, methsAE] at hp
  rcases hp with rfl | rfl <;> simp [member, lookupAttr] at hw <;> subst hw <;> simp [HasTy]

end FaxVerif.C01
