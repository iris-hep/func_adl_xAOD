/-
C01 for element-level expressions with Python's LAZY operators (`and`, `or`, `x if c else y`), which the translator
lowers to STATEMENTS with result variables (`Gen.compLE` / `Gen.compileL`, Gen/Lazy.lean; tied to the translator's output
by tools/gentie_lazy.py).

Proved for all expressions of the fragment (unbounded nesting, n-ary chains), all chains, events, number models, in the
success direction only (`denoteRows = ok rows → runEvent = ok rows`); the fault direction of
one expression is C04's (`C04.lazy_expr_faults_equal`). Side conditions: `wtLE` (static
well-typedness; the arms of a conditional must be floating, because the emitted result variable is
a `double` — an `int` arm comes back as a double where Python keeps the integer: equal numbers,
different values of the model; left to the numeric comparison of the differential stream),
accessors return the declared kinds (`MethTyped`). `Select` lambdas stay pure.
-/
import FaxVerif.Gen.LazyElemRowsCorrect
import FaxVerif.C01.Instances
namespace FaxVerif.C01
open FaxVerif.Cpp FaxVerif.Linq FaxVerif.Gen
variable {D : Type}

/-- **C01.lazy_expr_correct** — every element-level expression built from constants, method calls on
the element, arithmetic, comparisons AND Python's lazy operators (`a and b and …`, `a or b or …` as
one n-ary node each, `x if c else y`), nested without bound: where the fragment's declarations are
done (`Declared`; they are hoisted to the top of the enclosing block), the emitted statements leave
the emitted value expression evaluating to EXACTLY what the query expression denotes, of the
statically computed C++ type (`bool` for and/or, `double` for a conditional). The statements of a
skipped operand / untaken arm are not executed, so their faults are not raised: the hypothesis is
only that the WHOLE expression is defined. -/
theorem lazy_expr_correct (C : Ctx D) (QC : QCtx D) (hN : QC.N = C.N) (nm : Nat → String)
    (hinj : ∀ i j, nm i = nm j → i = j) (ptr : Bool) (cur : CExpr) (curTy : Option Ty) (v : Val D)
    (x : String) (ρ : LEnv D) (hty : ∀ t, curTy = some t → HasTy v t)
    (le : LE) (k : Nat) (hwt : wtLE curTy le = true) (hmt : MethTyped v (methsLE le))
    (hfr : ∀ y ∈ vars cur, ∀ j, k ≤ j → y ≠ nm j)
    (σ : Env D) (rows : List (List (Val D))) (hcur : evalE C.N σ cur = .ok v)
    (hdecl : Declared σ (compLE nm ptr cur (curT curTy) le k).decls)
    (w : Val D) (hden : denote QC ((x, v) :: ρ) (leQ x le) = .ok w) :
    ∃ σ', execs C (compLE nm ptr cur (curT curTy) le k).stmts ⟨σ, rows⟩ = .ok ⟨σ', rows⟩ ∧
      evalE C.N σ' (compLE nm ptr cur (curT curTy) le k).val = .ok w ∧
      (∀ y, ¬ InRange nm k (compLE nm ptr cur (curT curTy) le k).next y → σ' y = σ y) ∧
      HasTy w (tyLE (curT curTy) le) :=
  le_correct C QC hN nm hinj ptr cur curTy v x ρ hty le k hwt hmt hfr σ rows hcur hdecl w hden

/-- **C01.lazy_expr_block_correct** — the same at block level, with no assumption on declarations:
from ANY state in which the current value is available, the block's text — declarations first
(hoisted), then the statements — computes the query's value. -/
theorem lazy_expr_block_correct (C : Ctx D) (QC : QCtx D) (hN : QC.N = C.N) (nm : Nat → String)
    (hinj : ∀ i j, nm i = nm j → i = j) (ptr : Bool) (cur : CExpr) (curTy : Option Ty) (v : Val D)
    (x : String) (ρ : LEnv D) (hty : ∀ t, curTy = some t → HasTy v t)
    (le : LE) (k : Nat) (hwt : wtLE curTy le = true) (hmt : MethTyped v (methsLE le))
    (hfr : ∀ y ∈ vars cur, ∀ j, k ≤ j → y ≠ nm j)
    (σ : Env D) (rows : List (List (Val D))) (hcur : evalE C.N σ cur = .ok v)
    (w : Val D) (hden : denote QC ((x, v) :: ρ) (leQ x le) = .ok w) :
    ∃ σ', execs C ((compLE nm ptr cur (curT curTy) le k).decls ++ (compLE nm ptr cur (curT curTy) le k).stmts) ⟨σ, rows⟩ =
        .ok ⟨σ', rows⟩ ∧
      evalE C.N σ' (compLE nm ptr cur (curT curTy) le k).val = .ok w ∧
      (∀ y, ¬ InRange nm k (compLE nm ptr cur (curT curTy) le k).next y → σ' y = σ y) :=
  le_block_correct C QC hN nm hinj ptr cur curTy v x ρ hty le k hwt hmt hfr σ rows hcur w hden

/-- **C01.elemRowsL_correct_partial** — END TO END for
`ds.SelectMany(e → coll(bank).{Select(pure) | Where(lazy)}*).Select(x → {name: lazy expr, …})`:
one row per element of the outermost sequence, none where a `Where` rejects (consecutive `Where`s
are fused by func_adl into nested `and`s and lowered with the operands' own statements inside the
guards), in sequence order, every column holding the value of its expression — the package the
translator model emits (retrieval, one loop, the lowered condition, the columns' declarations and
statements, the branch assignments, the Fill) writes exactly the rows the query denotes, from the
class state at event start. (Partial: success direction; `BackendOK` = ATLAS, CMS AOD;
`wtStepsL` / `wtLE` / `MethTyped` as in the header.) -/
theorem elemRowsL_correct_partial (B : Backend) (hB : BackendOK B) (nm cn : Nat → String)
    (hinj : ∀ i j, nm i = nm j → i = j) (hcinj : ∀ i j, cn i = cn j → i = j)
    (hres : ∀ j, nm j ≠ "result") (hcres : ∀ k, cn k ≠ "result") (hdisj : ∀ j k, nm j ≠ cn k)
    (QC : QCtx D) (hcollT : ∀ name, B.collType name = QC.collType name)
    (c : ChainL) (cols : List (String × LE))
    (hwt : wtStepsL none c.steps = true)
    (hwtc : ∀ p ∈ cols, wtLE (chainTyL none c.steps) p.2 = true)
    (hmt : ∀ cty l, QC.ev.find c.bank = some (cty, .vec l) →
        ∀ v ∈ l, MethTyped v (methsStepsL c.steps) ∧ ∀ p ∈ cols, MethTyped v (methsLE p.2))
    (σc : Env D) (hσ : ∀ k, k < cols.length → (σc (cn k)).isSome = true)
    (rows : List (List (Val D)))
    (hden : denoteRows QC (FQL.toQuery (.elemRows c cols)) = .ok rows) :
    ∃ σ', runEvent (compileL B nm cn (.elemRows c cols)) QC.N σc QC.ev = .ok (rows, σ') :=
  let ⟨σ', h, _⟩ := elemRowsL_correct_post B hB.base nm cn ⟨hinj, hcinj, hres, hcres, hdisj⟩ QC hcollT c cols hwt hwtc hmt σc hσ rows hden
  ⟨σ', h⟩

/-- **C01.elemRowsL_correct_miniaod_partial** — the same for every backend satisfying
`BackendBase` (ATLAS, CMS AOD and CMS miniAOD, whose collections are retrieved by token: the token
table `compileL` emits binds the chain's token), with the post-state: the class state the event
leaves behind again has the column variables declared — the precondition of the next event. -/
theorem elemRowsL_correct_miniaod_partial (B : Backend) (hB : BackendBase B) (nm cn : Nat → String)
    (hinj : ∀ i j, nm i = nm j → i = j) (hcinj : ∀ i j, cn i = cn j → i = j)
    (hres : ∀ j, nm j ≠ "result") (hcres : ∀ k, cn k ≠ "result") (hdisj : ∀ j k, nm j ≠ cn k)
    (QC : QCtx D) (hcollT : ∀ name, B.collType name = QC.collType name)
    (c : ChainL) (cols : List (String × LE))
    (hwt : wtStepsL none c.steps = true)
    (hwtc : ∀ p ∈ cols, wtLE (chainTyL none c.steps) p.2 = true)
    (hmt : ∀ cty l, QC.ev.find c.bank = some (cty, .vec l) →
        ∀ v ∈ l, MethTyped v (methsStepsL c.steps) ∧ ∀ p ∈ cols, MethTyped v (methsLE p.2))
    (σc : Env D) (hσ : ∀ k, k < cols.length → (σc (cn k)).isSome = true)
    (rows : List (List (Val D)))
    (hden : denoteRows QC (FQL.toQuery (.elemRows c cols)) = .ok rows) :
    ∃ σ', runEvent (compileL B nm cn (.elemRows c cols)) QC.N σc QC.ev = .ok (rows, σ') ∧
      ∀ k, k < cols.length → (σ' (cn k)).isSome = true :=
  elemRowsL_correct_post B hB nm cn ⟨hinj, hcinj, hres, hcres, hdisj⟩ QC hcollT c cols hwt hwtc hmt σc hσ rows hden


/-- `(j.b() and j.i() > 1 and (j.d() > 0.5 or not j.b())) ` — one ternary `and` with a nested `or` -/
def exCond : LE :=
  .bop .and (.meth "b" .bool) [.cmp .gt (.meth "i" .int) (.int 1),
    .bop .or (.cmp .gt (.meth "d" .double) (.dbl 5 (-1))) [.not (.meth "b" .bool)]]

/-- `(j.d() if (j.b() or j.i() > 2) else (j.f() if j.b() else 2.5)) / 2 + j.i()` — nested conditionals inside arithmetic -/
def exCol : LE :=
  .bin .add (.bin .div (.ite (.bop .or (.meth "b" .bool) [.cmp .gt (.meth "i" .int) (.int 2)]) (.meth "d" .double)
    (.ite (.meth "b" .bool) (.meth "f" .float) (.dbl 25 (-1)))) (.int 2)) (.meth "i" .int)

example : wtLE none exCond = true := by decide
example : wtLE none exCol = true := by decide
example : tyLE .double exCol = .double := by decide
example : wtLE (some .double) (.ite (.bop .and (.cmp .gt .it (.int 1)) [.cmp .lt .it (.int 10)]) .it (.dbl 1 0)) = true := by decide
example : wtStepsL none [.whr exCond, .sel (.meth "d" .double), .whr (.bop .or (.cmp .gt .it (.int 1)) [.cmp .lt .it (.int 0)])] = true := by decide
/-- an `int` arm is outside the proved fragment (the tie still covers it) -/
example : wtLE none (.ite (.meth "b" .bool) (.int 1) (.meth "d" .double)) = false := by decide

/-- the end-to-end theorem instantiated on a concrete query, backend and name supplies: what remains
are the assumptions about the event (accessors return the declared kinds) and the class state -/
example (QC : QCtx D) (hcollT : ∀ name, cmsMiniAodB.collType name = QC.collType name)
    (hmt : ∀ cty l, QC.ev.find "ba" = some (cty, .vec l) →
        ∀ v ∈ l, MethTyped v (methsStepsL [.whr exCond]) ∧ ∀ p ∈ [("pt", exCol), ("ok", exCond)], MethTyped v (methsLE p.2))
    (σc : Env D) (hσ : ∀ k, k < 2 → (σc (exCn k)).isSome = true) (rows : List (List (Val D)))
    (hden : denoteRows QC (FQL.toQuery (.elemRows ⟨"As", "ba", [.whr exCond]⟩ [("pt", exCol), ("ok", exCond)])) = .ok rows) :
    ∃ σ', runEvent (compileL cmsMiniAodB exNm exCn (.elemRows ⟨"As", "ba", [.whr exCond]⟩ [("pt", exCol), ("ok", exCond)])) QC.N σc QC.ev =
      .ok (rows, σ') := by
  obtain ⟨σ', h, _⟩ := elemRowsL_correct_miniaod_partial cmsMiniAodB backendOK_cmsMiniAod exNm exCn exNm_inj exCn_inj
    exNm_ne_result exCn_ne_result exNm_ne_exCn QC hcollT ⟨"As", "ba", [.whr exCond]⟩ [("pt", exCol), ("ok", exCond)]
    (by decide) (by decide) hmt σc hσ rows hden
  exact ⟨σ', h⟩

end FaxVerif.C01
