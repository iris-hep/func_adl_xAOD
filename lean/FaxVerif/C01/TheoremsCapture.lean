/-
C01 for CAPTURED-VARIABLE nested iteration: inside the lambda over one event collection, another event-level collection
is iterated with predicates / projections that mention BOTH loop variables (`Gen.compXE` / `Gen.compileC`,
Gen/Capture.lean; tied to the translator's output by tools/gentie_capture.py):

    ds.Select(e → {n: e.Jets("J").Where*.Select(j → e.Tracks("T").Where(t → t.pt() > j.pt()).Count()), …})

Proved for all queries of the fragment, all events, number models and every backend satisfying `BackendBase`, in the
success direction only (`denoteRows = ok rows → runEvent = ok rows`) and under the side conditions `CColHyp`: static
well-typedness (including the DEFECT EXCLUSION `selsUseInner`), accessors of the declared kinds, `CSumNonEmpty` (an empty
FLOATING captured `Sum` is 0.0 in C++ and the integer 0 in Python — equal numbers, different values of the model; left to
the numeric comparison of the tie stream) and, for a 2-D column, the inner bank holds a collection (`BankIsVecC`).
-/
import FaxVerif.Gen.CaptureRowsCorrect
import FaxVerif.C01.TheoremsNested
namespace FaxVerif.C01
open FaxVerif.Cpp FaxVerif.Linq FaxVerif.Gen
variable {D : Type}

/-- **C01.captured_expr_correct** — every 2-variable pure expression (accessors of the inner element, accessors of the
outer element, constants, arithmetic incl. the int/int division cast, comparisons, `-`, `not`): the emitted C++ expression
evaluates to EXACTLY what the query expression denotes with the inner lambda's parameter bound to the inner current
value and the outer lambda's to the outer element — values and faults alike. -/
theorem captured_expr_correct (C : QCtx D) (σ : Env D) (cur ocur : CExpr) (curTy : Option Ty) (ptr optr : Bool)
    (v vo : Val D) (hcur : evalE C.N σ cur = .ok v) (hocur : evalE C.N σ ocur = .ok vo)
    (hty : ∀ t, curTy = some t → HasTy v t) (e : CE) (hwt : wtCE curTy e = true)
    (hm : MethTyped v (imethsCE e)) (hmo : MethTyped vo (omethsCE e)) :
    evalE C.N σ (compCE ptr cur (curT curTy) optr ocur e) = denote C [("t", v), ("y", vo)] (ceQ "t" "y" e) ∧
    ∀ w, denote C [("t", v), ("y", vo)] (ceQ "t" "y" e) = .ok w → HasTy w (tyCE (curT curTy) e) :=
  ce_correct C σ cur ocur curTy ptr optr v vo hcur hocur hty e hwt hm hmo

/-- **C01.captured_loop_is_fold** — the code emitted for `e.Coll(bank).{Select|Where mentioning the outer element}*`
INSIDE the body of the outer loop — the retrieval block (into the handle variable `nm n`, which must be declared: it is,
at the top of the same block) and the loop over the retrieved collection — computes the fold of the continuation's step
function over the elements the captured chain keeps FOR THIS outer element `vo`. The invariant `P` must imply that the
outer variable is still bound to `vo` (`hPo`); `hstable` lets nothing but the loop's own names and `result` change, so it
stays bound to the same element in every iteration. -/
theorem captured_loop_is_fold {β : Type} (C : Ctx D) (QC : QCtx D) (hN : QC.N = C.N)
    (B : Backend) (hB : BackendBase B) (nm : Nat → String)
    (hinj : ∀ i j, nm i = nm j → i = j) (hres : ∀ j, nm j ≠ "result")
    (optr : Bool) (ocur : CExpr) (vo : Val D) (n : Nat) (hofr : ∀ y ∈ vars ocur, (∀ j, n ≤ j → y ≠ nm j) ∧ y ≠ "result")
    (c : CChain) (htok : TokCChain B nm C c n) (K : CExpr → Option Ty → List Stmt)
    (cty : String) (l ws : List (Val D))
    (hcoll : B.collType c.coll = some cty) (hfind : C.ev.find c.bank = some (cty, .vec l))
    (hwt : wtCSteps none c.steps = true) (hmt : ∀ v ∈ l, MethTyped v (imethsCSteps c.steps)) (hmo : MethTyped vo (omethsCSteps c.steps))
    (P : St D → β → Prop) (g : β → Val D → Except Fault β)
    (hPo : ∀ (s : St D) b, P s b → evalE C.N s.env ocur = .ok vo)
    (hstable : ∀ (s s' : St D) b, P s b → s'.rows = s.rows →
        (∀ y, ¬ Touch nm n (ccompChain B nm optr ocur c n K).next y → s'.env y = s.env y) → P s' b)
    (hK : ∀ (s : St D) b b' w, P s b → g b w = .ok b' →
        evalE C.N s.env (cstepConds B.elemPtr optr ocur (.var (nm (n + 1))) none c.steps).2.1 = .ok w →
        (∀ t, (cstepConds B.elemPtr optr ocur (.var (nm (n + 1))) none c.steps).2.2 = some t → HasTy w t) →
        ∃ s', execs C (K (cstepConds B.elemPtr optr ocur (.var (nm (n + 1))) none c.steps).2.1
                          (cstepConds B.elemPtr optr ocur (.var (nm (n + 1))) none c.steps).2.2) s = .ok s' ∧ P s' b')
    (s : St D) (b b' : β) (hx : (s.env (nm n)).isSome = true)
    (hel : celemsSem QC vo c.steps l = .ok ws) (hfold : foldG g ws b = .ok b') (hP : P s b) :
    ∃ s', execs C (ccompChain B nm optr ocur c n K).stmts s = .ok s' ∧ P s' b' :=
  ccompChain_isFold C QC hN B hB nm hinj hres optr ocur vo n (.touch hofr) c htok K cty l ws hcoll hfind hwt hmt hmo
    (fun _ => True) (fun _ _ => trivial) hel s hx P g hPo hstable (fun t b b' w hPt hg hev hq => hK t b b' w hPt hg hev hq.1)
    b b' hfold hP

/-- **C01.captured_aggregate_correct** — every expression over the outer element built from pure parts, captured
aggregates `e.Coll(bank).{Select|Where with the outer variable}*.Count()` / `.Sum()`, arithmetic and comparisons, nested
without bound: from ANY state in which the outer element expression evaluates to the outer element `vo` — whatever the
handle variables and accumulators hold, e.g. what the PREVIOUS outer element left in them — the emitted block (the
declarations first: per aggregate the handle variable, then the accumulator with its initialiser — hoisted to the top of
the block that contains the inner loops; then per aggregate the retrieval block and the inner loop) terminates in a state
in which the emitted value expression evaluates to EXACTLY what the query expression denotes with the outer parameter
bound to `vo`: the accumulators restart per outer element and the inner retrieval happens per outer element. Only the
fragment's own fresh names and `result` are touched. -/
theorem captured_aggregate_correct (C : Ctx D) (QC : QCtx D) (hN : QC.N = C.N) (hev : QC.ev = C.ev)
    (B : Backend) (hB : BackendBase B) (nm : Nat → String)
    (hinj : ∀ i j, nm i = nm j → i = j) (hres : ∀ j, nm j ≠ "result")
    (hcollT : ∀ name, B.collType name = QC.collType name)
    (optr : Bool) (ocur : CExpr) (vo : Val D) (ρ : LEnv D)
    (e : XE) (n : Nat) (s : St D) (v : Val D) (htk : TokXE B nm C optr ocur e n)
    (hofr : ∀ y ∈ vars ocur, (∀ j, n ≤ j → y ≠ nm j) ∧ y ≠ "result") (hocur : evalE C.N s.env ocur = .ok vo)
    (hwt : wtXE e = true) (hhyp : XEHyp QC vo e)
    (hden : denote QC (("y", vo) :: ρ) (xeQ "e" "y" e) = .ok v) :
    ∃ s', execs C ((compXE B nm optr ocur e n).decls ++ (compXE B nm optr ocur e n).stmts) s = .ok s' ∧ s'.rows = s.rows ∧
      evalE C.N s'.env (compXE B nm optr ocur e n).val = .ok v ∧ HasTy v (tyXE e) ∧
      (∀ y, ¬ Touch nm n (compXE B nm optr ocur e n).next y → s'.env y = s.env y) :=
  (FragSpec.block (Frames.touch hinj hres) (compXE_layout B nm optr ocur e n) (compXE_declsOK C.N B hB nm hinj optr ocur e n) (.touch hofr)
    (compXE_spec C QC hN hev B hB nm hinj hres hcollT optr ocur vo ρ e n v htk (.touch hofr) hwt hhyp hden)).val_ty s hocur trivial

/-- **C01.captured_retrieval_per_outer_element** — WHERE the inner retrieval lands: the code of the column
`e.Coll(bank).Select(y → e.Coll2(bank2).steps.Count())` is the outer retrieval block followed by ONE outer loop whose body
is, in this order: the inner handle variable's declaration, the accumulator's declaration with initialiser `(0)`, the
inner retrieval block, the inner loop (its conditions and values compiled with the OUTER loop variable `nm (n + 1)` in
scope), and `col.push_back(accumulator)`. Nothing of the inner chain is emitted outside the outer loop. -/
theorem captured_retrieval_per_outer_element (B : Backend) (nm cn : Nat → String) (idx n : Nat) (coll bank : String) (ic : CChain) :
    (compCCol B nm cn idx (.agg ⟨coll, bank, []⟩ (.ccount ic)) n).stmts =
      [.block [.decl (B.handleTy ((B.collType coll).getD "?")) "result" B.resultInit,
               .retrieve B.how ((B.collType coll).getD "?") "result" (if B.how = "token" then .opaque "" else .str bank)
                 (if B.how = "token" then nm (n + 2) else ""),
               .set (nm n) (.var "result")],
       .loop (nm (n + 1)) (.deref (.var (nm n)))
         [.decl (B.handleTy ((B.collType ic.coll).getD "?")) (nm (n + 4)) none,
          .decl "int" (nm (n + 3)) (some (.int 0)),
          .block [.decl (B.handleTy ((B.collType ic.coll).getD "?")) "result" B.resultInit,
                  .retrieve B.how ((B.collType ic.coll).getD "?") "result" (if B.how = "token" then .opaque "" else .str ic.bank)
                    (if B.how = "token" then nm (n + 6) else ""),
                  .set (nm (n + 4)) (.var "result")],
          .loop (nm (n + 5)) (.deref (.var (nm (n + 4))))
            (cchainBody nm B.elemPtr (B.elemPtr && true) (.var (nm (n + 1))) (.var (nm (n + 5))) ic.steps (n + 7)
              (countK (nm (n + 3)))).1,
          .push (cn idx) (.var (nm (n + 3)))]] := by
  simp [compCCol, compChainN, compChain, chainBody, stepConds, outerNext, condNext, outerIt, caggK, compXE, ccompChain]

/-- **C01.captureEventRows_correct_partial** — END TO END for event-level rows whose columns iterate another event
collection with the outer element captured, shapes (a) and (b) in any mixture:
`ds.Select(e → {a: coll(bank).Where*.Select(y → expression with captured aggregates),
               b: coll(bank).Where*.Select(y → coll2(bank2).{Select|Where with y}*), …})`:
from a class state in which the column vectors are empty, the package the translator model emits writes exactly the ONE
row the query denotes (a vector per (a)-column: one value per kept outer element, each computed from a FRESH accumulator
over a retrieval made for that outer element; a vector of vectors per (b)-column) and leaves the column vectors empty
again (the precondition of the next event). All three backends. -/
theorem captureEventRows_correct_partial (B : Backend) (hB : BackendBase B) (nm cn : Nat → String)
    (hinj : ∀ i j, nm i = nm j → i = j) (hcinj : ∀ i j, cn i = cn j → i = j)
    (hres : ∀ j, nm j ≠ "result") (hcres : ∀ k, cn k ≠ "result") (hdisj : ∀ j k, nm j ≠ cn k)
    (QC : QCtx D) (hcollT : ∀ name, B.collType name = QC.collType name)
    (cols : List (String × CCol)) (hhyp : ∀ p ∈ cols, CColHyp QC p.2)
    (σc : Env D) (hσ : NColsPre cn cols.length 0 σc)
    (rows : List (List (Val D)))
    (hden : denoteRows QC (CQ.toQuery (.eventRows cols)) = .ok rows) :
    ∃ σ', runEvent (compileC B nm cn (.eventRows cols)) QC.N σc QC.ev = .ok (rows, σ') ∧
      NColsPre cn cols.length 0 σ' :=
  captureEventRows_correct_post B hB nm cn ⟨hinj, hcinj, hres, hcres, hdisj⟩ QC hcollT cols hhyp σc hσ rows hden

/-- **C01.captured_twoD_column_correct_partial** — the 2-D column
`ds.Select(e → {name: coll(bank).Where*.Select(y → coll2(bank2).{Select|Where with y}*)})` alone: the emitted package —
inner handle variable and storage vector `std::vector<T> ntupleN;` declared in the outer loop's body (the vector EMPTY
again for every outer element), the inner retrieval, the inner loop pushing the kept inner values into it, then
`col.push_back(ntupleN)` — writes exactly the row the query denotes from a class state in which the column vector is empty. -/
theorem captured_twoD_column_correct_partial (B : Backend) (hB : BackendBase B) (nm cn : Nat → String)
    (hinj : ∀ i j, nm i = nm j → i = j) (hcinj : ∀ i j, cn i = cn j → i = j)
    (hres : ∀ j, nm j ≠ "result") (hcres : ∀ k, cn k ≠ "result") (hdisj : ∀ j k, nm j ≠ cn k)
    (QC : QCtx D) (hcollT : ∀ name, B.collType name = QC.collType name)
    (name : String) (c : Chain) (ic : CChain) (hhyp : CColHyp QC (.twoD c ic))
    (σc : Env D) (hσ : σc (cn 0) = some (.val (.vec [])))
    (rows : List (List (Val D)))
    (hden : denoteRows QC (CQ.toQuery (.eventRows [(name, .twoD c ic)])) = .ok rows) :
    ∃ σ', runEvent (compileC B nm cn (.eventRows [(name, .twoD c ic)])) QC.N σc QC.ev = .ok (rows, σ') ∧
      σ' (cn 0) = some (.val (.vec [])) := by
  obtain ⟨σ', hrun, hpost⟩ := captureEventRows_correct_post B hB nm cn ⟨hinj, hcinj, hres, hcres, hdisj⟩ QC hcollT
    [(name, .twoD c ic)] (List.forall_mem_singleton.2 hhyp) σc (nColsPre_one.2 hσ) rows hden
  exact ⟨σ', hrun, nColsPre_one.1 hpost⟩

/-- **C01.capture_token_table** — CMS miniAOD: the token table the emitted package itself declares binds the token of EVERY
retrieval — of the outer chains and of the captured inner chains inside the outer loops — to that chain's own container
type and bank (token names pairwise distinct, first-match lookup finds each chain's own entry). -/
theorem capture_token_table (B : Backend) (nm cn : Nat → String) (hinj : ∀ i j, nm i = nm j → i = j)
    (cols : List (String × CCol)) (hwo : ∀ p ∈ cols, wtOuter p.2.chain = true) (N : Num D) (ev : Event D) :
    TokCCols B nm cn ((compileC B nm cn (.eventRows cols)).ctx N ev) (cols.map (·.2)) 0 0 := by
  apply tokCCols_of_lookup
  · intro col hc
    obtain ⟨p, hp, rfl⟩ := List.mem_map.1 hc
    exact hwo p hp
  · rw [compileC_eventRows, (compCCols_eq B nm cn _ 0 0).2, List.map_map]
    exact pushPackage_lookup B nm cn hinj _ _ (CCol.toP_wfs B nm cn cols hwo) N ev

/-- **C01.capture_job_correct_partial** — for every query of the captured-variable fragment, every backend satisfying
`BackendBase`, every number model and EVERY list of events: if the query is defined on each event of the job (with the
per-event side conditions), the emitted package, run as ONE job from the initial class state, writes exactly the rows the
query denotes on the first event, then those of the second, … — no accumulator, storage vector, handle or column vector
survives into the next outer element or the next event. -/
theorem capture_job_correct_partial (B : Backend) (hB : BackendBase B) (nm cn : Nat → String)
    (hinj : ∀ i j, nm i = nm j → i = j) (hcinj : ∀ i j, cn i = cn j → i = j)
    (hres : ∀ j, nm j ≠ "result") (hcres : ∀ k, cn k ≠ "result") (hdisj : ∀ j k, nm j ≠ cn k)
    (QC : QCtx D) (hcollT : ∀ name, B.collType name = QC.collType name)
    (cq : CQ) (hwt : cq.wt = true) (evs : List (Event D)) (hhyp : ∀ ev ∈ evs, CFragHyp (QC.withEvent ev) cq)
    (rows : List (List (Val D))) (hden : denoteJob QC cq.toQuery evs = .ok rows) :
    runJob (compileC B nm cn cq) QC.N evs = .ok rows :=
  (cfragJobOK B hB nm cn ⟨hinj, hcinj, hres, hcres, hdisj⟩ QC hcollT cq hwt).job hhyp hden

/-- **C01.capture_job_split** — one job over `xs ++ ys` writes what a job over `xs` followed by a SEPARATE job over `ys` write. -/
theorem capture_job_split (B : Backend) (hB : BackendBase B) (nm cn : Nat → String)
    (hinj : ∀ i j, nm i = nm j → i = j) (hcinj : ∀ i j, cn i = cn j → i = j)
    (hres : ∀ j, nm j ≠ "result") (hcres : ∀ k, cn k ≠ "result") (hdisj : ∀ j k, nm j ≠ cn k)
    (QC : QCtx D) (hcollT : ∀ name, B.collType name = QC.collType name)
    (cq : CQ) (hwt : cq.wt = true) (xs ys : List (Event D)) (hhyp : ∀ ev ∈ xs ++ ys, CFragHyp (QC.withEvent ev) cq)
    (r₁ r₂ : List (List (Val D)))
    (h₁ : denoteJob QC cq.toQuery xs = .ok r₁) (h₂ : denoteJob QC cq.toQuery ys = .ok r₂) :
    runJob (compileC B nm cn cq) QC.N xs = .ok r₁ ∧ runJob (compileC B nm cn cq) QC.N ys = .ok r₂ ∧
    runJob (compileC B nm cn cq) QC.N (xs ++ ys) = .ok (r₁ ++ r₂) :=
  (cfragJobOK B hB nm cn ⟨hinj, hcinj, hres, hcres, hdisj⟩ QC hcollT cq hwt).split hhyp h₁ h₂

/-- **C01.capture_job_prefix_independent** — in a job `pre ++ ev :: post` the rows written for `ev` are exactly those of
running `ev` ALONE from the initial class state (= what the query denotes on `ev`), whatever events preceded it. -/
theorem capture_job_prefix_independent (B : Backend) (hB : BackendBase B) (nm cn : Nat → String)
    (hinj : ∀ i j, nm i = nm j → i = j) (hcinj : ∀ i j, cn i = cn j → i = j)
    (hres : ∀ j, nm j ≠ "result") (hcres : ∀ k, cn k ≠ "result") (hdisj : ∀ j k, nm j ≠ cn k)
    (QC : QCtx D) (hcollT : ∀ name, B.collType name = QC.collType name)
    (cq : CQ) (hwt : cq.wt = true) (pre : List (Event D)) (ev : Event D) (post : List (Event D))
    (hhyp : ∀ e ∈ pre ++ ev :: post, CFragHyp (QC.withEvent e) cq)
    (r : List (List (Val D))) (hden : denoteJob QC cq.toQuery (pre ++ ev :: post) = .ok r) :
    ∃ rp re rq σ',
      runJob (compileC B nm cn cq) QC.N pre = .ok rp ∧
      runEvent (compileC B nm cn cq) QC.N (classInit (compileC B nm cn cq).classVars) ev = .ok (re, σ') ∧
      denoteRows (QC.withEvent ev) cq.toQuery = .ok re ∧
      runJob (compileC B nm cn cq) QC.N post = .ok rq ∧
      runJob (compileC B nm cn cq) QC.N (pre ++ ev :: post) = .ok (rp ++ re ++ rq) :=
  (cfragJobOK B hB nm cn ⟨hinj, hcinj, hres, hcres, hdisj⟩ QC hcollT cq hwt).prefix_independent hhyp hden

/-- **C01.capture_job_perm** — processing the events in any other order gives the same per-event row blocks in that order. -/
theorem capture_job_perm (B : Backend) (hB : BackendBase B) (nm cn : Nat → String)
    (hinj : ∀ i j, nm i = nm j → i = j) (hcinj : ∀ i j, cn i = cn j → i = j)
    (hres : ∀ j, nm j ≠ "result") (hcres : ∀ k, cn k ≠ "result") (hdisj : ∀ j k, nm j ≠ cn k)
    (QC : QCtx D) (hcollT : ∀ name, B.collType name = QC.collType name)
    (cq : CQ) (hwt : cq.wt = true) (evs evs' : List (Event D)) (hp : evs.Perm evs')
    (hhyp : ∀ ev ∈ evs, CFragHyp (QC.withEvent ev) cq)
    (r : List (List (Val D))) (hden : denoteJob QC cq.toQuery evs = .ok r) :
    ∃ r', runJob (compileC B nm cn cq) QC.N evs = .ok r ∧ runJob (compileC B nm cn cq) QC.N evs' = .ok r' ∧
      denoteJob QC cq.toQuery evs' = .ok r' ∧ r.Perm r' :=
  (cfragJobOK B hB nm cn ⟨hinj, hcinj, hres, hcres, hdisj⟩ QC hcollT cq hwt).perm hp hhyp hden


/-- `t.d() - y.d() > 1` (mixed), `y.i() > 0` (outer only), `t.i() * 2` (inner only) -/
example : wtCE none (.cmp .gt (.bin .sub (.inner (.meth "d" .double)) (.outer (.meth "d" .double))) (.inner (.int 1))) = true := by decide
example : wtCChain ⟨"As", "ba2", [.whr (.cmp .gt (.inner (.meth "i" .int)) (.outer (.meth "i" .int))),
    .whr (.cmp .gt (.outer (.meth "i" .int)) (.inner (.int 0))), .sel (.bin .mul (.inner (.meth "i" .int)) (.outer (.meth "i" .int))),
    .whr (.cmp .lt (.inner .it) (.outer (.meth "d" .double)))]⟩ = true := by decide
/-- a `Select` body built from the outer element only leaves the fragment (defect exclusion) -/
example : wtCChain ⟨"As", "ba2", [.sel (.outer (.meth "d" .double))]⟩ = false := by decide

def capA (i : Int) : Val Int := .obj "A" [("i", .int i)]
def capEv : Event Int := ⟨[("ba", "std::vector<pat::Aa>", .vec [capA 1, capA 3]), ("ba2", "std::vector<pat::Aa>", .vec [capA 2, capA 5])]⟩
def capQC : QCtx Int := { N := nestNum, ev := capEv, collTypes := [("As", "std::vector<pat::Aa>")] }

/-- `e.As("ba2").Where(t → t.i() > y.i())` -/
def capCountChain : CChain := ⟨"As", "ba2", [.whr (.cmp .gt (.inner (.meth "i" .int)) (.outer (.meth "i" .int)))]⟩
/-- `e.As("ba2").Select(t → t.i() - y.i())` -/
def capSumChain : CChain := ⟨"As", "ba2", [.sel (.bin .sub (.inner (.meth "i" .int)) (.outer (.meth "i" .int)))]⟩

/-- `ds.Select(e → {n: e.As("ba").Select(y → e.As("ba2").Where(t → t.i() > y.i()).Count()),
                   s: e.As("ba").Where(x → x.i() > 0).Select(y → e.As("ba2").Select(t → t.i() - y.i()).Sum() + y.i()),
                   d: e.As("ba").Select(y → e.As("ba2").Where(t → t.i() > y.i()).Select(t → t.i() - y.i()))})` -/
def capQ : CQ := .eventRows
  [("n", .agg ⟨"As", "ba", []⟩ (.ccount capCountChain)),
   ("s", .agg ⟨"As", "ba", [.whr (.cmp .gt (.meth "i" .int) (.int 0))]⟩ (.bin .add (.csum capSumChain) (.pure (.meth "i" .int)))),
   ("d", .twoD ⟨"As", "ba", []⟩ ⟨"As", "ba2", [.whr (.cmp .gt (.inner (.meth "i" .int)) (.outer (.meth "i" .int))),
      .sel (.bin .sub (.inner (.meth "i" .int)) (.outer (.meth "i" .int)))]⟩)]

example : capQ.wt = true := by decide

theorem capDen : denoteRows capQC capQ.toQuery =
    .ok [[.vec [.int 2, .int 1], .vec [.int 6, .int 4], .vec [.vec [.int 1, .int 4], .vec [.int 2]]]] := rfl

theorem capCollT : ∀ name, cmsMiniAodB.collType name = capQC.collType name :=
  fun name => (collType_single rfl name).symm

theorem capMT (i : Int) (ms : List (String × Ty)) (hms : ∀ p ∈ ms, p = ("i", .int)) : MethTyped (capA i) ms := by
  intro p hp w hw
  rw [hms p hp] at hw ⊢
  simp [capA, member, lookupAttr] at hw; subst hw; simp [HasTy]

theorem capBank (bank cty : String) (content : Val Int) (hf : capQC.ev.find bank = some (cty, content)) :
    content = .vec [capA 1, capA 3] ∨ content = .vec [capA 2, capA 5] := by
  simp only [capQC, capEv, Event.find, Event.find.go] at hf
  by_cases h1 : "ba" = bank
  · simp [h1] at hf; exact Or.inl hf.2.symm
  · by_cases h2 : "ba2" = bank
    · simp [h1, h2] at hf; exact Or.inr hf.2.symm
    · simp [h1, h2] at hf

theorem capFind (bank cty : String) (l : List (Val Int)) (hf : capQC.ev.find bank = some (cty, .vec l)) :
    ∀ v ∈ l, ∃ i, v = capA i := by
  intro v hv
  rcases capBank bank cty _ hf with h | h <;> cases h <;> simp at hv <;> rcases hv with rfl | rfl <;> exact ⟨_, rfl⟩

theorem capChainTyped (c : Chain) (hms : ∀ p ∈ methsSteps c.steps, p = ("i", .int)) : ChainTyped capQC c := by
  intro cty l hf v hv
  obtain ⟨i, rfl⟩ := capFind c.bank cty l hf v hv
  exact capMT i _ hms

theorem capCChainTyped (c : CChain) (hms : ∀ p ∈ imethsCSteps c.steps, p = ("i", .int)) : CChainTyped capQC c := by
  intro cty l hf v hv
  obtain ⟨i, rfl⟩ := capFind c.bank cty l hf v hv
  exact capMT i _ hms

theorem capBankVec (c : CChain) : BankIsVecC capQC c :=
  fun cty content hf => (capBank c.bank cty content hf).elim (fun h => ⟨_, h⟩) (fun h => ⟨_, h⟩)

theorem capHyp : ∀ p ∈ (match capQ with | .eventRows cols => cols), CColHyp capQC p.2 := by
  intro p hp
  simp only [capQ, List.mem_cons, List.not_mem_nil, or_false] at hp
  rcases hp with rfl | rfl | rfl
  · refine ⟨by decide, by decide, capChainTyped _ (by simp [methsSteps]), ?_⟩
    intro cty l hf v hv
    obtain ⟨i, rfl⟩ := capFind _ cty l hf v hv
    refine ⟨by intro q hq; simp [puresXE] at hq, ?_, by intro ic hic; simp [csumsXE] at hic⟩
    intro ic hic
    simp only [cchainsXE, List.mem_singleton] at hic; subst hic
    exact ⟨capCChainTyped _ (by simp [capCountChain, imethsCSteps, imethsCE, methsPE]),
      capMT i _ (by simp [capCountChain, omethsCSteps, omethsCE, methsPE])⟩
  · refine ⟨by decide, by decide, capChainTyped _ (by simp [methsSteps, methsPE]), ?_⟩
    intro cty l hf v hv
    obtain ⟨i, rfl⟩ := capFind _ cty l hf v hv
    refine ⟨?_, ?_, ?_⟩
    · intro q hq
      simp only [puresXE, List.nil_append, List.mem_singleton] at hq; subst hq
      exact capMT i _ (by simp [methsPE])
    · intro ic hic
      simp only [cchainsXE, List.append_nil, List.mem_singleton] at hic; subst hic
      exact ⟨capCChainTyped _ (by simp [capSumChain, imethsCSteps, imethsCE, methsPE]),
        capMT i _ (by simp [capSumChain, omethsCSteps, omethsCE, methsPE])⟩
    · intro ic hic
      simp only [csumsXE, List.append_nil, List.mem_singleton] at hic; subst hic
      intro t ht hfl
      have : t = .int := by simpa [capSumChain, cchainTy, tyCE, tyPE, Ty.join] using ht.symm
      subst this; simp [Ty.isFloating] at hfl
  · refine ⟨by decide, by decide, capChainTyped _ (by simp [methsSteps]), capCChainTyped _ (by simp [imethsCSteps, imethsCE, methsPE]),
      capBankVec _, ?_⟩
    intro cty l hf v hv
    obtain ⟨i, rfl⟩ := capFind _ cty l hf v hv
    exact capMT i _ (by simp [omethsCSteps, omethsCE, methsPE])

/-- all three column shapes on miniAOD, all hypotheses discharged: the concrete row. The second outer element's count is 1
(not 2 + 1: the accumulator restarted), its sum is 1 + 3 (not carried over), its inner vector is `[2]` (the storage vector
was empty again); every inner value was computed against ITS outer element (`y.i()` = 1, then 3). -/
example : ∃ σ', runEvent (compileC cmsMiniAodB exNm exCn capQ) nestNum (classInit (compileC cmsMiniAodB exNm exCn capQ).classVars) capEv =
    .ok ([[.vec [.int 2, .int 1], .vec [.int 6, .int 4], .vec [.vec [.int 1, .int 4], .vec [.int 2]]]], σ') := by
  obtain ⟨σ', h, _⟩ := captureEventRows_correct_partial cmsMiniAodB backendOK_cmsMiniAod exNm exCn exNm_inj exCn_inj
    exNm_ne_result exCn_ne_result exNm_ne_exCn capQC capCollT _ capHyp _
    (cfragPre_classInit cmsMiniAodB exNm exCn exNm_ne_exCn capQ (cq_wt_wo capQ (by decide))) _ capDen
  exact ⟨σ', h⟩

example : runJob (compileC cmsMiniAodB exNm exCn capQ) nestNum [capEv, capEv] =
    .ok [[.vec [.int 2, .int 1], .vec [.int 6, .int 4], .vec [.vec [.int 1, .int 4], .vec [.int 2]]],
         [.vec [.int 2, .int 1], .vec [.int 6, .int 4], .vec [.vec [.int 1, .int 4], .vec [.int 2]]]] := by
  apply capture_job_correct_partial cmsMiniAodB backendOK_cmsMiniAod exNm exCn exNm_inj exCn_inj
    exNm_ne_result exCn_ne_result exNm_ne_exCn capQC capCollT capQ (by decide) [capEv, capEv]
  · intro ev hev
    have : ev = capEv := by simpa using hev
    subst this
    exact capHyp
  · rfl



/-- what the REAL translator emits (CMS AOD, transcribed from its output; replayed on every run as a listed known finding)
for `ds.Select(e → {n: e.As("ba").Select(j → e.As("ba2").Select(t → j.i()).Count())})` — an inner `Select` whose body is built
from the OUTER loop variable only: the count's update `agg = agg + 1` is emitted AFTER the (empty) inner loop. -/
def capBadPackage : Package :=
  { body := .block [
      .decl "edm::Handle<std::vector<pat::Aa>>" "as0" none,
      .block [.decl "edm::Handle<std::vector<pat::Aa>>" "result" none, .retrieve "label" "std::vector<pat::Aa>" "result" (.str "ba") "",
              .set "as0" (.var "result")],
      .loop "i_obj1" (.deref (.var "as0")) [
        .decl "edm::Handle<std::vector<pat::Aa>>" "as2" none,
        .decl "int" "aggResult4" (some (.int 0)),
        .block [.decl "edm::Handle<std::vector<pat::Aa>>" "result" none, .retrieve "label" "std::vector<pat::Aa>" "result" (.str "ba2") "",
                .set "as2" (.var "result")],
        .loop "i_obj3" (.deref (.var "as2")) [],
        .set "aggResult4" (.bin "+" (.var "aggResult4") (.int 1)),
        .push "_col5" (.var "aggResult4")],
      .fill "",
      .clear "_col5"],
    classVars := [("std::vector<int>", "_col5")],
    branches := [("n", "_col5")],
    tree := "cms_aod_tree",
    tokens := [] }

def capBadQuery : Query :=
  .select .ds "e" (.dict ["n"] [.select (.coll (.var "e") "As" "ba") "j"
    (.count (.select (.coll (.var "e") "As" "ba2") "t" (.meth (.var "j") "i")))])

def capEv1 : Event Int := ⟨[("ba", "std::vector<pat::Aa>", .vec [capA 1]), ("ba2", "std::vector<pat::Aa>", .vec [capA 2, capA 5])]⟩

/-- **C01.capture_outer_only_select_counterexample** — the hypothesis `selsUseInner` of the fragment is necessary: for an
inner `Select` whose body mentions the outer variable only, the package the real translator emits counts 1 per outer
element, the query denotes the number of inner elements (2). -/
theorem capture_outer_only_select_counterexample :
    denoteRows { capQC with ev := capEv1 } capBadQuery = .ok [[.vec [.int 2]]] ∧
    (∃ σ', runEvent capBadPackage nestNum (classInit capBadPackage.classVars) capEv1 = .ok ([[.vec [.int 1]]], σ')) ∧
    wtCChain ⟨"As", "ba2", [.sel (.outer (.meth "i" .int))]⟩ = false := by
  refine ⟨rfl, ?_, rfl⟩
  -- the run is asserted as a `Bool` so that the kernel alone evaluates it: the elaborator's own evaluation of `runEvent`
  -- (environments are closures over string comparisons) is some thirty times dearer
  have h : (match runEvent capBadPackage nestNum (classInit capBadPackage.classVars) capEv1 with
    | .ok ([[.vec [.int 1]]], _) => true
    | _ => false) = true := by decide +kernel
  generalize runEvent capBadPackage nestNum (classInit capBadPackage.classVars) capEv1 = r at h ⊢
  split at h
  · exact ⟨_, rfl⟩
  · cases h

end FaxVerif.C01
