/-
C02 (cursor extension) — the scoping facts as predicates over the LABELLED emitted lines
(`List Item`, one entry per line of `emit_query_code`, see `emit_shape` in TheoremsCursor) and the
text-level oracles the harness evaluates on the REAL emitted text through the driver.
-/
import FaxVerif.C02.CursorModel
namespace FaxVerif.C02.Cursor

/-! ### scope tokens -/

/-- the order `starts_with` is meant to compute: `c` is an initial segment of `a`; the top-level
token is below everything and only below itself from above -/
def Token.Extends : Token → Token → Prop
  | .top, c => c = .top
  | .stack _, .top => True
  | .stack a, .stack c => c <+: a

instance (a c : Token) : Decidable (Token.Extends a c) := by
  cases a <;> cases c <;> simp only [Token.Extends] <;> exact inferInstance

/-- drop the last block `k` times -/
def dropLasts : Nat → List Nat → List Nat
  | 0, l => l
  | k + 1, l => (dropLasts k l).dropLast

/-! ### positions in the emitted text -/

/-- line `x` is written somewhere above line `y` -/
def Before (L : List Item) (x y : Item) : Prop := ∃ r₁ r₂, L = r₁ ++ r₂ ∧ x ∈ r₁ ∧ y ∈ r₂

/-- the braces of block `c` lie between the braces of block `b` -/
def Desc (L : List Item) (b c : Nat) : Prop := Before L (.opn b) (.opn c) ∧ Before L (.cls c) (.cls b)

/-- line `y` lies between the braces of block `b` -/
def Inside (L : List Item) (b : Nat) (y : Item) : Prop := Before L (.opn b) y ∧ Before L y (.cls b)

def Item.stmtId? : Item → Option Nat
  | .stmt i _ => some i
  | .opn b => some b
  | _ => none

def Item.opnId? : Item → Option Nat
  | .opn b => some b
  | _ => none

def Item.clsId? : Item → Option Nat
  | .cls b => some b
  | _ => none

def Item.declId? : Item → Option Nat
  | .decl _ v => some v.id
  | _ => none

def Item.isDeclOf (b : Nat) : Item → Prop
  | .decl b' _ => b' = b
  | _ => False

/-- a well-formed cursor / token: every block is in the tree, each block lies inside all the
earlier ones, and the first one is the root -/
def WfStack (L : List Item) (st : List Nat) : Prop :=
  (∀ b ∈ st, Item.opn b ∈ L) ∧ st.Pairwise (Desc L) ∧ (st = [] ∨ st.head? = some 0)

/-- the block object `b` among the statements of this level (not deeper) -/
def Forest.child? (b : Nat) : Forest → Option (BInfo × Forest)
  | .nil => none
  | .plain _ _ r => child? b r
  | .blk info body r => if info.id = b then some (info, body) else child? b r

/-- the strict reading of "the cursor is a path of the tree": each block is a statement of the one before it -/
def isPathIn : Forest → List Nat → Bool
  | _, [] => true
  | t, b :: rest =>
    match t.child? b with
    | some (_, body) => isPathIn body rest
    | none => false

/-- The text around a declaration and a later use: `{` of block `b`, then only declarations of `b`
among which `v`'s, then the statements of `b` — somewhere among them (possibly inside nested
blocks) the line `y` — then the `}` of `b`. -/
def DeclEncloses (L : List Item) (b : Nat) (v : Var) (y : Item) : Prop :=
  ∃ pre ds₁ ds₂ m₁ m₂ post,
    L = pre ++ [.opn b] ++ ds₁ ++ [.decl b v] ++ ds₂ ++ m₁ ++ [y] ++ m₂ ++ [.cls b] ++ post ∧
    (∀ i ∈ ds₁ ++ ds₂, Item.isDeclOf b i)

def Item.hdrId? : Item → Option Nat
  | .hdr b _ => some b
  | _ => none

/-- the text as a function of the labelled lines: indentation = number of enclosing blocks -/
def render : Int → List Item → List String
  | _, [] => []
  | d, .opn _ :: r => pad d "{" :: render (d + 1) r
  | d, .cls _ :: r => pad (d - 1) "}" :: render (d - 1) r
  | d, .hdr _ t :: r => pad d t :: render d r
  | d, .decl _ v :: r => pad d v.spec.line :: render d r
  | d, .stmt _ l :: r => pad d l :: render d r

/-- the state after a sequence of calls on a fresh `generated_code()` -/
abbrev after (ops : List Op) : State := run State.init ops

/-- the scope a declaring call addresses: the cursor, or the blocks of the token -/
def declTarget (s : State) : Op → Option (List Nat × VarSpec)
  | .declareVar v => some (s.stack, v)
  | .declareAt i v =>
    match s.tokens[i]? with
    | some (.stack a) => some (a, v)
    | _ => none
  | _ => none

/-- first-use order without duplicates -/
def dedupFirst : List String → List String
  | [] => []
  | x :: xs => x :: (dedupFirst xs).filter (· ≠ x)

def includeReq? : Op → Option String
  | .addInclude p => some p
  | _ => none

def libraryReq? : Op → Option String
  | .addLibrary p => some p
  | _ => none

def Op.isBelow : Op → Bool
  | .addBelow _ _ => true
  | _ => false

/-! ### text-level oracles (evaluated on the implementation's emitted text)

The harness gives every statement / header / declaration a text that names it, so the lines of
the real text can be told apart without labels. `lines` are the emitted lines with the
indentation removed. -/

/-- what the harness knows about a line it caused: its text, a number that grows with creation
time (0 = not comparable, e.g. `else`), and whether it is a declaration -/
structure Expect where
  text : String
  ord : Nat
  isDecl : Bool
deriving Repr, DecidableEq, Inhabited

/-- per open block while scanning: has a non-declaration been seen, last declaration number, last statement number -/
structure Frame where
  seenStmt : Bool
  lastDecl : Nat
  lastStmt : Nat
deriving Repr, DecidableEq, Inhabited

def Frame.new : Frame := ⟨false, 0, 0⟩

/-- scan the text: braces balanced; in every block the declarations come first and in creation order,
and the statements / block headers that carry a number come in creation order -/
def scanShape (ex : List Expect) : List String → List Frame → Bool
  | [], fs => fs.isEmpty
  | l :: rest, fs =>
    if l == "{" then
      -- the block itself is a statement of the enclosing block
      match fs with
      | [] => scanShape ex rest [Frame.new]
      | f :: up => scanShape ex rest (Frame.new :: { f with seenStmt := true } :: up)
    else if l == "}" then
      match fs with
      | [] => false
      | _ :: up => scanShape ex rest up
    else
      match fs with
      | [] => false
      | f :: up =>
        match ex.find? (fun e => e.text == l) with
        | none => false                                   -- a line nobody asked for
        | some e =>
          if e.isDecl then
            if f.seenStmt then false                       -- declaration after a statement of the same block
            else if e.ord != 0 && e.ord ≤ f.lastDecl then false
            else scanShape ex rest ({ f with lastDecl := if e.ord != 0 then e.ord else f.lastDecl } :: up)
          else
            if e.ord != 0 && e.ord ≤ f.lastStmt then false -- out of insertion order
            else scanShape ex rest ({ f with seenStmt := true, lastStmt := if e.ord != 0 then e.ord else f.lastStmt } :: up)

/-- `nothing_lost` on a text: every expected line exactly once, nothing else but braces, `nBlocks`
pairs of braces, and the shape above -/
def textNothingLost (ex : List Expect) (nBlocks : Nat) (lines : List String) : Bool :=
  ex.all (fun e => lines.count e.text == ex.count e) &&
  lines.count "{" == nBlocks && lines.count "}" == nBlocks &&
  lines.length == ex.length + 2 * nBlocks &&
  scanShape ex lines []

/-- for every line, the indices of the `{` lines that enclose it (innermost first) -/
def enclosing : List String → Nat → List Nat → List (String × Nat × List Nat)
  | [], _, _ => []
  | l :: rest, i, st =>
    if l == "{" then (l, i, st) :: enclosing rest (i + 1) (i :: st)
    else if l == "}" then (l, i, st.tail) :: enclosing rest (i + 1) st.tail
    else (l, i, st) :: enclosing rest (i + 1) st

/-- `declared_encloses` on a text: the innermost block around the declaration line also encloses
the statement line, and the declaration comes first -/
def textDeclEncloses (lines : List String) (declLine stmtLine : String) : Bool :=
  let an := enclosing lines 0 []
  match an.find? (fun r => r.1 == declLine), an.find? (fun r => r.1 == stmtLine) with
  | some (_, i, b :: _), some (_, j, st) => decide (i < j) && st.contains b
  | _, _ => false

end FaxVerif.C02.Cursor
