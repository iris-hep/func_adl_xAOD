/-
C02 — the scoping facts of the code-generation cursor (`generated_code`, `gc_scope`, the statement
classes), proved of the state-machine model `CursorModel.lean` for EVERY sequence of calls.

Property C02 asks that "every identifier the translator introduces is declared exactly once, in a
scope that encloses all its uses and before its first read".  The translator achieves this through
one discipline: it declares a variable at a scope token `s` (`declare_variable` at the cursor, or
`token[-1].declare_variable`) and emits the uses only while `current_scope().starts_with(s)`.
The theorems below say that this discipline is sound for the cursor as coded: what is declared at
`s` textually encloses and precedes whatever is emitted while the cursor starts with `s`, and
nothing emitted is ever lost, duplicated or reordered.

`after ops` is the state of a fresh `generated_code()` after the calls `ops` (calls that raise leave
the state unchanged — every check of the Python precedes its first mutation); `(after ops).items`
are the lines of `emit_query_code` labelled with the identity of the object that wrote each
(`emit_shape`: the text is `render 0` of them).
-/
import FaxVerif.C02.CursorProofs
namespace FaxVerif.C02
open Cursor

/-- **C02.starts_with_is_prefix** — `a.starts_with(c)` is true exactly when `c`'s block list is an
initial segment of `a`'s (blocks compared by identity), with the top-level cases exactly as coded:
everything starts with the top-level token, the top-level token starts only with itself. -/
theorem starts_with_is_prefix (a c : Token) : a.startsWith c = true ↔ a.Extends c :=
  startsWith_iff a c

theorem starts_with_stack (a c : List Nat) : (Token.stack a).startsWith (.stack c) = true ↔ c <+: a :=
  startsWith_iff (.stack a) (.stack c)

theorem starts_with_top (a : List Nat) :
    (Token.stack a).startsWith .top = true ∧ Token.top.startsWith (.stack a) = false ∧ Token.top.startsWith .top = true := by
  simp [Token.startsWith, Token.isTop]

theorem starts_with_refl (a : Token) : a.startsWith a = true :=
  (startsWith_iff a a).mpr (Extends.refl a)

theorem starts_with_trans (a b c : Token) (h1 : a.startsWith b = true) (h2 : b.startsWith c = true) :
    a.startsWith c = true :=
  (startsWith_iff a c).mpr (Extends.trans ((startsWith_iff a b).mp h1) ((startsWith_iff b c).mp h2))

theorem starts_with_antisymm (a b : Token) (h1 : a.startsWith b = true) (h2 : b.startsWith a = true) : a = b :=
  Extends.antisymm ((startsWith_iff a b).mp h1) ((startsWith_iff b a).mp h2)

example : (Token.stack [0, 1, 2]).startsWith (.stack [0, 1]) = true ∧ (Token.stack [0, 1]).startsWith (.stack [0, 1, 2]) = false ∧
    (Token.stack [0, 1, 2]).startsWith (.stack [0, 3]) = false := by decide +kernel

/-- **C02.deepest_scope_spec** — `deepest_scope(v1, v2)` returns `v2` exactly when `v1`'s scope is a
STRICT initial segment of `v2`'s; in every other case — equal scopes, `v2`'s scope a strict initial
segment of `v1`'s, or INCOMPARABLE scopes — it returns `v1`. -/
theorem deepest_scope_spec (s1 s2 : Token) :
    deepest s1 s2 = if s2.Extends s1 ∧ ¬ s1.Extends s2 then 2 else 1 := by
  unfold deepest
  simp only [← startsWith_iff]
  cases s2.startsWith s1 <;> cases s1.startsWith s2 <;> rfl

theorem deepest_scope_incomparable (s1 s2 : Token) (_h1 : ¬ s1.Extends s2) (h2 : ¬ s2.Extends s1) : deepest s1 s2 = 1 := by
  rw [deepest_scope_spec]; simp [h2]

theorem deepest_scope_equal (s : Token) : deepest s s = 1 := by
  rw [deepest_scope_spec]; simp [Extends.refl]

example : deepest (.stack [0, 1]) (.stack [0, 1, 2]) = 2 ∧ deepest (.stack [0, 1, 2]) (.stack [0, 1]) = 1 ∧
    deepest (.stack [0, 1]) (.stack [0, 2]) = 1 ∧ deepest (.stack [0, 2]) (.stack [0, 1]) = 1 ∧
    deepest .top (.stack [0]) = 2 ∧ deepest (.stack [0]) .top = 1 := by decide +kernel

/-- **C02.up_is_dropLast** — `scope[-k]` (k ≥ 1) drops the last `k` blocks; it raises
"Winding up at the top level scope…" exactly when nothing would be left. -/
theorem up_is_dropLast (a : List Nat) (k : Nat) (hk : 0 < k) :
    (Token.stack a).getItem (-(k : Int)) =
      if a.length ≤ k then .error .windingUp else .ok (.stack (dropLasts k a)) := by
  have hl : ((dropLasts k a).length == 0) = true ↔ a.length ≤ k := by
    rw [beq_iff_eq, dropLasts_eq_take, List.length_take]; omega
  simp only [Token.getItem, pySliceTo_neg a k hk, ← dropLasts_eq_take, hl]

theorem up_one (a : List Nat) :
    (Token.stack a).getItem (-1) = if a.length ≤ 1 then .error .windingUp else .ok (.stack a.dropLast) :=
  up_is_dropLast a 1 (by omega)

/-- `scope[0]` always raises (Python: `stack[:0]` is empty), `scope[n]` for `n > 0` keeps the first `n` blocks,
and the top-level token cannot be indexed at all -/
theorem up_other (a : List Nat) (n : Nat) (key : Int) :
    (Token.stack a).getItem 0 = .error .windingUp ∧
    (Token.stack a).getItem ((n + 1 : Nat) : Int) = (if a = [] then .error .windingUp else .ok (.stack (a.take (n + 1)))) ∧
    Token.top.getItem key = .error .topGetItem := by
  refine ⟨by simp [Token.getItem, pySliceTo], ?_, rfl⟩
  have : ((n + 1 : Nat) : Int) ≥ 0 := by omega
  simp only [Token.getItem, pySliceTo, this, if_true, Int.toNat_natCast]
  cases a <;> simp

example : (Token.stack [0, 1, 2]).getItem (-1) = .ok (.stack [0, 1]) ∧ (Token.stack [0, 1, 2]).getItem (-2) = .ok (.stack [0]) ∧
    (Token.stack [0, 1, 2]).getItem (-3) = .error .windingUp ∧ (Token.stack [0]).getItem (-1) = .error .windingUp := by
  refine ⟨?_, ?_, ?_, ?_⟩ <;> rfl

/-- **C02.nothing_lost** — for EVERY sequence of calls: (1) every statement object ever added (ids
`0 … next-1`, 0 the root block; a one-liner is its line, a block its `{`) occurs exactly once in the
emitted text; (2) every declaration ever made occurs exactly once (in the text or among the class
variables); (3) the text after any initial part of the sequence is a SUBSEQUENCE of the final text:
later calls only insert lines, they never delete, duplicate or reorder what is there. -/
theorem nothing_lost (ops : List Op) :
    ((after ops).items.filterMap Item.stmtId?).Perm (List.range (after ops).next) ∧
    ((after ops).items.filterMap Item.declId? ++ (after ops).classVars.map Var.id).Perm (List.range (after ops).nextVar) ∧
    ∀ pre post, ops = pre ++ post → (after pre).items.Sublist (after ops).items := by
  obtain ⟨hinv, _⟩ := run_inv ops Inv.init
  refine ⟨Forest.ids_eq _ ▸ hinv.tree.ids, hinv.tree.vars, ?_⟩
  rintro pre post rfl
  have := (run_inv post (run_inv pre Inv.init).1).2
  rw [← run_append] at this
  exact this

/-- **C02.added_last** — a one-line statement added with `add_statement` becomes the LAST line of the
block the cursor points at (immediately before its `}`), gets the next identity, and the cursor stays. -/
theorem added_last (ops : List Op) (p : Plain) (s' : State) (o : Out)
    (h : step (after ops) (.addPlain p) = .ok (s', o)) :
    o = .newId (after ops).next ∧
    ∃ c A post, (after ops).stack.getLast? = some c ∧ (after ops).items = A ++ .cls c :: post ∧
      s'.items = A ++ .stmt (after ops).next p.line :: .cls c :: post ∧ s'.stack = (after ops).stack := by
  obtain ⟨hinv, _⟩ := run_inv ops Inv.init
  obtain ⟨h1, _, h3⟩ := step_addPlain_inside hinv h
  exact ⟨h1, h3⟩

/-- **C02.insertion_order** — statements added to one block appear in insertion order: if `p` is added
while the cursor points at block `c`, and later (after any calls whatsoever) `q` is added while the
cursor again points at `c`, then in the final text `p`'s line is above `q`'s. -/
theorem insertion_order (pre mid post : List Op) (p q : Plain) (s1 s3 : State) (o1 o3 : Out)
    (h1 : step (after pre) (.addPlain p) = .ok (s1, o1))
    (h3 : step (run s1 mid) (.addPlain q) = .ok (s3, o3))
    (hc : (after pre).stack.getLast? = (run s1 mid).stack.getLast?) :
    Before (run s3 post).items (.stmt (after pre).next p.line) (.stmt (run s1 mid).next q.line) := by
  obtain ⟨i0, _⟩ := run_inv pre Inv.init
  obtain ⟨i2, sub12⟩ := run_inv mid (step_inv _ i0 h1).1
  obtain ⟨_, sub3F⟩ := run_inv post (step_inv _ i2 h3).1
  obtain ⟨_, hin, c, _, _, hl, _⟩ := step_addPlain_inside i0 h1
  obtain ⟨_, _, c', A', post2, hl', e2, e3, _⟩ := step_addPlain_inside i2 h3
  cases Option.some.inj ((hl.symm.trans hc).trans hl')
  -- after the first call p's line is above the `}` of c; this stays so
  have hb := (hin c (List.mem_of_getLast? hl)).2.mono sub12
  have hu := i2.tree.items_nodup
  rw [e2] at hb hu
  have : Before s3.tree.items (.stmt (after pre).next p.line) (.stmt (run s1 mid).next q.line) := by
    rw [e3]; exact before_of_insert (ins := [_]) hu hb List.mem_cons_self
  exact this.mono sub3F

example : Before (after [.addPlain (.arbitrary "a"), .addBlock .block, .pop, .addPlain (.arbitrary "b")]).items
    (.stmt 1 (Plain.arbitrary "a").line) (.stmt 3 (Plain.arbitrary "b").line) :=
  insertion_order [] [.addBlock .block, .pop] [] (.arbitrary "a") (.arbitrary "b") _ _ _ _ rfl rfl (by decide +kernel)

/-- **C02.emit_block_shape** — the emit shape, for every sequence of calls and every block `b` of the
tree: the lines the block writes are contiguous — its header line (`for`/`if`/`else`, none for a plain
block), `{`, its declarations in the order they were made, the lines of its statements, `}`. In
particular the declarations of a block precede all its statements. -/
theorem emit_block_shape (ops : List Op) (b : Nat) (hb : b ∈ (after ops).tree.blockIds) :
    ∃ info body P Q, info.id = b ∧ (after ops).tree.find b = some (info, body) ∧
      (after ops).items = (P ++ hdrItems info) ++ .opn b :: (info.vars.map (Item.decl b) ++ (body.items ++ .cls b :: Q)) :=
  block_segment (run_inv ops Inv.init).1.tree.blockNodup hb

/-- **C02.emit_shape** — the text and the labelled lines correspond line by line: the emitted text
(`_cpp_source_emitter`, which looks at the TEXT of each line to indent) is `render`, which writes
line `i` from labelled line `i` with two spaces per enclosing `{` — no statement, header or
declaration line of the model can be mistaken for a brace. -/
theorem emit_shape (ops : List Op) : (after ops).emit = render 0 (after ops).items :=
  indent_eq_render _ 0 (items_noBrace _)

example : (after [.addBlock (.ifT "a"), .addPlain (.arbitrary "x = 1"), .declareVar ⟨"int", "v", some "0"⟩]).emit =
    ["{", "  if (a)", "  {", "    int v (0);", "    x = 1;", "  }", "}"] := by
  decide +kernel

/-- **C02.declared_encloses** — Let a variable `v` be declared at a scope with blocks `a` — by
`declare_variable(v)` at the cursor (`a` = the cursor then) or by `token.declare_variable(v)` (`a` =
the token's blocks). Let, after ANY further calls `mid`, a statement be added while
`current_scope().starts_with(<that scope>)`. Then, after ANY further calls `post`, the emitted text
has the shape `… {ᵇ decls… DECL(v) decls… stmts… STMT stmts… }ᵇ …` where `b` is the innermost block
of `a`: the statement lies lexically inside the block that holds the declaration, and after it. -/
theorem declared_encloses (pre mid post : List Op) (dop : Op) (a : List Nat) (v : VarSpec) (p : Plain)
    (s1 s3 : State) (o1 o3 : Out)
    (hd : declTarget (after pre) dop = some (a, v))
    (h1 : step (after pre) dop = .ok (s1, o1))
    (hsw : (Token.stack (run s1 mid).stack).startsWith (.stack a) = true)
    (h3 : step (run s1 mid) (.addPlain p) = .ok (s3, o3)) :
    ∃ b, a.getLast? = some b ∧ o1 = .newId (after pre).nextVar ∧ o3 = .newId (run s1 mid).next ∧
      DeclEncloses (run s3 post).items b ⟨(after pre).nextVar, v⟩ (.stmt (run s1 mid).next p.line) := by
  have i2 := (run_inv mid (step_inv _ (run_inv pre Inv.init).1 h1).1).1
  obtain ⟨ho3, hins, _⟩ := step_addPlain_inside i2 h3
  obtain ⟨b, hl, ho1, h⟩ := declared_encloses_line pre mid post dop a v s1 s3 o1 o3 hd h1 hsw h3
  exact ⟨b, hl, ho1, ho3, h _ rfl hins⟩

/-- **C02.declared_encloses_block** — the same when the later statement is a block (`for`/`if`/`else`/plain
block added with `add_statement`, e.g. `if (is_first)` or a loop over a declared vector): its header
line (where the variable is read) and its `{` lie inside the declaring block, after the declaration. -/
theorem declared_encloses_block (pre mid post : List Op) (dop : Op) (a : List Nat) (v : VarSpec) (k : Kind)
    (s1 s3 : State) (o1 o3 : Out)
    (hd : declTarget (after pre) dop = some (a, v))
    (h1 : step (after pre) dop = .ok (s1, o1))
    (hsw : (Token.stack (run s1 mid).stack).startsWith (.stack a) = true)
    (h3 : step (run s1 mid) (.addBlock k) = .ok (s3, o3)) :
    ∃ b, a.getLast? = some b ∧ o1 = .newId (after pre).nextVar ∧ o3 = .newId (run s1 mid).next ∧
      ∀ y ∈ hdrItems ⟨(run s1 mid).next, k, [], []⟩ ++ [.opn (run s1 mid).next],
        DeclEncloses (run s3 post).items b ⟨(after pre).nextVar, v⟩ y := by
  have i2 := (run_inv mid (step_inv _ (run_inv pre Inv.init).1 h1).1).1
  obtain ⟨ho3, _, hins⟩ := step_addBlock_inside i2 h3
  obtain ⟨b, hl, ho1, h⟩ := declared_encloses_line pre mid post dop a v s1 s3 o1 o3 hd h1 hsw h3
  refine ⟨b, hl, ho1, ho3, fun y hy => ?_⟩
  rcases List.mem_append.mp hy with hh | ho
  · refine h y ?_ fun c hc => hins c hc y (List.mem_append_left _ hh)
    obtain ⟨t, _, rfl⟩ := mem_hdrItems hh; rfl
  · cases List.mem_singleton.mp ho
    exact h _ rfl fun c hc => hins c hc _ (List.mem_append_right _ List.mem_cons_self)

/-- non-vacuity: the `Aggregate` idiom — open a loop, remember its scope, go deeper, declare the
accumulator at `scope[-1]` of the loop, assign to it deep inside: all four hypotheses hold (`rfl`)
and the conclusion is about this text -/
example :
    let pre : List Op := [.addBlock (.loop "i" "jets"), .saveScope, .addBlock (.ifT "i>0"), .up 0 (-1)]
    let acc : VarSpec := ⟨"int", "acc", some "0"⟩
    (∃ b, DeclEncloses (after (pre ++ [.declareAt 1 acc, .addPlain (.arbitrary "acc = acc + 1")])).items b ⟨0, acc⟩
      (.stmt 3 (Plain.arbitrary "acc = acc + 1").line)) ∧
    (after (pre ++ [.declareAt 1 acc, .addPlain (.arbitrary "acc = acc + 1")])).emit =
      ["{", "  int acc (0);", "  for (auto &&i : jets)", "  {", "    if (i>0)", "    {", "      acc = acc + 1;", "    }", "  }", "}"] := by
  intro pre acc
  constructor
  · obtain ⟨b, _, _, _, h⟩ := declared_encloses pre [] [] (.declareAt 1 acc) [0] acc (.arbitrary "acc = acc + 1")
      _ _ _ _ rfl rfl rfl rfl
    exact ⟨b, h⟩
  · decide +kernel

/-- non-vacuity of the block form: `bool is_first (true)` declared one level up, `if (is_first)` opened inside the loop -/
example :
    let pre : List Op := [.addBlock (.loop "i" "jets"), .saveScope, .up 0 (-1)]
    let flag : VarSpec := ⟨"bool", "is_first", some "true"⟩
    ∃ b, DeclEncloses (after (pre ++ [.declareAt 1 flag, .addBlock (.ifT "is_first")])).items b ⟨0, flag⟩ (.hdr 2 "if (is_first)") := by
  intro pre flag
  obtain ⟨b, _, _, _, h⟩ := declared_encloses_block pre [] [] (.declareAt 1 flag) [0] flag (.ifT "is_first")
    _ _ _ _ rfl rfl rfl rfl
  exact ⟨b, h (.hdr 2 "if (is_first)") (by decide +kernel)⟩

/-- **C02.save_set_identity** — `set_scope(current_scope())` is the identity on the cursor (and on the tree) -/
theorem save_set_identity (s : State) :
    ∃ s1 s2, step s .saveScope = .ok (s1, .tok s.tokens.length) ∧
      step s1 (.setScope s.tokens.length) = .ok (s2, .unit) ∧ s2.stack = s.stack ∧ s2.tree = s.tree :=
  ⟨_, _, rfl, step_setScope_stack (tok?_pushTok s _), rfl, rfl⟩

/-- **C02.save_set_roundtrip** — after `t = current_scope()`, ANY calls whatsoever, and `set_scope(t)`,
the cursor is back where it was; everything that was in the text, and everything added meanwhile,
is still there (the text at the save and the text before the restore are subsequences of the final
text, which the restore does not change), and the restored cursor is well-formed in the grown tree. -/
theorem save_set_roundtrip (ops mid : List Op) :
    ∃ s1 s3, step (after ops) .saveScope = .ok (s1, .tok (after ops).tokens.length) ∧
      step (run s1 mid) (.setScope (after ops).tokens.length) = .ok (s3, .unit) ∧
      s3.stack = (after ops).stack ∧ s3.items = (run s1 mid).items ∧
      (after ops).items.Sublist s3.items ∧ WfStack s3.items s3.stack := by
  obtain ⟨i0, _⟩ := run_inv ops Inv.init
  obtain ⟨i1, _⟩ := step_inv (s' := ((after ops).pushTok (.stack (after ops).stack)).1) .saveScope i0 rfl
  obtain ⟨i2, sub⟩ := run_inv mid i1
  have hstep := step_setScope_stack (run_tok_get mid (tok?_pushTok (after ops) (.stack (after ops).stack)))
  exact ⟨_, _, rfl, hstep, rfl, rfl, sub, (step_inv _ i2 hstep).1.stack⟩

example : (after [.addBlock (.ifT "a"), .saveScope, .addBlock (.loop "i" "c"), .addPlain (.arbitrary "x"), .pop, .pop, .setScope 0]).stack = [0, 1] := by
  decide +kernel

/-- **C02.cursor_chain** — for EVERY sequence of calls the cursor — and every scope token ever handed
out by `current_scope()` / `token[key]` of this `generated_code` — is a chain of nested blocks of the
tree starting at the root block: every block of it is in the tree, each lies (braces and all)
inside all earlier ones, and the first is the root (or the stack is empty, after popping past the
top). -/
theorem cursor_chain (ops : List Op) :
    WfStack (after ops).items (after ops).stack ∧
    ∀ a, Token.stack a ∈ (after ops).tokens → WfStack (after ops).items a := by
  obtain ⟨hinv, _⟩ := run_inv ops Inv.init
  exact ⟨hinv.stack, hinv.tokens⟩

theorem cursor_root (ops : List Op) : ∃ vars reps body, (after ops).tree = .blk ⟨0, .block, vars, reps⟩ body .nil :=
  (run_inv ops Inv.init).1.tree.root

/-- **C02.cursor_path_counterexample** — the STRICT reading "the cursor is a path of the tree: every
block is a statement of the one before it" is FALSE of the code: `add_statement(st, below=b)` slides
`st` between `b` and its statements while the cursor (and saved tokens) keep naming `b` and a former
statement of `b` as neighbours. Witness (replayed on the real code by tools/c02_cursor.py, FIXED[0]):
`if` opened, `for` opened inside, then `add_statement(else, below=<the if>)`. The translator never
uses `below=`. -/
theorem cursor_path_counterexample :
    ∃ ops : List Op, isPathIn (after ops).tree (after ops).stack = false :=
  ⟨[.addBlock (.ifT "a"), .addBlock (.loop "i" "c"), .addBelow 1 (.block .els)], by decide +kernel⟩

/-- **C02.cursor_path_partial** — without the `below=` form (decidable hypothesis on the calls) the
strict reading holds: the cursor and every token are paths of the tree, each block a statement of
the block before it. -/
theorem cursor_path_partial (ops : List Op) (h : ∀ op ∈ ops, op.isBelow = false) :
    isPathIn (after ops).tree (after ops).stack = true ∧
    ∀ a, Token.stack a ∈ (after ops).tokens → isPathIn (after ops).tree a = true := by
  have := run_path ops h PInv.init
  exact ⟨this.stack, this.tokens⟩

example : isPathIn (after [.addBlock (.ifT "a"), .addBlock (.loop "i" "c"), .addPlain (.arbitrary "x")]).tree [0, 1, 2] = true := by decide +kernel

/-- **C02.includes_first_use_order** — for every sequence of calls `include_files()` is the list of
requested paths in first-use order without duplicates; the same for `link_libraries()`. -/
theorem includes_first_use_order (ops : List Op) :
    (after ops).includes = dedupFirst (ops.filterMap includeReq?) ∧
    (after ops).libs = dedupFirst (ops.filterMap libraryReq?) := by
  rw [dedupFirst_eq, dedupFirst_eq]
  exact ⟨(run_incStep (fun s op => (apply_includes s op).1) ops State.init).trans (AddNew.foldl_nil _),
    (run_incStep (fun s op => (apply_includes s op).2) ops State.init).trans (AddNew.foldl_nil _)⟩

theorem includes_nodup_mem (ops : List Op) :
    (after ops).includes.Nodup ∧ ∀ p, p ∈ (after ops).includes ↔ Op.addInclude p ∈ ops := by
  rw [(includes_first_use_order ops).1]
  refine ⟨dedupFirst_nodup _, fun p => ?_⟩
  rw [mem_dedupFirst, List.mem_filterMap]
  constructor
  · rintro ⟨op, hop, he⟩
    unfold includeReq? at he
    split at he
    · cases he; exact hop
    · cases he
  · intro h; exact ⟨_, h, rfl⟩

example : (after [.addInclude "b", .addInclude "a", .addInclude "b", .addLibrary "l", .addInclude "c", .addInclude "a"]).includes = ["b", "a", "c"] := by
  decide +kernel

end FaxVerif.C02
