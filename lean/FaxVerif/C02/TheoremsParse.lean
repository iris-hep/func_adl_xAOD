/-
C02 — (parser of the emitted text) the statement language of `Cpp/Syntax.lean` is read from the translator's TEXT by
a parser written in Lean (`Cpp/Parse.lean`: tokenizer, precedence-climbing expression parser with the C++ precedence of
the emitted subset, statement lines, `{`/`}` block structure) and printed by `renderLines`; this file proves that the
two are inverse at the statement level (`parse_render_stmt`, under `ListOk`; DESIGN §3.1's `parse_render`, from the
characters of every expression on, is in TheoremsParseExpr.lean), so that the `Stmt` every semantic theorem and verified checker of
C01–C05 talks about is determined by the text alone.

The round trip holds for EVERY statement tree (no bound on size, depth, number of lines), up to the one thing the text
does not carry: the requested container type of a `retrieve` (`eraseL`; `attachS` recomputes it from the declarations).
Here the expressions enter through `exprOk` (decided by running the parser on that expression); the purely SYNTACTIC
hypothesis on expressions and the expression level are in C02/TheoremsParseExpr.lean.

The tie: on every run the Lean parser is compared with tools/cparse.py (+ the JSON decoder) on the real translator's
text of every generated program on the three backends, and on generated unparenthesised / damaged texts; `ListOk` is
evaluated on the parser's output there, which measures the share of real programs under these theorems (≈ 97 %; the
rest have C escapes inside string literals, which `renderLines` — like `Gen.renderS` — prints unescaped).
-/
import FaxVerif.Cpp.ParseProofs
import FaxVerif.Cpp.ParseLexProofs
namespace FaxVerif.C02
open FaxVerif.Cpp FaxVerif.Cpp.Parse

/-- **C02.parse_render_stmt** — statement / block level round trip. For every list of statements `b` whose names,
types, literals and expressions satisfy the decidable well-formedness predicate `ListOk` (Cpp/ParseSpec.lean), the Lean
parser applied to the printed block `{ b }` returns the block itself, with the requested container type of every
`retrieve` (which the text does not contain) emptied. No bound on the size or nesting of `b`; the fuel the block parser
is started with is shown sufficient. -/
theorem parse_render_stmt (b : List Stmt) (h : ListOk b = true) :
    parseLines (renderLines (.block b)) = some (.block (eraseL b)) := by
  unfold parseLines renderLines
  have : ((renderS (.block b)).map String.ofList).map String.toList = renderS (.block b) := by
    rw [List.map_map]
    have : (String.toList ∘ String.ofList) = id := by funext l; simp
    rw [this, List.map_id]
  rw [this]
  exact parseLinesC_render b h

/-- **C02.parse_render_exact** — DESIGN §3.1 `parse_render` at the statement level: when no retrieve of the tree
carries a requested type (`tyFreeL`, decidable — the form in which the parser itself produces trees), parsing the printed
block returns exactly the tree. -/
theorem parse_render_exact (b : List Stmt) (h : ListOk b = true) (ht : tyFreeL b = true) :
    parseLines (renderLines (.block b)) = some (.block b) := by
  rw [parse_render_stmt b h, eraseL_tyFree b ht]

/-- **C02.render_injective** — the printer loses nothing but the requested container types: two well-formed statement
lists with the same text are the same tree up to that field. (So a difference between two programs that matters to any
semantic theorem is visible in the text the tie compares.) -/
theorem render_injective (a b : List Stmt) (ha : ListOk a = true) (hb : ListOk b = true)
    (h : renderLines (.block a) = renderLines (.block b)) : eraseL a = eraseL b := by
  have h1 := parse_render_stmt a ha
  have h2 := parse_render_stmt b hb
  rw [h, h2] at h1
  have := Option.some.inj h1
  injection this with this
  exact this.symm

/-- **C02.render_parse_render** — `render ∘ parse` is the identity on printed text: whatever tree the parser returns for
the text of a well-formed block prints to that same text again (the form in which the tie checks the round trip on the
REAL translator's text, where only the text is given). -/
theorem render_parse_render (b : List Stmt) (h : ListOk b = true) (t : Stmt)
    (hp : parseLines (renderLines (.block b)) = some t) : renderLines t = renderLines (.block b) := by
  rw [parse_render_stmt b h] at hp
  have := (Option.some.inj hp).symm
  subst this
  have := renderS_erase (.block b)
  simp only [eraseS] at this
  simp [renderLines, this]

/-- an ATLAS per-event body: handle declaration, retrieve block, loop with a conditional push (else: throw), fill, clear -/
def exAtlas : List Stmt := [
  .decl "const xAOD::JetContainer*" "jets0" none,
  .block [
    .decl "const xAOD::JetContainer*" "result" (some (.int 0)),
    .retrieve "atlas" "" "result" (.str "AntiKt4") "",
    .set "jets0" (.var "result")],
  .loop "i_obj1" (.deref (.var "jets0")) [
    .ite (.bin ">" (.mem (.var "i_obj1") true "pt" []) (.dbl "30.5" 305 (-1)))
      [.push "_col12" (.bin "/" (.mem (.var "i_obj1") true "pt" []) (.dbl "1000.0" 10000 (-1)))]
      [.throw "First() called on an empty sequence (jets)"]],
  .fill "atlas_xaod_tree",
  .clear "_col12"]

/-- a CMS body: label and token retrieves, aggregation, a cast, a call, the unnamed tree, an unrecognised line -/
def exCms : List Stmt := [
  .decl "edm::Handle<reco::TrackCollection>" "trks4" none,
  .decl "int" "aggResult7" (some (.int 0)),
  .block [
    .decl "edm::Handle<reco::TrackCollection>" "result" none,
    .retrieve "label" "" "result" (.str "generalTracks") "",
    .set "trks4" (.var "result")],
  .block [
    .decl "Handle<pat::MuonCollection>" "result" none,
    .retrieve "token" "" "result" (.opaque "") "token11"],
  .loop "i_obj5" (.deref (.var "trks4")) [
    .ite (.bin "&&" (.un "!" (.var "bool_op6")) (.bin "<=" (.int 1) (.un "-" (.dbl "1.5" 15 (-1))))) [
      .set "aggResult7" (.bin "+" (.var "aggResult7") (.int 1))] []],
  .set "_col08" (.cast "double" (.call "std::pow" [.var "aggResult7", .int 2])),
  .line "return StatusCode::SUCCESS;",
  .fill ""]

/-- the two programs are evaluated once, on the syntactic predicate; what follows is derived from these -/
theorem exAtlas_wf : ListWf exAtlas = true ∧ tyFreeL exAtlas = true := by decide +kernel
theorem exCms_wf : ListWf exCms = true ∧ tyFreeL exCms = true := by decide +kernel

example : ListOk exAtlas = true ∧ tyFreeL exAtlas = true := ⟨ListOk_of_ListWf _ exAtlas_wf.1, exAtlas_wf.2⟩
example : ListOk exCms = true ∧ tyFreeL exCms = true := ⟨ListOk_of_ListWf _ exCms_wf.1, exCms_wf.2⟩
example : parseLines (renderLines (.block exAtlas)) = some (.block exAtlas) :=
  parse_render_exact exAtlas (ListOk_of_ListWf _ exAtlas_wf.1) exAtlas_wf.2
example : parseLines (renderLines (.block exCms)) = some (.block exCms) :=
  parse_render_exact exCms (ListOk_of_ListWf _ exCms_wf.1) exCms_wf.2

/-- **C02.render_injective_needs_wf** — the hypothesis of `render_injective` cannot be dropped: the printer (like
`Gen.renderE`, whose text it reproduces) writes `*a.f()` both for `*(a.f())` and for `(*a).f()`; the second tree is
outside `ListOk` (its text reads back as the first). The translator itself never emits the second shape (it writes
`(*a).f()` or `a->f()`; the tie compares the trees on every program). -/
theorem render_injective_needs_wf :
    ∃ a b : List Stmt, renderLines (.block a) = renderLines (.block b) ∧ eraseL a ≠ eraseL b ∧
      ListOk a = true ∧ ListOk b = false :=
  ⟨[.set "x" (.deref (.mem (.var "a") false "f" []))], [.set "x" (.mem (.deref (.var "a")) false "f" [])],
    by decide +kernel, by simp [eraseL, eraseS], by decide +kernel, by decide +kernel⟩

end FaxVerif.C02
