/-
C02 — (static well-formedness part) every identifier the translator introduces is declared in a
scope that encloses all its uses and initialised before its first read.

`WellFormed` (lean/FaxVerif/Cpp/Check.lean) is a checker evaluated on the implementation's own
parsed output on every run; the theorems say what acceptance guarantees for ALL executions.
The package-completeness part of C02 (files, mode bits, no template directive left) is decided by
the rendered-template theorems of C14 and the file checks of tools/props/c02.py.
-/
import FaxVerif.Cpp.EventLocal
namespace FaxVerif.C02
open FaxVerif.Cpp
variable {D : Type}

/-- **C02.wf_no_unbound** — a package accepted by `WellFormed` never reads an undeclared name or
a declared-but-uninitialised one, never assigns to an undeclared name and never fills the tree
from an unset column: for every number model, every event and every (clean) class state the
per-event code cannot hit the fault `unbound`. -/
theorem wf_no_unbound (P : Package) (N : Num D) (hP : WellFormed P = true)
    (σc : Env D) (hc : ClassClean P σc) (ev : Event D) (n : String) :
    runEvent P N σc ev ≠ .error (.unbound n) := by
  obtain ⟨⟨s', hda⟩, _, _⟩ := (wellFormed_iff P).1 hP
  unfold runEvent
  rcases body_sound P N hda σc σc hc hc ev with ⟨f, e1, _, hf⟩ | ⟨t, _, e1, _, _, _⟩
  · rw [e1]; exact fun h => hf n (Except.error.inj h)
  · rw [e1]; nofun

/-- **C02.wf_no_unbound_job** — the same for a whole job from the initial class state, provided
the package is also event-local (so that the class state stays clean between events). -/
theorem wf_no_unbound_job (P : Package) (N : Num D) (hP : EventLocal P = true)
    (evs : List (Event D)) (n : String) : runJob P N evs ≠ .error (.unbound n) := by
  have hwf := ((eventLocal_iff P).1 hP).1
  have h0 := wellFormed_init (D := D) P hwf
  rw [runJob, runJobFrom_eq P N hP evs _ h0]
  intro h
  obtain ⟨ev, _, he⟩ := perEvent_error P N h
  exact wf_no_unbound P N hwf _ h0 ev n he

/-- **C02.block_scoped** — acceptance is scoped: the analysis forgets, at every closing brace, the names
declared inside it, so a use after the block that declared the name is rejected. Stated on the
checker: the set of declared names after a block equals the set before it. -/
theorem block_scoped (C : DACtx) (body : List Stmt) (s s' : DA) (h : da C (.block body) s = some s') :
    s'.D = s.D ∧ ∀ x ∈ s'.A, x ∈ s.D := by
  obtain ⟨s1, _, rfl⟩ := da_block_iff.1 h
  exact ⟨rfl, fun x hx => ((mem_restrict_A ..).1 hx).2⟩

/-- **C02.declared_once** — an accepted program never declares a name that is already declared
on the path to that point (no redeclaration, no shadowing of generated names). -/
theorem declared_once (C : DACtx) (ty n : String) (init : Option CExpr) (s s' : DA)
    (h : da C (.decl ty n init) s = some s') : n ∉ s.D ∧ n ∈ s'.D := by
  obtain ⟨hn, hD, _⟩ := da_decl_shape h
  exact ⟨hn, hD ▸ List.mem_cons_self ..⟩

example : WellFormed (FaxVerif.Cpp.Package.mk (.block []) [] [] "" []) = true := by decide +kernel

/-- the checker accepts the `First()` idiom (flag, guarded capture in the loop, emptiness check,
use of the captured value) — the path-sensitive facts of `da` are what make it acceptable -/
example : WellFormed (FaxVerif.Cpp.Package.mk
    (.block [.decl "bool" "is_first" (some (.bool true)), .decl "std::vector<double>" "v" none,
      .loop "i" (.var "v") [.ite (.var "is_first") [.set "is_first" (.bool false), .set "col" (.var "i")] []],
      .ite (.var "is_first") [.throw "First() called on an empty sequence"] [],
      .fill "t"])
    [("double", "col")] [("col", "col")] "t" []) = true := by decide +kernel

/-- … and rejects the same program without the emptiness check (the column may be unset) -/
example : WellFormed (FaxVerif.Cpp.Package.mk
    (.block [.decl "bool" "is_first" (some (.bool true)), .decl "std::vector<double>" "v" none,
      .loop "i" (.var "v") [.ite (.var "is_first") [.set "is_first" (.bool false), .set "col" (.var "i")] []],
      .fill "t"])
    [("double", "col")] [("col", "col")] "t" []) = false := by decide +kernel

/-- … and when the flag is lowered without capturing the value -/
example : WellFormed (FaxVerif.Cpp.Package.mk
    (.block [.decl "bool" "is_first" (some (.bool true)), .decl "std::vector<double>" "v" none,
      .loop "i" (.var "v") [.ite (.var "is_first") [.set "is_first" (.bool false)] []],
      .ite (.var "is_first") [.throw "First() called on an empty sequence"] [],
      .fill "t"])
    [("double", "col")] [("col", "col")] "t" []) = false := by decide +kernel

end FaxVerif.C02
