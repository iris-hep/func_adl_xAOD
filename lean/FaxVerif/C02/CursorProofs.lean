/-
C02 — the invariant of the cursor state machine and the lemmas behind the
property theorems of TheoremsCursor.lean.

The text a tree writes is followed through `items_upd`: a method call on one block object rewrites
the contiguous segment that block writes and nothing else. What a returning call of `step` can do to
the state is listed once (`Effect`, `step_effect`); the invariants `Inv` and `PInv` are shown to be
kept by each effect, not by each of the 19 operations (`TInv.insert`: what a call that inserts labels keeps;
`path_induction`: tree and path walked together; `PInv` only by the effects whose flag is `false`, `Effect.path`), and lifted to runs by
`run_induction`. In front of these, the order on tokens (`startsWith_iff`, `Extends`); after them, the two include
lists as the append-unless-present fold of Common/AddNew.lean over the run's requests (`incStep`, `run_incStep`;
`dedupFirst_eq`: the specification's `dedupFirst` is `List.eraseDups`), `declared_encloses_line`, and the emitter
(`indent_eq_render`, `block_segment`).
-/
import FaxVerif.C02.CursorSpec
import FaxVerif.Common.AddNew
namespace FaxVerif.C02.Cursor

theorem zip_all_eq_iff_prefix : ∀ (a c : List Nat), c.length ≤ a.length →
    ((a.zip c).all (fun p => p.1 == p.2) = true ↔ c <+: a)
  | a, [] , _ => by simp
  | [], y :: c, h => by simp at h
  | x :: a, y :: c, h => by
    rw [List.zip_cons_cons, List.all_cons, Bool.and_eq_true, beq_iff_eq, List.cons_prefix_cons,
      zip_all_eq_iff_prefix a c (Nat.le_of_succ_le_succ h), eq_comm]

theorem startsWith_iff (a c : Token) : a.startsWith c = true ↔ a.Extends c := by
  cases a with
  | top => cases c <;> simp [Token.startsWith, Token.Extends, Token.isTop]
  | stack a =>
    cases c with
    | top => simp [Token.startsWith, Token.Extends]
    | stack c =>
      simp only [Token.startsWith, Token.Extends]
      by_cases h : c.length > a.length
      · simp only [h, if_true]
        constructor
        · intro h'; cases h'
        · intro hp; have := hp.length_le; omega
      · simp only [h, if_false]
        have hle : c.length ≤ a.length := by omega
        rw [List.take_of_length_le hle]
        exact zip_all_eq_iff_prefix a c hle

theorem Extends.refl (a : Token) : a.Extends a := by
  cases a <;> simp [Token.Extends]

theorem Extends.trans {a b c : Token} (h1 : a.Extends b) (h2 : b.Extends c) : a.Extends c := by
  cases a <;> cases b <;> cases c <;> simp_all [Token.Extends]
  exact h2.trans h1

theorem Extends.antisymm {a b : Token} (h1 : a.Extends b) (h2 : b.Extends a) : a = b := by
  cases a <;> cases b <;> simp_all [Token.Extends]
  exact List.IsPrefix.eq_of_length_le h2 (h1.length_le)

theorem pySliceTo_neg (l : List Nat) (k : Nat) (hk : 0 < k) : pySliceTo l (-(k : Int)) = l.take (l.length - k) := by
  have : ¬ (-(k : Int) ≥ 0) := by omega
  rw [pySliceTo, if_neg this, Int.neg_neg, Int.toNat_natCast]

theorem getItem_ok {t t' : Token} {key : Int} (h : t.getItem key = .ok t') :
    ∃ a n, t = .stack a ∧ t' = .stack (a.take n) := by
  cases t with
  | top => cases h
  | stack a =>
    dsimp only [Token.getItem] at h
    split at h
    · cases h
    · cases h; unfold pySliceTo; split <;> exact ⟨a, _, rfl, rfl⟩

theorem dropLasts_eq_take : ∀ (k : Nat) (l : List Nat), dropLasts k l = l.take (l.length - k)
  | 0, l => List.take_length.symm
  | k + 1, l => by
    rw [dropLasts, dropLasts_eq_take k l, List.dropLast_eq_take, List.take_take, List.length_take,
      Nat.min_eq_left (Nat.sub_le _ _), Nat.min_eq_left (Nat.sub_le _ _), Nat.sub_sub]

theorem filterMap_hdrItems {g : Item → Option Nat} (hg : ∀ b t, g (.hdr b t) = none) (info : BInfo) :
    (hdrItems info).filterMap g = [] := by
  unfold hdrItems
  cases info.kind.header with
  | none => rfl
  | some t => exact List.filterMap_cons_none (hg _ _)

theorem mem_hdrItems {info : BInfo} {it : Item} (h : it ∈ hdrItems info) :
    ∃ t, info.kind.header = some t ∧ it = .hdr info.id t := by
  unfold hdrItems at h
  cases hh : info.kind.header with
  | none => rw [hh] at h; cases h
  | some t => rw [hh] at h; exact ⟨t, rfl, List.mem_singleton.mp h⟩

theorem filterMap_decls {g : Item → Option Nat} (hg : ∀ b v, g (.decl b v) = none) (b : Nat) (vars : List Var) :
    (vars.map (Item.decl b)).filterMap g = [] := by
  induction vars with
  | nil => rfl
  | cons v vs ih => rw [List.map_cons, List.filterMap_cons_none (hg _ _), ih]

namespace Forest

theorem items_append (a b : Forest) : (a.append b).items = a.items ++ b.items := by
  induction a with
  | nil => rfl
  | plain i p r ih => simp only [append, items, ih, List.cons_append]
  | blk info body r _ ihr => simp only [append, items, ihr, List.append_assoc, List.cons_append]

theorem filterMap_items_blk (g : Item → Option Nat) (hd : ∀ b v, g (.decl b v) = none) (info : BInfo) (body r : Forest) :
    (blk info body r).items.filterMap g = (hdrItems info).filterMap g ++
      ([Item.opn info.id].filterMap g ++ (body.items.filterMap g ++ ([Item.cls info.id].filterMap g ++ r.items.filterMap g))) := by
  show (hdrItems info ++ ([Item.opn info.id] ++ (info.vars.map (Item.decl info.id) ++ (body.items ++ ([Item.cls info.id] ++ r.items))))).filterMap g = _
  simp only [List.filterMap_append, filterMap_decls hd, List.nil_append]

theorem blockIds_eq (t : Forest) : t.blockIds = t.items.filterMap Item.opnId? := by
  induction t with
  | nil => rfl
  | plain i p r ih => exact ih
  | blk info body r ihb ihr =>
    rw [filterMap_items_blk _ (fun _ _ => rfl), filterMap_hdrItems (fun _ _ => rfl), blockIds, ihb, ihr]; rfl

theorem ids_eq (t : Forest) : t.ids = t.items.filterMap Item.stmtId? := by
  induction t with
  | nil => rfl
  | plain i p r ih => exact congrArg (i :: ·) ih
  | blk info body r ihb ihr =>
    rw [filterMap_items_blk _ (fun _ _ => rfl), filterMap_hdrItems (fun _ _ => rfl), ids, ihb, ihr]; rfl

theorem clsIds_perm (t : Forest) : (t.items.filterMap Item.clsId?).Perm t.blockIds := by
  induction t with
  | nil => exact .refl _
  | plain i p r ih => exact ih
  | blk info body r ihb ihr =>
    rw [filterMap_items_blk _ (fun _ _ => rfl), filterMap_hdrItems (fun _ _ => rfl)]
    exact List.perm_middle.trans ((ihb.append ihr).cons _)

theorem hdrIds_sublist (t : Forest) : (t.items.filterMap Item.hdrId?).Sublist t.blockIds := by
  induction t with
  | nil => exact .refl _
  | plain i p r ih => exact ih
  | blk info body r ihb ihr =>
    have hs : ((hdrItems info).filterMap Item.hdrId?).Sublist [info.id] := by
      unfold hdrItems; cases info.kind.header with
      | none => exact List.nil_sublist _
      | some h => exact .refl _
    rw [filterMap_items_blk _ (fun _ _ => rfl)]
    exact hs.append (ihb.append ihr)

theorem blockIds_sublist_ids (t : Forest) : t.blockIds.Sublist t.ids := by
  induction t with
  | nil => exact .refl _
  | plain i p r ih => exact List.Sublist.cons _ ih
  | blk info body r ihb ihr => exact List.Sublist.cons_cons _ (ihb.append ihr)

theorem upd_of_not_mem (k : Nat) (f) (t : Forest) (h : k ∉ t.blockIds) : t.upd k f = t := by
  induction t with
  | nil => rfl
  | plain i p r ih => rw [upd, ih h]
  | blk info body r ihb ihr =>
    simp only [blockIds, List.mem_cons, List.mem_append, not_or] at h
    rw [upd, if_neg (fun e => h.1 e.symm), ihb h.2.1, ihr h.2.2]

theorem find_none_iff (k : Nat) (t : Forest) : t.find k = none ↔ k ∉ t.blockIds := by
  induction t with
  | nil => simp [find, blockIds]
  | plain i p r ih => exact ih
  | blk info body r ihb ihr =>
    by_cases hk : info.id = k
    · simp [find, blockIds, hk]
    · have hk' : ¬ k = info.id := fun e => hk e.symm
      simp only [find, hk, if_false, blockIds, List.mem_cons, List.mem_append, hk', false_or, not_or, ← ihb, ← ihr]
      cases find k body <;> simp

theorem mem_of_find_some {k : Nat} {t : Forest} {x} (h : t.find k = some x) : k ∈ t.blockIds :=
  Classical.byContradiction fun hn => by rw [(find_none_iff k t).mpr hn] at h; cases h

end Forest

def blockItems (info : BInfo) (body : Forest) : List Item :=
  hdrItems info ++ (.opn info.id :: (info.vars.map (Item.decl info.id) ++ (body.items ++ [.cls info.id])))

theorem items_upd (k : Nat) (t : Forest) (hn : t.blockIds.Nodup) (hk : k ∈ t.blockIds) :
    ∃ info body pre post, t.find k = some (info, body) ∧ info.id = k ∧
      t.items = pre ++ blockItems info body ++ post ∧
      ∀ f, (t.upd k f).items = pre ++ blockItems (f info body).1 (f info body).2 ++ post := by
  induction t with
  | nil => cases hk
  | plain i p r ih =>
    obtain ⟨info, body, pre, post, hf, hid, h1, h2⟩ := ih hn hk
    exact ⟨info, body, .stmt i p.line :: pre, post, hf, hid, congrArg (Item.stmt i p.line :: ·) h1,
      fun f => congrArg (Item.stmt i p.line :: ·) (h2 f)⟩
  | blk i b r ihb ihr =>
    simp only [Forest.blockIds, List.nodup_cons, List.nodup_append, List.mem_append, not_or] at hn
    obtain ⟨⟨_, hir⟩, hnb, hnr, hdisj⟩ := hn
    by_cases hik : i.id = k
    · refine ⟨i, b, [], r.items, by simp only [Forest.find, hik, if_true], hik, ?_, fun f => ?_⟩
      · simp only [Forest.items, blockItems, List.nil_append, List.append_assoc, List.cons_append]
      · simp only [Forest.items, Forest.upd, if_pos hik, blockItems, Forest.upd_of_not_mem k f r (hik ▸ hir), List.nil_append,
          List.append_assoc, List.cons_append]
    · by_cases hkb : k ∈ b.blockIds
      · have hkr : k ∉ r.blockIds := fun hr => hdisj k hkb k hr rfl
        obtain ⟨info, body, pre, post, hf, hid, h1, h2⟩ := ihb hnb hkb
        refine ⟨info, body, hdrItems i ++ (.opn i.id :: (i.vars.map (Item.decl i.id) ++ pre)), post ++ (.cls i.id :: r.items),
          by simp only [Forest.find, hik, if_false, hf], hid, ?_, fun f => ?_⟩
        · simp only [Forest.items, h1, List.append_assoc, List.cons_append]
        · simp only [Forest.items, Forest.upd, if_neg hik, h2, Forest.upd_of_not_mem k f r hkr, List.append_assoc, List.cons_append]
      · have hkr : k ∈ r.blockIds := by
          simpa only [Forest.blockIds, List.mem_cons, List.mem_append, Ne.symm hik, hkb, false_or] using hk
        obtain ⟨info, body, pre, post, hf, hid, h1, h2⟩ := ihr hnr hkr
        refine ⟨info, body, hdrItems i ++ (.opn i.id :: (i.vars.map (Item.decl i.id) ++ (b.items ++ (.cls i.id :: pre)))), post,
          by simp only [Forest.find, hik, if_false, (Forest.find_none_iff k b).mpr hkb, hf], hid, ?_, fun f => ?_⟩
        · simp only [Forest.items, h1, List.append_assoc, List.cons_append]
        · simp only [Forest.items, Forest.upd, if_neg hik, h2, Forest.upd_of_not_mem k f b hkb, List.append_assoc, List.cons_append]

theorem before_of_mem {L : List Item} {p q : List Item} {x y : Item} (hL : L = p ++ q) (hx : x ∈ p) (hy : y ∈ q) :
    Before L x y := ⟨p, q, hL, hx, hy⟩

theorem Before.mono {L L' : List Item} {x y : Item} (h : Before L x y) (hs : L.Sublist L') : Before L' x y := by
  obtain ⟨r₁, r₂, rfl, hx, hy⟩ := h
  obtain ⟨l₁, l₂, rfl, h1, h2⟩ := List.append_sublist_iff.mp hs
  exact ⟨l₁, l₂, rfl, h1.subset hx, h2.subset hy⟩

theorem Before.mem_left {L : List Item} {x y : Item} (h : Before L x y) : x ∈ L := by
  obtain ⟨r₁, r₂, rfl, hx, _⟩ := h; exact List.mem_append_left _ hx

theorem Before.mem_right {L : List Item} {x y : Item} (h : Before L x y) : y ∈ L := by
  obtain ⟨r₁, r₂, rfl, _, hy⟩ := h; exact List.mem_append_right _ hy

theorem Before.left_of_split {p q : List Item} {x y : Item} (h : Before (p ++ y :: q) x y)
    (hq : y ∉ q) : x ∈ p := by
  obtain ⟨r₁, r₂, he, hx, hy⟩ := h
  rcases List.append_eq_append_iff.mp he with ⟨a', h1, h2⟩ | ⟨c', h1, h2⟩
  · cases a' with
    | nil => rw [List.append_nil] at h1; exact h1 ▸ hx
    | cons z a'' =>
      obtain ⟨rfl, rfl⟩ := List.cons.inj h2
      exact absurd (List.mem_append_right _ hy) hq
  · exact h1 ▸ List.mem_append_left _ hx

theorem Before.right_of_split {p q : List Item} {x y : Item} (h : Before (p ++ x :: q) x y)
    (hp : x ∉ p) : y ∈ q := by
  obtain ⟨r₁, r₂, he, hx, hy⟩ := h
  rcases List.append_eq_append_iff.mp he with ⟨a', h1, h2⟩ | ⟨c', h1, h2⟩
  · cases a' with
    | nil => rw [List.append_nil] at h1; exact absurd (h1 ▸ hx) hp
    | cons z a'' =>
      obtain ⟨rfl, rfl⟩ := List.cons.inj h2
      exact List.mem_append_right _ hy
  · exact absurd (h1 ▸ List.mem_append_left c' hx) hp

theorem not_mem_of_nodup_split {A B : List Item} {x : Item} (hn : (A ++ x :: B).Nodup) : x ∉ A ∧ x ∉ B := by
  obtain ⟨_, hB, hd⟩ := List.nodup_append.mp hn
  exact ⟨fun hx => hd x hx x List.mem_cons_self rfl, (List.nodup_cons.mp hB).1⟩

/-- lines are distinct when each carries a label that no other line carries -/
theorem nodup_of_labels {L : List Item}
    (h : ∀ x ∈ L, ∃ (g : Item → Option Nat) (n : Nat), g x = some n ∧ (L.filterMap g).Nodup) : L.Nodup := by
  induction L with
  | nil => exact .nil
  | cons x L ih =>
    refine List.nodup_cons.mpr ⟨fun hx => ?_, ih fun y hy => ?_⟩
    · obtain ⟨g, n, hg, hn⟩ := h x List.mem_cons_self
      rw [List.filterMap_cons_some hg, List.nodup_cons] at hn
      exact hn.1 (List.mem_filterMap.mpr ⟨x, hx, hg⟩)
    · obtain ⟨g, n, hg, hn⟩ := h y (List.mem_cons_of_mem _ hy)
      exact ⟨g, n, hg, hn.sublist ((List.sublist_cons_self x L).filterMap g)⟩

theorem upd_add_items {t : Forest} {k : Nat} (new : Forest) (hn : t.blockIds.Nodup) (hk : k ∈ t.blockIds) :
    ∃ A post, t.items = A ++ .cls k :: post ∧ (t.upd k (fAdd new)).items = A ++ (new.items ++ .cls k :: post) ∧
      Item.opn k ∈ A := by
  obtain ⟨info, body, pre, post, _, rfl, h1, h2⟩ := items_upd k t hn hk
  refine ⟨pre ++ (hdrItems info ++ (.opn info.id :: (info.vars.map (Item.decl info.id) ++ body.items))), post, ?_, ?_, ?_⟩
  · rw [h1]; simp only [blockItems, List.append_assoc, List.cons_append, List.nil_append]
  · rw [h2 (fAdd new)]; simp only [blockItems, fAdd, Forest.items_append, List.append_assoc, List.cons_append, List.nil_append]
  · exact List.mem_append_right _ (List.mem_append_right _ List.mem_cons_self)

theorem upd_declare_items {t : Forest} {k : Nat} (v : Var) (hn : t.blockIds.Nodup) (hk : k ∈ t.blockIds) :
    ∃ A B, t.items = A ++ B ∧ (t.upd k (fDeclare v)).items = A ++ .decl k v :: B ∧
      Item.opn k ∈ A ∧ Item.cls k ∈ B := by
  obtain ⟨info, body, pre, post, _, rfl, h1, h2⟩ := items_upd k t hn hk
  refine ⟨pre ++ (hdrItems info ++ (.opn info.id :: info.vars.map (Item.decl info.id))), body.items ++ .cls info.id :: post, ?_, ?_, ?_, ?_⟩
  · rw [h1]; simp only [blockItems, List.append_assoc, List.cons_append, List.nil_append]
  · rw [h2 (fDeclare v)]
    show pre ++ (hdrItems info ++ .opn info.id :: ((info.vars ++ [v]).map (Item.decl info.id) ++ (body.items ++ [.cls info.id]))) ++ post = _
    simp only [List.map_append, List.map_cons, List.map_nil, List.append_assoc, List.cons_append, List.nil_append]
  · exact List.mem_append_right _ (List.mem_append_right _ List.mem_cons_self)
  · exact List.mem_append_right _ List.mem_cons_self

theorem upd_setRep_items {t : Forest} {k : Nat} (a b : String) (hn : t.blockIds.Nodup) (hk : k ∈ t.blockIds) :
    (t.upd k (fSetRep a b)).items = t.items := by
  obtain ⟨info, body, pre, post, _, _, h1, h2⟩ := items_upd k t hn hk
  rw [h1, h2 (fSetRep a b)]; rfl

theorem upd_wrap_items {t : Forest} {k : Nat} (n : Nat) (kd : Kind) (hn : t.blockIds.Nodup) (hk : k ∈ t.blockIds) :
    ∃ A M R, t.items = A ++ (M ++ R) ∧
      (t.upd k (fWrap ⟨n, kd, [], []⟩)).items = A ++ ((hdrItems ⟨n, kd, [], []⟩ ++ [.opn n]) ++ (M ++ (.cls n :: R))) := by
  obtain ⟨info, body, pre, post, _, rfl, h1, h2⟩ := items_upd k t hn hk
  refine ⟨pre ++ (hdrItems info ++ (.opn info.id :: info.vars.map (Item.decl info.id))), body.items, .cls info.id :: post, ?_, ?_⟩
  · rw [h1]; simp only [blockItems, List.append_assoc, List.cons_append, List.nil_append]
  · rw [h2 (fWrap ⟨n, kd, [], []⟩)]
    simp only [blockItems, fWrap, Forest.items, List.map_nil, List.append_assoc, List.cons_append, List.nil_append]

theorem sublist_insert (A ins B : List Item) : (A ++ B).Sublist (A ++ (ins ++ B)) :=
  (List.Sublist.refl A).append (List.sublist_append_right ins B)

theorem perm_insert (A ins B : List Item) : (A ++ (ins ++ B)).Perm ((A ++ B) ++ ins) := by
  rw [List.append_assoc]; exact List.perm_append_comm.append_left A

theorem newBlock_items (n : Nat) (k : Kind) :
    (newStmtForest n (.block k)).items = hdrItems ⟨n, k, [], []⟩ ++ [.opn n, .cls n] := rfl

theorem newStmt_labels (n : Nat) (st : NewStmt) :
    (newStmtForest n st).items.filterMap Item.stmtId? = [n] ∧ (newStmtForest n st).items.filterMap Item.declId? = [] := by
  cases st with
  | plain p => exact ⟨rfl, rfl⟩
  | block k =>
    rw [newBlock_items, List.filterMap_append, List.filterMap_append, filterMap_hdrItems (fun _ _ => rfl),
      filterMap_hdrItems (fun _ _ => rfl)]
    exact ⟨rfl, rfl⟩

theorem Desc.mono {L L' : List Item} {b c : Nat} (h : Desc L b c) (hs : L.Sublist L') : Desc L' b c :=
  ⟨h.1.mono hs, h.2.mono hs⟩

theorem Inside.mono {L L' : List Item} {b : Nat} {y : Item} (h : Inside L b y) (hs : L.Sublist L') : Inside L' b y :=
  ⟨h.1.mono hs, h.2.mono hs⟩

theorem WfStack.mono {L L' : List Item} {st : List Nat} (h : WfStack L st) (hs : L.Sublist L') : WfStack L' st :=
  ⟨fun b hb => hs.subset (h.1 b hb), h.2.1.imp (fun hd => hd.mono hs), h.2.2⟩

theorem WfStack.take {L : List Item} {st : List Nat} (h : WfStack L st) (n : Nat) : WfStack L (st.take n) := by
  refine ⟨fun b hb => h.1 b (List.mem_of_mem_take hb), h.2.1.sublist (List.take_sublist n st), ?_⟩
  rcases h.2.2 with h0 | h0
  · left; simp [h0]
  · by_cases hn : n = 0
    · left; simp [hn]
    · right; rw [List.head?_take]; simp [hn, h0]

theorem WfStack.nil (L : List Item) : WfStack L [] := ⟨by simp, List.Pairwise.nil, Or.inl rfl⟩

theorem WfStack.last {L : List Item} {st : List Nat} {c : Nat} (h : WfStack L st) (hl : st.getLast? = some c) :
    ∀ b ∈ st, b = c ∨ Desc L b c := by
  obtain ⟨ys, rfl⟩ := List.getLast?_eq_some_iff.mp hl
  intro b hb
  rcases List.mem_append.mp hb with hb | hb
  · exact .inr ((List.pairwise_append.mp h.2.1).2.2 b hb c List.mem_cons_self)
  · exact .inl (List.mem_singleton.mp hb)

theorem WfStack.push {L : List Item} {st : List Nat} {n : Nat} (h : WfStack L st) (hne : st ≠ [])
    (hd : ∀ b ∈ st, Desc L b n) : WfStack L (st ++ [n]) := by
  obtain ⟨c, hc⟩ := List.exists_mem_of_ne_nil st hne
  refine ⟨fun b hb => ?_, List.pairwise_append.mpr ⟨h.2.1, List.pairwise_singleton _ _, fun b hb x hx => ?_⟩, .inr ?_⟩
  · rcases List.mem_append.mp hb with hb | hb
    · exact h.1 b hb
    · exact List.mem_singleton.mp hb ▸ (hd c hc).1.mem_right
  · exact List.mem_singleton.mp hx ▸ hd b hb
  · rw [List.head?_append, h.2.2.resolve_left hne]; rfl

/-- New lines written immediately before the `}` of block `c` lie inside every block that is `c`
or encloses `c`, provided no line occurs twice. -/
theorem inside_of_insert {A post ins : List Item} {b c : Nat} {y : Item}
    (hoc : Item.opn c ∈ A) (hn : (A ++ .cls c :: post).Nodup)
    (hb : b = c ∨ Desc (A ++ .cls c :: post) b c) (hy : y ∈ ins) :
    Inside (A ++ (ins ++ .cls c :: post)) b y := by
  have hafter : ∀ {z}, z ∈ Item.cls c :: post → Before (A ++ (ins ++ .cls c :: post)) y z := fun hz =>
    before_of_mem (p := A ++ ins) (List.append_assoc ..).symm (List.mem_append_right _ hy) hz
  rcases hb with rfl | hd
  · exact ⟨before_of_mem rfl hoc (List.mem_append_left _ hy), hafter List.mem_cons_self⟩
  · obtain ⟨A1, A2, rfl⟩ := List.append_of_mem hoc
    have hob : Item.opn b ∈ A1 := by
      have e : (A1 ++ .opn c :: A2) ++ .cls c :: post = A1 ++ .opn c :: (A2 ++ .cls c :: post) := by simp
      exact (e ▸ hd.1).left_of_split (not_mem_of_nodup_split (e ▸ hn)).2
    have hcb : Item.cls b ∈ post := hd.2.right_of_split (not_mem_of_nodup_split hn).1
    exact ⟨before_of_mem rfl (List.mem_append_left _ hob) (List.mem_append_left _ hy),
      hafter (List.mem_cons_of_mem _ hcb)⟩

theorem before_of_insert {A post ins : List Item} {x y c : Item} (hn : (A ++ c :: post).Nodup)
    (hb : Before (A ++ c :: post) x c) (hy : y ∈ ins) : Before (A ++ (ins ++ c :: post)) x y :=
  before_of_mem rfl (hb.left_of_split (not_mem_of_nodup_split hn).2) (List.mem_append_left _ hy)

structure TInv (t : Forest) (next nextVar : Nat) (cv : List Var) : Prop where
  ids : t.ids.Perm (List.range next)
  vars : (t.items.filterMap Item.declId? ++ cv.map Var.id).Perm (List.range nextVar)
  root : ∃ vars reps body, t = .blk ⟨0, .block, vars, reps⟩ body .nil

structure Inv (s : State) : Prop where
  tree : TInv s.tree s.next s.nextVar s.classVars
  stack : WfStack s.tree.items s.stack
  tokens : ∀ a, Token.stack a ∈ s.tokens → WfStack s.tree.items a

theorem TInv.blockNodup {t n m cv} (h : TInv t n m cv) : t.blockIds.Nodup :=
  (Forest.blockIds_sublist_ids t).nodup ((h.ids.nodup_iff).mpr List.nodup_range)

theorem TInv.items_nodup {t n m cv} (h : TInv t n m cv) : t.items.Nodup :=
  nodup_of_labels fun x _ => by
    cases x with
    | hdr b _ => exact ⟨Item.hdrId?, b, rfl, (Forest.hdrIds_sublist t).nodup h.blockNodup⟩
    | opn b => exact ⟨Item.opnId?, b, rfl, Forest.blockIds_eq t ▸ h.blockNodup⟩
    | decl _ v => exact ⟨Item.declId?, v.id, rfl, (List.nodup_append.mp ((h.vars.nodup_iff).mpr List.nodup_range)).1⟩
    | stmt i _ => exact ⟨Item.stmtId?, i, rfl, Forest.ids_eq t ▸ (h.ids.nodup_iff).mpr List.nodup_range⟩
    | cls b => exact ⟨Item.clsId?, b, rfl, ((Forest.clsIds_perm t).nodup_iff).mpr h.blockNodup⟩

theorem opn_mem_items {t : Forest} {b : Nat} : Item.opn b ∈ t.items ↔ b ∈ t.blockIds := by
  rw [Forest.blockIds_eq, List.mem_filterMap]
  constructor
  · intro h; exact ⟨_, h, rfl⟩
  · rintro ⟨x, hx, hg⟩
    cases x <;> cases hg
    exact hx

theorem root_upd {t : Forest} (hr : ∃ vars reps body, t = .blk ⟨0, .block, vars, reps⟩ body .nil) (k : Nat)
    {f : BInfo → Forest → BInfo × Forest} (hf : ∀ i b, (f i b).1.id = i.id ∧ (f i b).1.kind = i.kind) :
    ∃ vars reps body, t.upd k f = .blk ⟨0, .block, vars, reps⟩ body .nil := by
  obtain ⟨vars, reps, body, rfl⟩ := hr
  rw [Forest.upd]
  split
  · have h0 := hf ⟨0, .block, vars, reps⟩ body
    generalize f ⟨0, .block, vars, reps⟩ body = p at h0 ⊢
    obtain ⟨⟨i, kd, v, r⟩, b'⟩ := p
    dsimp only at h0
    obtain ⟨rfl, rfl⟩ := h0
    exact ⟨v, r, b', rfl⟩
  · exact ⟨vars, reps, _, rfl⟩

/-- A method call that leaves identity and kind of its block alone and puts lines `new` into the
text, carrying the next free statement and declaration identities (or none), keeps `TInv`. -/
theorem TInv.insert {t : Forest} {n m n' m' : Nat} {cv : List Var} (h : TInv t n m cv) {k : Nat}
    {f : BInfo → Forest → BInfo × Forest} (hf : ∀ i b, (f i b).1.id = i.id ∧ (f i b).1.kind = i.kind) {new : List Item}
    (hp : (t.upd k f).items.Perm (t.items ++ new))
    (hs : List.range n ++ new.filterMap Item.stmtId? = List.range n')
    (hd : List.range m ++ new.filterMap Item.declId? = List.range m') : TInv (t.upd k f) n' m' cv := by
  refine ⟨?_, ?_, root_upd h.root k hf⟩
  · have hi := h.ids
    rw [Forest.ids_eq] at hi ⊢
    rw [← hs]
    exact (hp.filterMap _).trans (List.filterMap_append ▸ hi.append_right _)
  · rw [← hd]
    refine ((hp.filterMap _).append_right _).trans ?_
    rw [List.filterMap_append, List.append_assoc]
    refine (List.perm_append_comm.append_left _).trans ?_
    rw [← List.append_assoc]
    exact h.vars.append_right _

theorem TInv.add {t n m cv} (h : TInv t n m cv) {b : Nat} (hb : b ∈ t.blockIds) (st : NewStmt) :
    TInv (t.upd b (fAdd (newStmtForest n st))) (n + 1) m cv ∧
    ∃ A post, t.items = A ++ .cls b :: post ∧
      (t.upd b (fAdd (newStmtForest n st))).items = A ++ ((newStmtForest n st).items ++ .cls b :: post) ∧ Item.opn b ∈ A := by
  obtain ⟨A, post, h1, h2, h3⟩ := upd_add_items (newStmtForest n st) h.blockNodup hb
  refine ⟨h.insert (fun _ _ => ⟨rfl, rfl⟩) (new := (newStmtForest n st).items) (h1 ▸ h2 ▸ perm_insert ..) ?_ ?_,
    A, post, h1, h2, h3⟩
  · rw [(newStmt_labels n st).1]; exact List.range_succ.symm
  · rw [(newStmt_labels n st).2]; exact List.append_nil _

theorem TInv.declare {t n m cv} (h : TInv t n m cv) {b : Nat} (hb : b ∈ t.blockIds) (v : VarSpec) :
    TInv (t.upd b (fDeclare ⟨m, v⟩)) n (m + 1) cv ∧
    ∃ A B, t.items = A ++ B ∧ (t.upd b (fDeclare ⟨m, v⟩)).items = A ++ .decl b ⟨m, v⟩ :: B ∧ Item.opn b ∈ A ∧ Item.cls b ∈ B := by
  obtain ⟨A, B, h1, h2, h3, h4⟩ := upd_declare_items ⟨m, v⟩ h.blockNodup hb
  exact ⟨h.insert (fun _ _ => ⟨rfl, rfl⟩) (new := [.decl b ⟨m, v⟩]) (h1 ▸ h2 ▸ perm_insert A [_] B) (List.append_nil _)
    List.range_succ.symm, A, B, h1, h2, h3, h4⟩

theorem TInv.setRep {t n m cv} (h : TInv t n m cv) {b : Nat} (hb : b ∈ t.blockIds) (k v : String) :
    TInv (t.upd b (fSetRep k v)) n m cv ∧ (t.upd b (fSetRep k v)).items = t.items := by
  have he := upd_setRep_items k v h.blockNodup hb
  exact ⟨h.insert (fun _ _ => ⟨rfl, rfl⟩) (new := []) (by rw [he, List.append_nil]) (List.append_nil _) (List.append_nil _), he⟩

theorem TInv.wrap {t n m cv} (h : TInv t n m cv) {b : Nat} (hb : b ∈ t.blockIds) (kd : Kind) :
    TInv (t.upd b (fWrap ⟨n, kd, [], []⟩)) (n + 1) m cv ∧
    t.items.Sublist (t.upd b (fWrap ⟨n, kd, [], []⟩)).items := by
  obtain ⟨A, M, R, h1, h2⟩ := upd_wrap_items n kd h.blockNodup hb
  refine ⟨h.insert (fun _ _ => ⟨rfl, rfl⟩) (new := [.cls n] ++ (hdrItems ⟨n, kd, [], []⟩ ++ [.opn n])) ?_ ?_ ?_, ?_⟩
  · rw [h1, h2, ← List.append_assoc (A ++ (M ++ R)), List.append_assoc A]
    exact (perm_insert A _ _).trans (((perm_insert M [.cls n] R).append_left A).append_right _)
  · rw [List.filterMap_append, List.filterMap_append, filterMap_hdrItems (fun _ _ => rfl)]; exact List.range_succ.symm
  · rw [List.filterMap_append, List.filterMap_append, filterMap_hdrItems (fun _ _ => rfl)]; exact List.append_nil _
  · rw [h1, h2]
    exact (sublist_insert A _ _).trans ((List.Sublist.refl _).append ((List.Sublist.refl _).append (sublist_insert M [_] R)))

theorem TInv.classVar {t n m cv} (h : TInv t n m cv) (v : VarSpec) : TInv t n (m + 1) (cv ++ [⟨m, v⟩]) :=
  ⟨h.ids, by rw [List.map_append, ← List.append_assoc, List.range_succ]; exact h.vars.append_right _, h.root⟩

def Scope (s : State) (a' : List Nat) : Prop :=
  ∃ a n, (a = s.stack ∨ Token.stack a ∈ s.tokens) ∧ a' = a.take n

theorem Scope.cursor (s : State) : Scope s s.stack := ⟨_, _, .inl rfl, List.take_length.symm⟩

theorem Scope.token {s : State} {a : List Nat} (h : Token.stack a ∈ s.tokens) : Scope s a :=
  ⟨_, _, .inr h, List.take_length.symm⟩

theorem Scope.take {s : State} {a : List Nat} (h : Scope s a) (n : Nat) : Scope s (a.take n) := by
  obtain ⟨a₀, m, h₀, rfl⟩ := h; exact ⟨a₀, _, h₀, List.take_take⟩

/-- The ways a call that returns changes the state (`step_effect`); the flag marks the `below=` form.
Includes and libraries play no part in the invariants and are left open in the first case. -/
inductive Effect (s : State) : Bool → State → Prop
  | quiet (I L : List String) : Effect s false { s with includes := I, libs := L }
  | token (t : Token) (ht : ∀ a, t = .stack a → Scope s a) : Effect s false { s with tokens := s.tokens ++ [t] }
  | goto (a : List Nat) (ha : Scope s a) : Effect s false { s with stack := a }
  | addPlain (b : Nat) (p : Plain) (hb : s.stack.getLast? = some b) :
      Effect s false { s with tree := s.tree.upd b (fAdd (.plain s.next p .nil)), next := s.next + 1 }
  | addBlock (b : Nat) (k : Kind) (hb : s.stack.getLast? = some b) :
      Effect s false { s with tree := s.tree.upd b (fAdd (.blk ⟨s.next, k, [], []⟩ .nil .nil)),
                              stack := s.stack ++ [s.next], next := s.next + 1 }
  | wrap (b : Nat) (k : Kind) (hb : b ∈ s.tree.blockIds) :
      Effect s true { s with tree := s.tree.upd b (fWrap ⟨s.next, k, [], []⟩), next := s.next + 1 }
  | declare (a : List Nat) (b : Nat) (v : VarSpec) (ha : Scope s a) (hb : a.getLast? = some b) :
      Effect s false (s.declareIn b v).1
  | classVar (v : VarSpec) :
      Effect s false { s with classVars := s.classVars ++ [⟨s.nextVar, v⟩], nextVar := s.nextVar + 1 }
  | setRep (b : Nat) (k v : String) (hb : s.stack.getLast? = some b) :
      Effect s false { s with tree := s.tree.upd b (fSetRep k v) }

theorem tok_mem {s : State} {i : Nat} {t : Token} (h : s.tok? i = .ok t) : t ∈ s.tokens := by
  unfold State.tok? at h
  split at h
  · rename_i t' ht; cases h; exact List.mem_of_getElem? ht
  · cases h

theorem tok?_pushTok (s : State) (t : Token) : (s.pushTok t).1.tok? s.tokens.length = .ok t := by
  simp [State.pushTok, State.tok?]

theorem step_setScope_stack {s : State} {i : Nat} {a : List Nat} (h : s.tok? i = .ok (.stack a)) :
    step s (.setScope i) = .ok ({ s with stack := a }, .unit) := by
  dsimp only [step]; rw [h]

theorem step_addPlain_ok {s s' : State} {o : Out} {p : Plain} (hs : step s (.addPlain p) = .ok (s', o)) :
    ∃ b, s.stack.getLast? = some b ∧
      s' = { s with tree := s.tree.upd b (fAdd (.plain s.next p .nil)), next := s.next + 1 } ∧ o = .newId s.next := by
  dsimp only [step] at hs
  cases hl : s.stack.getLast? with
  | none => rw [hl] at hs; cases hs
  | some b => rw [hl] at hs; cases hs; exact ⟨b, rfl, rfl, rfl⟩

theorem step_addBlock_ok {s s' : State} {o : Out} {k : Kind} (hs : step s (.addBlock k) = .ok (s', o)) :
    ∃ b, s.stack.getLast? = some b ∧
      s' = { s with tree := s.tree.upd b (fAdd (.blk ⟨s.next, k, [], []⟩ .nil .nil)),
                    stack := s.stack ++ [s.next], next := s.next + 1 } ∧ o = .newId s.next := by
  dsimp only [step] at hs
  cases hl : s.stack.getLast? with
  | none => rw [hl] at hs; cases hs
  | some b => rw [hl] at hs; cases hs; exact ⟨b, rfl, rfl, rfl⟩

theorem step_decl {s s1 : State} {o1 : Out} {dop : Op} {a : List Nat} {v : VarSpec}
    (hd : declTarget s dop = some (a, v)) (h1 : step s dop = .ok (s1, o1)) :
    ∃ b, Scope s a ∧ a.getLast? = some b ∧ s1 = (s.declareIn b v).1 ∧ o1 = .newId s.nextVar := by
  cases dop with
  | declareVar w =>
    cases hd
    dsimp only [step] at h1
    cases hl : s.stack.getLast? with
    | none => rw [hl] at h1; cases h1
    | some b => rw [hl] at h1; cases h1; exact ⟨b, .cursor s, rfl, rfl, rfl⟩
  | declareAt i w =>
    dsimp only [declTarget] at hd
    split at hd
    · rename_i a' ha'
      cases hd
      dsimp only [step, State.tok?] at h1
      rw [ha'] at h1
      dsimp only at h1
      cases hl : a.getLast? with
      | none => rw [hl] at h1; cases h1
      | some b => rw [hl] at h1; cases h1; exact ⟨b, .token (List.mem_of_getElem? ha'), rfl, rfl, rfl⟩
    · cases hd
  | _ => cases hd

def incStep (I : List String) (r : Option String) : List String :=
  match r with
  | some p => if p ∈ I then I else I ++ [p]
  | none => I

theorem step_effect {s s' : State} {o : Out} {op : Op} (hs : step s op = .ok (s', o)) :
    Effect s op.isBelow s' ∧
      s'.includes = incStep s.includes (includeReq? op) ∧ s'.libs = incStep s.libs (libraryReq? op) := by
  cases op with
  | addPlain p => obtain ⟨b, hl, rfl, _⟩ := step_addPlain_ok hs; exact ⟨.addPlain b p hl, rfl, rfl⟩
  | addBlock k => obtain ⟨b, hl, rfl, _⟩ := step_addBlock_ok hs; exact ⟨.addBlock b k hl, rfl, rfl⟩
  | addBelow target st =>
    dsimp only [step] at hs
    split at hs
    · cases hs
    · split at hs
      · cases hs
      · rename_i x hx
        split at hs
        · cases hs
        · cases hs; exact ⟨.wrap target _ (Forest.mem_of_find_some hx), rfl, rfl⟩
  | pop => cases hs; exact ⟨.goto _ (List.dropLast_eq_take ▸ (Scope.cursor s).take _), rfl, rfl⟩
  | saveScope => cases hs; exact ⟨.token _ (fun a e => by cases e; exact .cursor s), rfl, rfl⟩
  | saveTop => cases hs; exact ⟨.token _ (fun a e => nomatch e), rfl, rfl⟩
  | setScope i =>
    dsimp only [step] at hs
    split at hs
    · cases hs
    · cases hs; exact ⟨.goto _ ((Scope.cursor s).take 1), rfl, rfl⟩
    · rename_i a ha; cases hs; exact ⟨.goto a (.token (tok_mem ha)), rfl, rfl⟩
  | setTop => cases hs; exact ⟨.goto _ ((Scope.cursor s).take 1), rfl, rfl⟩
  | setScopeNone => cases hs
  | up i key =>
    dsimp only [step] at hs
    split at hs
    · cases hs
    · rename_i t ht
      split at hs
      · cases hs
      · rename_i t' ht'
        cases hs
        obtain ⟨a, n, rfl, rfl⟩ := getItem_ok ht'
        exact ⟨.token _ fun _ e => by cases e; exact (Scope.token (tok_mem ht)).take n, rfl, rfl⟩
  | declareVar v => obtain ⟨b, ha, hl, rfl, _⟩ := step_decl rfl hs; exact ⟨.declare _ b v ha hl, rfl, rfl⟩
  | declareAt i v =>
    dsimp only [step] at hs
    split at hs
    · cases hs
    · cases hs
    · rename_i a ha
      split at hs
      · cases hs
      · rename_i b hl; cases hs; exact ⟨.declare a b v (.token (tok_mem ha)) hl, rfl, rfl⟩
  | declareClassVar v => cases hs; exact ⟨.classVar v, rfl, rfl⟩
  | addInclude p => cases hs; exact ⟨.quiet _ _, rfl, rfl⟩
  | addLibrary l => cases hs; exact ⟨.quiet _ _, rfl, rfl⟩
  | setRep k v =>
    dsimp only [step] at hs
    split at hs
    · cases hs
    · rename_i b hl
      split at hs
      · cases hs
      · cases hs; exact ⟨.setRep b k v hl, rfl, rfl⟩
  | getRep k => cases hs; exact ⟨.quiet _ _, rfl, rfl⟩
  | startsWith a b =>
    dsimp only [step] at hs
    split at hs
    · cases hs; exact ⟨.quiet _ _, rfl, rfl⟩
    · cases hs
  | deepest a b =>
    dsimp only [step] at hs
    split at hs
    · cases hs; exact ⟨.quiet _ _, rfl, rfl⟩
    · cases hs

theorem Inv.scope {s : State} (h : Inv s) {a : List Nat} (ha : Scope s a) : WfStack s.tree.items a := by
  obtain ⟨a₀, n, h₀, rfl⟩ := ha
  exact (h₀.elim (· ▸ h.stack) (h.tokens a₀)).take n

theorem Inv.mem_blockIds {s : State} (h : Inv s) {a : List Nat} (ha : Scope s a) {b : Nat} (hb : b ∈ a) :
    b ∈ s.tree.blockIds :=
  opn_mem_items.mp ((h.scope ha).1 b hb)

theorem forall_tokens_push {P : List Nat → Prop} {tokens : List Token} {t : Token}
    (h : ∀ a, Token.stack a ∈ tokens → P a) (ht : ∀ a, t = .stack a → P a) :
    ∀ a, Token.stack a ∈ tokens ++ [t] → P a := fun a ha =>
  (List.mem_append.mp ha).elim (h a) fun e => ht a (List.mem_singleton.mp e).symm

theorem Inv.grow {s : State} (h : Inv s) {t' : Forest} {n' m' : Nat} {cv' : List Var}
    (ht : TInv t' n' m' cv') (hsub : s.tree.items.Sublist t'.items) (inc libs : List String) :
    Inv { tree := t', stack := s.stack, next := n', nextVar := m', includes := inc, libs := libs, classVars := cv', tokens := s.tokens } :=
  ⟨ht, h.stack.mono hsub, fun a ha => (h.tokens a ha).mono hsub⟩

theorem Inv.add {s : State} (h : Inv s) {c : Nat} (hl : s.stack.getLast? = some c) (st : NewStmt) {t' : Forest}
    (ht' : t' = s.tree.upd c (fAdd (newStmtForest s.next st))) :
    TInv t' (s.next + 1) s.nextVar s.classVars ∧ s.tree.items.Sublist t'.items ∧
    (∃ A post, s.tree.items = A ++ .cls c :: post ∧ t'.items = A ++ ((newStmtForest s.next st).items ++ .cls c :: post)) ∧
    ∀ b ∈ s.stack, ∀ y ∈ (newStmtForest s.next st).items, Inside t'.items b y := by
  subst ht'
  obtain ⟨ht, A, post, h1, h2, h3⟩ := h.tree.add (h.mem_blockIds (.cursor s) (List.mem_of_getLast? hl)) st
  refine ⟨ht, h1 ▸ h2 ▸ sublist_insert .., ⟨A, post, h1, h2⟩, fun b hb y hy => ?_⟩
  rw [h2]
  exact inside_of_insert h3 (h1 ▸ h.tree.items_nodup) (h1 ▸ h.stack.last hl b hb) hy

theorem Inv.declareIn {s : State} (h : Inv s) {b : Nat} (hb : b ∈ s.tree.blockIds) (v : VarSpec) :
    Inv (s.declareIn b v).1 ∧ s.tree.items.Sublist (s.declareIn b v).1.tree.items := by
  obtain ⟨ht, A, B, h1, h2, _⟩ := h.tree.declare hb v
  have hsub : s.tree.items.Sublist (s.tree.upd b (fDeclare ⟨s.nextVar, v⟩)).items := h1 ▸ h2 ▸ sublist_insert A [_] B
  exact ⟨h.grow ht hsub _ _, hsub⟩

theorem Effect.inv {s s' : State} {bl : Bool} (e : Effect s bl s') (h : Inv s) :
    Inv s' ∧ s.tree.items.Sublist s'.tree.items := by
  cases e with
  | quiet I L => exact ⟨⟨h.tree, h.stack, h.tokens⟩, .refl _⟩
  | token t ht => exact ⟨⟨h.tree, h.stack, forall_tokens_push h.tokens fun a e => h.scope (ht a e)⟩, .refl _⟩
  | goto a ha => exact ⟨⟨h.tree, h.scope ha, h.tokens⟩, .refl _⟩
  | addPlain b p hb =>
    obtain ⟨ht, hsub, _⟩ := h.add hb (.plain p) rfl
    exact ⟨h.grow ht hsub _ _, hsub⟩
  | addBlock b k hb =>
    obtain ⟨ht, hsub, _, hins⟩ := h.add hb (.block k) rfl
    have hne : s.stack ≠ [] := fun e => by rw [e] at hb; cases hb
    refine ⟨⟨ht, (h.stack.mono hsub).push hne fun c hc => ?_, fun a ha => (h.tokens a ha).mono hsub⟩, hsub⟩
    exact ⟨(hins c hc (.opn s.next) (List.mem_append_right _ List.mem_cons_self)).1,
      (hins c hc (.cls s.next) (List.mem_append_right _ (List.mem_cons_of_mem _ List.mem_cons_self))).2⟩
  | wrap b k hb =>
    obtain ⟨ht, hsub⟩ := h.tree.wrap hb k
    exact ⟨h.grow ht hsub _ _, hsub⟩
  | declare a b v ha hb => exact h.declareIn (h.mem_blockIds ha (List.mem_of_getLast? hb)) v
  | classVar v => exact ⟨⟨h.tree.classVar v, h.stack, h.tokens⟩, .refl _⟩
  | setRep b k v hb =>
    obtain ⟨ht, he⟩ := h.tree.setRep (h.mem_blockIds (.cursor s) (List.mem_of_getLast? hb)) k v
    have hsub : s.tree.items.Sublist (s.tree.upd b (fSetRep k v)).items := he ▸ .refl _
    exact ⟨h.grow ht hsub _ _, hsub⟩

theorem step_inv {s s' : State} {o : Out} (op : Op) (h : Inv s) (hs : step s op = .ok (s', o)) :
    Inv s' ∧ s.tree.items.Sublist s'.tree.items :=
  (step_effect hs).1.inv h

theorem Inv.init : Inv State.init :=
  ⟨⟨.refl _, .refl _, [], [], .nil, rfl⟩,
   ⟨fun _ hb => List.mem_singleton.mp hb ▸ List.mem_cons_self, List.pairwise_singleton _ _, .inr rfl⟩,
   fun _ ha => nomatch ha⟩

/-- What every returning call keeps (`P`) or relates (`R`, reflexive and transitive) holds along
every sequence of calls: a call that raises leaves the state as it was. -/
theorem run_induction {P : State → Prop} {R : State → State → Prop} {ok : Op → Prop}
    (refl : ∀ s, R s s) (trans : ∀ {a b c}, R a b → R b c → R a c)
    (hstep : ∀ {s s' o op}, ok op → P s → step s op = .ok (s', o) → P s' ∧ R s s') :
    ∀ (ops : List Op) {s : State}, (∀ op ∈ ops, ok op) → P s → P (run s ops) ∧ R s (run s ops)
  | [], s, _, h => ⟨h, refl s⟩
  | op :: ops, s, hok, h => by
    have h1 : P (apply s op) ∧ R s (apply s op) := by
      unfold apply
      cases hs : step s op with
      | error e => exact ⟨h, refl s⟩
      | ok r => exact hstep (hok op List.mem_cons_self) h hs
    obtain ⟨h2, r2⟩ := run_induction refl trans hstep ops (fun o ho => hok o (List.mem_cons_of_mem _ ho)) h1.1
    exact ⟨h2, trans h1.2 r2⟩

theorem run_inv (ops : List Op) {s : State} (h : Inv s) : Inv (run s ops) ∧ s.tree.items.Sublist (run s ops).tree.items :=
  run_induction (ok := fun _ => True) (fun _ => .refl _) .trans (fun _ h hs => step_inv _ h hs) ops (fun _ _ => trivial) h

theorem run_append (s : State) (a b : List Op) : run s (a ++ b) = run (run s a) b := List.foldl_append

theorem decl_owner {t : Forest} {b : Nat} {w : Var} (h : Item.decl b w ∈ t.items) : b ∈ t.blockIds := by
  induction t with
  | nil => cases h
  | plain i p r ih =>
    rcases List.mem_cons.mp h with h | h
    · cases h
    · exact ih h
  | blk info body r ihb ihr =>
    simp only [Forest.items, List.mem_append, List.mem_cons, List.mem_map] at h
    simp only [Forest.blockIds, List.mem_cons, List.mem_append]
    rcases h with h | h | h | h | h | h
    · obtain ⟨_, _, h⟩ := mem_hdrItems h; cases h
    · cases h
    · obtain ⟨a, _, ha⟩ := h; exact .inl (Item.decl.inj ha).1.symm
    · exact .inr (.inl (ihb h))
    · cases h
    · exact .inr (.inr (ihr h))

theorem mem_mid_of_inside {P D M Q : List Item} {b : Nat} {y : Item}
    (hn : (P ++ .opn b :: (D ++ (M ++ .cls b :: Q))).Nodup)
    (hin : Inside (P ++ .opn b :: (D ++ (M ++ .cls b :: Q))) b y) : y ∈ D ++ M := by
  have h1 : y ∈ D ++ (M ++ .cls b :: Q) := hin.1.right_of_split (not_mem_of_nodup_split hn).1
  have e : P ++ .opn b :: (D ++ (M ++ .cls b :: Q)) = (P ++ .opn b :: (D ++ M)) ++ .cls b :: Q := by simp
  rw [e] at hn hin
  have h2 : y ∈ P ++ .opn b :: (D ++ M) := hin.2.left_of_split (not_mem_of_nodup_split hn).2
  have h3 : y ∉ .cls b :: Q := fun h => (List.nodup_append.mp hn).2.2 y h2 y h rfl
  rw [← List.append_assoc] at h1
  exact (List.mem_append.mp h1).resolve_right h3

theorem block_segment {t : Forest} {b : Nat} (hn : t.blockIds.Nodup) (hb : b ∈ t.blockIds) :
    ∃ info body P Q, info.id = b ∧ t.find b = some (info, body) ∧
      t.items = (P ++ hdrItems info) ++ .opn b :: (info.vars.map (Item.decl b) ++ (body.items ++ .cls b :: Q)) := by
  obtain ⟨info, body, pre, post, hf, rfl, h1, _⟩ := items_upd b t hn hb
  refine ⟨info, body, pre, post, rfl, hf, ?_⟩
  rw [h1]; simp only [blockItems, List.append_assoc, List.cons_append, List.nil_append]

theorem declEncloses_of_inside {t : Forest} {n m : Nat} {cv : List Var} (ht : TInv t n m cv) {b : Nat} {v : Var} {y : Item}
    (hyd : y.declId? = none) (hb : b ∈ t.blockIds) (hd : Inside t.items b (.decl b v)) (hx : Inside t.items b y) :
    DeclEncloses t.items b v y := by
  obtain ⟨info, body, P, Q, _, _, hL⟩ := block_segment ht.blockNodup hb
  have hn := ht.items_nodup
  rw [hL] at hn hd hx
  -- the declaration is among the declarations: a declaration of b in the body would put a second `{` of b there
  have hdD : Item.decl b v ∈ info.vars.map (Item.decl b) :=
    (List.mem_append.mp (mem_mid_of_inside hn hd)).resolve_right fun h =>
      (not_mem_of_nodup_split hn).2 (List.mem_append_right _ (List.mem_append_left _ (opn_mem_items.mpr (decl_owner h))))
  have hxM : y ∈ body.items :=
    (List.mem_append.mp (mem_mid_of_inside hn hx)).resolve_left fun h => by
      obtain ⟨w, _, rfl⟩ := List.mem_map.mp h
      cases hyd
  obtain ⟨ds₁, ds₂, hD⟩ := List.append_of_mem hdD
  obtain ⟨m₁, m₂, hM⟩ := List.append_of_mem hxM
  refine ⟨P ++ hdrItems info, ds₁, ds₂, m₁, m₂, Q, ?_, fun i hi => ?_⟩
  · rw [hL, hD, hM]; simp only [List.append_assoc, List.cons_append, List.nil_append]
  · have : i ∈ info.vars.map (Item.decl b) := by
      rw [hD]
      exact (List.mem_append.mp hi).elim (List.mem_append_left _) fun h => List.mem_append_right _ (List.mem_cons_of_mem _ h)
    obtain ⟨w, _, rfl⟩ := List.mem_map.mp this
    rfl

theorem Effect.tokens {s s' : State} {bl : Bool} (e : Effect s bl s') : s.tokens <+: s'.tokens := by
  cases e with
  | token t ht => exact List.prefix_append _ _
  | _ => exact List.prefix_refl _

theorem run_tokens (ops : List Op) (s : State) : s.tokens <+: (run s ops).tokens :=
  (run_induction (P := fun _ => True) (R := fun a b => a.tokens <+: b.tokens) (ok := fun _ => True)
    (fun _ => List.prefix_refl _) List.IsPrefix.trans (fun _ _ hs => ⟨trivial, (step_effect hs).1.tokens⟩) ops
    (fun _ _ => trivial) trivial).2

theorem run_tok_get {s : State} (ops : List Op) {i : Nat} {t : Token} (h : s.tok? i = .ok t) : (run s ops).tok? i = .ok t := by
  unfold State.tok? at h ⊢
  obtain ⟨extra, he⟩ := run_tokens ops s
  cases hg : s.tokens[i]? with
  | none => rw [hg] at h; cases h
  | some t' =>
    rw [← he, List.getElem?_append_left (List.getElem?_eq_some_iff.mp hg).1, hg]; exact hg ▸ h

theorem apply_includes (s : State) (op : Op) :
    (apply s op).includes = incStep s.includes (includeReq? op) ∧ (apply s op).libs = incStep s.libs (libraryReq? op) := by
  unfold apply
  cases hs : step s op with
  | ok r => exact (step_effect hs).2
  | error e =>
    cases op with
    | addInclude p => cases hs
    | addLibrary l => cases hs
    | _ => exact ⟨rfl, rfl⟩

theorem run_incStep {proj : State → List String} {req : Op → Option String}
    (h : ∀ s op, proj (apply s op) = incStep (proj s) (req op)) (ops : List Op) (s : State) :
    proj (run s ops) = (ops.filterMap req).foldl (fun acc a => if a ∈ acc then acc else acc ++ [a]) (proj s) := by
  rw [List.foldl_filterMap]
  induction ops generalizing s with
  | nil => rfl
  | cons op ops ih => exact (ih (apply s op)).trans (by rw [h, List.foldl_cons]; cases req op <;> rfl)

theorem dedupFirst_eq : ∀ l : List String, dedupFirst l = l.eraseDups
  | [] => rfl
  | x :: xs => by
    rw [dedupFirst, dedupFirst_eq xs, List.eraseDups_cons_filter]
    exact congrArg _ (List.filter_congr fun y _ => by by_cases h : y = x <;> simp [h])

theorem dedupFirst_nodup (l : List String) : (dedupFirst l).Nodup := by
  rw [dedupFirst_eq]; exact List.nodup_eraseDups l

theorem mem_dedupFirst (l : List String) (p : String) : p ∈ dedupFirst l ↔ p ∈ l := by
  rw [dedupFirst_eq, List.mem_eraseDups]

theorem child_id {t : Forest} {b : Nat} {i : BInfo} {body : Forest} (h : t.child? b = some (i, body)) : i.id = b := by
  induction t with
  | nil => cases h
  | plain _ _ r ih => exact ih h
  | blk info bd r _ ihr =>
    simp only [Forest.child?] at h
    split at h
    · rename_i hk; cases h; exact hk
    · exact ihr h

theorem child_blockIds {t : Forest} {b : Nat} {i : BInfo} {body : Forest} (h : t.child? b = some (i, body)) :
    (b :: body.blockIds).Sublist t.blockIds := by
  induction t with
  | nil => cases h
  | plain _ _ r ih => exact ih h
  | blk info bd r _ ihr =>
    simp only [Forest.child?] at h
    split at h
    · rename_i hk
      cases h
      exact hk ▸ List.Sublist.cons_cons _ (List.sublist_append_left _ _)
    · exact List.Sublist.cons _ ((ihr h).trans (List.sublist_append_right _ _))

theorem child_upd {k : Nat} {f : BInfo → Forest → BInfo × Forest} (hf : ∀ i b, (f i b).1.id = i.id) {b : Nat} :
    ∀ (t : Forest) {i : BInfo} {body : Forest}, t.child? b = some (i, body) →
      (t.upd k f).child? b = some (if i.id = k then f i body else (i, body.upd k f)) := by
  intro t
  induction t with
  | nil => intro i body h; cases h
  | plain _ _ r ih => intro i body h; exact ih h
  | blk info bd r _ ihr =>
    intro i body h
    rw [Forest.child?] at h
    by_cases hk : info.id = k
    · rw [Forest.upd, if_pos hk, Forest.child?, hf]
      by_cases hb : info.id = b
      · rw [if_pos hb] at h ⊢; cases h; rw [if_pos hk]
      · rw [if_neg hb] at h ⊢; exact ihr h
    · rw [Forest.upd, if_neg hk, Forest.child?]
      by_cases hb : info.id = b
      · rw [if_pos hb] at h ⊢; cases h; rw [if_neg hk]
      · rw [if_neg hb] at h ⊢; exact ihr h

theorem child_append {b : Nat} (new : Forest) : ∀ (t : Forest) {x}, t.child? b = some x → (t.append new).child? b = some x := by
  intro t
  induction t with
  | nil => intro x h; cases h
  | plain _ _ r ih => intro x h; exact ih h
  | blk info bd r _ ihr =>
    intro x h
    simp only [Forest.child?, Forest.append] at h ⊢
    split
    · rename_i hk; rwa [if_pos hk] at h
    · rename_i hk; rw [if_neg hk] at h; exact ihr h

theorem isPathIn_hit (info : BInfo) (body r : Forest) (rest : List Nat) :
    isPathIn (.blk info body r) (info.id :: rest) = isPathIn body rest := by
  rw [isPathIn, Forest.child?, if_pos rfl]

theorem isPathIn_miss {info : BInfo} {b : Nat} (h : info.id ≠ b) (body r : Forest) (rest : List Nat) :
    isPathIn (.blk info body r) (b :: rest) = isPathIn r (b :: rest) := by
  rw [isPathIn, Forest.child?, if_neg h]; rfl

/-- `isPathIn t st` walks tree and path together; its cases: the path has ended, the level has no more statements, the
first statement is a one-liner, is the block looked for, is another block. -/
theorem path_induction {motive : Forest → List Nat → Prop}
    (done : ∀ t, motive t [])
    (nil : ∀ b rest, motive .nil (b :: rest))
    (plain : ∀ i p r b rest, motive r (b :: rest) → motive (.plain i p r) (b :: rest))
    (hit : ∀ info body r rest, motive body rest → motive (.blk info body r) (info.id :: rest))
    (miss : ∀ info body r b rest, info.id ≠ b → motive r (b :: rest) → motive (.blk info body r) (b :: rest)) :
    ∀ t st, motive t st := by
  intro t
  induction t with
  | nil => intro st; cases st; exact done _; exact nil _ _
  | plain i p r ih => intro st; cases st; exact done _; exact plain _ _ _ _ _ (ih _)
  | blk info body r ihb ihr =>
    intro st
    cases st with
    | nil => exact done _
    | cons b rest =>
      by_cases h : info.id = b
      · exact h ▸ hit _ _ _ _ (ihb _)
      · exact miss _ _ _ _ _ h (ihr _)

theorem isPathIn_upd {k : Nat} {f : BInfo → Forest → BInfo × Forest} (hf : ∀ i b, (f i b).1.id = i.id)
    (hm : ∀ i body st, isPathIn body st = true → isPathIn (f i body).2 st = true) :
    ∀ (t : Forest) (st : List Nat), isPathIn t st = true → isPathIn (t.upd k f) st = true := by
  intro t st
  induction t, st using path_induction with
  | done t => exact fun _ => rfl
  | nil b rest => exact id
  | plain i p r b rest ih => exact ih
  | hit info body r rest ih =>
    rw [isPathIn_hit, Forest.upd]
    split
    · rw [← hf info body, isPathIn_hit]; exact hm _ _ _
    · rw [isPathIn_hit]; exact ih
  | miss info body r b rest hne ih =>
    rw [isPathIn_miss hne, Forest.upd]
    split
    · rw [isPathIn_miss (by rw [hf]; exact hne)]; exact ih
    · rw [isPathIn_miss hne]; exact ih

theorem isPathIn_append (new : Forest) : ∀ (t : Forest) (st : List Nat), isPathIn t st = true → isPathIn (t.append new) st = true := by
  intro t st
  induction t, st using path_induction with
  | done t => exact fun _ => rfl
  | nil b rest => exact fun h => nomatch h
  | plain i p r b rest ih => exact ih
  | hit info body r rest ih => rw [Forest.append, isPathIn_hit, isPathIn_hit]; exact id
  | miss info body r b rest hne ih => rw [Forest.append, isPathIn_miss hne, isPathIn_miss hne]; exact ih

theorem isPathIn_append_new (n : Nat) (k : Kind) (t : Forest) : isPathIn (t.append (.blk ⟨n, k, [], []⟩ .nil .nil)) [n] = true := by
  induction t with
  | nil => exact isPathIn_hit ⟨n, k, [], []⟩ .nil .nil []
  | plain _ _ r ih => exact ih
  | blk info bd r _ ihr =>
    by_cases h : info.id = n
    · exact h ▸ isPathIn_hit ..
    · rw [Forest.append, isPathIn_miss h]; exact ihr

theorem isPathIn_prefix (ext : List Nat) : ∀ (t : Forest) (st : List Nat), isPathIn t (st ++ ext) = true → isPathIn t st = true := by
  intro t st
  induction t, st using path_induction with
  | done t => exact fun _ => rfl
  | nil b rest => exact fun h => nomatch h
  | plain i p r b rest ih => exact ih
  | hit info body r rest ih => rw [List.cons_append, isPathIn_hit, isPathIn_hit]; exact ih
  | miss info body r b rest hne ih => rw [List.cons_append, isPathIn_miss hne, isPathIn_miss hne]; exact ih

theorem isPathIn_mem : ∀ (t : Forest) (st : List Nat), isPathIn t st = true → ∀ x ∈ st, x ∈ t.blockIds := by
  intro t st
  induction t, st using path_induction with
  | done t => exact fun _ _ hx => nomatch hx
  | nil b rest => exact fun h => nomatch h
  | plain i p r b rest ih => exact ih
  | hit info body r rest ih =>
    rw [isPathIn_hit]
    intro h x hx
    rcases List.mem_cons.mp hx with rfl | hx
    · exact List.mem_cons_self
    · exact List.mem_cons_of_mem _ (List.mem_append_left _ (ih h x hx))
  | miss info body r b rest hne ih =>
    rw [isPathIn_miss hne]
    exact fun h x hx => List.mem_cons_of_mem _ (List.mem_append_right _ (ih h x hx))

theorem isPathIn_extend {f : BInfo → Forest → BInfo × Forest} (hf : ∀ i b, (f i b).1.id = i.id) {c : Nat} {ext : List Nat}
    (hext : ∀ i body, isPathIn (f i body).2 ext = true) :
    ∀ (t : Forest) (st : List Nat), t.blockIds.Nodup → isPathIn t st = true → st.getLast? = some c →
      isPathIn (t.upd c f) (st ++ ext) = true := by
  intro t st
  induction t, st using path_induction with
  | done t => exact fun _ _ hl => nomatch hl
  | nil b rest => exact fun _ h => nomatch h
  | plain i p r b rest ih => exact ih
  | hit info body r rest ih =>
    rw [isPathIn_hit, Forest.blockIds, List.nodup_cons, List.nodup_append, Forest.upd, List.cons_append]
    intro hn h hl
    cases rest with
    | nil => rw [if_pos (show info.id = c from Option.some.inj hl), ← hf info body, isPathIn_hit]; exact hext _ _
    | cons b2 rest =>
      -- the path goes on below this block, so `c` lies in its body and is not the block itself
      rw [List.getLast?_cons_cons] at hl
      have hc : info.id ≠ c := fun e => hn.1 (e ▸ List.mem_append_left _ (isPathIn_mem body _ h c (List.mem_of_getLast? hl)))
      rw [if_neg hc, isPathIn_hit]; exact ih hn.2.1 h hl
  | miss info body r b rest hne ih =>
    rw [isPathIn_miss hne, Forest.blockIds, List.nodup_cons, List.nodup_append, Forest.upd, List.cons_append]
    intro hn h hl
    split
    · rw [isPathIn_miss (by rw [hf]; exact hne)]; exact ih hn.2.2.1 h hl
    · rw [isPathIn_miss hne]; exact ih hn.2.2.1 h hl

theorem path_fAdd (k : Nat) (new : Forest) (t : Forest) (st : List Nat) (h : isPathIn t st = true) :
    isPathIn (t.upd k (fAdd new)) st = true :=
  isPathIn_upd (fun _ _ => rfl) (fun _ body st h => isPathIn_append new body st h) t st h

structure PInv (s : State) : Prop where
  inv : Inv s
  stack : isPathIn s.tree s.stack = true
  tokens : ∀ a, Token.stack a ∈ s.tokens → isPathIn s.tree a = true

theorem PInv.init : PInv State.init := ⟨Inv.init, rfl, fun _ ha => nomatch ha⟩

theorem PInv.scope {s : State} (h : PInv s) {a : List Nat} (ha : Scope s a) : isPathIn s.tree a = true := by
  obtain ⟨a₀, n, h₀, rfl⟩ := ha
  exact isPathIn_prefix (a₀.drop n) _ _ ((List.take_append_drop n a₀).symm ▸ h₀.elim (· ▸ h.stack) (h.tokens a₀))

theorem PInv.grow {s s' : State} (h : PInv s) (hi : Inv s') (hst : s'.stack = s.stack) (htk : s'.tokens = s.tokens)
    (mono : ∀ st, isPathIn s.tree st = true → isPathIn s'.tree st = true) : PInv s' :=
  ⟨hi, hst ▸ mono _ h.stack, fun a ha => mono a (h.tokens a (htk ▸ ha))⟩

theorem Effect.path {s s' : State} (e : Effect s false s') (h : PInv s) : PInv s' := by
  have hi := (e.inv h.inv).1
  cases e with
  | quiet I L => exact ⟨hi, h.stack, h.tokens⟩
  | token t ht => exact ⟨hi, h.stack, forall_tokens_push h.tokens fun a e => h.scope (ht a e)⟩
  | goto a ha => exact ⟨hi, h.scope ha, h.tokens⟩
  | addPlain b p hb => exact h.grow hi rfl rfl (path_fAdd _ _ _)
  | addBlock b k hb =>
    exact ⟨hi, isPathIn_extend (fun _ _ => rfl) (fun _ body => isPathIn_append_new s.next k body) _ _ h.inv.tree.blockNodup h.stack hb,
      fun a ha => path_fAdd _ _ _ _ (h.tokens a ha)⟩
  | declare a b v ha hb => exact h.grow hi rfl rfl fun st => isPathIn_upd (fun _ _ => rfl) (fun _ _ _ h => h) _ st
  | classVar v => exact ⟨hi, h.stack, h.tokens⟩
  | setRep b k v hb => exact h.grow hi rfl rfl fun st => isPathIn_upd (fun _ _ => rfl) (fun _ _ _ h => h) _ st

theorem run_path (ops : List Op) {s : State} (hnb : ∀ op ∈ ops, op.isBelow = false) (h : PInv s) : PInv (run s ops) :=
  (run_induction (R := fun _ _ => True) (fun _ => trivial) (fun _ _ => trivial)
    (fun hb h hs => ⟨(hb ▸ (step_effect hs).1).path h, trivial⟩) ops hnb h).1

theorem declareIn_inside {s : State} (h : Inv s) {b : Nat} (hb : b ∈ s.tree.blockIds) (v : VarSpec) :
    Inside (s.declareIn b v).1.tree.items b (.decl b ⟨s.nextVar, v⟩) := by
  obtain ⟨_, A, B, _, h2, h3, h4⟩ := h.tree.declare hb v
  show Inside (s.tree.upd b (fDeclare ⟨s.nextVar, v⟩)).items b _
  rw [h2]
  exact ⟨before_of_mem rfl h3 List.mem_cons_self, before_of_mem (p := A ++ [.decl b ⟨s.nextVar, v⟩]) (by simp) (by simp) h4⟩

theorem step_addPlain_inside {s s3 : State} {o3 : Out} {p : Plain} (h : Inv s) (h3 : step s (.addPlain p) = .ok (s3, o3)) :
    o3 = .newId s.next ∧ (∀ b ∈ s.stack, Inside s3.tree.items b (.stmt s.next p.line)) ∧
    ∃ c A post, s.stack.getLast? = some c ∧ s.tree.items = A ++ .cls c :: post ∧
      s3.tree.items = A ++ .stmt s.next p.line :: .cls c :: post ∧ s3.stack = s.stack := by
  obtain ⟨c, hl, rfl, rfl⟩ := step_addPlain_ok h3
  obtain ⟨_, _, ⟨A, post, e1, e2⟩, hins⟩ := h.add hl (.plain p) rfl
  exact ⟨rfl, fun b hb => hins b hb _ List.mem_cons_self, c, A, post, hl, e1, e2, rfl⟩

theorem step_addBlock_inside {s s3 : State} {o3 : Out} {k : Kind} (h : Inv s) (h3 : step s (.addBlock k) = .ok (s3, o3)) :
    o3 = .newId s.next ∧ s3.stack = s.stack ++ [s.next] ∧
    ∀ b ∈ s.stack, ∀ y ∈ hdrItems ⟨s.next, k, [], []⟩ ++ [.opn s.next, .cls s.next], Inside s3.tree.items b y := by
  obtain ⟨c, hl, rfl, rfl⟩ := step_addBlock_ok h3
  exact ⟨rfl, rfl, (h.add hl (.block k) rfl).2.2.2⟩

/-- The general form of `declared_encloses`: a variable is declared at a scope with blocks `a`; later,
while the cursor starts with that scope, some call writes a line `y` (not a declaration) between the
braces of every block of the cursor. Then in every later text `y` lies in the declaring block, after
the declaration. -/
theorem declared_encloses_line (pre mid post : List Op) (dop : Op) (a : List Nat) (v : VarSpec)
    (s1 s3 : State) (o1 o3 : Out) {op3 : Op}
    (hd : declTarget (after pre) dop = some (a, v))
    (h1 : step (after pre) dop = .ok (s1, o1))
    (hsw : (Token.stack (run s1 mid).stack).startsWith (.stack a) = true)
    (h3 : step (run s1 mid) op3 = .ok (s3, o3)) :
    ∃ b, a.getLast? = some b ∧ o1 = .newId (after pre).nextVar ∧
      ∀ y : Item, y.declId? = none → (∀ c ∈ (run s1 mid).stack, Inside s3.tree.items c y) →
        DeclEncloses (run s3 post).items b ⟨(after pre).nextVar, v⟩ y := by
  obtain ⟨i0, _⟩ := run_inv pre Inv.init
  obtain ⟨b, ha, hl, rfl, ho1⟩ := step_decl hd h1
  have hb := i0.mem_blockIds ha (List.mem_of_getLast? hl)
  obtain ⟨i2, sub12⟩ := run_inv mid (i0.declareIn hb v).1
  obtain ⟨i3, sub23⟩ := step_inv _ i2 h3
  obtain ⟨iF, sub3F⟩ := run_inv post i3
  -- the declaration line is inside b from the moment it is made, and the cursor at the time of the use contains b
  have hdecl := (declareIn_inside i0 hb v).mono (sub12.trans (sub23.trans sub3F))
  have hbs := ((startsWith_iff (.stack _) (.stack a)).mp hsw).subset (List.mem_of_getLast? hl)
  exact ⟨b, hl, ho1, fun y hyd hy =>
    declEncloses_of_inside iF.tree hyd (opn_mem_items.mp hdecl.1.mem_left) hdecl ((hy b hbs).mono sub3F)⟩

theorem indent_open (d : Int) (r : List String) : indent d ("{" :: r) = pad d "{" :: indent (d + 1) r := rfl

theorem indent_close (d : Int) (r : List String) : indent d ("}" :: r) = pad (d - 1) "}" :: indent (d - 1) r := rfl

theorem indent_other {l : String} (h : l ≠ "{" ∧ l ≠ "}") (d : Int) (r : List String) :
    indent d (l :: r) = pad d l :: indent d r := by
  have e1 : (l == "}") = false := beq_false_of_ne h.2
  have e2 : (l == "{") = false := beq_false_of_ne h.1
  simp only [indent, e1, e2, Bool.false_eq_true, if_false]

theorem last_append (s t : String) (c : Char) (h : t.toList.getLast? = some c) : (s ++ t).toList.getLast? = some c := by
  simp [String.toList_append, List.getLast?_append, h]

theorem Plain.line_last (p : Plain) : p.line.toList.getLast? = some ';' := by
  cases p with
  | arbitrary l =>
    simp only [Plain.line]
    split
    · rename_i h; simpa [endsSemi] using h
    · exact last_append _ _ _ (by decide +kernel)
  | setVar t tt v vt => simp only [Plain.line]; split <;> exact last_append _ _ _ (by decide +kernel)
  | pushBack t et v vt => simp only [Plain.line]; split <;> exact last_append _ _ _ (by decide +kernel)
  | clear c => exact last_append _ _ _ (by decide +kernel)

theorem VarSpec.line_last (v : VarSpec) : v.line.toList.getLast? = some ';' := last_append _ _ _ (by decide +kernel)

/-- a line that is not a brace line of the model never has the TEXT of a brace line -/
def Item.NoBrace : Item → Prop
  | .opn _ => True
  | .cls _ => True
  | it => it.raw ≠ "{" ∧ it.raw ≠ "}"

theorem noBrace_of_last {s : String} {c : Char} (h : s.toList.getLast? = some c) (h1 : c ≠ '{') (h2 : c ≠ '}') :
    s ≠ "{" ∧ s ≠ "}" := by
  constructor
  · intro e; subst e; exact h1 (Option.some.inj h).symm
  · intro e; subst e; exact h2 (Option.some.inj h).symm

theorem Kind.header_noBrace {k : Kind} {h : String} (hk : k.header = some h) : h ≠ "{" ∧ h ≠ "}" := by
  cases k with
  | block => cases hk
  | loop v c => cases hk; exact noBrace_of_last (last_append _ _ ')' (by decide +kernel)) (by decide) (by decide)
  | ifT e => cases hk; exact noBrace_of_last (last_append _ _ ')' (by decide +kernel)) (by decide) (by decide)
  | els => cases hk; exact ⟨by decide, by decide⟩

theorem items_noBrace (t : Forest) : ∀ it ∈ t.items, Item.NoBrace it := by
  induction t with
  | nil => intro _ h; cases h
  | plain i p r ih =>
    intro it hit
    rcases List.mem_cons.mp hit with rfl | hit
    · exact noBrace_of_last (Plain.line_last p) (by decide) (by decide)
    · exact ih it hit
  | blk info body r ihb ihr =>
    intro it hit
    simp only [Forest.items, List.mem_append, List.mem_cons, List.mem_map] at hit
    rcases hit with h | rfl | h | h | rfl | h
    · obtain ⟨t, ht, rfl⟩ := mem_hdrItems h
      exact Kind.header_noBrace ht
    · trivial
    · obtain ⟨w, _, rfl⟩ := h
      exact noBrace_of_last (VarSpec.line_last w.spec) (by decide) (by decide)
    · exact ihb it h
    · trivial
    · exact ihr it h

theorem indent_eq_render : ∀ (l : List Item) (d : Int), (∀ it ∈ l, Item.NoBrace it) → indent d (l.map Item.raw) = render d l
  | [], _, _ => rfl
  | it :: r, d, h => by
    have hr := fun d' => indent_eq_render r d' (fun x hx => h x (List.mem_cons_of_mem _ hx))
    have hit := h it List.mem_cons_self
    cases it with
    | opn b => rw [List.map_cons, render, ← hr]; exact indent_open d _
    | cls b => rw [List.map_cons, render, ← hr]; exact indent_close d _
    | hdr b t => rw [List.map_cons, render, ← hr]; exact indent_other hit d _
    | decl b v => rw [List.map_cons, render, ← hr]; exact indent_other hit d _
    | stmt i l => rw [List.map_cons, render, ← hr]; exact indent_other hit d _

end FaxVerif.C02.Cursor
