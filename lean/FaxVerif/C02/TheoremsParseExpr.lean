/-
C02 — (parser of the emitted text, expression level and the full round trip) the tokenizer and the precedence-climbing
expression parser of `Cpp/Parse.lean` read the printer's fully parenthesised output back, for EVERY expression /
statement tree (no bound on size, depth, number of arguments or lines). Two decidable syntactic predicates carry the
hypotheses. `wfT`, on TOKENS, is where precedence and parenthesisation live (unary operators, the thirteen binary
operators on their six levels, dereference, member / method chains with `.` and `->`, calls, `static_cast`, argument
lists), and it is exactly where the printer is ambiguous (`wfT_needed_counterexample`). `wfL`, on CHARACTERS: every name
and numeral of the expression is ONE token on its own (the tokenizer is run on the atom alone — i.e. names
`[A-Za-z_]\w*(::[A-Za-z_]\w*)*`, numerals `\d+(\.\d*)?([eE][+-]?\d+)?` / `\.\d+…`, strings without `"` and `\`, no
member access on a numeral). `ListWf` (Cpp/ParseSpec.lean) lifts them to statements; nothing in it runs the parser on
an expression.
-/
import FaxVerif.Cpp.ParseLexProofs
import FaxVerif.C02.TheoremsParse
namespace FaxVerif.C02
open FaxVerif.Cpp FaxVerif.Cpp.Parse

/-- **C02.parseToks_render** — expression-level round trip on tokens, for every `wfT` expression. -/
theorem parseToks_render (e : CExpr) (h : wfT e = true) : parseToks (toksE e) = some e :=
  parseToks_toksE e h

/-- **C02.toksE_injective** — the token sequence determines a well-formed expression. -/
theorem toksE_injective (a b : CExpr) (ha : wfT a = true) (hb : wfT b = true) (h : toksE a = toksE b) : a = b := by
  have h1 := parseToks_render a ha
  rw [h, parseToks_render b hb] at h1
  exact (Option.some.inj h1).symm

/-- **C02.parseExpr_render_partial** — character level, lexing as a decidable hypothesis: for every `wfT` expression
whose printed text the tokenizer splits into the printer's tokens, the parser reads the text back as the expression. -/
theorem parseExpr_render_partial (e : CExpr) (h : wfT e = true) (hl : lexOk e = true) : parseExpr (renderE e) = e := by
  have hl' : tokenize (renderE e) = some (toksE e) := by simpa [lexOk] using hl
  simp [parseExpr, hl', parseToks_render e h]

theorem exprOk_of_wfT_lexOk (e : CExpr) (h : wfT e = true) (hl : lexOk e = true)
    (hh : (match renderE e with | c :: _ => !isWs c | [] => false) = true) : exprOk e = true := by
  have := parseExpr_render_partial e h hl
  simp only [exprOk, this, Bool.and_eq_true]
  refine ⟨?_, hh⟩
  exact beqE_refl e

/-- **C02.lex_render** — the tokenizer splits the printed text of a well-formed expression into the printer's tokens. -/
theorem lex_render (e : CExpr) (h : wfT e = true) (hl : wfL e = true) : tokenize (renderE e) = some (toksE e) :=
  tokenize_renderE e h hl

/-- **C02.parseExpr_render** — DESIGN §3.1 at the expression level, on characters: the printed text of every expression
of the decidable class `exprWf` (= `wfT` and `wfL`) reads back as the expression. -/
theorem parseExpr_render (e : CExpr) (h : exprWf e = true) : parseExpr (renderE e) = e := by
  simp only [exprWf, Bool.and_eq_true] at h
  exact parseExpr_renderE e h.1 h.2

/-- **C02.parse_render** — DESIGN §3.1, the full round trip: for every statement list whose names, types, literals and
expressions satisfy the decidable syntactic predicate `ListWf` and whose retrieves carry no requested type, parsing the
printed block returns exactly the tree. -/
theorem parse_render (b : List Stmt) (h : ListWf b = true) (ht : tyFreeL b = true) :
    parseLines (renderLines (.block b)) = some (.block b) :=
  parse_render_exact b (ListOk_of_ListWf b h) ht

/-- **C02.render_injective_wf** — two syntactically well-formed statement lists with the same text are the same tree (up
to the requested container types, which the text does not carry). -/
theorem render_injective_wf (a b : List Stmt) (ha : ListWf a = true) (hb : ListWf b = true)
    (h : renderLines (.block a) = renderLines (.block b)) : eraseL a = eraseL b :=
  render_injective a b (ListOk_of_ListWf a ha) (ListOk_of_ListWf b hb) h

/-- `((((-(a->pt()))+std::pow(static_cast<double>(x.n()), 2))<=*p)&&(!(f(g(1), "s", 2.5e3))))` in the printer's spelling -/
def exExpr : CExpr :=
  .bin "&&"
    (.bin "<=" (.bin "+" (.un "-" (.mem (.var "a") true "pt" []))
      (.call "std::pow" [.cast "double" (.mem (.var "x") false "n" []), .int 2])) (.deref (.var "p")))
    (.un "!" (.call "f" [.call "g" [.int 1], .str "s", .dbl "2.5e3" 25 2]))

theorem exExpr_wf : exprWf exExpr = true := by decide +kernel

example : wfT exExpr = true ∧ lexOk exExpr = true ∧ exprWf exExpr = true :=
  have h := Bool.and_eq_true_iff.mp exExpr_wf
  ⟨h.1, by rw [lexOk, lex_render _ h.1 h.2, beq_self_eq_true], exExpr_wf⟩
example : ListWf exAtlas = true ∧ ListWf exCms = true := ⟨exAtlas_wf.1, exCms_wf.1⟩
example : parseLines (renderLines (.block exCms)) = some (.block exCms) := parse_render exCms exCms_wf.1 exCms_wf.2
example : parseExpr (renderE exExpr) = exExpr := parseExpr_render exExpr exExpr_wf

/-- **C02.wfT_needed_counterexample** — outside `wfT` the printed text does not determine the expression: the printer
writes `*a.f()` for `(*a).f()`, which reads back as `*(a.f())`; and `-5` for the literal −5, which reads back as the
negation of 5. (The translator writes `(*a).f()` / `(-(5))`; the tie compares the trees on every program.) -/
theorem wfT_needed_counterexample :
    parseExpr (renderE (.mem (.deref (.var "a")) false "f" [])) = .deref (.mem (.var "a") false "f" []) ∧
    wfT (.mem (.deref (.var "a")) false "f" []) = false ∧
    parseExpr (renderE (.int (-5))) = .un "-" (.int 5) ∧ wfT (.int (-5)) = false := by
  refine ⟨?_, by decide +kernel, ?_, by decide +kernel⟩
  · have : beqE (parseExpr (renderE (.mem (.deref (.var "a")) false "f" []))) (.deref (.mem (.var "a") false "f" [])) = true := by
      decide +kernel
    exact beqE_eq _ _ this
  · have : beqE (parseExpr (renderE (.int (-5)))) (.un "-" (.int 5)) = true := by decide +kernel
    exact beqE_eq _ _ this

end FaxVerif.C02
