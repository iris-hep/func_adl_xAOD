/-
C02 — (static well-formedness part) for the translator MODEL: every package `Gen.compile` can emit is
accepted by the verified checker `WellFormed` — for ALL queries of the fragment F0-lite, by proof
about the generator (a syntactic invariant), not per program.

`C02/Theorems.lean` says what acceptance by `WellFormed` guarantees for all executions
(`wf_no_unbound`, `wf_no_unbound_job`); the checker itself is RUN on the real translator's output for every
generated query (sampled). For `Gen.compile` — tied to the real translator by text equality on every
run — acceptance is a theorem here, and the guarantees follow for the whole fragment by composition.

Hypotheses: `BackendBase B` (Gen/LoopCorrect.lean; ATLAS, CMS AOD, CMS miniAOD are proved instances; what
is used of it: the handle type is not a `std::vector`, `result` is declared without initialiser or
with `0`; nothing about the retrieval idiom `how` — the token table the package carries is shown to
contain every token its retrievals use); name supplies `nm` (locals), `cn` (column variables)
injective, disjoint from each other, never `"result"`.
-/
import FaxVerif.Gen.WfCorrectTop
import FaxVerif.C02.Theorems
import FaxVerif.C01.Instances
namespace FaxVerif.C02
open FaxVerif.Cpp FaxVerif.Gen
variable {D : Type}

/-- **C02.compile_wellFormed** — for EVERY query of the fragment (event-level rows with scalar / vector /
`First()` columns in any number and order; element-level rows; chains, expressions and column lists of any
size), the package the translator model emits is accepted by the checker `WellFormed`, started — as C02 uses
it — from the class-level analysis state `classDA P.classVars` with the package's own branch list and token
table (`P.daCtx`): the definite-assignment analysis `da` (declared before use in an enclosing scope,
initialised before read, never re-declared, nothing uninterpreted; path-sensitive for the `First()` flag
idiom) accepts the per-event body, the class-level names are pairwise distinct, and every booked branch
variable is a class member. Full strength: no restriction on the query (in particular `First()` columns are
covered: the loop-invariant check on the guard facts is proved to succeed for any number of flags). -/
theorem compile_wellFormed (B : Backend) (hB : BackendBase B) (nm cn : Nat → String)
    (hinj : ∀ i j, nm i = nm j → i = j) (hcinj : ∀ i j, cn i = cn j → i = j)
    (hres : ∀ j, nm j ≠ "result") (hcres : ∀ k, cn k ≠ "result") (hdisj : ∀ j k, nm j ≠ cn k)
    (fq : FQ) : WellFormed (compile B nm cn fq) = true :=
  Wf.compile_wf B hB nm cn hinj hcinj hdisj hres hcres fq

/-- **C02.fragment_no_unbound** — for every fragment query, every number model, every event and every clean
class state (vector columns empty, class members declared — e.g. the state any earlier event of a job
leaves), the emitted per-event code can never read an undeclared or declared-but-uninitialised name, never
assign to an undeclared name and never fill the tree from an unset column: the fault `unbound` is
unreachable. (`compile_wellFormed` composed with the checker's soundness theorem `wf_no_unbound`.) -/
theorem fragment_no_unbound (B : Backend) (hB : BackendBase B) (nm cn : Nat → String)
    (hinj : ∀ i j, nm i = nm j → i = j) (hcinj : ∀ i j, cn i = cn j → i = j)
    (hres : ∀ j, nm j ≠ "result") (hcres : ∀ k, cn k ≠ "result") (hdisj : ∀ j k, nm j ≠ cn k)
    (fq : FQ) (N : Num D) (σc : Env D) (hc : ClassClean (compile B nm cn fq) σc) (ev : Event D) (n : String) :
    runEvent (compile B nm cn fq) N σc ev ≠ .error (.unbound n) :=
  wf_no_unbound _ N (compile_wellFormed B hB nm cn hinj hcinj hres hcres hdisj fq) σc hc ev n

/-- **C02.fragment_no_unbound_job** — the same for a whole job from the initial class state, over EVERY
list of events (faulting events included: the job then ends with that event's fault, which is never
`unbound`). Uses that the package is also event-local (`Wf.compile_el`, stated as `C05.compile_eventLocal`). -/
theorem fragment_no_unbound_job (B : Backend) (hB : BackendBase B) (nm cn : Nat → String)
    (hinj : ∀ i j, nm i = nm j → i = j) (hcinj : ∀ i j, cn i = cn j → i = j)
    (hres : ∀ j, nm j ≠ "result") (hcres : ∀ k, cn k ≠ "result") (hdisj : ∀ j k, nm j ≠ cn k)
    (fq : FQ) (N : Num D) (evs : List (Event D)) (n : String) :
    runJob (compile B nm cn fq) N evs ≠ .error (.unbound n) :=
  wf_no_unbound_job _ N (Wf.compile_el B hB nm cn hinj hcinj hdisj hres hcres fq) evs n

/-- a query with all three column kinds: a Count with a filter plus a constant, a vector column with a
fused double `Where` (the lowered conjunction), a `First()` column -/
def exFq : FQ := .eventRows [
  ("n", .scalar (.bin .add (.count ⟨"As", "ba", [.whr (.cmp .gt (.meth "d" .double) (.int 1))]⟩) (.int 1))),
  ("v", .seq ⟨"As", "ba", [.sel (.meth "d" .double), .whr (.cmp .gt .it (.int 1)), .whr (.cmp .lt .it (.int 5))]⟩),
  ("f", .first ⟨"As", "bb", [.sel (.meth "d" .double)]⟩)]

def exFqElem : FQ :=
  .elemRows ⟨"As", "ba", [.whr (.cmp .gt (.meth "d" .double) (.int 1)), .sel (.meth "d" .double)]⟩
    [("a", .it), ("h", .bin .div .it (.int 2))]

/-- the hypotheses are satisfiable: the three backends and the example name supplies -/
example (fq : FQ) : WellFormed (compile C01.atlasB C01.exNm C01.exCn fq) = true :=
  compile_wellFormed _ C01.backendBase_atlas _ _ C01.exNm_inj C01.exCn_inj C01.exNm_ne_result C01.exCn_ne_result
    C01.exNm_ne_exCn fq
example (fq : FQ) : WellFormed (compile C01.cmsAodB C01.exNm C01.exCn fq) = true :=
  compile_wellFormed _ C01.backendBase_cmsAod _ _ C01.exNm_inj C01.exCn_inj C01.exNm_ne_result C01.exCn_ne_result
    C01.exNm_ne_exCn fq
example (fq : FQ) : WellFormed (compile C01.cmsMiniAodB C01.exNm C01.exCn fq) = true :=
  compile_wellFormed _ C01.backendOK_cmsMiniAod _ _ C01.exNm_inj C01.exCn_inj C01.exNm_ne_result C01.exCn_ne_result
    C01.exNm_ne_exCn fq

/-- … and every backend record the text tie builds (`Gen.mkBackend`, any backend name and collection table) -/
example (name : String) (colls : List (String × String × String)) (fq : FQ) :
    WellFormed (compile (mkBackend name colls) C01.exNm C01.exCn fq) = true :=
  compile_wellFormed _ (Wf.backendBase_mkBackend name colls) _ _ C01.exNm_inj C01.exCn_inj C01.exNm_ne_result C01.exCn_ne_result
    C01.exNm_ne_exCn fq

/-- the checker evaluated by the kernel on concrete compiled packages (what the theorem predicts); `C05/TheoremsWf.lean`
evaluates only the emptiness analysis on the same packages -/
theorem exFq_atlas_wf : WellFormed (compile C01.atlasB C01.exNm C01.exCn exFq) = true := by decide +kernel
theorem exFq_miniAod_wf : WellFormed (compile C01.cmsMiniAodB C01.exNm C01.exCn exFq) = true := by decide +kernel
example : WellFormed (compile C01.atlasB C01.exNm C01.exCn exFq) = true := exFq_atlas_wf
example : WellFormed (compile C01.cmsMiniAodB C01.exNm C01.exCn exFq) = true := exFq_miniAod_wf
example : WellFormed (compile C01.cmsAodB C01.exNm C01.exCn exFqElem) = true := by decide +kernel

/-- … and the statement is not trivially true of the checker: the same package is REJECTED when a name
supply is not injective (every local is called `v`: redeclaration), which is why the hypothesis is there -/
example : WellFormed (compile C01.atlasB (fun _ => "v") C01.exCn exFq) = false := by decide +kernel

/-- … and when the `First()` emptiness check (last statement of that column's loop code) is dropped from
the emitted body: the column variable may be unset at the fill -/
example : WellFormed { compile C01.atlasB C01.exNm C01.exCn exFq with
    body := match (compile C01.atlasB C01.exNm C01.exCn exFq).body with
      | .block b => .block (b.filter fun st => match st with | .ite _ [.throw _] [] => false | _ => true)
      | st => st } = false := by decide +kernel

end FaxVerif.C02
