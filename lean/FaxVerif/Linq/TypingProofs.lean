/-
Linq.TypingProofs — what an `.ok` of each typing operator of `Linq.Typing` means, the operators' soundness for
`Linq.denote`, and `typeOf_sound`, the induction behind C03's `type_soundness`. Numbers are argued on one scale: a
value fits a numeric type iff its `vrank` is at most the type's `CTy.rank`; `join` and `+ - *` take the maximum. The
facts about the final shape are in `Linq/FinalShape.lean`, the property theorems in `C03/TheoremsTyping.lean`.
-/
import FaxVerif.Linq.Typing
import FaxVerif.Linq.Combinators
namespace FaxVerif.Linq
open FaxVerif.Cpp
variable {D : Type}

/-- case analysis of a hypothesis `h : (match … with …) = .ok _`: split every match, drop the error arms -/
syntax "inv_at " ident : tactic
macro_rules
  | `(tactic| inv_at $h:ident) => `(tactic| repeat' (split at $h:ident <;> try (cases $h:ident; done)))

theorem elemTy_ok {a t : CTy} (h : elemTy a = .ok t) : a = .vec t := by
  cases a <;> simp [elemTy] at h
  exact congrArg _ h

theorem isNum_cases {t : CTy} (h : t.isNum = true) : t = .int ∨ t = .float ∨ t = .double := by
  cases t <;> simp [CTy.isNum, CTy.rank] at h <;> simp

theorem isScalar_cases {t : CTy} (h : t.isScalar = true) :
    t = .int ∨ t = .float ∨ t = .double ∨ t = .bool ∨ ∃ n b, t = .prim n b := by
  cases t <;> simp [CTy.isScalar] at h <;> simp

theorem leTy_double {a : CTy} (h : a.isNum = true) : leTy a .double = true := by
  rcases isNum_cases h with rfl | rfl | rfl <;> decide

theorem hasCTy_bool_inv {S : Sig} {v : Val D} (h : hasCTy S v .bool = true) : ∃ b, v = .bool b := by
  cases v <;> simp [hasCTy] at h
  exact ⟨_, rfl⟩

theorem hasCTy_vec_inv {S : Sig} {v : Val D} {t : CTy} (h : hasCTy S v (.vec t) = true) : ∃ l, v = .vec l ∧ allCTy S l t = true := by
  cases v <;> simp [hasCTy] at h
  exact ⟨_, rfl, h⟩

/-- The numeric kind of a value, on the scale of `CTy.rank`: an integer fits from `int` (0) up, a floating value from
`float` (1) up. -/
def vrank : Val D → Option Nat
  | .int _ => some 0
  | .dbl _ => some 1
  | _ => none

/-- a value fits a numeric type iff it is a number of at most the type's rank -/
theorem hasCTy_rank {S : Sig} {v : Val D} {t : CTy} {r : Nat} (ht : t.rank = some r) :
    hasCTy S v t = true ↔ ∃ k, vrank v = some k ∧ k ≤ r := by
  cases t <;> cases ht <;> cases v <;> simp [hasCTy, vrank]

theorem join_rank {a b j : CTy} (h : join a b = some j) :
    ∃ x y, a.rank = some x ∧ b.rank = some y ∧ j.rank = some (max x y) := by
  unfold join at h
  split at h
  · rename_i x y hx hy
    cases h
    refine ⟨x, y, hx, hy, ?_⟩
    split
    · rw [hx, Nat.max_eq_left ‹_›]
    · rw [hy, Nat.max_eq_right (by omega)]
  · cases h

theorem leTy_rank {a b : CTy} (h : leTy a b = true) : ∃ x y, a.rank = some x ∧ b.rank = some y ∧ x ≤ y := by
  unfold leTy at h
  split at h
  · exact ⟨_, _, ‹_›, ‹_›, by simpa using h⟩
  · cases h

theorem hasCTy_mono {S : Sig} {v : Val D} {a b : CTy} (h : hasCTy S v a = true) (hle : leTy a b = true) : hasCTy S v b = true := by
  obtain ⟨x, y, ha, hb, hxy⟩ := leTy_rank hle
  obtain ⟨k, hk, hkx⟩ := (hasCTy_rank ha).mp h
  exact (hasCTy_rank hb).mpr ⟨k, hk, by omega⟩

theorem hasCTy_join_left {S : Sig} {v : Val D} {a b j : CTy} (hj : join a b = some j) (h : hasCTy S v a = true) :
    hasCTy S v j = true := by
  obtain ⟨x, y, hx, _, hjr⟩ := join_rank hj
  obtain ⟨k, hk, _⟩ := (hasCTy_rank hx).mp h
  exact (hasCTy_rank hjr).mpr ⟨k, hk, by omega⟩

theorem allCTy_iff {S : Sig} {t : CTy} : ∀ {l : List (Val D)}, allCTy S l t = true ↔ ∀ v ∈ l, hasCTy S v t = true
  | [] => by simp [allCTy]
  | v :: vs => by simp [allCTy, allCTy_iff (l := vs)]

theorem allCTy_append {S : Sig} {t : CTy} {l₁ l₂ : List (Val D)} (h₁ : allCTy S l₁ t = true) (h₂ : allCTy S l₂ t = true) :
    allCTy S (l₁ ++ l₂) t = true := by
  rw [allCTy_iff] at *
  intro v hv
  rcases List.mem_append.mp hv with h | h
  · exact h₁ v h
  · exact h₂ v h

theorem hasAttrs_lookup {S : Sig} {ms : List (String × CTy)} {k : String} {w : Val D} {t : CTy} :
    ∀ {attrs : List (String × Val D)}, hasAttrs S ms attrs = true → lookupAttr attrs k = some w → assoc ms k = some t →
      hasCTy S w t = true
  | [], _, hl, _ => by simp [lookupAttr] at hl
  | (k', w') :: rest, h, hl, hm => by
    simp only [hasAttrs, Bool.and_eq_true] at h
    simp only [lookupAttr] at hl
    by_cases hk : k' = k
    · subst hk
      simp only [if_true, Option.some.injEq] at hl; subst hl
      simpa [hm] using h.1
    · simp only [hk, if_false] at hl
      exact hasAttrs_lookup h.2 hl hm

theorem hasFields_nil {S : Sig} {fs : CTy} (h : hasFields S ([] : List (String × Val D)) fs = true) : fs = .fnil := by
  unfold hasFields at h
  split at h
  · rfl
  · rename_i heq; cases heq
  · cases h

theorem hasFields_cons {S : Sig} {k : String} {w : Val D} {rest : List (String × Val D)} {fs : CTy}
    (h : hasFields S ((k, w) :: rest) fs = true) : ∃ t r, fs = .fcons k t r ∧ hasCTy S w t = true ∧ hasFields S rest r = true := by
  unfold hasFields at h
  split at h
  · rename_i heq; cases heq
  · rename_i heq; cases heq
    simp only [Bool.and_eq_true, beq_iff_eq] at h
    obtain ⟨⟨rfl, hw⟩, hr⟩ := h
    exact ⟨_, _, rfl, hw, hr⟩
  · cases h

theorem hasFields_at {S : Sig} {k : String} {w : Val D} {t : CTy} :
    ∀ {items : List (String × Val D)} {fs : CTy} {i : Nat}, hasFields S items fs = true → items[i]? = some (k, w) → fieldAt fs i = some t →
      hasCTy S w t = true
  | [], _, _, _, hi, _ => by simp at hi
  | (k', w') :: rest, fs, i, h, hi, hf => by
    obtain ⟨t', r, rfl, hw, hr⟩ := hasFields_cons h
    cases i with
    | zero =>
      simp only [List.getElem?_cons_zero, Option.some.injEq, Prod.mk.injEq] at hi
      simp only [fieldAt, Option.some.injEq] at hf
      obtain ⟨_, rfl⟩ := hi; subst hf
      exact hw
    | succ i => exact hasFields_at hr hi hf

theorem hasFields_get {S : Sig} {k : String} {w : Val D} {t : CTy} :
    ∀ {items : List (String × Val D)} {fs : CTy}, hasFields S items fs = true → lookupAttr items k = some w → fieldGet fs k = some t →
      hasCTy S w t = true
  | [], _, _, hl, _ => by simp [lookupAttr] at hl
  | (k', w') :: rest, fs, h, hl, hf => by
    obtain ⟨t', r, rfl, hw, hr⟩ := hasFields_cons h
    simp only [lookupAttr] at hl
    simp only [fieldGet] at hf
    by_cases hk : k' = k
    · simp only [hk, if_true, Option.some.injEq] at hl hf; subst hl; subst hf; exact hw
    · simp only [hk, if_false] at hl hf
      exact hasFields_get hr hl hf

theorem hasFields_mk {S : Sig} : ∀ (ks : List String) (vs : List (Val D)) (ts : List CTy), rowFits S vs ts = true →
    hasFields S (ks.zip vs) (mkFields ks ts) = true
  | [], _, _, _ => by simp [mkFields, hasFields]
  | _ :: _, [], [], _ => by simp [mkFields, hasFields]
  | _ :: _, [], _ :: _, h => by simp [rowFits] at h
  | _ :: _, _ :: _, [], h => by simp [rowFits] at h
  | k :: ks, v :: vs, t :: ts, h => by
    simp only [rowFits, Bool.and_eq_true] at h
    simp [mkFields, hasFields, h.1, hasFields_mk ks vs ts h.2]

theorem rowFits_length {S : Sig} : ∀ {vs : List (Val D)} {ts : List CTy}, rowFits S vs ts = true → vs.length = ts.length
  | [], [], _ => rfl
  | [], _ :: _, h => by simp [rowFits] at h
  | _ :: _, [], h => by simp [rowFits] at h
  | _ :: vs, _ :: ts, h => by
    simp only [rowFits, Bool.and_eq_true] at h
    simp [rowFits_length h.2]

theorem envOk_get {S : Sig} {n : String} {v : Val D} {t : CTy} :
    ∀ {ρ : LEnv D} {Γ : TyEnv}, envOk S ρ Γ = true → ρ.get n = some v → assoc Γ n = some t → hasCTy S v t = true
  | [], [], _, hv, _ => by simp [LEnv.get] at hv
  | [], _ :: _, h, _, _ => by simp [envOk] at h
  | _ :: _, [], h, _, _ => by simp [envOk] at h
  | (k, w) :: ρ, (k', t') :: Γ, h, hv, ht => by
    simp only [envOk, Bool.and_eq_true, beq_iff_eq] at h
    obtain ⟨⟨rfl, hw⟩, hr⟩ := h
    simp only [LEnv.get] at hv
    simp only [assoc] at ht
    by_cases hk : k = n
    · simp only [hk, if_true, Option.some.injEq] at hv ht; subst hv; subst ht; exact hw
    · simp only [hk, if_false] at hv ht
      exact envOk_get hr hv ht

theorem envOk_cons {S : Sig} {ρ : LEnv D} {Γ : TyEnv} {x : String} {v : Val D} {t : CTy}
    (h : envOk S ρ Γ = true) (hv : hasCTy S v t = true) : envOk S ((x, v) :: ρ) ((x, t) :: Γ) = true := by
  simp [envOk, h, hv]

/-- `+ - *` of two numbers is a number of the larger rank -/
theorem arith_rank {N : Num D} {op : String} (hop : op = "+" ∨ op = "-" ∨ op = "*") {va vb v : Val D} {x y : Nat}
    (ha : vrank va = some x) (hb : vrank vb = some y) (hv : arith N op va vb = .ok v) : vrank v = some (max x y) := by
  cases va <;> cases ha <;> cases vb <;> cases hb <;> rcases hop with rfl | rfl | rfl <;> cases hv <;> rfl

theorem arith_sound {S : Sig} {N : Num D} {op : String} (hop : op = "+" ∨ op = "-" ∨ op = "*") {ta tb j : CTy} {va vb v : Val D}
    (hj : join ta tb = some j) (ha : hasCTy S va ta = true) (hb : hasCTy S vb tb = true)
    (hv : arith N op va vb = .ok v) : hasCTy S v j = true := by
  obtain ⟨x, y, hx, hy, hjr⟩ := join_rank hj
  obtain ⟨ka, hka, _⟩ := (hasCTy_rank hx).mp ha
  obtain ⟨kb, hkb, _⟩ := (hasCTy_rank hy).mp hb
  exact (hasCTy_rank hjr).mpr ⟨_, arith_rank hop hka hkb hv, by omega⟩

theorem binTy_ok {op : String} {ta tb t : CTy} (h : binTy op ta tb = .ok t) :
    ∃ j, join ta tb = some j ∧
      ((op = "/" ∨ op = "**") ∧ t = .double ∨ ¬ (op = "/" ∨ op = "**") ∧ op ∈ arithOps ∧ t = j) := by
  unfold binTy at h
  split at h
  · cases h
  · rename_i j hj
    refine ⟨j, hj, ?_⟩
    split at h
    · cases h; exact .inl ⟨‹_›, rfl⟩
    · split at h
      · cases h; exact .inr ⟨‹_›, ‹_›, rfl⟩
      · cases h

theorem binTy_sound {S : Sig} {N : Num D} {op : String} {ta tb t : CTy} {va vb v : Val D}
    (ht : binTy op ta tb = .ok t) (ha : hasCTy S va ta = true) (hb : hasCTy S vb tb = true)
    (hv : pyArith N op va vb = .ok v) : hasCTy S v t = true := by
  obtain ⟨j, hj, h⟩ := binTy_ok ht
  unfold pyArith at hv
  rcases h with ⟨hop, rfl⟩ | ⟨hop, hmem, rfl⟩
  · -- `/` and `**` yield a floating value or fail
    rcases hop with rfl | rfl <;> simp only [String.reduceEq, if_true, if_false] at hv <;> inv_at hv <;> cases hv <;> rfl
  · simp only [not_or] at hop
    simp only [hop.1, hop.2, if_false] at hv
    split at hv
    · -- `%` yields an integer, which fits every numeric type
      obtain ⟨_, _, _, _, hjr⟩ := join_rank hj
      inv_at hv; cases hv; exact (hasCTy_rank hjr).mpr ⟨0, rfl, Nat.zero_le _⟩
    · rename_i h4
      refine arith_sound ?_ hj ha hb hv
      simpa only [arithOps, List.mem_cons, List.not_mem_nil, or_false, h4] using hmem

theorem arith_cmp {N : Num D} {op : String} (h : op ∈ cmpOps) {va vb v : Val D} (hv : arith N op va vb = .ok v) : ∃ r, v = .bool r := by
  unfold arith at hv
  -- every branch of `arith` yields a boolean, belongs to an operator that is no comparison, or fails
  repeat' split at hv
  all_goals first
    | exact ⟨_, (Except.ok.inj hv).symm⟩
    | exact absurd h (by decide)
    | cases hv

theorem cmpTy_ok {op : String} {ta tb t : CTy} (h : cmpTy op ta tb = .ok t) : op ∈ cmpOps ∧ t = .bool := by
  unfold cmpTy at h
  inv_at h; cases h
  exact ⟨‹_›, rfl⟩

theorem cmpTy_sound {S : Sig} {N : Num D} {op : String} {ta tb t : CTy} {va vb v : Val D}
    (ht : cmpTy op ta tb = .ok t) (hv : arith N op va vb = .ok v) : hasCTy S v t = true := by
  obtain ⟨h, rfl⟩ := cmpTy_ok ht
  obtain ⟨r, rfl⟩ := arith_cmp h hv
  rfl

/-- unary minus keeps a number's rank -/
theorem neg_rank {N : Num D} {va v : Val D} {k : Nat} (ha : vrank va = some k) (hv : unop N "-" va = .ok v) : vrank v = some k := by
  cases va <;> cases ha <;> cases hv <;> rfl

theorem negTy_sound {S : Sig} {N : Num D} {ta t : CTy} {va v : Val D}
    (ht : negTy ta = .ok t) (ha : hasCTy S va ta = true) (hv : unop N "-" va = .ok v) : hasCTy S v t = true := by
  have num : ∀ {r}, ta.rank = some r → hasCTy S v ta = true := fun hr =>
    let ⟨k, hk, hkr⟩ := (hasCTy_rank hr).mp ha
    (hasCTy_rank hr).mpr ⟨k, neg_rank hk hv, hkr⟩
  unfold negTy at ht
  split at ht <;> cases ht
  · exact num (r := 0) rfl
  · exact num (r := 1) rfl
  · exact num (r := 2) rfl
  · obtain ⟨b, rfl⟩ := hasCTy_bool_inv ha
    cases hv; rfl

theorem notTy_ok {ta t : CTy} (h : notTy ta = .ok t) : t = .bool := by
  unfold notTy at h
  inv_at h; cases h; rfl

theorem notTy_sound {S : Sig} {N : Num D} {ta t : CTy} {va v : Val D}
    (ht : notTy ta = .ok t) (hv : unop N "!" va = .ok v) : hasCTy S v t = true := by
  cases notTy_ok ht
  simp only [unop] at hv
  inv_at hv
  cases hv; rfl

theorem boolOpTy_ok {ta tb t : CTy} (ht : boolOpTy ta tb = .ok t) : t = .bool := by
  unfold boolOpTy at ht
  split at ht
  · cases ht; rfl
  · cases ht

theorem iteTy_ok {tc ta tb t : CTy} (ht : iteTy tc ta tb = .ok t) : t = .double ∧ ta.isNum = true ∧ tb.isNum = true := by
  unfold iteTy at ht
  split at ht
  · split at ht
    · cases ht
      rename_i h; simp only [Bool.and_eq_true] at h
      exact ⟨rfl, h.1, h.2⟩
    · cases ht
  · cases ht

theorem mapE_sound {S : Sig} {te tf : CTy} {f : Val D → Except Fault (Val D)}
    (hf : ∀ v, hasCTy S v te = true → ∀ r, f v = .ok r → hasCTy S r tf = true) {l r : List (Val D)}
    (hl : allCTy S l te = true) (h : mapE f l = .ok r) : allCTy S r tf = true :=
  allCTy_iff.mpr fun w hw =>
    let ⟨v, hv, hfv⟩ := mapE_ok_mem f l r h w hw
    hf v (allCTy_iff.mp hl v hv) w hfv

theorem filterE_sound {S : Sig} {N : Num D} {te : CTy} {f : Val D → Except Fault (Val D)} {l r : List (Val D)}
    (hl : allCTy S l te = true) (h : filterE N f l = .ok r) : allCTy S r te = true :=
  allCTy_iff.mpr fun w hw => allCTy_iff.mp hl w (filterE_ok_mem N f l r h w hw).1

theorem flatMapE_sound {S : Sig} {te tu : CTy} {f : Val D → Except Fault (Val D)}
    (hf : ∀ v, hasCTy S v te = true → ∀ r, f v = .ok r → hasCTy S r (.vec tu) = true) :
    ∀ {l r : List (Val D)}, allCTy S l te = true → flatMapE f l = .ok r → allCTy S r tu = true
  | [], r, _, h => by simp only [flatMapE] at h; cases h; simp [allCTy]
  | v :: vs, r, hl, h => by
    simp only [allCTy, Bool.and_eq_true] at hl
    simp only [flatMapE] at h
    inv_at h
    cases h
    have h1 := hf v hl.1 _ (by assumption)
    simp only [hasCTy] at h1
    exact allCTy_append h1 (flatMapE_sound hf hl.2 (by assumption))

theorem foldE_sound {S : Sig} {te T : CTy} {f : Val D → Val D → Except Fault (Val D)}
    (hf : ∀ a v, hasCTy S a T = true → hasCTy S v te = true → ∀ r, f a v = .ok r → hasCTy S r T = true) :
    ∀ {l : List (Val D)} {a r : Val D}, allCTy S l te = true → hasCTy S a T = true → foldE f l a = .ok r → hasCTy S r T = true
  | [], a, r, _, ha, h => by simp only [foldE] at h; cases h; exact ha
  | v :: vs, a, r, hl, ha, h => by
    simp only [allCTy, Bool.and_eq_true] at hl
    simp only [foldE] at h
    inv_at h
    exact foldE_sound hf hl.2 (hf a v ha hl.1 _ (by assumption)) h

theorem sumTy_sound {S : Sig} {N : Num D} {te t : CTy} {l : List (Val D)} {r : Val D}
    (ht : sumTy te = .ok t) (hl : allCTy S l te = true)
    (h : foldE (fun a v => arith N "+" a v) l (.int 0) = .ok r) : hasCTy S r t = true := by
  unfold sumTy at ht
  split at ht <;> cases ht
  rename_i hj
  obtain ⟨x, y, hx, hy, hjr⟩ := join_rank hj
  cases hx
  -- the accumulator stays in `t = join int te`: the sum of a value of `t` and one of `te` has at most the rank of `t`
  refine foldE_sound (te := te) (T := t) (fun a v ha hv r hr => ?_) hl ((hasCTy_rank hjr).mpr ⟨0, rfl, Nat.zero_le _⟩) h
  obtain ⟨ka, hka, _⟩ := (hasCTy_rank hjr).mp ha
  obtain ⟨kv, hkv, _⟩ := (hasCTy_rank hy).mp hv
  exact (hasCTy_rank hjr).mpr ⟨_, arith_rank (.inl rfl) hka hkv hr, by omega⟩

theorem minMaxTy_sound {S : Sig} {te t : CTy} {l : List (Val D)} {v r : Val D} {f : Val D → Val D → Except Fault (Val D)}
    (hf : ∀ a w r, f a w = .ok r → r = a ∨ r = w)
    (ht : minMaxTy te = .ok t) (hl : allCTy S (v :: l) te = true)
    (h : foldE f l v = .ok r) : hasCTy S r t = true := by
  unfold minMaxTy at ht
  split at ht
  · cases ht
    rename_i hn
    simp only [allCTy, Bool.and_eq_true] at hl
    have : hasCTy S r te = true := by
      refine foldE_sound (te := te) (T := te) ?_ hl.2 hl.1 h
      intro a w ha hw r hr
      rcases hf a w r hr with rfl | rfl <;> assumption
    exact hasCTy_mono this (leTy_double hn)
  · cases ht

theorem subTy_sound {S : Sig} {ta t : CTy} {i : Nat} {va : Val D} (ht : subTy ta i = .ok t) (ha : hasCTy S va ta = true) :
    (∀ ty items kv, va = .obj ty items → items[i]? = some kv → hasCTy S kv.2 t = true) ∧
    (∀ l w, va = .vec l → l[i]? = some w → hasCTy S w t = true) := by
  unfold subTy at ht
  split at ht
  · cases ht
    obtain ⟨l, rfl, hl⟩ := hasCTy_vec_inv ha
    refine ⟨fun _ _ _ h => (by cases h), fun l' w h hw => ?_⟩
    cases h
    exact allCTy_iff.mp hl w (List.mem_of_getElem? hw)
  · inv_at ht
    cases ht
    refine ⟨fun ty items kv h hkv => ?_, fun l w h _ => ?_⟩
    · subst h
      simp only [hasCTy, Bool.and_eq_true] at ha
      exact hasFields_at (k := kv.1) (w := kv.2) ha.2 hkv (by assumption)
    · subst h; simp [hasCTy] at ha
  · cases ht

theorem keyTy_sound {S : Sig} {ta t : CTy} {k : String} {ty : String} {items : List (String × Val D)} {w : Val D}
    (ht : keyTy ta k = .ok t) (ha : hasCTy S (.obj ty items) ta = true) (hw : lookupAttr items k = some w) : hasCTy S w t = true := by
  unfold keyTy at ht
  split at ht
  · inv_at ht
    cases ht
    simp only [hasCTy, Bool.and_eq_true] at ha
    exact hasFields_get ha.2 hw (by assumption)
  · cases ht

theorem find_go_mem {bank t : String} {v : Val D} : ∀ {l : List (String × String × Val D)},
    Event.find.go bank l = some (t, v) → (bank, t, v) ∈ l
  | [], h => by simp [Event.find.go] at h
  | (b, t', v') :: rest, h => by
    simp only [Event.find.go] at h
    by_cases hb : b = bank
    · simp only [hb, if_true, Option.some.injEq, Prod.mk.injEq] at h
      obtain ⟨rfl, rfl⟩ := h; subst hb; exact List.mem_cons_self
    · simp only [hb, if_false] at h
      exact List.mem_cons_of_mem _ (find_go_mem h)

theorem collType_go_mem {name t : String} : ∀ {l : List (String × String)},
    QCtx.collType.go name l = some t → (name, t) ∈ l
  | [], h => by simp [QCtx.collType.go] at h
  | (k, t') :: rest, h => by
    simp only [QCtx.collType.go] at h
    by_cases hb : k = name
    · simp only [hb, if_true, Option.some.injEq] at h
      subst h; subst hb; exact List.mem_cons_self
    · simp only [hb, if_false] at h
      exact List.mem_cons_of_mem _ (collType_go_mem h)

theorem eventOk_find {S : Sig} {C : QCtx D} (h : eventOk S C = true) {bank have_ want name cls : String} {content : Val D}
    (hf : C.ev.find bank = some (have_, content)) (hc : C.collType name = some want) (hs : S.collElem name = some cls)
    (hw : want = have_) : hasCTy S content (.vec (.obj cls)) = true := by
  subst hw
  unfold eventOk at h
  rw [List.all_eq_true] at h
  have h1 := h _ (find_go_mem hf)
  rw [List.all_eq_true] at h1
  have h2 := h1 _ (collType_go_mem hc)
  simpa [hs] using h2

theorem meth_sound {S : Sig} {cls name : String} {r v : Val D} {t : CTy}
    (hr : hasCTy S r (.obj cls) = true) (hm : S.method cls name = some t) (hv : member r name [] = .ok v) : hasCTy S v t = true := by
  cases r <;> simp only [hasCTy] at hr <;> try (cases hr; done)
  unfold Sig.method at hm
  cases hms : S.methods cls with
  | none => simp [hms] at hm
  | some ms =>
    simp only [hms] at hm hr
    simp only [member] at hv
    inv_at hv; cases hv
    exact hasAttrs_lookup hr (by assumption) hm

theorem pick_cases {p : Except Fault Bool} {a w r : Val D} (h : (match p with
    | .ok b => Except.ok (if b then w else a)
    | .error e => .error e) = .ok r) : r = a ∨ r = w := by
  inv_at h <;> cases h <;> simp

theorem fnTy_ok {S : Sig} {f : String} {t : CTy} (h : fnTy S f = .ok t) : t = .float ∨ t = .double := by
  unfold fnTy at h
  inv_at h <;> cases h <;> simp

def Sound (S : Sig) (C : QCtx D) (q : Query) : Prop :=
  ∀ (Γ : TyEnv) (ρ : LEnv D), envOk S ρ Γ = true → ∀ (t : CTy) (v : Val D),
    typeOf S Γ q = .ok t → denote C ρ q = .ok v → hasCTy S v t = true

theorem typeOfs_sound_of {S : Sig} {C : QCtx D} {qs : List Query} (h : ∀ q ∈ qs, Sound S C q) :
    ∀ (Γ : TyEnv) (ρ : LEnv D), envOk S ρ Γ = true → ∀ (ts : List CTy) (vs : List (Val D)),
      typeOfs S Γ qs = .ok ts → denotes C ρ qs = .ok vs → rowFits S vs ts = true := by
  induction qs with
    (intro Γ ρ hρ ts vs ht hd; simp only [typeOfs] at ht; simp only [denotes] at hd; inv_at ht; inv_at hd; cases ht; cases hd)
  | nil => rfl
  | cons q qs ih =>
    simp only [rowFits, Bool.and_eq_true]
    exact ⟨h q List.mem_cons_self Γ ρ hρ _ _ (by assumption) (by assumption),
      ih (fun q hq => h q (List.mem_cons_of_mem _ hq)) Γ ρ hρ _ _ (by assumption) (by assumption)⟩

theorem typeOf_sound {S : Sig} {C : QCtx D} (hev : eventOk S C = true) (q : Query) : Sound S C q := by
  -- every case of a query starts alike: unfold both definitions at the constructor and keep the branches
  -- in which every match succeeded (the two list cases have nothing to unfold)
  induction q using Query.rec (motive_2 := fun qs => ∀ q ∈ qs, Sound S C q) with
    (try (intro (Γ : TyEnv) ρ hρ t v ht hd; simp only [typeOf] at ht; simp only [denote] at hd; inv_at ht; inv_at hd))
  | nil q hq => exact absurd hq List.not_mem_nil
  | cons q qs ih ihs q' hq' =>
    rcases List.mem_cons.mp hq' with rfl | hq'
    · exact ih
    · exact ihs q' hq'
  | ds => cases ht; cases hd; simp [hasCTy, allCTy]
  | var n => cases ht; cases hd; exact envOk_get hρ (by assumption) (by assumption)
  | int _ | dbl _ _ | bool _ | str _ => cases ht; cases hd; simp [hasCTy]
  | meth o name ih =>
    cases ht
    exact meth_sound (ih Γ ρ hρ _ _ (by assumption) (by assumption)) (by assumption) hd
  | coll e name bank =>
    cases ht; cases hd
    exact eventOk_find hev (by assumption) (by assumption) (by assumption) (by assumption)
  | bin op a b iha ihb =>
    exact binTy_sound ht (iha Γ ρ hρ _ _ (by assumption) (by assumption)) (ihb Γ ρ hρ _ _ (by assumption) (by assumption)) hd
  | cmp op a b => exact cmpTy_sound ht hd
  | neg a ih => exact negTy_sound ht (ih Γ ρ hρ _ _ (by assumption) (by assumption)) hd
  | not a => exact notTy_sound ht hd
  | and a b | or a b => cases hd; cases boolOpTy_ok ht; simp [hasCTy]
  | ite c a b _ iha ihb =>
    obtain ⟨rfl, hna, hnb⟩ := iteTy_ok ht
    -- one goal per arm: `hd` is the value of the arm taken
    first
    | exact hasCTy_mono (iha Γ ρ hρ _ _ (by assumption) hd) (leTy_double hna)
    | exact hasCTy_mono (ihb Γ ρ hρ _ _ (by assumption) hd) (leTy_double hnb)
  | select s x f ihs ihf =>
    cases ht; cases hd
    have hs := ihs Γ ρ hρ _ _ (by assumption) (by assumption)
    simp only [hasCTy] at hs ⊢
    exact mapE_sound (fun w hw r hr => ihf _ _ (envOk_cons hρ hw) _ _ (by assumption) hr) hs (by assumption)
  | where_ s x f ihs =>
    cases ht; cases hd
    have hs := ihs Γ ρ hρ _ _ (by assumption) (by assumption)
    simp only [hasCTy] at hs ⊢
    exact filterE_sound hs (by assumption)
  | selectMany s x f ihs ihf =>
    cases ht; cases hd
    have hs := ihs Γ ρ hρ _ _ (by assumption) (by assumption)
    simp only [hasCTy] at hs ⊢
    exact flatMapE_sound (fun w hw r hr => ihf _ _ (envOk_cons hρ hw) _ _ (by assumption) hr) hs (by assumption)
  | count s => cases ht; cases hd; simp [hasCTy]
  | sum s ihs =>
    have hs := ihs Γ ρ hρ _ _ (by assumption) (by assumption)
    simp only [hasCTy] at hs
    exact sumTy_sound ht hs hd
  | min s ihs | max s ihs =>
    have hs := ihs Γ ρ hρ _ _ (by assumption) (by assumption)
    simp only [hasCTy] at hs
    exact minMaxTy_sound (fun _ _ _ => pick_cases) ht hs hd
  | first s ihs =>
    cases hd
    cases elemTy_ok ht
    have hs := ihs Γ ρ hρ _ _ (by assumption) (by assumption)
    simp only [hasCTy, allCTy, Bool.and_eq_true] at hs
    exact hs.1
  | aggregate s seed acc x f ihs ih0 ihf =>
    cases ht
    have hs := ihs Γ ρ hρ _ _ (by assumption) (by assumption)
    have h0 := ih0 Γ ρ hρ _ _ (by assumption) (by assumption)
    simp only [hasCTy] at hs
    refine foldE_sound (fun a w ha hw r hr => hasCTy_mono
      (ihf _ _ (envOk_cons (envOk_cons hρ ha) hw) _ _ (by assumption) hr) (by assumption)) hs
      (hasCTy_join_left (by assumption) h0) hd
  | tuple es ih =>
    cases ht; cases hd
    have hr := typeOfs_sound_of ih Γ ρ hρ _ _ (by assumption) (by assumption)
    simp only [tupleVal, hasCTy, rowFits_length hr, beq_self_eq_true, Bool.true_and]
    exact hasFields_mk _ _ _ hr
  | dict keys es ih =>
    cases ht; cases hd
    have hr := typeOfs_sound_of ih Γ ρ hρ _ _ (by assumption) (by assumption)
    simp only [tupleVal, hasCTy, beq_self_eq_true, Bool.true_and]
    exact hasFields_mk _ _ _ hr
  | sub a i ih =>
    cases hd
    have ha := ih Γ ρ hρ _ _ (by assumption) (by assumption)
    -- one goal for a tuple value, one for a sequence
    first
    | exact (subTy_sound ht ha).1 _ _ (_, _) rfl (by assumption)
    | exact (subTy_sound ht ha).2 _ _ rfl (by assumption)
  | key a k ih =>
    cases hd
    exact keyTy_sound ht (ih Γ ρ hρ _ _ (by assumption) (by assumption)) (by assumption)
  | fn fname args =>
    cases hd
    rcases fnTy_ok ht with rfl | rfl <;> simp [hasCTy]

theorem typeOfs_sound {S : Sig} {C : QCtx D} (hev : eventOk S C = true) :
    ∀ (qs : List Query) (Γ : TyEnv) (ρ : LEnv D), envOk S ρ Γ = true → ∀ (ts : List CTy) (vs : List (Val D)),
      typeOfs S Γ qs = .ok ts → denotes C ρ qs = .ok vs → rowFits S vs ts = true :=
  fun _ => typeOfs_sound_of fun q _ => typeOf_sound hev q

end FaxVerif.Linq
