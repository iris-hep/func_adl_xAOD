/-
Linq.FinalShape — the final shape of a query in the typing model `Linq.Typing`: the default names `col0, col1, …`
are pairwise distinct (`natStr` is `Nat.repr`), names and types of `mkFields`, a value of the row type spreads over
the columns (`rowOf_fits`), what `rowType` / `typeOf` of a final `Select` give, and what `finalColumns` /
`finalColumnsLabeled` compute. The property theorems are in `C03/TheoremsTyping.lean`.
-/
import FaxVerif.Linq.TypingProofs
namespace FaxVerif.Linq
open FaxVerif.Cpp
variable {D : Type}

theorem digitChar_eq : ∀ d, d < 10 → Nat.digitChar d = Char.ofNat (48 + d)
  | 0, _ | 1, _ | 2, _ | 3, _ | 4, _ | 5, _ | 6, _ | 7, _ | 8, _ | 9, _ => by decide
  | n + 10, h => by omega

/-- `natDigits` is the digit loop of `Nat.repr` -/
theorem toDigitsCore_eq_natDigits : ∀ (fuel n : Nat) (ds : List Char), n < fuel →
    Nat.toDigitsCore 10 fuel n ds = natDigits fuel n ++ ds
  | 0, _, _, h => by omega
  | fuel + 1, n, ds, h => by
    simp only [Nat.toDigitsCore, natDigits]
    by_cases hn : n < 10
    · simp [hn, Nat.div_eq_of_lt hn, Nat.mod_eq_of_lt hn, digitChar_eq n hn]
    · have h0 : n / 10 ≠ 0 := by omega
      simp only [hn, h0, if_false]
      rw [toDigitsCore_eq_natDigits fuel (n / 10) _ (by omega), digitChar_eq _ (Nat.mod_lt n (by decide))]
      simp

theorem natDigits_eq (n : Nat) : natDigits (n + 1) n = Nat.toDigits 10 n := by
  rw [Nat.toDigits, toDigitsCore_eq_natDigits _ _ _ (Nat.lt_succ_self n), List.append_nil]

theorem natStr_eq_toString (n : Nat) : natStr n = toString n := congrArg String.ofList (natDigits_eq n)

theorem natStr_inj {a b : Nat} (h : natStr a = natStr b) : a = b := by
  have := congrArg (Nat.ofDigitChars 10 · 0) (String.ofList_injective h)
  simpa only [natDigits_eq, Nat.ofDigitChars_toDigits (by decide : 1 < 10) (Nat.le_refl 10)] using this

theorem colName_inj {a b : Nat} (h : "col" ++ natStr a = "col" ++ natStr b) : a = b := by
  have := congrArg String.toList h
  rw [String.toList_append, String.toList_append] at this
  exact natStr_inj (String.toList_injective (List.append_cancel_left this))

theorem nodup_map_range' {α : Type} {f : Nat → α} (hinj : ∀ i j, f i = f j → i = j) (k n : Nat) :
    ((List.range' k n).map f).Nodup :=
  List.Pairwise.map f (fun _ _ hne he => hne (hinj _ _ he)) List.nodup_range'

theorem defaultNames_eq : ∀ (n k : Nat), defaultNames n k = (List.range' k n).map fun i => "col" ++ natStr i
  | 0, _ => rfl
  | n + 1, k => by rw [defaultNames, defaultNames_eq n, List.range'_succ]; rfl

theorem defaultNames_nodup (n k : Nat) : (defaultNames n k).Nodup :=
  defaultNames_eq n k ▸ nodup_map_range' (fun _ _ => colName_inj) k n

theorem defaultNames_length (n k : Nat) : (defaultNames n k).length = n := by simp [defaultNames_eq]

theorem defaultNames_get (n k i : Nat) (h : i < n) : (defaultNames n k)[i]? = some ("col" ++ natStr (k + i)) := by
  simp [defaultNames_eq, List.getElem?_range' h]

theorem fieldNames_length : ∀ (fs : CTy), (fieldNames fs).length = (fieldTypes fs).length
  | .fcons _ _ r => by simp [fieldNames, fieldTypes, fieldNames_length r]
  | .int | .float | .double | .bool | .str | .event | .obj _ | .vec _ | .tup _ | .dict _ | .fnil | .prim _ _ => rfl

theorem fieldTypes_mk : ∀ (ks : List String) (ts : List CTy), ts.length ≤ ks.length → fieldTypes (mkFields ks ts) = ts
  | [], [], _ => rfl
  | [], _ :: _, h => by simp at h
  | _ :: _, [], _ => rfl
  | _ :: ks, _ :: ts, h => by
    simp only [List.length_cons, Nat.add_le_add_iff_right] at h
    simp [mkFields, fieldTypes, fieldTypes_mk ks ts h]

theorem fieldNames_mk : ∀ (ks : List String) (ts : List CTy), ks.length ≤ ts.length → fieldNames (mkFields ks ts) = ks
  | [], _, _ => by simp [mkFields, fieldNames]
  | _ :: _, [], h => by simp at h
  | _ :: ks, _ :: ts, h => by
    simp only [List.length_cons, Nat.add_le_add_iff_right] at h
    simp [mkFields, fieldNames, fieldNames_mk ks ts h]

theorem indexNames_eq : ∀ (n k : Nat), indexNames n k = (List.range' k n).map toString
  | 0, _ => rfl
  | n + 1, k => by rw [indexNames, indexNames_eq n, List.range'_succ]; rfl

theorem indexNames_length (n k : Nat) : (indexNames n k).length = n := by simp [indexNames_eq]

theorem rowFields_length (row : CTy) : (rowFields row).1.length = (rowFields row).2.length := by
  cases row <;> simp [rowFields, fieldNames_length, defaultNames_length]

theorem hasFields_rowFits {S : Sig} : ∀ {items : List (String × Val D)} {fs : CTy}, hasFields S items fs = true →
    rowFits S (items.map (·.2)) (fieldTypes fs) = true
  | [], _, h => by cases hasFields_nil h; rfl
  | (k, w) :: rest, _, h => by
    obtain ⟨t, r, rfl, hw, hr⟩ := hasFields_cons h
    simp [rowFits, fieldTypes, hw, hasFields_rowFits hr]

theorem allShapes_iff : ∀ {ts : List CTy}, allShapes ts = true ↔ ∀ t ∈ ts, colShape t = true
  | [] => by simp [allShapes]
  | t :: ts => by simp [allShapes, allShapes_iff (ts := ts)]

theorem hasCTy_fields_inv {S : Sig} {v : Val D} {fs : CTy} (h : hasCTy S v (.tup fs) = true ∨ hasCTy S v (.dict fs) = true) :
    ∃ items, v = .obj "__tuple__" items ∧ hasFields S items fs = true := by
  cases v <;> simp only [hasCTy, Bool.and_eq_true, beq_iff_eq, or_self, Bool.false_eq_true] at h
  exact ⟨_, by rw [h.1], h.2⟩

theorem rowOf_of_colShape {S : Sig} {v : Val D} {t : CTy} (hs : colShape t = true) (hv : hasCTy S v t = true) : rowOf v = [v] := by
  cases v with
  | obj ty items => cases t <;> simp [hasCTy, colShape, CTy.isScalar] at hv hs
  | _ => rfl

theorem rowOf_fits {S : Sig} {v : Val D} {row : CTy} (hv : hasCTy S v row = true) (hs : allShapes (rowFields row).2 = true) :
    rowFits S (rowOf v) (rowFields row).2 = true := by
  cases row with
  | dict fs =>
    obtain ⟨items, rfl, hf⟩ := hasCTy_fields_inv (.inr hv)
    simpa [rowOf, rowFields] using hasFields_rowFits hf
  | tup fs =>
    obtain ⟨items, rfl, hf⟩ := hasCTy_fields_inv (.inl hv)
    simpa [rowOf, rowFields] using hasFields_rowFits hf
  | _ =>
    simp only [rowFields, allShapes, Bool.and_true] at hs
    rw [rowOf_of_colShape hs hv]
    simp only [rowFields, rowFits, hv, Bool.and_self]

/-- What `finalColumns`, `finalColumnsLabeled` and C03's `callResultTTree` all compute once they have the labels and the
values: as many labels as values, every value has a tree type, the columns are the labels against the values. -/
def Columns (labels : List String) (values : List CTy) (cols : List (String × CTy)) : Prop :=
  labels.length = values.length ∧ allShapes values = true ∧ cols = labels.zip values

theorem Columns.names {labels : List String} {values : List CTy} {cols : List (String × CTy)} (h : Columns labels values cols) :
    cols.map (·.1) = labels := by
  obtain ⟨hl, _, rfl⟩ := h
  exact List.map_fst_zip (Nat.le_of_eq hl)

theorem Columns.types {labels : List String} {values : List CTy} {cols : List (String × CTy)} (h : Columns labels values cols) :
    cols.map (·.2) = values := by
  obtain ⟨hl, _, rfl⟩ := h
  exact List.map_snd_zip (Nat.le_of_eq hl.symm)

theorem toOption_congr {α : Type} {x y : Except String α} (h : ∀ a, x = .ok a ↔ y = .ok a) : x.toOption = y.toOption := by
  cases x with
  | ok a => rw [(h a).mp rfl]
  | error e =>
    cases y with
    | ok b => cases (h b).mpr rfl
    | error _ => rfl

theorem finalColumns_iff {S : Sig} {q : Query} {row : CTy} (hr : rowType S q = .ok row) (cols : List (String × CTy)) :
    finalColumns S q = .ok cols ↔ Columns (rowFields row).1 (rowFields row).2 cols := by
  unfold finalColumns
  simp only [hr, Columns, rowFields_length, true_and]
  split <;> simp [*, eq_comm]

theorem finalColumnsLabeled_iff {S : Sig} {q : Query} {row : CTy} (hr : rowType S q = .ok row) (labels : List String)
    (cols : List (String × CTy)) :
    finalColumnsLabeled S q labels = .ok cols ↔ row.isDict = false ∧ Columns labels (rowFields row).2 cols := by
  unfold finalColumnsLabeled
  simp only [hr, Columns]
  by_cases hd : row.isDict = true
  · simp [hd]
  · by_cases hl : labels.length = (rowFields row).2.length
    · by_cases hs : allShapes (rowFields row).2 = true <;> simp [hd, hl, hs, eq_comm]
    · simp [hd, hl]

theorem finalColumns_iff_exists {S : Sig} {q : Query} (cols : List (String × CTy)) :
    finalColumns S q = .ok cols ↔ ∃ row, rowType S q = .ok row ∧ Columns (rowFields row).1 (rowFields row).2 cols := by
  cases hr : rowType S q with
  | error e => simp [finalColumns, hr]
  | ok row => simp only [finalColumns_iff hr, Except.ok.injEq, exists_eq_left']

theorem finalColumnsLabeled_iff_exists {S : Sig} {q : Query} (labels : List String) (cols : List (String × CTy)) :
    finalColumnsLabeled S q labels = .ok cols ↔
      ∃ row, rowType S q = .ok row ∧ row.isDict = false ∧ Columns labels (rowFields row).2 cols := by
  cases hr : rowType S q with
  | error e => simp [finalColumnsLabeled, hr]
  | ok row => simp only [finalColumnsLabeled_iff hr, Except.ok.injEq, exists_eq_left']

end FaxVerif.Linq

namespace FaxVerif.C03
open FaxVerif.Cpp FaxVerif.Linq

theorem rowType_ok {S : Sig} {q : Query} {row : CTy} (h : rowType S q = .ok row) : typeOf S [] q = .ok (.vec row) := by
  unfold rowType at h
  inv_at h; cases h; assumption

theorem typeOf_select_inv {S : Sig} {Γ : TyEnv} {s f : Query} {x : String} {t : CTy}
    (h : typeOf S Γ (.select s x f) = .ok t) :
    ∃ te tf, typeOf S Γ s = .ok (.vec te) ∧ typeOf S ((x, te) :: Γ) f = .ok tf ∧ t = .vec tf := by
  simp only [typeOf] at h
  inv_at h; cases h
  exact ⟨_, _, by assumption, by assumption, rfl⟩

theorem typeOfs_length {S : Sig} {Γ : TyEnv} : ∀ {es : List Query} {ts : List CTy}, typeOfs S Γ es = .ok ts → ts.length = es.length
  | [], ts, h => by simp only [typeOfs] at h; cases h; rfl
  | e :: es, ts, h => by
    simp only [typeOfs] at h; inv_at h; cases h
    simp [typeOfs_length (es := es) (by assumption)]

theorem rowType_select_dict {S : Sig} {s : Query} {x : String} {keys : List String} {es : List Query} {row : CTy}
    (h : rowType S (.select s x (.dict keys es)) = .ok row) :
    ∃ ts, row = .dict (mkFields keys ts) ∧ keys.length = ts.length ∧ ts.length = es.length := by
  obtain ⟨te, tf, _, hf, ht⟩ := typeOf_select_inv (rowType_ok h)
  cases ht
  simp only [typeOf] at hf
  inv_at hf; cases hf
  exact ⟨_, rfl, ‹_›, typeOfs_length ‹_›⟩

theorem rowType_select_tuple {S : Sig} {s : Query} {x : String} {es : List Query} {row : CTy}
    (h : rowType S (.select s x (.tuple es)) = .ok row) :
    ∃ ts, row = .tup (mkFields (indexNames ts.length 0) ts) ∧ ts.length = es.length := by
  obtain ⟨te, tf, _, hf, ht⟩ := typeOf_select_inv (rowType_ok h)
  cases ht
  simp only [typeOf] at hf
  inv_at hf; cases hf
  exact ⟨_, rfl, typeOfs_length ‹_›⟩

theorem rowFields_other {row : CTy} (hd : ∀ fs, row ≠ .dict fs) (ht : ∀ fs, row ≠ .tup fs) : rowFields row = (["col1"], [row]) := by
  cases row <;> first | rfl | exact absurd rfl (hd _) | exact absurd rfl (ht _)

end FaxVerif.C03

namespace FaxVerif.Gen
open FaxVerif.Cpp FaxVerif.Linq

theorem typeOfs_map {α : Type} (S : Sig) (Γ : TyEnv) (f : α → Query) (g : α → CTy) : ∀ (l : List α),
    (∀ a ∈ l, typeOf S Γ (f a) = .ok (g a)) → typeOfs S Γ (l.map f) = .ok (l.map g)
  | [], _ => rfl
  | a :: l, h => by
    simp only [List.map_cons, typeOfs, h a List.mem_cons_self, typeOfs_map S Γ f g l fun b hb => h b (List.mem_cons_of_mem _ hb)]

theorem finalColumns_select_dict (S : Sig) (s : Query) (x : String) (keys : List String) (es : List Query)
    (te : CTy) (ts : List CTy) (hs : typeOf S [] s = .ok (.vec te)) (hes : typeOfs S [(x, te)] es = .ok ts)
    (hlen : keys.length = ts.length) (hshape : allShapes ts = true) :
    finalColumns S (.select s x (.dict keys es)) = .ok (keys.zip ts) := by
  have hrow : rowType S (.select s x (.dict keys es)) = .ok (.dict (mkFields keys ts)) := by
    simp [rowType, typeOf, hs, hes, hlen]
  have hf : rowFields (.dict (mkFields keys ts)) = (keys, ts) := by
    simp only [rowFields, fieldNames_mk keys ts (by omega), fieldTypes_mk keys ts (by omega)]
  rw [finalColumns_iff hrow, hf]
  exact ⟨hlen, hshape, rfl⟩

end FaxVerif.Gen
