/-
Linq — what the list combinators `mapE`, `filterE` of `Linq/Query.lean` do: an `.ok` result inverted one element at a
time and by membership, where an `.error` comes from, and that only the function's values matter.
-/
import FaxVerif.Linq.Query
namespace FaxVerif.Linq
open FaxVerif.Cpp
variable {D : Type}

theorem mapE_cons_ok {f : Val D → Except Fault (Val D)} {v : Val D} {vs r : List (Val D)} :
    mapE f (v :: vs) = .ok r ↔ ∃ w ws, f v = .ok w ∧ mapE f vs = .ok ws ∧ r = w :: ws := by
  simp only [mapE]
  cases f v <;> cases mapE f vs <;> simp [eq_comm]

theorem filterE_cons_ok {N : Num D} {f : Val D → Except Fault (Val D)} {v : Val D} {vs r : List (Val D)} :
    filterE N f (v :: vs) = .ok r ↔
      ∃ w b ws, f v = .ok w ∧ asBool N w = some b ∧ filterE N f vs = .ok ws ∧ r = if b then v :: ws else ws := by
  simp only [filterE]
  cases f v with
  | error e => simp
  | ok w =>
    cases hb : asBool N w with
    | none => simp [hb]
    | some b => cases filterE N f vs <;> cases b <;> simp [hb, eq_comm]

theorem mapE_congr (f g : Val D → Except Fault (Val D)) (h : ∀ v, f v = g v) : ∀ l, mapE f l = mapE g l
  | [] => rfl
  | v :: vs => by simp only [mapE, h v, mapE_congr f g h vs]

theorem filterE_congr (N : Num D) (f g : Val D → Except Fault (Val D)) (h : ∀ v, f v = g v) : ∀ l, filterE N f l = filterE N g l
  | [] => rfl
  | v :: vs => by simp only [filterE, h v, filterE_congr N f g h vs]

theorem mapE_ok : ∀ l : List (Val D), mapE (fun u => (.ok u : Except Fault (Val D))) l = .ok l
  | [] => rfl
  | v :: vs => by simp [mapE, mapE_ok vs]

theorem mapE_ok_mem (f : Val D → Except Fault (Val D)) : ∀ (l r : List (Val D)),
    mapE f l = .ok r → ∀ w ∈ r, ∃ v ∈ l, f v = .ok w
  | [], r, h, w, hw => by simp only [mapE, Except.ok.injEq] at h; subst h; simp at hw
  | v :: vs, r, h, w, hw => by
    obtain ⟨w0, ws, hv, hr, rfl⟩ := mapE_cons_ok.1 h
    rcases List.mem_cons.1 hw with rfl | hw
    · exact ⟨v, by simp, hv⟩
    · obtain ⟨u, hu, hf⟩ := mapE_ok_mem f vs ws hr w hw
      exact ⟨u, by simp [hu], hf⟩

theorem filterE_ok_mem (N : Num D) (f : Val D → Except Fault (Val D)) : ∀ (l r : List (Val D)),
    filterE N f l = .ok r → ∀ w ∈ r, w ∈ l ∧ ∃ x, f w = .ok x ∧ asBool N x = some true
  | [], r, h, w, hw => by simp only [filterE, Except.ok.injEq] at h; subst h; simp at hw
  | v :: vs, r, h, w, hw => by
    obtain ⟨x, b, ws, hv, hb, hr, rfl⟩ := filterE_cons_ok.1 h
    have ih := fun hw => (filterE_ok_mem N f vs ws hr w hw).imp_left (List.mem_cons_of_mem v)
    cases b with
    | false => exact ih (by simpa using hw)
    | true =>
      simp only [if_true] at hw
      rcases List.mem_cons.1 hw with rfl | hw
      · exact ⟨by simp, x, hv, hb⟩
      · exact ih hw

theorem mapE_error (f : Val D → Except Fault (Val D)) : ∀ (l : List (Val D)) (e : Fault),
    mapE f l = .error e → ∃ v ∈ l, f v = .error e
  | [], e, h => by simp [mapE] at h
  | v :: vs, e, h => by
    simp only [mapE] at h
    cases hv : f v with
    | error e' => rw [hv] at h; simp only [Except.error.injEq] at h; subst h; exact ⟨v, by simp, hv⟩
    | ok r =>
      rw [hv] at h; simp only [] at h
      cases hr : mapE f vs with
      | ok rs => rw [hr] at h; simp at h
      | error e' =>
        rw [hr] at h; simp only [Except.error.injEq] at h; subst h
        obtain ⟨u, hu, hf⟩ := mapE_error f vs e' hr
        exact ⟨u, by simp [hu], hf⟩

theorem filterE_error (N : Num D) (f : Val D → Except Fault (Val D)) : ∀ (l : List (Val D)) (e : Fault),
    filterE N f l = .error e →
    ∃ v ∈ l, f v = .error e ∨ ∃ r, f v = .ok r ∧ asBool N r = none ∧ e = .typeErr "Where predicate"
  | [], e, h => by simp [filterE] at h
  | v :: vs, e, h => by
    simp only [filterE] at h
    cases hv : f v with
    | error e' => rw [hv] at h; simp only [Except.error.injEq] at h; subst h; exact ⟨v, by simp, Or.inl hv⟩
    | ok r =>
      rw [hv] at h; simp only [] at h
      cases hb : asBool N r with
      | none => rw [hb] at h; simp only [Except.error.injEq] at h; exact ⟨v, by simp, Or.inr ⟨r, hv, hb, h.symm⟩⟩
      | some b =>
        rw [hb] at h; simp only [] at h
        cases hr : filterE N f vs with
        | ok rs => rw [hr] at h; simp at h
        | error e' =>
          rw [hr] at h; simp only [Except.error.injEq] at h; subst h
          obtain ⟨u, hu, hf⟩ := filterE_error N f vs e' hr
          exact ⟨u, by simp [hu], hf⟩

end FaxVerif.Linq
