/-
C14 — the property as decidable predicates.

* `Bad fields mds`          : the metadata must be refused (unknown key / no name / same name with
                              different content);
* `effective fields mds`    : the blocks that count (identical repeats once, first occurrence order);
* `expectedInfo base bs`    : which lines have to reach which template variable, in which order;
* `SpecFile docs info L f`  : the rendered file `f` is *exactly* `static₀ ++ slot₁ ++ static₁ ++ …`
                              for the witness layout `L`, every slot holding its lines once, in
                              order, verbatim between fixed decorations, and every slot that holds
                              at least one line sits at its documented place (`docs`), the place
                              being recognised structurally in the *skeleton* (the file with all
                              slots emptied, i.e. text that contains no user input);
* `SpecOutcome …`           : all of it for one run of the package generator.

The same predicates are the statements of the theorems about the model (Theorems.lean) and the
oracle that the failing-input search evaluates on the implementation's output (Driver.lean).
The witness `L` plays the role of `π` in C15: the theorems supply it (the layout of the generated
template constant), the driver takes it from the same place.
-/
import FaxVerif.C14.Model
namespace FaxVerif.C14
open FaxVerif.Tmpl

/-! ## text helpers (structural recursion on `List Char`: the kernel evaluates them on literals) -/

def isWs (c : Char) : Bool := c = ' ' || c = '\n' || c = '\t' || c = '\r'

def trimL (s : Str) : Str := s.dropWhile isWs
def trimR (s : Str) : Str := (s.reverse.dropWhile isWs).reverse
/-- leading whitespace -/
def leadWs (s : Str) : Str := s.takeWhile isWs
/-- trailing whitespace (reversed; only membership is used) -/
def trailWs (s : Str) : Str := s.reverse.takeWhile isWs
def hasNl (s : Str) : Bool := s.elem '\n'
def noWs (s : Str) : Str := s.filter fun c => !isWs c

def prefixOf : Str → Str → Bool
  | [], _ => true
  | _ :: _, [] => false
  | a :: as, b :: bs => a == b && prefixOf as bs

/-- `pat` occurs in `s` -/
def subOf (pat : Str) : Str → Bool
  | [] => pat.isEmpty
  | c :: cs => prefixOf pat (c :: cs) || subOf pat cs

/-- `pat` (written without whitespace) occurs in `s` once whitespace is removed from `s` -/
def subNoWs (pat : String) (s : Str) : Bool := subOf pat.toList (noWs s)

def splitLines : Str → List Str
  | [] => [[]]
  | c :: cs =>
    match splitLines cs with
    | [] => [[c]]   -- unreachable
    | l :: ls => if c = '\n' then [] :: l :: ls else (c :: l) :: ls

/-! ## structural location in C++ text

A small scanner: comments (`//`, `/* */`) and string literals are skipped, braces are counted.
`head` is the whitespace-free code seen at brace depth 0 since the last `;` / `}` at depth 0,
`openHead` is what `head` was when the currently open top-level block was entered (e.g.
`StatusCodequery::initialize()`), `body` the whitespace-free code inside that block so far
(both reversed). -/

inductive CppMode where
  | code | lineComment | blockComment | str
deriving Repr, DecidableEq

structure CppSt where
  mode : CppMode := .code
  pend : Bool := false
  depth : Nat := 0
  head : Str := []
  openHead : Str := []
  body : Str := []
deriving Repr

def cppStep (st : CppSt) (c : Char) : CppSt :=
  if isWs c then st
  else if c = '{' then
    match st.depth with
    | 0 => { st with depth := 1, openHead := st.head, head := [], body := [] }
    | d + 1 => { st with depth := d + 2, body := c :: st.body }
  else if c = '}' then
    match st.depth with
    | 0 => st
    | 1 => { st with depth := 0, openHead := [], head := [], body := [] }
    | d + 2 => { st with depth := d + 1, body := c :: st.body }
  else if c = ';' then
    match st.depth with
    | 0 => { st with head := [] }
    | _ + 1 => { st with body := c :: st.body }
  else
    match st.depth with
    | 0 => { st with head := c :: st.head }
    | _ + 1 => { st with body := c :: st.body }

/-- One character. `pend` remembers a `/` (code), `*` (block comment) or `\\` (string) seen just
before, so that `//`, `/*`, `*/` and escapes are recognised without look-ahead. -/
def cppChar (st : CppSt) (c : Char) : CppSt :=
  match st.mode with
  | .lineComment => if c = '\n' then { st with mode := .code } else st
  | .blockComment =>
    if st.pend && c = '/' then { st with mode := .code, pend := false }
    else { st with pend := c = '*' }
  | .str =>
    if st.pend then { st with pend := false }
    else if c = '\\' then { st with pend := true }
    else if c = '"' then { st with mode := .code }
    else st
  | .code =>
    if st.pend then
      if c = '/' then { st with mode := .lineComment, pend := false }
      else if c = '*' then { st with mode := .blockComment, pend := false }
      else
        let st' := cppStep { st with pend := false } '/'
        if c = '"' then { st' with mode := .str } else cppStep st' c
    else if c = '/' then { st with pend := true }
    else if c = '"' then { st with mode := .str }
    else cppStep st c

def cppScan (st : CppSt) (s : Str) : CppSt :=
  let r := s.foldl cppChar st
  if r.mode == .code && r.pend then cppStep { r with pend := false } '/' else r

/-- the last access label of a class body is `private:` (input: reversed body) -/
def lastLabelPrivate : Str → Bool
  | [] => false
  | c :: cs =>
    if prefixOf ":etavirp".toList (c :: cs) then true
    else if prefixOf ":cilbup".toList (c :: cs) || prefixOf ":detcetorp".toList (c :: cs) then false
    else lastLabelPrivate cs

/-- every line is blank, a preprocessor line or a `//` comment: no declaration has started yet -/
def onlyPreprocLines (s : Str) : Bool :=
  (splitLines s).all fun l =>
    match trimL l with
    | [] => true
    | '#' :: _ => true
    | '/' :: '/' :: _ => true
    | _ => false

/-! ## structural location in a CMakeLists file -/

structure CMakeSt where
  comment : Bool := false
  word : Str := []       -- reversed
  cmd : Str := []        -- reversed: the word before the open parenthesis
  lastWord : Str := []
  kw : Str := []         -- reversed: the last ALL_CAPS keyword inside the open parenthesis
  isOpen : Bool := false
deriving Repr

def isKw (w : Str) : Bool := w.length ≥ 2 && w.all fun c => c.isUpper || c = '_'

def CMakeSt.endWord (st : CMakeSt) : CMakeSt :=
  match st.word with
  | [] => st
  | w => { st with word := [], lastWord := w, kw := if st.isOpen && isKw w then w else st.kw }

def cmakeScan (st : CMakeSt) : Str → CMakeSt
  | [] => st
  | c :: cs =>
    if st.comment then cmakeScan (if c = '\n' then { st with comment := false } else st) cs
    else if c = '#' then cmakeScan { st.endWord with comment := true } cs
    else if isWs c then cmakeScan st.endWord cs
    else if c = '(' then
      let st' := st.endWord
      cmakeScan { st' with cmd := st'.lastWord, isOpen := true, kw := [] } cs
    else if c = ')' then cmakeScan { st.endWord with isOpen := false, cmd := [], kw := [] } cs
    else cmakeScan { st with word := c :: st.word } cs

/-! ## documented places -/

inductive Region where
  /-- C++: before any declaration, among the `#include`s -/
  | cppIncludes
  /-- C++: directly in the body of the top-level function whose head contains `anchor` -/
  | inFunction (anchor : String)
  /-- C++: member-initialiser list of the constructor of class `ctor`: after `ctor::ctor(…) : base(…)`
      (all parentheses closed), right before the opening brace of the body -/
  | ctorInit (ctor : String)
  /-- C++: directly in the body of `class cls`, after a `private:` label -/
  | classPrivate (cls : String)
  /-- CMake: among the arguments of command `cmd` that follow keyword `kw` -/
  | cmakeArgs (cmd : String) (kw : String)
  /-- Python script: a top-level statement after `a` and before `b` -/
  | pyBetween (a b : String)
deriving Repr, DecidableEq

/-- `before` / `after`: the skeleton text before / after the slot. -/
def regionOk (r : Region) (before after : Str) : Bool :=
  match r with
  | .cppIncludes =>
    let st := cppScan {} before
    st.mode == .code && st.depth == 0 && onlyPreprocLines before
  | .inFunction anchor =>
    let st := cppScan {} before
    st.mode == .code && st.depth == 1 && subOf anchor.toList st.openHead.reverse
  | .ctorInit ctor =>
    let st := cppScan {} before
    let h := st.head.reverse
    st.mode == .code && st.depth == 0 && subOf (ctor ++ "::" ++ ctor ++ "(").toList h &&
      subOf "):".toList h && st.head.head? == some ')' &&
      h.count '(' == h.count ')' && (trimL after).head? == some '{'
  | .classPrivate cls =>
    let st := cppScan {} before
    st.mode == .code && st.depth == 1 && subOf ("class" ++ cls).toList st.openHead.reverse &&
      lastLabelPrivate st.body
  | .cmakeArgs cmd kw =>
    let st := cmakeScan {} before
    !st.comment && st.isOpen && st.word.isEmpty && st.cmd.reverse == cmd.toList && st.kw.reverse == kw.toList
  | .pyBetween a b => subNoWs a before && subNoWs b after

/-- how consecutive lines have to be kept apart -/
inductive Sep where
  /-- each line on physical lines of its own (C++: a `//` comment or a `#include` must not swallow
      or be swallowed by a neighbour) -/
  | line
  /-- as `line`, and starting in column 0 (Python) -/
  | pyLine
  /-- separated by white space (CMake arguments) -/
  | word
deriving Repr, DecidableEq

structure SlotDoc where
  /-- template variable -/
  xs : String
  /-- what precedes / follows each line, apart from white space: `pre = ws ++ preCore`,
      `post = postCore ++ ws` -/
  preCore : Str := []
  postCore : Str := []
  sep : Sep := .line
  region : Region
deriving Repr

/-- a slot of a layout together with its surroundings -/
structure Ctx where
  slot : Slot
  /-- skeleton before / after the slot -/
  before : Str
  after : Str
  /-- the static texts right before / after the slot -/
  sBefore : Str
  sAfter : Str
deriving Repr

def annotAux (before sBefore : Str) : List (Slot × Str) → List Ctx
  | [] => []
  | (s, st) :: r =>
    ⟨s, before, st ++ Layout.skeletonRest r, sBefore, st⟩ :: annotAux (before ++ st) st r

def annot (L : Layout) : List Ctx := annotAux L.head L.head L.rest

def sepOk (sep : Sep) (c : Ctx) : Bool :=
  let pre := c.slot.pre
  let post := c.slot.post
  let startsLine := hasNl (leadWs pre) || (hasNl (trailWs post) && hasNl (trailWs c.sBefore))
  let endsLine := hasNl (trailWs post) || (hasNl (leadWs pre) && hasNl (leadWs c.sAfter))
  match sep with
  | .line => startsLine && endsLine
  | .pyLine =>
    endsLine &&
      ((pre.all isWs && pre.getLast? == some '\n') ||
       (pre.isEmpty && post.getLast? == some '\n' && c.sBefore.getLast? == some '\n'))
  | .word =>
    (!(leadWs pre).isEmpty || (!(trailWs post).isEmpty && !(trailWs c.sBefore).isEmpty)) &&
    (!(trailWs post).isEmpty || (!(leadWs pre).isEmpty && !(leadWs c.sAfter).isEmpty))

def slotOk (d : SlotDoc) (c : Ctx) : Bool :=
  c.slot.xs == d.xs && trimL c.slot.pre == d.preCore && trimR c.slot.post == d.postCore &&
    sepOk d.sep c && regionOk d.region c.before c.after

def matchDocs : List SlotDoc → List Ctx → Bool
  | [], [] => true
  | d :: ds, c :: cs => slotOk d c && matchDocs ds cs
  | _, _ => false

/-- the variable holds at least one line -/
def present (info : Info) (xs : String) : Bool := !(info.getList xs).isEmpty

/-- **The file-level property.**  `file` is the layout `L` filled with `info` — so each line of
each list is there exactly once, in order, unaltered — and the slots that hold something are
exactly the documented ones, in the documented order, each at its documented place. -/
def SpecFile (docs : List SlotDoc) (info : Info) (L : Layout) (file : Str) : Prop :=
  file = renderLayout L info ∧
  matchDocs (docs.filter fun d => present info d.xs) ((annot L).filter fun c => present info c.slot.xs) = true

instance (docs : List SlotDoc) (info : Info) (L : Layout) (file : Str) : Decidable (SpecFile docs info L file) := by
  unfold SpecFile; exact inferInstance

/-! ## the documented layout of the packages -/

structure FileDoc where
  file : String
  slots : List SlotDoc
deriving Repr

def includeSlot (xs : String) : SlotDoc :=
  { xs := xs, preCore := "#include \"".toList, postCore := "\"".toList, sep := .line, region := .cppIncludes }

/-- ATLAS R21 package (`func_adl_xAOD/template/atlas/r21`). -/
def atlasDocs : List FileDoc :=
  [ { file := "query.cxx"
      slots :=
        [ includeSlot "body_include_files",
          { xs := "instance_initialization", preCore := [','], region := .ctorInit "query" },
          { xs := "ctor_lines", region := .inFunction "query::query(" },
          { xs := "book_code", region := .inFunction "query::initialize()" },
          { xs := "initialize_lines", region := .inFunction "query::initialize()" },
          { xs := "query_code", region := .inFunction "query::execute()" } ] },
    { file := "query.h"
      slots :=
        [ includeSlot "header_include_files",
          { xs := "class_decl", region := .classPrivate "query" },
          { xs := "private_members", region := .classPrivate "query" } ] },
    { file := "package_CMakeLists.txt"
      slots := [ { xs := "link_libraries", sep := .word, region := .cmakeArgs "atlas_add_library" "LINK_LIBRARIES" } ] },
    { file := "ATestRun_eljob.py"
      slots := [ { xs := "job_option_additions", sep := .pyLine, region := .pyBetween "job=ROOT.EL.Job()" "driver.submit(job" } ] } ]

/-- CMS AOD / miniAOD packages (`template/cms/r5`, `template/cms/r7`): of the injected fields only
`body_includes` has a place. -/
def cmsDocs : List FileDoc :=
  [ { file := "Analyzer.cc"
      slots :=
        [ includeSlot "body_include_files",
          { xs := "class_decl", region := .classPrivate "Analyzer" },
          { xs := "book_code", region := .inFunction "Analyzer::Analyzer(" },
          { xs := "query_code", region := .inFunction "Analyzer::analyze(" } ] } ]

/-- inject_code field ↦ (file, template variable) on ATLAS — the "documented places" -/
def atlasFieldPlace : List (String × String × String) :=
  [ ("body_includes", "query.cxx", "body_include_files"),
    ("header_includes", "query.h", "header_include_files"),
    ("private_members", "query.h", "private_members"),
    ("instance_initialization", "query.cxx", "instance_initialization"),
    ("ctor_lines", "query.cxx", "ctor_lines"),
    ("initialize_lines", "query.cxx", "initialize_lines"),
    ("link_libraries", "package_CMakeLists.txt", "link_libraries") ]

def cmsFieldPlace : List (String × String × String) :=
  [ ("body_includes", "Analyzer.cc", "body_include_files") ]

/-! ## metadata level -/

def MdInject.isEmpty (m : MdInject) : Bool := m.name.isNone && m.fields.isEmpty

/-- the `inject_code` dictionaries that carry anything, in order -/
def injects : List Md → List MdInject
  | [] => []
  | .inject m :: r => if m.isEmpty then injects r else m :: injects r
  | .other _ :: r => injects r

/-- has a name and only known keys -/
def wellFormed (fields : List String) (m : MdInject) : Bool :=
  m.name.isSome && m.fields.all fun kv => fields.contains kv.1

/-- the dataclass instance a dictionary denotes (absent keys are `[]`) -/
def toBlock (fields : List String) (m : MdInject) : Block :=
  ⟨m.name.getD [], fields.map fun f => (f, (lookup f m.fields).getD [])⟩

def blocksOf (fields : List String) (mds : List Md) : List Block := (injects mds).map (toBlock fields)

/-- an unknown field, or no name -/
def Malformed (fields : List String) (mds : List Md) : Prop := ∃ m ∈ injects mds, wellFormed fields m = false

/-- the same name with different content -/
def Conflict (fields : List String) (mds : List Md) : Prop :=
  ∃ b₁ ∈ blocksOf fields mds, ∃ b₂ ∈ blocksOf fields mds, b₁.name = b₂.name ∧ b₁ ≠ b₂

def Bad (fields : List String) (mds : List Md) : Prop := Malformed fields mds ∨ Conflict fields mds

instance (fields : List String) (mds : List Md) : Decidable (Malformed fields mds) := by unfold Malformed; exact inferInstance
instance (fields : List String) (mds : List Md) : Decidable (Conflict fields mds) := by unfold Conflict; exact inferInstance
instance (fields : List String) (mds : List Md) : Decidable (Bad fields mds) := by unfold Bad; exact inferInstance

/-- first occurrences, in order: identical blocks count once -/
def firstOccAux (seen : List Block) : List Block → List Block
  | [] => []
  | b :: bs => if b ∈ seen then firstOccAux seen bs else b :: firstOccAux (b :: seen) bs

def firstOcc (bs : List Block) : List Block := firstOccAux [] bs

def effective (fields : List String) (mds : List Md) : List Block := firstOcc (blocksOf fields mds)

/-- field ↦ template variable (what precedes the injected lines in that variable: `baseLists`) -/
def fieldKey : List (String × String) :=
  [ ("body_includes", "body_include_files"), ("header_includes", "header_include_files"),
    ("private_members", "private_members"), ("instance_initialization", "instance_initialization"),
    ("ctor_lines", "ctor_lines"), ("initialize_lines", "initialize_lines"), ("link_libraries", "link_libraries") ]

def baseLists (base : Base) : List (String × List Str) :=
  [ ("query_code", base.queryCode), ("class_decl", base.classDecl), ("book_code", base.bookCode),
    ("body_include_files", base.includes), ("link_libraries", base.linkLibs),
    ("job_option_additions", base.jobOptions) ]

/-- lines that have to reach template variable `key`: the query's own, then, block after block in
block order, each block's lines in their order -/
def expectedList (base : Base) (bs : List Block) (key : String) : List Str :=
  (lookup key (baseLists base)).getD [] ++
    (fieldKey.filter fun fk => fk.2 = key).flatMap fun fk => bs.flatMap fun b => b.get fk.1

/-- every template variable the executor's replacement dictionary defines -/
def infoKeys : List String :=
  [ "query_code", "class_decl", "book_code", "body_include_files", "header_include_files",
    "private_members", "instance_initialization", "initialize_lines", "ctor_lines", "link_libraries",
    "job_option_additions" ]

def expectedInfo (base : Base) (bs : List Block) : Info :=
  { scalars := [], lists := infoKeys.map fun k => (k, expectedList base bs k) }

/-- the layouts of a package's templates, by file name (the witness the theorems supply) -/
def witOf (files : List (String × Template)) : List (String × Layout) :=
  files.filterMap fun nt => (flatten nt.2).map fun L => (nt.1, L)

/-- every documented file has a template, the template has a layout, and the layout's slots are
the documented ones at the documented places (input-independent; `decide`d on the generated
constants) -/
def docsOk (files : List (String × Template)) (docs : List FileDoc) : Bool :=
  docs.all fun d =>
    match lookup d.file files with
    | none => false
    | some t =>
      match flatten t with
      | none => false
      | some L => matchDocs d.slots (annot L)

/-! ## one run of the package generator -/

inductive Outcome where
  /-- `ValueError` -/
  | refused
  | files (out : List (String × Str))
deriving Repr

def SpecFileAt (d : FileDoc) (info : Info) (wit : List (String × Layout)) (out : List (String × Str)) : Prop :=
  match lookup d.file wit, lookup d.file out with
  | some L, some f => SpecFile d.slots info L f
  | _, _ => False

instance (d : FileDoc) (info : Info) (wit : List (String × Layout)) (out : List (String × Str)) :
    Decidable (SpecFileAt d info wit out) := by
  unfold SpecFileAt; split <;> exact inferInstance

/-- No line may be lost: on a backend where *every* field has to be honoured (`placed = some ps`,
ATLAS) a block may only carry lines in fields that have a documented place. (`none`: the backend
honours the placed fields only — CMS, where only `body_includes` has a place.) -/
def NoLostLines (fields : List String) (placed : Option (List String)) (bs : List Block) : Prop :=
  match placed with
  | none => True
  | some ps => ∀ b ∈ bs, ∀ f ∈ fields, b.get f ≠ [] → f ∈ ps

instance (fields : List String) (placed : Option (List String)) (bs : List Block) :
    Decidable (NoLostLines fields placed bs) := by
  unfold NoLostLines; split <;> exact inferInstance

/-- **The property for one run**: refused exactly when the metadata is bad; otherwise every line of
every effective block belongs to a field that has a place, and every documented file satisfies
`SpecFile` for the lines of the effective blocks. -/
def SpecOutcome (fields : List String) (docs : List FileDoc) (placed : Option (List String))
    (wit : List (String × Layout)) (mds : List Md) (base : Base) : Outcome → Prop
  | .refused => Bad fields mds
  | .files out => ¬ Bad fields mds ∧ NoLostLines fields placed (effective fields mds) ∧
      ∀ d ∈ docs, SpecFileAt d (expectedInfo base (effective fields mds)) wit out

instance (fields : List String) (docs : List FileDoc) (placed : Option (List String))
    (wit : List (String × Layout)) (mds : List Md) (base : Base) (o : Outcome) :
    Decidable (SpecOutcome fields docs placed wit mds base o) := by
  cases o <;> unfold SpecOutcome <;> exact inferInstance

/-- the fields that have a documented place on ATLAS (all of them must) -/
def atlasPlaced : Option (List String) := some (atlasFieldPlace.map (·.1))

/-- the metadata level on its own: what `process_metadata` may return -/
def SpecProcess (fields : List String) (mds : List Md) : Option (List Block) → Prop
  | none => Bad fields mds
  | some bs => ¬ Bad fields mds ∧ bs = effective fields mds

instance (fields : List String) (mds : List Md) (o : Option (List Block)) : Decidable (SpecProcess fields mds o) := by
  cases o <;> unfold SpecProcess <;> exact inferInstance

end FaxVerif.C14
