/-
C14 — property theorems.

Everything is quantified over *all* metadata lists, blocks, lines (any characters, any lengths,
duplicates, conflicts) and over all contexts; the per-template facts are `decide`d by the kernel
on the constants that the translator regenerates from the repository on every run
(`FaxVerif.Generated.C14`).
-/
import FaxVerif.C14.Proofs
import FaxVerif.Generated.C14Templates
namespace FaxVerif.C14
open FaxVerif.Tmpl

/-- **C14.verbatim** — every line of every slot's list occurs in the rendered text as a contiguous
piece, unaltered, between the slot's fixed decorations. -/
theorem verbatim (L : Layout) (info : Info) (s : Slot) (st : Str) (hs : (s, st) ∈ L.rest)
    (l : Str) (hl : l ∈ info.getList s.xs) :
    (s.pre ++ (l ++ s.post)) <:+: renderLayout L info := by
  obtain ⟨A, B, hAB⟩ := List.append_of_mem hs
  obtain ⟨a, b, hab⟩ := List.append_of_mem hl
  rw [renderLayout_split L A B s st hAB info, hab, itemsText_split]
  refine ⟨(L.head ++ renderRest info A) ++ itemsText s.pre s.post a,
    itemsText s.pre s.post b ++ (st ++ renderRest info B), ?_⟩
  simp [List.append_assoc]

/-- **C14.order** — two lines of one list come out in the order of the list (and so do the lines
of two blocks, and the lines inside a block: `fetch_order`). -/
theorem order (L : Layout) (info : Info) (s : Slot) (st : Str) (hs : (s, st) ∈ L.rest)
    (a : List Str) (l₁ : Str) (b : List Str) (l₂ : Str) (c : List Str)
    (hl : info.getList s.xs = a ++ l₁ :: (b ++ l₂ :: c)) :
    ∃ P Q R, renderLayout L info = P ++ (s.pre ++ (l₁ ++ s.post)) ++ Q ++ (s.pre ++ (l₂ ++ s.post)) ++ R := by
  obtain ⟨A, B, hAB⟩ := List.append_of_mem hs
  rw [renderLayout_split L A B s st hAB info, hl, itemsText_split, itemsText_split]
  exact ⟨(L.head ++ renderRest info A) ++ itemsText s.pre s.post a, itemsText s.pre s.post b,
    itemsText s.pre s.post c ++ (st ++ renderRest info B), by simp [List.append_assoc]⟩

/-- **C14.once** (conservation) — the rendered text consists of the template's own text plus,
for each slot, each line of its list exactly once with its decorations: for every character `c`
the number of its occurrences adds up exactly.  Nothing is dropped, nothing is repeated. -/
theorem once (L : Layout) (info : Info) (c : Char) :
    (renderLayout L info).count c = L.skeleton.count c + slotsCount c info L.rest ∧
    ∀ s : Slot, (itemsText s.pre s.post (info.getList s.xs)).count c =
      (info.getList s.xs).length * (s.pre.count c + s.post.count c) + ((info.getList s.xs).map (List.count c)).sum :=
  ⟨count_renderLayout c info L, fun s => count_itemsText c s.pre s.post _⟩

/-- **C14.render_shape** (generic form) — if a package's templates pass the input-independent
check `docsOk` (each documented file has a layout whose slots are the documented ones, with the
documented decorations and separations, at the documented places of the skeleton), then in
*every* context every rendered file satisfies the file-level property. -/
theorem render_shape (files : List (String × Template)) (docs : List FileDoc) (h : docsOk files docs = true)
    (info : Info) : ∀ d ∈ docs, SpecFileAt d info (witOf files) (renderFiles files info) := by
  intro d hd
  obtain ⟨t, L, ht, hL, hm⟩ := docsOk_mem files docs h d hd
  unfold SpecFileAt
  rw [lookup_witOf files d.file t L ht hL, lookup_renderFiles, ht]
  exact ⟨render_layout t L hL info, matchDocs_filter (present info) d.slots (annot L) hm⟩

/-- **C14.region** — under `docsOk`, every documented slot of every documented file has a place in
its template such that, in every context, the rendered file is
`P ++ (all lines of the slot's variable, each once, in order, decorated) ++ Q` with `P`, `Q` the
rendering of the rest of the layout, the decorations/separation are the documented ones
(`slotOk`) and the position in the skeleton (`before`/`after`) is the documented region. -/
theorem region (files : List (String × Template)) (docs : List FileDoc) (h : docsOk files docs = true)
    (d : FileDoc) (hd : d ∈ docs) (sd : SlotDoc) (hsd : sd ∈ d.slots) :
    ∃ t L c A B st, lookup d.file files = some t ∧ flatten t = some L ∧
      L.rest = A ++ (c.slot, st) :: B ∧ slotOk sd c = true ∧
      c.before = L.head ++ Layout.skeletonRest A ∧ c.after = st ++ Layout.skeletonRest B ∧
      regionOk sd.region (L.head ++ Layout.skeletonRest A) (st ++ Layout.skeletonRest B) = true ∧
      ∀ info, render t info =
        (L.head ++ renderRest info A) ++ itemsText c.slot.pre c.slot.post (info.getList sd.xs) ++
          (st ++ renderRest info B) := by
  obtain ⟨t, L, ht, hL, hm⟩ := docsOk_mem files docs h d hd
  obtain ⟨c, hc, hok⟩ := matchDocs_mem d.slots (annot L) hm sd hsd
  obtain ⟨A, B, st, hR, hb, ha⟩ := annotAux_mem c L.rest L.head L.head hc
  refine ⟨t, L, c, A, B, st, ht, hL, hR, hok, hb, ha, ?_, ?_⟩
  · have := hok
    unfold slotOk at this
    simp only [Bool.and_eq_true] at this
    rw [← hb, ← ha]; exact this.2
  · intro info
    rw [render_layout t L hL info, renderLayout_split L A B c.slot st hR info, slotOk_xs sd c hok]

open FaxVerif.Generated.C14

/-- the ATLAS templates (query.cxx, query.h, package_CMakeLists.txt, ATestRun_eljob.py) as they
are in the repository: layouts exist, slots/decorations/regions are the documented ones; below the same for the one
template, `Analyzer.cc`, of each CMS backend -/
theorem atlas_docs_ok : docsOk atlasFiles atlasDocs = true := by decide +kernel

theorem cms_aod_docs_ok : docsOk cms_aodFiles cmsDocs = true := by decide +kernel

theorem cms_miniaod_docs_ok : docsOk cms_miniaodFiles cmsDocs = true := by decide +kernel

/-- every file of every executor's file list has a layout: no directive outside the modelled
subset, no directive left unrendered; the files without slots come out as their own text -/
theorem all_templates_have_layouts :
    (atlasFiles ++ cms_aodFiles ++ cms_miniaodFiles).all (fun nt => (flatten nt.2).isSome) = true := by
  decide +kernel

/-- the dataclass fields are exactly the documented ones (in any order), each with a documented
ATLAS place that exists in `atlasDocs`, and with the template variable `expectedInfo` feeds -/
theorem fields_documented :
    (injectFields.all fun f => (atlasFieldPlace.map (·.1)).contains f && (fieldKey.map (·.1)).contains f) = true ∧
    (atlasFieldPlace.all fun p => injectFields.contains p.1) = true ∧
    (atlasFieldPlace.all fun p => fieldKey.contains (p.1, p.2.2) &&
      atlasDocs.any fun d => d.file == p.2.1 && d.slots.any fun sd => sd.xs == p.2.2) = true ∧
    (cmsFieldPlace.all fun p => fieldKey.contains (p.1, p.2.2) &&
      cmsDocs.any fun d => d.file == p.2.1 && d.slots.any fun sd => sd.xs == p.2.2) = true := by
  decide +kernel

/-- **C14.render_shape_atlas** — query.cxx, query.h, package_CMakeLists.txt and ATestRun_eljob.py
satisfy the file-level property in every context. -/
theorem render_shape_atlas (info : Info) :
    ∀ d ∈ atlasDocs, SpecFileAt d info (witOf atlasFiles) (renderFiles atlasFiles info) :=
  render_shape atlasFiles atlasDocs atlas_docs_ok info

theorem render_shape_cms_aod (info : Info) :
    ∀ d ∈ cmsDocs, SpecFileAt d info (witOf cms_aodFiles) (renderFiles cms_aodFiles info) :=
  render_shape cms_aodFiles cmsDocs cms_aod_docs_ok info

theorem render_shape_cms_miniaod (info : Info) :
    ∀ d ∈ cmsDocs, SpecFileAt d info (witOf cms_miniaodFiles) (renderFiles cms_miniaodFiles info) :=
  render_shape cms_miniaodFiles cmsDocs cms_miniaod_docs_ok info

/-- The metadata level in one statement: what `process_metadata` returns satisfies `SpecProcess`. -/
theorem process_spec (fields : List String) (mds : List Md) :
    SpecProcess fields mds (processMd fields mds []).toOption := by
  have := processMd_spec fields mds [] fun ⟨_, h, _⟩ => nomatch h
  rw [show firstOcc [] = ([] : List Block) from rfl, List.nil_append] at this
  cases hp : processMd fields mds [] with
  | error e => rw [hp] at this; exact this
  | ok out => rw [hp] at this; exact ⟨fun hb => hb.elim this.2.2 this.2.1, this.1⟩

/-- **C14.dedup_conflict** — when `process_metadata` returns, the metadata was not bad and the
blocks kept are the first occurrences, in order, of the blocks sent: a block repeated with
identical content counts once. -/
theorem dedup_conflict (fields : List String) (mds : List Md) (out : List Block)
    (h : processMd fields mds [] = .ok out) :
    out = effective fields mds ∧ ¬ Bad fields mds := by
  have := process_spec fields mds
  rw [h] at this
  exact ⟨this.2, this.1⟩

/-- **C14.refused_iff_bad** — the metadata is refused exactly when a dictionary has an unknown
key or no name, or two blocks share a name with different content. -/
theorem refused_iff_bad (fields : List String) (mds : List Md) :
    (∃ e, processMd fields mds [] = .error e) ↔ Bad fields mds := by
  have := process_spec fields mds
  constructor
  · rintro ⟨e, he⟩
    rw [he] at this
    exact this
  · intro hb
    cases hp : processMd fields mds [] with
    | error e => exact ⟨e, rfl⟩
    | ok out => rw [hp] at this; exact absurd hb this.1

theorem refusal_kind (fields : List String) (mds : List Md) (e : Err)
    (h : processMd fields mds [] = .error e) : e = .badItem ∨ ∃ n, e = .conflict n := by
  cases e with
  | badItem => exact Or.inl rfl
  | conflict n => exact Or.inr ⟨n, rfl⟩

/-- **C14.effective_once** — the blocks that count are pairwise different, keep the order in which
they were sent, and every block sent is among them; without a conflict their names are pairwise
different too. -/
theorem effective_once (fields : List String) (mds : List Md) :
    (effective fields mds).Nodup ∧ (effective fields mds).Sublist (blocksOf fields mds) ∧
    (∀ b, b ∈ effective fields mds ↔ b ∈ blocksOf fields mds) ∧
    (¬ Conflict fields mds → ((effective fields mds).map (·.name)).Nodup) := by
  refine ⟨firstOccAux_nodup _ _, firstOccAux_sublist _ _, fun b => mem_firstOcc b _, ?_⟩
  intro hc
  refine List.pairwise_map.2 ((firstOccAux_nodup _ _).imp_of_mem ?_)
  intro b₁ b₂ h₁ h₂ hne hn
  exact hc ⟨b₁, (mem_firstOcc _ _).1 h₁, b₂, (mem_firstOcc _ _).1 h₂, hn, hne⟩

/-- **C14.fetch_order** — `_ib_fetch` concatenates in block order, then in line order: the lines
of a block stay together, in their order, after those of earlier and before those of later blocks. -/
theorem fetch_order (A : List Block) (b : Block) (B : List Block) (f : String) :
    fetch (A ++ b :: B) f = fetch A f ++ b.get f ++ fetch B f := by
  simp [fetch, List.append_assoc]

/-- **C14.info_lists** — the replacement dictionary the model hands to the templates holds, under
every template variable, the query's own lines followed by the lines of the field that feeds the
variable, block after block, each block's lines in order (`expectedList`); variables fed by no
field hold the query's lines only. -/
theorem info_lists (base : Base) (bs : List Block) (k : String) :
    (mkInfo base bs).getList k = if k ∈ infoKeys then expectedList base bs k else [] := by
  rw [mkInfo_eq, expectedInfo_getList]

def outcomeOf : Except Err (List (String × Str)) → Outcome
  | .error _ => .refused
  | .ok out => .files out

theorem outcomeOf_runPackage (fields : List String) (files : List (String × Template)) (mds : List Md) (base : Base) :
    outcomeOf (runPackage fields files mds base) =
      if Bad fields mds then .refused else .files (renderFiles files (mkInfo base (effective fields mds))) := by
  unfold runPackage
  cases hp : processMd fields mds [] with
  | error e => rw [if_pos ((refused_iff_bad fields mds).1 ⟨e, hp⟩)]; rfl
  | ok bs =>
    obtain ⟨rfl, hnb⟩ := dedup_conflict fields mds bs hp
    rw [if_neg hnb]; rfl

/-- **C14.package** (generic) — for templates passing `docsOk`: whatever metadata is sent, the run
is refused exactly when the metadata is bad, and otherwise every documented file carries the lines
of the effective blocks (after the query's own lines) once, in block-then-line order, verbatim, at
the documented places; where every field has to be honoured (`placed = some _`) no block carries
lines in a field without a place. -/
theorem package (fields : List String) (files : List (String × Template)) (docs : List FileDoc)
    (placed : Option (List String)) (h : docsOk files docs = true)
    (hpl : ∀ ps, placed = some ps → ∀ f ∈ fields, f ∈ ps) (mds : List Md) (base : Base) :
    SpecOutcome fields docs placed (witOf files) mds base (outcomeOf (runPackage fields files mds base)) := by
  rw [outcomeOf_runPackage]
  by_cases hb : Bad fields mds
  · rw [if_pos hb]; exact hb
  · rw [if_neg hb]
    refine ⟨hb, ?_, fun d hd => ?_⟩
    · cases placed with
      | none => trivial
      | some ps => exact fun b _ f hf _ => hpl ps rfl f hf
    · rw [← mkInfo_eq]
      exact render_shape files docs h _ d hd

/-- **C14.package_atlas** — the ATLAS package generator, with the templates and the dataclass
fields as they are in the repository. -/
theorem package_atlas (mds : List Md) (base : Base) :
    SpecOutcome injectFields atlasDocs atlasPlaced (witOf atlasFiles) mds base
      (outcomeOf (runPackage injectFields atlasFiles mds base)) :=
  package injectFields atlasFiles atlasDocs atlasPlaced atlas_docs_ok
    (by
      rintro ps ⟨rfl⟩ f hf
      have := List.all_eq_true.1 fields_documented.1 f hf
      simp only [Bool.and_eq_true, List.contains_iff_mem] at this
      exact this.1)
    mds base

/-- **C14.package_cms_aod** — on CMS AOD the body includes are honoured. -/
theorem package_cms_aod (mds : List Md) (base : Base) :
    SpecOutcome injectFields cmsDocs none (witOf cms_aodFiles) mds base
      (outcomeOf (runPackage injectFields cms_aodFiles mds base)) :=
  package injectFields cms_aodFiles cmsDocs none cms_aod_docs_ok (by intro ps h; cases h) mds base

/-- **C14.package_cms_miniaod** — on CMS miniAOD the body includes are honoured. -/
theorem package_cms_miniaod (mds : List Md) (base : Base) :
    SpecOutcome injectFields cmsDocs none (witOf cms_miniaodFiles) mds base
      (outcomeOf (runPackage injectFields cms_miniaodFiles mds base)) :=
  package injectFields cms_miniaodFiles cmsDocs none cms_miniaod_docs_ok (by intro ps h; cases h) mds base

/-- the place table is consistent with the documentation: field ↦ variable is the one
`expectedInfo` uses and the (file, variable) slot is documented -/
def placesOk (docs : List FileDoc) (places : List (String × String × String)) : Bool :=
  places.all fun p => fieldKey.contains (p.1, p.2.2) &&
    docs.any fun d => d.file == p.2.1 && d.slots.any fun sd => sd.xs == p.2.2

/-- **C14.line_placed** (generic) — the property in one sentence: if the package is generated, then
for every inject_code field `f` with a documented place (file, template variable), every effective
block `b` (blocks before it `A`, after it `B`) and every line `l` of `b.f` (lines before it `a`,
after it `c`): the file is `… ++ pre ++ l ++ post ++ …`, preceded by the decorated lines of the
query, of the blocks `A` and of `a` — in that order — and followed by those of `c` and `B`;
`pre`/`post` are the documented decorations, the lines are kept apart as documented, and the slot
sits in the documented region of the template's skeleton (`slotOk`). -/
theorem line_placed (fields : List String) (files : List (String × Template)) (docs : List FileDoc)
    (places : List (String × String × String))
    (hdocs : docsOk files docs = true) (hplaces : placesOk docs places = true)
    (mds : List Md) (base : Base) (out : List (String × Str))
    (h : runPackage fields files mds base = .ok out)
    (f file key : String) (hp : (f, file, key) ∈ places)
    (A : List Block) (b : Block) (B : List Block) (hb : effective fields mds = A ++ b :: B)
    (a : List Str) (l : Str) (c : List Str) (hl : b.get f = a ++ l :: c) :
    ∃ text sd ctx P Q, lookup file out = some text ∧
      (∃ d ∈ docs, d.file = file ∧ sd ∈ d.slots) ∧ sd.xs = key ∧ slotOk sd ctx = true ∧
      text = (P ++ itemsText ctx.slot.pre ctx.slot.post
                ((lookup key (baseLists base)).getD [] ++ fetch A f ++ a)) ++
             (ctx.slot.pre ++ (l ++ ctx.slot.post)) ++
             (itemsText ctx.slot.pre ctx.slot.post (c ++ fetch B f) ++ Q) := by
  have hout := outcomeOf_runPackage fields files mds base
  rw [h] at hout
  split at hout
  · cases hout
  cases hout
  have := List.all_eq_true.1 hplaces (f, file, key) hp
  simp only [Bool.and_eq_true, List.any_eq_true, beq_iff_eq, List.contains_iff_mem] at this
  obtain ⟨hkey, d, hd, hdf, sd, hsd, hx⟩ := this
  obtain ⟨t, L, ctx, SA, SB, st, ht, hL, hR, hok, _, _, _, hrender⟩ := region files docs hdocs d hd sd hsd
  refine ⟨render t (mkInfo base (effective fields mds)), sd, ctx,
    L.head ++ renderRest (mkInfo base (effective fields mds)) SA,
    st ++ renderRest (mkInfo base (effective fields mds)) SB, ?_, ⟨d, hd, hdf, hsd⟩, hx, hok, ?_⟩
  · rw [lookup_renderFiles, ← hdf, ht]; rfl
  · -- the variable holds the query's lines, then those of `A`, of `b` (`a`, `l`, `c`) and of `B`
    rw [hrender, hx, mkInfo_eq, expectedInfo_getList, if_pos (fieldKey_table _ hkey).1,
      expectedList_of_fieldKey base _ f key hkey, ← mkInfo_eq, hb, fetch_order, hl]
    simp [itemsText_append, itemsText_cons, List.append_assoc]

/-- **C14.injected_line_placed** — `line_placed` for the ATLAS package as it is in the repository:
all seven fields (source includes, header includes, private members, constructor initialiser list,
constructor body, initialize(), CMake link libraries). -/
theorem injected_line_placed (mds : List Md) (base : Base) (out : List (String × Str))
    (h : runPackage injectFields atlasFiles mds base = .ok out)
    (f file key : String) (hp : (f, file, key) ∈ atlasFieldPlace)
    (A : List Block) (b : Block) (B : List Block) (hb : effective injectFields mds = A ++ b :: B)
    (a : List Str) (l : Str) (c : List Str) (hl : b.get f = a ++ l :: c) :
    ∃ text sd ctx P Q, lookup file out = some text ∧
      (∃ d ∈ atlasDocs, d.file = file ∧ sd ∈ d.slots) ∧ sd.xs = key ∧ slotOk sd ctx = true ∧
      text = (P ++ itemsText ctx.slot.pre ctx.slot.post
                ((lookup key (baseLists base)).getD [] ++ fetch A f ++ a)) ++
             (ctx.slot.pre ++ (l ++ ctx.slot.post)) ++
             (itemsText ctx.slot.pre ctx.slot.post (c ++ fetch B f) ++ Q) :=
  line_placed injectFields atlasFiles atlasDocs atlasFieldPlace atlas_docs_ok fields_documented.2.2.1
    mds base out h f file key hp A b B hb a l c hl

/-- **C14.cms_include_placed** — on both CMS backends every line of every block's `body_includes`
lands in `Analyzer.cc`'s include area, after the query's own includes, once, in order, verbatim. -/
theorem cms_include_placed (files : List (String × Template)) (hf : files = cms_aodFiles ∨ files = cms_miniaodFiles)
    (mds : List Md) (base : Base) (out : List (String × Str))
    (h : runPackage injectFields files mds base = .ok out)
    (A : List Block) (b : Block) (B : List Block) (hb : effective injectFields mds = A ++ b :: B)
    (a : List Str) (l : Str) (c : List Str) (hl : b.get "body_includes" = a ++ l :: c) :
    ∃ text sd ctx P Q, lookup "Analyzer.cc" out = some text ∧
      (∃ d ∈ cmsDocs, d.file = "Analyzer.cc" ∧ sd ∈ d.slots) ∧ sd.xs = "body_include_files" ∧ slotOk sd ctx = true ∧
      text = (P ++ itemsText ctx.slot.pre ctx.slot.post (base.includes ++ fetch A "body_includes" ++ a)) ++
             (ctx.slot.pre ++ (l ++ ctx.slot.post)) ++
             (itemsText ctx.slot.pre ctx.slot.post (c ++ fetch B "body_includes") ++ Q) := by
  have hd : docsOk files cmsDocs = true := by
    rcases hf with rfl | rfl
    · exact cms_aod_docs_ok
    · exact cms_miniaod_docs_ok
  exact line_placed injectFields files cmsDocs cmsFieldPlace hd fields_documented.2.2.2 mds base out h
    "body_includes" "Analyzer.cc" "body_include_files" (List.mem_singleton.2 rfl) A b B hb a l c hl

/-- **C14.repeat_invariant** — "identical content counts once", end to end: sending every metadata
item a second time changes neither the verdict nor a single character of any generated file. -/
theorem repeat_invariant (fields : List String) (files : List (String × Template)) (mds : List Md) (base : Base) :
    outcomeOf (runPackage fields files (mds ++ mds) base) = outcomeOf (runPackage fields files mds base) := by
  have heff : effective fields (mds ++ mds) = effective fields mds := by
    simp [effective, blocksOf, injects_append, firstOcc_append_self]
  have hbad : Bad fields (mds ++ mds) ↔ Bad fields mds := by
    simp [Bad, Malformed, Conflict, blocksOf, injects_append]
  rw [outcomeOf_runPackage, outcomeOf_runPackage, heff]
  simp only [hbad]

/-- **C14.cms_only_body_includes** — the CMS templates have no slot for any other inject_code
field: on CMS those fields are accepted and ignored (the property only asks for body includes). -/
theorem cms_only_body_includes :
    ((cms_aodFiles ++ cms_miniaodFiles).all fun nt =>
      match flatten nt.2 with
      | none => false
      | some L => L.rest.all fun p => ["body_include_files", "class_decl", "book_code", "query_code"].contains p.1.xs) = true := by
  decide +kernel

/-! Non-vacuity: the hypotheses are met and the definitions compute what they should. -/

section examples

private def s (x : String) : Str := x.toList

private def toy : Template :=
  [.text (s "A\n"), .forIn "i" "inc" [.text (s "#include \""), .var "i", .text (s "\"\n")], .text (s "B")]

example : flatten toy = some ⟨s "A\n", [(⟨"inc", s "#include \"", s "\"\n"⟩, s "B")]⟩ := by decide +kernel

/-- template syntax inside a substituted value is copied, not interpreted -/
example : render toy { lists := [("inc", [s "{{x}}", s "{% raw %}"])] } =
    s "A\n#include \"{{x}}\"\n#include \"{% raw %}\"\nB" := by
  -- a string literal is `String.ofList` of its characters: no UTF-8 decoding in the kernel
  unfold toy s
  repeat rw [String.toList_ofList]
  decide +kernel

private def md (n : String) (fs : List (String × List Str)) : Md := .inject ⟨some (s n), fs⟩

/-- identical repeat counts once; order of first occurrence -/
example : ((processMd ["a", "b"] [md "x" [("a", [s "1"])], md "y" [], md "x" [("a", [s "1"]), ("b", [])]] []).toOption.map
    (·.map (·.name))) = some [s "x", s "y"] := by decide +kernel
example : (processMd ["a"] [md "x" [("a", [s "1"])], md "x" [("a", [s "2"])]] []).toOption = none := by decide +kernel
example : Conflict ["a"] [md "x" [("a", [s "1"])], md "x" [("a", [s "2"])]] := by decide +kernel
example : (processMd ["a"] [md "x" [("zz", [])]] []).toOption = none := by decide +kernel
example : Malformed ["a"] [md "x" [("zz", [])]] := by decide +kernel
example : ¬ Bad ["a", "b"] [md "x" [("a", [s "1"])], .other (s "x"), md "x" [("a", [s "1"])]] := by decide +kernel

end examples

end FaxVerif.C14
