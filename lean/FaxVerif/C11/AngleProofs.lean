/-
C11, the built-in `DeltaR` — `wrap h x` lies in `[-h, h)` and is the only value there a whole number of turns from `x`;
ROOT's two loops compute it (`phiMpiPi_eq_wrap`): no iteration changes `wrap`, and with enough fuel the loops end in the
range.
-/
import FaxVerif.C11.Angle
namespace FaxVerif.C11.Angle

theorem wrap_lower (h : Nat) (hh : 0 < h) (x : Int) : -(h : Int) ≤ wrap h x := by
  unfold wrap
  have := Int.emod_nonneg (x + h) (b := 2 * (h : Int)) (by omega)
  omega

theorem wrap_upper (h : Nat) (hh : 0 < h) (x : Int) : wrap h x < h := by
  unfold wrap
  have := Int.emod_lt_of_pos (x + h) (b := 2 * (h : Int)) (by omega)
  omega

theorem wrap_congr (h : Nat) (x : Int) : ∃ k : Int, wrap h x = x + 2 * (h : Int) * k := by
  refine ⟨-((x + h) / (2 * (h : Int))), ?_⟩
  unfold wrap
  have := Int.emod_add_mul_ediv (x + h) (2 * (h : Int))
  rw [Int.mul_neg]
  omega

theorem wrap_of_range (h : Nat) (r : Int) (h1 : -(h : Int) ≤ r) (h2 : r < h) : wrap h r = r := by
  unfold wrap
  rw [Int.emod_eq_of_lt (by omega) (by omega)]
  omega

theorem wrap_add_turns (h : Nat) (x k : Int) : wrap h (x + 2 * (h : Int) * k) = wrap h x := by
  unfold wrap
  have : x + 2 * (h : Int) * k + h = (x + h) + 2 * (h : Int) * k := by omega
  rw [this, Int.add_mul_emod_self_left]

theorem wrap_unique (h : Nat) (x r k : Int) (h1 : -(h : Int) ≤ r) (h2 : r < h)
    (hk : r = x + 2 * (h : Int) * k) : r = wrap h x := by
  rw [← wrap_of_range h r h1 h2, hk, wrap_add_turns]

theorem wrap_down (h : Nat) : ∀ (n : Nat) (x : Int), wrap h (down h n x) = wrap h x
  | 0, x => rfl
  | n + 1, x => by
    simp only [down]
    split
    · rw [wrap_down h n]
      have : x - 2 * (h : Int) = x + 2 * (h : Int) * (-1) := by omega
      rw [this, wrap_add_turns]
    · rfl

theorem wrap_up (h : Nat) : ∀ (n : Nat) (x : Int), wrap h (up h n x) = wrap h x
  | 0, x => rfl
  | n + 1, x => by
    simp only [up]
    split
    · rw [wrap_up h n]
      have : x + 2 * (h : Int) = x + 2 * (h : Int) * 1 := by omega
      rw [this, wrap_add_turns]
    · rfl

/-- with enough fuel the first loop ends below the half turn (`2h ≥ 2` per iteration) -/
theorem down_lt (h : Nat) (hh : 0 < h) : ∀ (n : Nat) (x : Int), x < (h : Int) + 2 * (n : Int) → down h n x < h
  | 0, x, hx => by simp only [down]; omega
  | n + 1, x, hx => by
    simp only [down]
    split
    · exact down_lt h hh n _ (by omega)
    · omega

theorem down_lower (h : Nat) (b : Int) (hb : b ≤ -(h : Int)) : ∀ (n : Nat) (x : Int), b ≤ x → b ≤ down h n x
  | 0, x, hx => hx
  | n + 1, x, hx => by
    simp only [down]
    split
    · exact down_lower h b hb n _ (by omega)
    · exact hx

theorem up_lt (h : Nat) : ∀ (n : Nat) (y : Int), y < h → up h n y < h
  | 0, y, hy => hy
  | n + 1, y, hy => by
    simp only [up]
    split
    · exact up_lt h n _ (by omega)
    · exact hy

theorem up_ge (h : Nat) (hh : 0 < h) : ∀ (n : Nat) (y : Int), -(h : Int) - 2 * (n : Int) ≤ y → -(h : Int) ≤ up h n y
  | 0, y, hy => by simp only [up]; omega
  | n + 1, y, hy => by
    simp only [up]
    split
    · exact up_ge h hh n _ (by omega)
    · omega

theorem phiMpiPi_eq_wrap (h : Nat) (hh : 0 < h) (x : Int) : phiMpiPi h x = wrap h x := by
  unfold phiMpiPi
  have d1 := down_lt h hh (x.natAbs + 1) x (by omega)
  have d2 := down_lower h (-(h : Int) - x.natAbs) (by omega) (x.natAbs + 1) x (by omega)
  have u1 := up_lt h (x.natAbs + 1) _ d1
  have u2 := up_ge h hh (x.natAbs + 1) (down h (x.natAbs + 1) x) (by omega)
  rw [← wrap_of_range h _ u2 u1, wrap_up, wrap_down]

theorem wrap_neg_sq (h : Nat) (hh : 0 < h) (d : Int) : wrap h (-d) * wrap h (-d) = wrap h d * wrap h d := by
  obtain ⟨k, hk⟩ := wrap_congr h d
  have l := wrap_lower h hh d
  have u := wrap_upper h hh d
  by_cases hw : wrap h d = -(h : Int)
  · -- the seam: both differences are the half turn
    have e : -d = -(h : Int) + 2 * (h : Int) * (k + 1) := by
      rw [Int.mul_add]; omega
    have : wrap h (-d) = -(h : Int) := by
      rw [e, wrap_add_turns, wrap_of_range h _ (by omega) (by omega)]
    rw [this, hw]
  · have e : -d = -(wrap h d) + 2 * (h : Int) * k := by omega
    have : wrap h (-d) = -(wrap h d) := by
      rw [e, wrap_add_turns, wrap_of_range h _ (by omega) (by omega)]
    rw [this, Int.neg_mul_neg]

end FaxVerif.C11.Angle
