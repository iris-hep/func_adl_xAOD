/-
C11 — injected C++ functions are applied hygienically at every call site: what `_replace_whole_words` substitutes, which
calls `build_CPPCodeValue` and the finder accept, what `process_ast_node` emits for them, that the built-ins as extracted
from the source meet the hypotheses, and what the supplied code of the built-in `DeltaR` means.  Nothing is bounded; the
substitution theorems hold for every class `W` of word characters (ASCII text: `asciiWord` = `[A-Za-z0-9_]`).
Where the full statement is false of the code, a `_counterexample` on a literal stands beside a `_partial` theorem with the
excluded inputs as a decidable hypothesis (`ReceiverPlain`, `StyleStrict`, `PrefixOk`, `WordNames` / `WF`).
-/
import FaxVerif.C11.Proofs
import FaxVerif.C11.AngleProofs
import FaxVerif.Generated.C11Builtins
namespace FaxVerif.C11

/-- The decomposition into maximal runs (`tokenise_spec`) is the only one with these properties. -/
theorem tokenise_is_unique (W : Char → Bool) (ts : List Tok) (hok : ∀ t ∈ ts, TokOk W t)
    (halt : Alternating ts) : tokenise W (detok ts) = ts :=
  -- each token is a maximal run of the line that is left: `tokenise_run` reads it off
  toks_induction W (P := fun ts => tokenise W (detok ts) = ts) rfl (fun t ts ht hh ih => by
    show tokenise W (t.text ++ detok ts) = t :: ts
    rw [tokenise_run W t.isWord t.text (detok ts) ht.1 ht.2 hh, ih]) ts hok halt

/-- **Simultaneous whole-word substitution.**  The code (dict with first binding winning,
alternatives sorted by length, one combined regex `\bs1\b|\bs2\b|…`, `re.sub` with a function
replacement) computes exactly the map over word / non-word runs that replaces each word run
that is a parameter by that parameter's argument text (which is never inspected). -/
theorem subst_sim (W : Char → Bool) (ps : List Binding) (h : WordNames W ps) (line : Str) :
    SubstSpec W ps line (replaceWholeWords W ps line) :=
  replaceWholeWords_eq W ps h line

/-- Only whole words, and every whole word: one piece per run of the line; a word run that is a
parameter becomes the text bound to it (first binding), every other run — non-word text, words
that are not parameters, in particular longer words that merely contain a parameter name — is
kept. -/
theorem only_whole_words (W : Char → Bool) (ps : List Binding) (h : WordNames W ps) (line : Str) :
    ∃ piece : Tok → Str,
      (∀ t, (t.isWord = true ∧ lookup ps t.text = some (piece t)) ∨
            ((t.isWord = false ∨ lookup ps t.text = none) ∧ piece t = t.text)) ∧
      replaceWholeWords W ps line = (tokenise W line).flatMap piece := by
  refine ⟨substTok ps, ?_, ?_⟩
  · intro t
    unfold substTok
    cases hw : t.isWord with
    | false => simp
    | true =>
      cases hl : lookup ps t.text with
      | none => simp
      | some d => simp
  · rw [replaceWholeWords_eq W ps h line, substSim]

/-- Cutting the line at a whole-word occurrence `w` (text before does not end in a word
character, text after does not start with one): the occurrence is replaced by *its own*
argument text `d`, put in verbatim whatever it contains (it is never scanned again, so an
argument mentioning another parameter is not captured), and the rest of the line is treated
independently of it. If `w` is not a parameter it is kept. -/
theorem occurrence_replaced (W : Char → Bool) (ps : List Binding) (h : WordNames W ps)
    (a w b : Str) (hw : w ≠ []) (hwk : AllW W true w) (ha : LastIs W false a) (hb : HeadIs W false b) :
    replaceWholeWords W ps (a ++ w ++ b) =
      replaceWholeWords W ps a ++ (lookup ps w).getD w ++ replaceWholeWords W ps b := by
  simp only [replaceWholeWords_eq W ps h]
  rw [List.append_assoc, substSim_append W ps a (w ++ b) (Or.inl ha),
    substSim_run_word W ps w b hw hwk hb, List.append_assoc]

/-- Text outside words is never touched and separates what is on its two sides. -/
theorem gap_untouched (W : Char → Bool) (ps : List Binding) (h : WordNames W ps)
    (a g b : Str) (hg : g ≠ []) (hgk : AllW W false g) :
    replaceWholeWords W ps (a ++ g ++ b) = replaceWholeWords W ps a ++ g ++ replaceWholeWords W ps b := by
  simp only [replaceWholeWords_eq W ps h]
  rw [List.append_assoc, substSim_append W ps a (g ++ b) (Or.inr (headIs_of_allW W false g b hg hgk)),
    substSim_append W ps g b (Or.inl (lastIs_of_allW W false g hgk)), substSim_gap W ps g hgk,
    List.append_assoc]

/-- A line in which no parameter occurs as a whole word is emitted unchanged. -/
theorem identity_no_param (W : Char → Bool) (ps : List Binding) (h : WordNames W ps) (line : Str)
    (hno : ∀ t ∈ tokenise W line, t.isWord = true → t.text ∉ keys ps) :
    replaceWholeWords W ps line = line := by
  rw [replaceWholeWords_eq W ps h]
  exact substSim_of_lookup_none W ps line fun t ht hw => (lookup_eq_none_iff ps t.text).2 (hno t ht hw)

/-- Hygiene / composition law: with distinct parameter names the result does not depend on the
order in which the bindings are listed (so it cannot depend on a substitution order). -/
theorem order_irrelevant (W : Char → Bool) (ps qs : List Binding) (h : WordNames W ps)
    (hn : (keys ps).Nodup) (hp : ps.Perm qs) (line : Str) :
    replaceWholeWords W ps line = replaceWholeWords W qs line := by
  have hq : WordNames W qs := fun p hp' => h p ((List.Perm.mem_iff hp).2 hp')
  rw [replaceWholeWords_eq W ps h, replaceWholeWords_eq W qs hq]
  exact substSim_congr W ps qs (lookup_perm ps qs hp hn) line

/-- A second binding of a name that is already bound is ignored (first binding wins). -/
theorem first_binding_wins (W : Char → Bool) (a b : List Binding) (s d : Str)
    (h : WordNames W (a ++ (s, d) :: b)) (hs : s ∈ keys a) (line : Str) :
    replaceWholeWords W (a ++ (s, d) :: b) line = replaceWholeWords W (a ++ b) line := by
  have h' : WordNames W (a ++ b) := fun p hp => h p (by
    rcases List.mem_append.1 hp with hp | hp
    · exact List.mem_append_left _ hp
    · exact List.mem_append_right _ (List.mem_cons_of_mem _ hp))
  rw [replaceWholeWords_eq W _ h, replaceWholeWords_eq W _ h']
  exact substSim_congr W _ _ (fun w => lookup_append_dup a b s d w hs) line

/-- No capture, in the form the defect had: two parameters whose argument texts mention each
other's names (any texts at all) end up exchanged, not nested. -/
theorem no_capture (W : Char → Bool) (p q dp dq g : Str) (hp : isWordStr W p = true)
    (hq : isWordStr W q = true) (hpq : p ≠ q) (hg : g ≠ []) (hgk : AllW W false g) :
    replaceWholeWords W [(p, dp), (q, dq)] (p ++ g ++ q) = dp ++ g ++ dq := by
  have hwn : WordNames W [(p, dp), (q, dq)] := by
    intro x hx
    simp only [List.mem_cons, List.not_mem_nil, or_false] at hx
    rcases hx with rfl | rfl
    · exact hp
    · exact hq
  have hp' := (isWordStr_iff W p).1 hp
  have hq' := (isWordStr_iff W q).1 hq
  have hq2 : HeadIs W true (q ++ []) := headIs_of_allW W true q [] hq'.1 hq'.2
  rw [List.append_nil] at hq2
  rw [replaceWholeWords_eq W _ hwn, List.append_assoc,
    substSim_run W _ true p (g ++ q) hp'.1 hp'.2 (headIs_of_allW W false g q hg hgk),
    substSim_run W _ false g q hg hgk hq2, substSim_word W _ q hq'.1 hq'.2]
  simp [substTok, lookup, hpq]

example : replaceWholeWords asciiWord [("pt".toList, "j.eta()".toList), ("eta".toList, "j.pt()".toList)]
    "pt + eta".toList = "j.eta() + j.pt()".toList := by
  char_lists
  decide +kernel

/-- The algorithm before the fix (one `re.sub` per parameter, each looking at what the previous
one inserted) violates the specification on the input that is replayed as a regression test:
parameters `(pt, eta)` called with `(j.eta(), j.pt())`. -/
theorem seq_capture_counterexample :
    ¬ SubstSpec asciiWord [("pt".toList, "j.eta()".toList), ("eta".toList, "j.pt()".toList)]
        "pt + eta".toList
        (substSeq asciiWord [("pt".toList, "j.eta()".toList), ("eta".toList, "j.pt()".toList)] "pt + eta".toList) := by
  char_lists
  decide +kernel

/-- Why `WordNames` is needed: a parameter name that ends in a character the regex does not
class as a word character (here `x` followed by U+0302 COMBINING CIRCUMFLEX, a legal Python and
C++ identifier) is never replaced, because `\b` cannot hold after it. `regexW` is the class the
regex uses for the two characters, `identW` the identifier class. -/
def regexW (c : Char) : Bool := asciiWord c
def identW (c : Char) : Bool := asciiWord c || c == '̂'

theorem nonword_name_counterexample :
    replaceWholeWords regexW [(['x', '̂'], ['A'])] ['x', '̂', ' ', '+', ' ', 'x'] =
      ['x', '̂', ' ', '+', ' ', 'x'] ∧
    ¬ SubstSpec identW [(['x', '̂'], ['A'])] ['x', '̂', ' ', '+', ' ', 'x']
        (replaceWholeWords regexW [(['x', '̂'], ['A'])] ['x', '̂', ' ', '+', ' ', 'x']) := by
  decide +kernel

/-- A call with the wrong number of arguments is rejected, whatever else is true of it. -/
theorem arity (spec : FSpec) (f : Expr) (args : List Expr) (h : args.length ≠ spec.args.length) :
    buildCPPCodeValue spec f args = .error .arity := by
  simp [buildCPPCodeValue, h]

/-- A function invoked like a method and a method invoked like a function are rejected. -/
theorem call_style (spec : FSpec) (f : Expr) (args : List Expr) (h : args.length = spec.args.length) :
    (spec.methodObject = none → (∃ r a, shape f = .attrName r a) ∨ (∃ a, shape f = .attrOther a) →
        buildCPPCodeValue spec f args = .error .functionAsMethod) ∧
    (spec.methodObject ≠ none → (∃ n, shape f = .name n) →
        buildCPPCodeValue spec f args = .error .methodAsFunction) := by
  constructor
  · intro hm hs
    rcases hs with ⟨r, a, hs⟩ | ⟨a, hs⟩ <;> simp [buildCPPCodeValue, h, hm, hs]
  · intro hm ⟨n, hs⟩
    cases hmo : spec.methodObject with
    | none => exact absurd hmo hm
    | some mo => simp [buildCPPCodeValue, h, hmo, hs]

/-- Exactly the calls with the declared arity and the declared style are accepted; the accepted
call carries the specification unchanged and, for a method, binds the method-object word to
the receiver's name. -/
theorem build_accepts_iff (spec : FSpec) (f : Expr) (args : List Expr) :
    isOk (buildCPPCodeValue spec f args) = BuildAccepts spec f args ∧
    ∀ e, buildCPPCodeValue spec f args = .ok e →
      e = .cpp (spec.toCodeValue (expectedInstance spec f)) args :=
  ⟨build_isOk spec f args, build_ok_form spec f args⟩

/-- A query is refused exactly when one of the call sites the finder recognises — anywhere in
the expression, nested or repeated — is refused by its handler (wrong arity, wrong style,
`getAttribute`). -/
theorem finder_rejects_iff (tbl : Table) (e : Expr) : isOk (finder tbl e) = SitesOk tbl e :=
  finder_isOk tbl e

/-
Full statement (false of the code, see `nonnull_style_counterexample`):
  isOk (finder tbl e) = SitesOkFull tbl e
-/
/-- The same with the call style demanded of *every* injected function, `isNonnull` included
(`SitesOkFull`), provided `isNonnull` is not invoked like a method (`StyleStrict`, defect
exclusion: its handler only counts the arguments). -/
theorem finder_rejects_full_partial (tbl : Table) (e : Expr) (h : StyleStrict tbl e = true) :
    isOk (finder tbl e) = SitesOkFull tbl e := by
  simp [SitesOkFull, h, finder_rejects_iff]

/-- `m.isNonnull(x)` — a function invoked like a method — is accepted and the receiver dropped. -/
theorem nonnull_style_counterexample :
    let tbl : Table := [("isNonnull".toList, .nonnull)]
    let e : Expr := .call (.attr (.name "m".toList) "isNonnull".toList) [.opaque "x".toList]
    isOk (finder tbl e) = true ∧ SitesOkFull tbl e = false := by
  char_lists
  decide +kernel

/-
Full statement (false of the code, see `receiver_not_name_counterexample`):
  finder tbl e = .ok e' → NoPendingFull tbl e' = true
-/
/-- Every call of a name of the table — at any depth, any number of times — has been turned
into injected code, provided no method-style call of such a name has a receiver other than a
plain name (`ReceiverPlain`, the defect exclusion). -/
theorem call_sites_found_partial (tbl : Table) (e e' : Expr) (h : finder tbl e = .ok e')
    (hr : ReceiverPlain tbl e = true) : NoPendingFull tbl e' = true :=
  (finder_ok tbl e e' h).2.1 hr

/-- non-vacuity: a nested and repeated use satisfies the hypothesis and is rewritten -/
example :
    let s : FSpec := ⟨"f".toList, [], ["x".toList], ["auto result = x;".toList], "result".toList, "double".toList, false, none, none⟩
    let tbl : Table := [("f".toList, .spec s)]
    let e : Expr := .call (.name "f".toList) [.call (.name "f".toList) [.call (.attr (.name "j".toList) "pt".toList) []]]
    ReceiverPlain tbl e = true ∧ isOk (finder tbl e) = true := by
  char_lists
  decide +kernel

def jetTable : Table :=
  [("getAttributeFloat".toList, .spec ⟨"getAttributeFloat".toList, ["vector".toList], ["moment_name".toList],
      ["auto result = obj_j->getAttribute<float>(moment_name);".toList], "result".toList, "float".toList, false,
      some "obj_j".toList, some "xAOD::Jet_v1".toList⟩)]

/-- The receiver restriction is real: `First(Jets).getAttributeFloat("emf")` is left as an
ordinary method call (and then emitted as a call of a method the jet class does not have). -/
theorem receiver_not_name_counterexample :
    let e : Expr := .call (.attr (.call (.name "First".toList) [.opaque "jets".toList]) "getAttributeFloat".toList)
                      [.const "\"emf\"".toList]
    isOk (finder jetTable e) = true ∧
    (match finder jetTable e with
     | .ok e' => NoPendingFull jetTable e'
     | .error _ => true) = false := by
  decide +kernel

/-- The method object is bound to the receiver, first: whatever the parameters are called, the
method-object word is looked up to the receiver's C++ text (and then, by
`occurrence_replaced`, every whole-word occurrence of it in the code is that text). -/
theorem receiver_bound (cv : CodeValue) (mo r t : Str) (texts : List Str)
    (h : cv.instance_ = some (mo, r)) : lookup (replList cv (some t) texts) mo = some t := by
  simp [replList, h, lookup]

/-- Result variable, own block, assignment last, declared type.  One call site, in any state
of the enclosing block: the declarations and statements already there are kept; the first new
declaration is the result variable `v` with the declared type (`std::vector<T>` for a
collection) — in the *enclosing* block, so visible after the injected block; the last new
statement is one block whose lines are the substituted template lines and whose final
statement assigns the result name to `v`; everything the arguments emit comes before it. -/
theorem result_visible (W : Char → Bool) (env : Env) (cv : CodeValue) (args : List Expr) (s s' : St) (v : Str)
    (h : emit W env (.cpp cv args) s = .ok (v, s')) (hwf : cvWellFormed W cv = true) :
    ∃ recv texts moreD moreB,
      recvOf env cv = some recv ∧
      v = uniqueName cv.varPrefix s.next ∧
      s'.decls = s.decls ++ .decl (declType cv) v :: moreD ∧
      s'.stmts = s.stmts ++ moreB ++ [.block (expectedLines W cv recv texts) v cv.result] ∧
      texts.length = args.length := by
  obtain ⟨recv, texts, s2, hr, hl, rfl, rfl⟩ := emit_cpp_ok h
  obtain ⟨nd, nb, hd, hb, _⟩ := emitList_spec W env args _ texts s2 hl
  exact ⟨recv, texts, nd, nb, hr, rfl, by simp [hd], by simp [hb, blockLines_eq W cv hwf recv texts],
    emitList_length hl⟩

/-- The include files of the specification are among the include files of the generated code. -/
theorem includes_added (W : Char → Bool) (env : Env) (cv : CodeValue) (args : List Expr) (s s' : St) (v : Str)
    (h : emit W env (.cpp cv args) s = .ok (v, s')) : ∀ i ∈ cv.includes, i ∈ s'.includes := by
  obtain ⟨recv, texts, s2, _, hl, rfl, rfl⟩ := emit_cpp_ok h
  obtain ⟨_, _, _, _, hi, _⟩ := emitList_spec W env args _ texts s2 hl
  exact fun i hic => hi i ((addIncludes_sub s.includes cv.includes).2 i hic)

/-
Full statement (false of the code, see `fresh_counterexample`): the same without `PrefixOkList`.
-/
/-- **All call sites of a query.**  For any list of columns (call trees, nested and repeated
to any depth) emitted into an empty enclosing block: the blocks are exactly those of the call
sites in evaluation order (arguments before the call that uses them), each one the substituted
template followed by the assignment to a variable declared in the enclosing block with the
declared type; an argument that is itself an injected call is passed as its result variable;
include files are present; the declared variables are pairwise distinct.
Hypotheses: parameter names are words (`WFList`), function names do not end in a digit
(`PrefixOkList`, defect exclusion for the freshness clause only). -/
theorem pipeline_sound_partial (W : Char → Bool) (env : Env) (cols : List Expr) (start : Nat)
    (texts : List Str) (s : St)
    (h : emitList W env cols ⟨start, [], [], []⟩ = .ok (texts, s))
    (hwf : WFList W cols = true) (hp : PrefixOkList cols = true) :
    PipeSpec W env cols ⟨s.decls, s.stmts, texts, s.includes⟩ := by
  obtain ⟨nd, nb, hd, hb, _, _, hc, hf⟩ := emitList_spec W env cols _ texts s h
  simp only [List.nil_append] at hd hb
  refine ⟨?_, hd ▸ (hf hp).1⟩
  simpa [hb] using hc hwf s.decls s.includes [] (fun d h => hd ▸ h) (fun i hi => hi)

/-- The same from the query as written: metadata specifications and built-ins make the table,
the finder rewrites the columns, the emission produces the body. -/
theorem query_sound_partial (W : Char → Bool) (builtins : Table) (specs : List FSpec) (env : Env)
    (cols : List Expr) (start : Nat) (body : Body)
    (h : runQuery W builtins specs env cols start = .ok body)
    (ht : tableWellFormed W (mkTable builtins specs) = true)
    (hp : tablePrefixOk (mkTable builtins specs) = true)
    (hc : WFList W cols = true) (hcp : PrefixOkList cols = true) :
    ∃ cols', finderList (mkTable builtins specs) cols = .ok cols' ∧ PipeSpec W env cols' body := by
  unfold runQuery at h
  cases hf : finderList (mkTable builtins specs) cols with
  | error x => simp [hf] at h
  | ok cols' =>
    simp only [hf] at h
    cases he : emitList W env cols' ⟨start, [], [], []⟩ with
    | error x => simp [he] at h
    | ok r =>
      obtain ⟨texts, s⟩ := r
      simp only [he, Except.ok.injEq] at h
      subst h
      obtain ⟨_, _, hw, hpre⟩ := finderList_ok _ cols cols' hf
      exact ⟨cols', rfl, pipeline_sound_partial W env cols' start texts s he (hw W ht hc) (hpre hp hcp)⟩

/-- With function names that do not end in a digit the generated name determines the counter
value, so different call sites get different variables. -/
theorem unique_name_injective_partial (p q : Str) (i j : Nat) (hp : noDigitEnd p = true)
    (hq : noDigitEnd q = true) (h : uniqueName p i = uniqueName q j) : i = j :=
  uniqueName_inj p q i j hp hq h

/-- Without that restriction two different call sites can get the same "fresh" variable:
function `f1` at counter 2 and function `f` at counter 12 are both `f12`
(reproduced on the real code: two declarations `double f12;` in one block). -/
theorem fresh_counterexample : uniqueName "f1".toList 2 = uniqueName "f".toList 12 := by decide

/-- non-vacuity of `pipeline_sound_partial` / `query_sound_partial`: a nested call whose inner
argument text mentions the outer parameter names is emitted and satisfies the specification -/
example :
    let s : FSpec := ⟨"myf".toList, ["a.h".toList], ["pt".toList, "eta".toList], ["auto result = pt + eta;".toList],
      "result".toList, "double".toList, false, none, none⟩
    let cols : List Expr := [.call (.name "myf".toList)
        [.opaque "i_obj1->eta()".toList, .call (.name "myf".toList) [.opaque "i_obj1->pt()".toList, .opaque "1.0".toList]]]
    (match runQuery asciiWord [] [s] [] cols 2 with
     | .ok b => b.stmts.length == 2 && b.cols == ["myf2".toList]
     | .error _ => false) = true := by decide +kernel

/-- The built-in functions of the three back ends, as extracted from the source (`DeltaR`, `getAttributeFloat`,
`getAttributeVectorFloat`, `isNonnull`; `getAttribute` refuses), satisfy the hypotheses of
`query_sound_partial`: parameter names and method-object words are words, names do not end in a
digit. -/
theorem builtins_satisfy_hypotheses :
    (tableWellFormed asciiWord Gen.atlasBuiltins && tablePrefixOk Gen.atlasBuiltins &&
     tableWellFormed asciiWord Gen.cms_aodBuiltins && tablePrefixOk Gen.cms_aodBuiltins &&
     tableWellFormed asciiWord Gen.cms_miniaodBuiltins && tablePrefixOk Gen.cms_miniaodBuiltins) = true := by
  decide +kernel

/-- The built-ins have their documented signatures (README "getAttributeFloat or
getAttributeVectorFloat"; `DeltaR(eta1, phi1, eta2, phi2)`; `isNonnull(object)`; `getAttribute`
refuses): style, number of arguments, value or collection. -/
theorem builtins_signatures :
    (sigOf Gen.atlasBuiltins "DeltaR" = some (false, 4, false) ∧
     sigOf Gen.atlasBuiltins "getAttributeFloat" = some (true, 1, false) ∧
     sigOf Gen.atlasBuiltins "getAttributeVectorFloat" = some (true, 1, true) ∧
     Gen.atlasBuiltins.get? "getAttribute".toList = some .refuse ∧
     sigOf Gen.cms_aodBuiltins "DeltaR" = some (false, 4, false) ∧
     sigOf Gen.cms_aodBuiltins "isNonnull" = some (false, 1, false) ∧
     sigOf Gen.cms_miniaodBuiltins "DeltaR" = some (false, 4, false) ∧
     sigOf Gen.cms_miniaodBuiltins "isNonnull" = some (false, 1, false)) := by
  decide +kernel

/-- What `isNonnull` injects on both CMS back ends is what the model's `Handler.nonnull` injects,
and there is one such handler per CMS back end. -/
theorem nonnull_is_modelled :
    Gen.arityOnlyValues = [nonnullCodeValue, nonnullCodeValue] :=
  rfl

/-! A call of a built-in "becomes the supplied code", and for a built-in that code belongs to the
package: `DeltaR(eta1, phi1, eta2, phi2)` is the distance of two directions with the azimuth
difference taken on the circle.  Angles are on a grid on which the half turn is `h` units, so the
statements are exact; the harness compiles the code lines extracted from the source against a
stand-in of `TVector2::Phi_mpi_pi` (the two loops of `Angle.phiMpiPi`) and the driver evaluates
`Angle.DeltaRGridSpec` / `Angle.WrapGridSpec` on what the compiled code printed. -/

open Angle in
/-- `wrap h x` is THE representative of the angle `x` in `[-h, h)`. -/
theorem wrap_is_canonical (h : Nat) (hh : 0 < h) (x : Int) :
    (-(h : Int) ≤ wrap h x ∧ wrap h x < h) ∧ (∃ k : Int, wrap h x = x + 2 * (h : Int) * k) ∧
    (∀ r k : Int, -(h : Int) ≤ r → r < h → r = x + 2 * (h : Int) * k → r = wrap h x) :=
  ⟨⟨wrap_lower h hh x, wrap_upper h hh x⟩, wrap_congr h x, fun r k h1 h2 hk => wrap_unique h x r k h1 h2 hk⟩

open Angle in
/-- ROOT's `TVector2::Phi_mpi_pi` (`while (x >= π) x -= 2π; while (x < -π) x += 2π;`) — the
function the built-in code calls and the harness's stand-in header implements — computes the
canonical representative, for every angle, however many turns away. -/
theorem root_phi_mpi_pi_is_wrap (h : Nat) (hh : 0 < h) (x : Int) : phiMpiPi h x = wrap h x :=
  phiMpiPi_eq_wrap h hh x

open Angle in
/-- Hence the built-in code (`d_phi = Phi_mpi_pi(phi1-phi2)`, `d_eta*d_eta + d_phi*d_phi`) has
the reference meaning at every point. -/
theorem deltaR_builtin_meaning (h : Nat) (hh : 0 < h) (e1 p1 e2 p2 : Int) :
    dr2With (phiMpiPi h) e1 p1 e2 p2 = dr2 h e1 p1 e2 p2 := by
  unfold dr2With dr2
  rw [phiMpiPi_eq_wrap h hh]

open Angle in
/-- **The argument order does not matter**: `DeltaR(a, b) = DeltaR(b, a)`, also across the
seam `phi = ±π` (where the two wrapped differences are both the half turn, not opposite). -/
theorem deltaR_order_irrelevant (h : Nat) (hh : 0 < h) (e1 p1 e2 p2 : Int) :
    dr2 h e1 p1 e2 p2 = dr2 h e2 p2 e1 p1 := by
  unfold dr2
  have a : e2 - e1 = -(e1 - e2) := by omega
  have b : p2 - p1 = -(p1 - p2) := by omega
  rw [a, b, Int.neg_mul_neg, wrap_neg_sq h hh]

open Angle in
/-- Whole turns added to either azimuth do not change the result (both conventions,
`[-π, π)` and `[0, 2π)`, denote the same directions). -/
theorem deltaR_periodic (h : Nat) (e1 p1 e2 p2 k1 k2 : Int) :
    dr2 h e1 (p1 + 2 * (h : Int) * k1) e2 (p2 + 2 * (h : Int) * k2) = dr2 h e1 p1 e2 p2 := by
  unfold dr2
  have : p1 + 2 * (h : Int) * k1 - (p2 + 2 * (h : Int) * k2) = (p1 - p2) + 2 * (h : Int) * (k1 - k2) := by
    rw [Int.mul_sub]; omega
  rw [this, wrap_add_turns]

open Angle in
/-- The azimuth part never exceeds the half turn. -/
theorem deltaR_azimuth_bounded (h : Nat) (hh : 0 < h) (d : Int) :
    wrap h d * wrap h d ≤ (h : Int) * h := by
  have l := wrap_lower h hh d
  have u := wrap_upper h hh d
  by_cases s : 0 ≤ wrap h d
  · exact Int.mul_le_mul (by omega) (by omega) s (by omega)
  · have h1 : -(wrap h d) ≤ (h : Int) := by omega
    have h3 : 0 ≤ -(wrap h d) := by omega
    have := Int.mul_le_mul h1 h1 h3 (by omega)
    rwa [Int.neg_mul_neg] at this

open Angle in
/-- The truncating-remainder formula `fmod(x + π, 2π) - π` (C's `fmod` keeps the sign of the
dividend) is the canonical representative exactly when `x + π ≥ 0` or `x + π` is a whole number
of turns; everywhere else — every difference below `-π` — it is one full turn too low, outside
`[-π, π)`. -/
theorem fmod_wrap_characterised (h : Nat) (x : Int) :
    fmodWrap h x = wrap h x - (if 0 ≤ x + h ∨ 2 * (h : Int) ∣ x + h then 0 else 2 * (h : Int)) := by
  unfold fmodWrap wrap
  rw [Int.tmod_eq_emod]
  split <;> omega

open Angle in
/-- A code that wraps with the truncating remainder is right in one argument order and wrong in
the other, across the seam: jet at `-15π/16`, electron at `+15π/16` (`π/8` apart). -/
theorem fmod_wrap_counterexample :
    dr2 16 0 (-15) 0 15 = 4 ∧ dr2With (fmodWrap 16) 0 15 0 (-15) = 4 ∧ dr2With (fmodWrap 16) 0 (-15) 0 15 = 900 := by
  decide

/-- non-vacuity of the grid statements: the seam itself -/
example : Angle.wrap 16 16 = -16 ∧ Angle.wrap 16 (-16) = -16 ∧ Angle.phiMpiPi 16 48 = -16 ∧ Angle.dr2 16 3 16 3 (-16) = 0 := by decide

end FaxVerif.C11
