/-
C11 — executable model of `func_adl_xAOD.common.cpp_ast` as it is NOW (after the commit
"fix: substitute the arguments of an injected C++ function simultaneously, not one after another"):

  Part A  `_replace_whole_words`         → `replaceWholeWords` (dict.setdefault, sort by length, one
                                           combined regex `\bs1\b|\bs2\b|…` run by `re.sub` with a
                                           function replacement) and the declarative reading of the
                                           property, `substSim` (a map over maximal word / non-word runs)
  Part B  `build_CPPCodeValue`           → `buildCPPCodeValue`
  Part C  `cpp_ast_finder`               → `finder`
  Part D  `process_ast_node` + the part of the expression visitor that feeds it → `emit`, `runQuery`

Text is `List Char` (code points), the driver converts from/to `String`.
Word characters: everything in Part A is parametric in the class `W : Char → Bool` of word
characters.  Python's `re` uses its Unicode `\w`; C++ (and the property: "whole-word") means
identifier characters.  On ASCII both are `[A-Za-z0-9_]` = `asciiWord`; the harness passes the
class explicitly for every non-ASCII character occurring in a case (see tools/props/c11.py).
No Mathlib/Batteries import: this file is what the driver runs.
-/
namespace FaxVerif.C11

abbrev Str := List Char
/-- (source name, replacement text): one entry of `repl_list` -/
abbrev Binding := Str × Str

/-- `[A-Za-z0-9_]` -/
def asciiWord (c : Char) : Bool := c.isAlphanum || c == '_'

/-! ## Part A — whole-word substitution -/

/-- A maximal run of word characters (`isWord = true`) or of non-word characters. -/
structure Tok where
  isWord : Bool
  text : Str
deriving Repr, DecidableEq, Inhabited

section Subst
variable (W : Char → Bool)

def pushChar (c : Char) : List Tok → List Tok
  | [] => [⟨W c, [c]⟩]
  | t :: ts => if t.isWord = W c then ⟨t.isWord, c :: t.text⟩ :: ts else ⟨W c, [c]⟩ :: t :: ts

/-- The line as its maximal word / non-word runs (characterised uniquely by `tokenise_spec` and
`tokenise_is_unique`). -/
def tokenise : Str → List Tok
  | [] => []
  | c :: cs => pushChar W c (tokenise cs)

def detok (ts : List Tok) : Str := ts.flatMap (·.text)

/-- first binding wins (`lookup.setdefault(src, dest)`) -/
def lookup : List Binding → Str → Option Str
  | [], _ => none
  | (s, d) :: ps, w => if s = w then some d else lookup ps w

def substTok (ps : List Binding) (t : Tok) : Str :=
  if t.isWord then (lookup ps t.text).getD t.text else t.text

/-- What the property asks for: every word token that is a parameter is replaced by that
parameter's argument text, all at once; nothing else changes; inserted text is not looked at. -/
def substSim (ps : List Binding) (line : Str) : Str :=
  (tokenise W line).flatMap (substTok ps)

/-! ### the code: dict, sort, combined regex, `re.sub` -/

/-- `for src, dest in repl_list: lookup.setdefault(src, dest)` — keys in insertion order -/
def dedupe : List Binding → List Binding
  | [] => []
  | b :: bs => b :: (dedupe bs).filter (fun a => !decide (a.1 = b.1))

def insertByLen (b : Binding) : List Binding → List Binding
  | [] => [b]
  | a :: as => if a.1.length ≤ b.1.length then b :: a :: as else a :: insertByLen b as

/-- `sorted(lookup, key=len, reverse=True)` (stable) -/
def sortByLenDesc : List Binding → List Binding
  | [] => []
  | b :: bs => insertByLen b (sortByLenDesc bs)

def isW : Option Char → Bool
  | none => false
  | some c => W c

/-- `\b` between two neighbouring positions (`none` = outside the string) -/
def boundary (a b : Option Char) : Bool := isW W a != isW W b

/-- `rest = src ++ after` → `some after` -/
def stripPrefix : Str → Str → Option Str
  | [], r => some r
  | _ :: _, [] => none
  | a :: s, b :: r => if a = b then stripPrefix s r else none

/-- does the alternative `\b<src>\b` (src escaped: a literal) match at the head of `rest`, the
character before being `prev`?  An empty `src` never matches here (the code would build `\b\b`;
empty parameter names are outside the property and outside the generators). -/
def matchesAt (prev : Option Char) (src rest : Str) : Bool :=
  match src.getLast?, stripPrefix src rest with
  | some lastc, some after => boundary W prev rest.head? && boundary W (some lastc) after.head?
  | _, _ => false

/-- alternation: the first alternative that matches at this position -/
def firstMatch (alts : List Binding) (prev : Option Char) (rest : Str) : Option Binding :=
  alts.find? (fun a => matchesAt W prev a.1 rest)

/-- `re.sub(pattern, lambda m: lookup[m.group(0)], line)`: left to right, non-overlapping; the
replacement is emitted verbatim and the scan continues *after the matched source text* (`skip`
counts the characters of the match still to be passed over). -/
def scan (alts : List Binding) : Option Char → Nat → Str → Str
  | _, _, [] => []
  | _, skip + 1, c :: cs => scan alts (some c) skip cs
  | prev, 0, c :: cs =>
    match firstMatch W alts prev (c :: cs) with
    | some a => a.2 ++ scan alts (some c) (a.1.length - 1) cs
    | none => c :: scan alts (some c) 0 cs

/-- `_replace_whole_words(line, repl_list)` -/
def replaceWholeWords (repl : List Binding) (line : Str) : Str :=
  match dedupe repl with
  | [] => line
  | lk => scan W (sortByLenDesc lk) none 0 line

/-- The algorithm before the fix: one `re.sub(r"\b src \b", dest, line)` per binding, in order,
each pass looking again at what the previous passes inserted.  Kept for the counterexample. -/
def substSeq : List Binding → Str → Str
  | [], l => l
  | b :: bs, l => substSeq bs (scan W [b] none 0 l)

end Subst

/-- `arbitrary_statement.emit`: a `;` is appended when the line does not end with one -/
def withSemi (l : Str) : Str := if l.getLast? = some ';' then l else l ++ [';']

/-! ## Part B — `CPPCodeSpecification` → `CPPCodeValue` -/

structure FSpec where
  name : Str
  includes : List Str
  args : List Str
  code : List Str
  result : Str
  retType : Str
  isCollection : Bool
  methodObject : Option Str
  /-- the optional key `instance_object` ("the name of the object if this is being used as a method"): carried by the
  specification, read by nothing in `build_CPPCodeValue` — a specification is a method exactly when `method_object` is given -/
  instanceObject : Option Str := none
deriving Repr, DecidableEq, Inhabited

/-- The part of a `CPPCodeValue` the back end uses. `varPrefix` is the argument of
`unique_name`, `instance_` is `replacement_instance_obj` = (word in the code, Python name of the receiver). -/
structure CodeValue where
  varPrefix : Str
  includes : List Str
  args : List Str
  code : List Str
  result : Str
  retType : Str
  isCollection : Bool
  instance_ : Option (Str × Str)
deriving Repr, DecidableEq, Inhabited

inductive Err where
  | arity                    -- ValueError
  | functionAsMethod         -- ValueError
  | methodAsFunction         -- ValueError
  | refused                  -- RuntimeError of `getAttribute`
  | badCallee                -- func neither Name nor Attribute-of-Name (never reached through the finder)
  | unbound (id : Str)       -- a Python name without a representation
  | unsupported              -- expression form outside the modelled fragment
deriving Repr, DecidableEq

/-- Python expressions, as far as the finder and the injected-code emission look at them.
`opaque` is an expression without any call the finder could recognise whose C++ text has been
measured from the translator itself (a leaf for the emission model).
`cpp cv args` is a `Call` whose `func` has been replaced by a `CPPCodeValue`. -/
inductive Expr where
  | name (id : Str)
  | const (text : Str)
  | opaque (text : Str)
  | attr (obj : Expr) (a : Str)
  | call (f : Expr) (args : List Expr)
  | binop (op : Str) (l r : Expr)
  | cpp (cv : CodeValue) (args : List Expr)
deriving Repr, Inhabited

def FSpec.toCodeValue (spec : FSpec) (inst : Option (Str × Str)) : CodeValue :=
  { varPrefix := spec.name, includes := spec.includes, args := spec.args, code := spec.code,
    result := spec.result, retType := spec.retType, isCollection := spec.isCollection, instance_ := inst }

/-- What `build_CPPCodeValue` and `cpp_ast_finder.visit_Call` look at in `call_node.func`. -/
inductive Shape where
  | name (n : Str)                 -- `f(...)`
  | attrName (r a : Str)           -- `r.a(...)`, `r` a plain `Name`
  | attrOther (a : Str)            -- `<expr>.a(...)`
  | other
deriving Repr, DecidableEq

def shape : Expr → Shape
  | .name n => .name n
  | .attr (.name r) a => .attrName r a
  | .attr _ a => .attrOther a
  | _ => .other

/-- `build_CPPCodeValue(spec, call_node)`; `f` is `call_node.func`. Order of the checks as in
the code: number of arguments, function invoked like a method, method invoked like a function. -/
def buildCPPCodeValue (spec : FSpec) (f : Expr) (args : List Expr) : Except Err Expr :=
  if args.length ≠ spec.args.length then .error .arity
  else match shape f, spec.methodObject with
    | .attrName _ _, none => .error .functionAsMethod
    | .attrOther _, none => .error .functionAsMethod
    | .name _, some _ => .error .methodAsFunction
    | .name _, none => .ok (.cpp (spec.toCodeValue none) args)
    | .attrName r _, some mo => .ok (.cpp (spec.toCodeValue (some (mo, r))) args)
    | _, _ => .error .badCallee

/-- `isNonnullAst` of the two CMS back ends: only the number of arguments is looked at. -/
def nonnullCodeValue : CodeValue :=
  { varPrefix := "is_non_null".toList, includes := [], args := ["cms_object".toList],
    code := ["auto result = (cms_object).isNonnull();".toList], result := "result".toList,
    retType := "bool".toList, isCollection := false, instance_ := none }

/-- What a name in `method_names` is bound to. -/
inductive Handler where
  | spec (s : FSpec)         -- `lambda call_node: build_CPPCodeValue(spec, call_node)`
  | nonnull                  -- `isNonnullAst`
  | refuse                   -- `getAttribute`: raises
deriving Repr, DecidableEq

abbrev Table := List (Str × Handler)

def Table.get? : Table → Str → Option Handler
  | [], _ => none
  | (k, h) :: t, n => if k = n then some h else Table.get? t n

def applyHandler (h : Handler) (f : Expr) (args : List Expr) : Except Err Expr :=
  match h with
  | .spec s => buildCPPCodeValue s f args
  | .nonnull => if args.length ≠ 1 then .error .arity else .ok (.cpp nonnullCodeValue args)
  | .refuse => .error .refused

/-! ## Part C — `cpp_ast_finder` -/

/-- The name under which `visit_Call` looks the call up: `obj.name(...)` only when `obj` is a
plain `Name`, or `name(...)`. -/
def calleeKey (f : Expr) : Option Str :=
  match shape f with
  | .attrName _ a => some a
  | .name n => some n
  | _ => none

mutual
/-- `cpp_ast_finder(method_names).visit(e)`: children first (`func`, then the arguments), then
the call itself. -/
def finder (tbl : Table) : Expr → Except Err Expr
  | .name id => .ok (.name id)
  | .const t => .ok (.const t)
  | .opaque t => .ok (.opaque t)
  | .attr o a =>
    match finder tbl o with
    | .error e => .error e
    | .ok o' => .ok (.attr o' a)
  | .binop op l r =>
    match finder tbl l with
    | .error e => .error e
    | .ok l' =>
      match finder tbl r with
      | .error e => .error e
      | .ok r' => .ok (.binop op l' r')
  | .cpp cv args =>
    match finderList tbl args with
    | .error e => .error e
    | .ok args' => .ok (.cpp cv args')
  | .call f args =>
    match finder tbl f with
    | .error e => .error e
    | .ok f' =>
      match finderList tbl args with
      | .error e => .error e
      | .ok args' =>
        match calleeKey f' with
        | none => .ok (.call f' args')
        | some k =>
          match tbl.get? k with
          | none => .ok (.call f' args')
          | some h => applyHandler h f' args'
def finderList (tbl : Table) : List Expr → Except Err (List Expr)
  | [] => .ok []
  | e :: es =>
    match finder tbl e with
    | .error x => .error x
    | .ok e' =>
      match finderList tbl es with
      | .error x => .error x
      | .ok es' => .ok (e' :: es')
end

/-! ## Part D — `process_ast_node` inside the enclosing block -/

/-- What lands in the enclosing block (the loop body). Names of generated variables are text. -/
inductive Item where
  | decl (ty name : Str)                         -- `T name;` in the declaration list of the block
  | block (lines : List Str) (lhs rhs : Str)     -- `{ lines…; lhs = rhs; }`
deriving Repr, DecidableEq

structure St where
  next : Nat                 -- `cpp_vars.unique_var_index`
  decls : List Item          -- declarations of the enclosing block, in creation order
  stmts : List Item          -- statements of the enclosing block, in insertion order
  includes : List Str        -- `generated_code._include_files`
deriving Repr

/-- `gc.add_include` for each file: no duplicates, first occurrence order -/
def addIncludes : List Str → List Str → List Str
  | acc, [] => acc
  | acc, i :: is => addIncludes (if i ∈ acc then acc else acc ++ [i]) is

/-- `str(n)` (= `(toString n).toList`, `Nat.toList_repr`) -/
def natStr (n : Nat) : Str := Nat.toDigits 10 n

/-- `unique_name(prefix)` -/
def uniqueName (pre : Str) (idx : Nat) : Str := pre ++ natStr idx

def declType (cv : CodeValue) : Str :=
  if cv.isCollection then "std::vector<".toList ++ cv.retType ++ ">".toList else cv.retType

/-- the replacement list of `process_ast_node`: receiver first, then parameter ↦ argument text -/
def replList (cv : CodeValue) (recv : Option Str) (argTexts : List Str) : List Binding :=
  (match cv.instance_, recv with
   | some (mo, _), some r => [(mo, r)]
   | _, _ => []) ++ cv.args.zip argTexts

/-- the lines of the injected block -/
def blockLines (W : Char → Bool) (cv : CodeValue) (repl : List Binding) : List Str :=
  cv.code.map (fun l => withSemi (replaceWholeWords W repl l))

abbrev Env := List (Str × Str)

def Env.get? : Env → Str → Option Str
  | [], _ => none
  | (k, v) :: t, n => if k = n then some v else Env.get? t n

/-- the receiver text `process_ast_node` binds (`visitor.resolve_id(name).rep.as_cpp()`):
`none` = a receiver name without representation -/
def recvOf (env : Env) (cv : CodeValue) : Option (Option Str) :=
  match cv.instance_ with
  | none => some none
  | some (_, r) =>
    match env.get? r with
    | some t => some (some t)
    | none => none

mutual
/-- The C++ text standing for `e` and the state of the enclosing block afterwards.
For a `cpp` node this is `process_ast_node`: declare the result variable in the *enclosing*
block, add the include files, bind the receiver, evaluate the arguments left to right (their
own injected blocks are emitted first), then emit one block: substituted code lines followed by
`resultVar = <result name>;`. -/
def emit (W : Char → Bool) (env : Env) : Expr → St → Except Err (Str × St)
  | .opaque t, s => .ok (t, s)
  | .const t, s => .ok (t, s)
  | .name id, s =>
    match env.get? id with
    | some t => .ok (t, s)
    | none => .error (.unbound id)
  | .attr _ _, _ => .error .unsupported
  | .call _ _, _ => .error .unsupported
  | .binop _ _ _, _ => .error .unsupported
  | .cpp cv args, s =>
    match recvOf env cv with
    | none => .error (.unbound [])
    | some recv =>
      match emitList W env args
          { s with next := s.next + 1,
                   decls := s.decls ++ [.decl (declType cv) (uniqueName cv.varPrefix s.next)],
                   includes := addIncludes s.includes cv.includes } with
      | .error e => .error e
      | .ok (texts, s2) =>
        .ok (uniqueName cv.varPrefix s.next,
             { s2 with stmts := s2.stmts ++
                 [.block (blockLines W cv (replList cv recv texts)) (uniqueName cv.varPrefix s.next) cv.result] })
def emitList (W : Char → Bool) (env : Env) : List Expr → St → Except Err (List Str × St)
  | [], s => .ok ([], s)
  | e :: es, s =>
    match emit W env e s with
    | .error x => .error x
    | .ok (t, s1) =>
      match emitList W env es s1 with
      | .error x => .error x
      | .ok (ts, s2) => .ok (t :: ts, s2)
end

structure Body where
  decls : List Item
  stmts : List Item
  cols : List Str            -- the text each column of the final `Select` evaluates to
  includes : List Str
deriving Repr

/-- metadata functions override built-ins of the same name (`method_names.update`), a later
metadata entry overrides an earlier one -/
def mkTable (builtins : Table) (specs : List FSpec) : Table :=
  (specs.reverse.map (fun s => (s.name, Handler.spec s))) ++ builtins

/-- finder, then emission of the columns in order, in an initially empty enclosing block -/
def runQuery (W : Char → Bool) (builtins : Table) (specs : List FSpec) (env : Env) (cols : List Expr)
    (start : Nat) : Except Err Body :=
  match finderList (mkTable builtins specs) cols with
  | .error e => .error e
  | .ok cols' =>
    match emitList W env cols' ⟨start, [], [], []⟩ with
    | .error e => .error e
    | .ok (texts, s) => .ok ⟨s.decls, s.stmts, texts, s.includes⟩

end FaxVerif.C11
