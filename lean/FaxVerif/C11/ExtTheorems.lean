/-
C11, of `ExtModel` — a call site validated against a specification with ANY subset of the optional keys; receiver and
arguments as ONE simultaneous substitution; the registration of the declared functions under their names in
`apply_ast_transformations`, whose dict operations are those of `Common/Dict` (`get?_eq`, `dictSet_eq`, `dictUpdate_eq`,
`lastNamed_eq`), so that a name is bound to the LAST function declared under it (`registered_get`).
Nothing is bounded: specifications, call sites, texts, lists of declarations are arbitrary.
-/
import FaxVerif.C11.Theorems
import FaxVerif.C11.ExtModel
namespace FaxVerif.C11

/-- **Which calls are accepted.**  For every specification — whatever subset of the optional keys
`method_object` / `instance_object` it carries — and every call site: `build_CPPCodeValue`
accepts exactly when the number of arguments is the declared one and the call is written
`f(...)` for a specification without `method_object`, `r.f(...)` on a plain name for one with
it.  (`instance_object` is not consulted: `instance_object_irrelevant`.) -/
theorem spec_call_accepted_iff (s : FSpec) (c : CallSite) :
    (∃ e, buildCPPCodeValue s c.f c.args = .ok e) ↔ SpecCallAccepted s c := by
  unfold SpecCallAccepted buildCPPCodeValue
  by_cases hl : c.args.length = s.args.length
  · simp only [hl, ne_eq, not_true_eq_false, if_false, true_and]
    cases hs : shape c.f <;> cases hm : s.methodObject <;> simp
  · simp [hl]

/-- non-vacuity: both directions occur for each of the four subsets of optional keys -/
example :
    let mk (mo io : Option Str) : FSpec :=
      { name := "f".toList, includes := [], args := ["x".toList], code := ["auto result = o->g(x);".toList],
        result := "result".toList, retType := "double".toList, isCollection := false, methodObject := mo, instanceObject := io }
    let meth : CallSite := ⟨.attr (.name "j".toList) "f".toList, [.const "1".toList]⟩
    let func : CallSite := ⟨.name "f".toList, [.const "1".toList]⟩
    (decide (SpecCallAccepted (mk none none) func) ∧ ¬ decide (SpecCallAccepted (mk none none) meth) ∧
     decide (SpecCallAccepted (mk none (some "T".toList)) func) ∧ ¬ decide (SpecCallAccepted (mk none (some "T".toList)) meth) ∧
     decide (SpecCallAccepted (mk (some "o".toList) none) meth) ∧ ¬ decide (SpecCallAccepted (mk (some "o".toList) none) func) ∧
     decide (SpecCallAccepted (mk (some "o".toList) (some "T".toList)) meth) ∧
     ¬ decide (SpecCallAccepted (mk (some "o".toList) (some "T".toList)) func)) := by decide

/-- The optional key `instance_object` changes nothing: same verdict, same injected value. -/
theorem instance_object_irrelevant (s : FSpec) (io : Option Str) (f : Expr) (args : List Expr) :
    buildCPPCodeValue { s with instanceObject := io } f args = buildCPPCodeValue s f args := rfl

/-- **No placeholder is left.**  When a call is accepted, every placeholder of the code template —
the method-object word (receiver) and every formal parameter — is bound in the replacement list
`process_ast_node` builds, for every receiver text and every list of argument texts (one per
argument); hence every whole-word occurrence of a placeholder in every template line is replaced by
the text bound to it (`substTok` is what `subst_sim` proves the code computes per word). -/
theorem no_placeholder_left (W : Char → Bool) (s : FSpec) (c : CallSite) (e : Expr)
    (h : buildCPPCodeValue s c.f c.args = .ok e) :
    ∃ cv, e = .cpp cv c.args ∧ cv.code = s.code ∧
      ∀ (recvText : Str) (texts : List Str), texts.length = c.args.length →
        (∀ p ∈ placeholders s, ∃ d, lookup (replList cv (recvFor cv recvText) texts) p = some d) ∧
        (∀ line ∈ cv.code, ∀ t ∈ tokenise W line, t.isWord = true → t.text ∈ placeholders s →
          ∃ d, lookup (replList cv (recvFor cv recvText) texts) t.text = some d ∧
               substTok (replList cv (recvFor cv recvText) texts) t = d) := by
  have hacc := (spec_call_accepted_iff s c).1 ⟨e, h⟩
  have hform := build_ok_form s c.f c.args e h
  refine ⟨_, hform, rfl, ?_⟩
  intro recvText texts hlen
  have hbound : ∀ p ∈ placeholders s, ∃ d,
      lookup (replList (s.toCodeValue (expectedInstance s c.f)) (recvFor (s.toCodeValue (expectedInstance s c.f)) recvText) texts) p = some d := by
    intro p hp
    apply lookup_some_of_mem_keys
    obtain ⟨hl, hstyle⟩ := hacc
    have hz : keys (s.args.zip texts) = s.args := List.map_fst_zip (by omega)
    rcases hstyle with ⟨hm, n, hn⟩ | ⟨hm, r, a, hr⟩
    · have hp' : p ∈ s.args := by simpa [placeholders, hm] using hp
      simp only [keys] at hz
      simp [replList, recvFor, FSpec.toCodeValue, expectedInstance, hn, hm, keys, hz, hp']
    · cases hmo : s.methodObject with
      | none => exact absurd hmo hm
      | some m =>
        have hp' : p = m ∨ p ∈ s.args := by simpa [placeholders, hmo] using hp
        simp only [keys] at hz
        simp [replList, recvFor, FSpec.toCodeValue, expectedInstance, hr, hmo, keys, hz, hp']
  refine ⟨hbound, ?_⟩
  intro line _ t _ hw hp
  obtain ⟨d, hd⟩ := hbound t.text hp
  exact ⟨d, hd, by simp [substTok, hw, hd]⟩

/-- Why a method must not be accepted when it is invoked like a function (and why the receiver
binding must be recorded for every accepted method call): with a method specification that
gives `method_object` but not the optional `instance_object`, the function-style call is refused —
were it accepted (the injected value without receiver binding), the generated line would keep
the placeholder `the_jet`. -/
theorem unbound_receiver_counterexample :
    let s : FSpec :=
      { name := "scaledPt".toList, includes := ["scaled.h".toList], args := ["factor".toList],
        code := ["auto result = the_jet->pt() * factor;".toList], result := "result".toList,
        retType := "double".toList, isCollection := false, methodObject := some "the_jet".toList, instanceObject := none }
    isOk (buildCPPCodeValue s (.name "scaledPt".toList) [.const "2.5".toList]) = false ∧
    blockLines asciiWord (s.toCodeValue none) (replList (s.toCodeValue none) none ["2.5".toList]) =
      ["auto result = the_jet->pt() * 2.5;".toList] ∧
    blockLines asciiWord (s.toCodeValue (some ("the_jet".toList, "j".toList)))
        (replList (s.toCodeValue (some ("the_jet".toList, "j".toList))) (some "i_obj1".toList) ["2.5".toList]) =
      ["auto result = i_obj1->pt() * 2.5;".toList] := by
  char_lists
  decide +kernel

/-- **Receiver + arguments: one substitution.**  For a method call the lines of the injected
block are the template lines under the simultaneous whole-word substitution of the list
`(method-object word ↦ receiver text) :: (formal ↦ argument text)…`; in particular every
whole-word occurrence of the method-object word becomes the receiver's C++ text VERBATIM — the
receiver's text is never scanned for formal parameter names, whatever it contains. -/
theorem subst_receiver_simultaneous (W : Char → Bool) (cv : CodeValue) (mo r recvText : Str)
    (texts : List Str) (hwf : cvWellFormed W cv = true) (h : cv.instance_ = some (mo, r)) :
    blockLines W cv (replList cv (some recvText) texts) =
      cv.code.map (fun l => withSemi (substSim W ((mo, recvText) :: cv.args.zip texts) l)) ∧
    ∀ a b : Str, LastIs W false a → HeadIs W false b →
      replaceWholeWords W (replList cv (some recvText) texts) (a ++ mo ++ b) =
        replaceWholeWords W (replList cv (some recvText) texts) a ++ recvText ++
          replaceWholeWords W (replList cv (some recvText) texts) b := by
  constructor
  · rw [blockLines_eq W cv hwf (some recvText) texts]
    simp [expectedLines, replList, h]
  · intro a b ha hb
    have hmo' : mo ≠ [] ∧ AllW W true mo := by
      simp only [cvWellFormed, Bool.and_eq_true, h] at hwf
      exact (isWordStr_iff W mo).1 hwf.2
    have := occurrence_replaced W (replList cv (some recvText) texts)
      (wordNames_replList W cv hwf (some recvText) texts) a mo b hmo'.1 hmo'.2 ha hb
    rw [this, receiver_bound cv mo r recvText texts h]
    rfl

/-- non-vacuity, and the case the property is about: the receiver's text `i_obj->parent()`
contains the formal parameter name `parent` -/
example :
    let cv : CodeValue :=
      { varPrefix := "dist".toList, includes := [], args := ["parent".toList],
        code := ["auto result = me->distanceTo(parent) + parent;".toList], result := "result".toList,
        retType := "double".toList, isCollection := false, instance_ := some ("me".toList, "p".toList) }
    cvWellFormed asciiWord cv = true ∧
    blockLines asciiWord cv (replList cv (some "i_obj->parent()".toList) ["1.5".toList]) =
      ["auto result = i_obj->parent()->distanceTo(1.5) + 1.5;".toList] := by
  char_lists
  decide +kernel

/-- The two-pass variant (receiver into the template first, arguments into the result) violates
the substitution clause on exactly that input: the argument is substituted INTO the receiver. -/
theorem two_pass_receiver_counterexample :
    let line := "auto result = me->distanceTo(parent) + parent;".toList
    let recvB : Binding := ("me".toList, "i_obj->parent()".toList)
    let argBs : List Binding := [("parent".toList, "1.5".toList)]
    substTwoPass asciiWord recvB argBs line = "auto result = i_obj->1.5()->distanceTo(1.5) + 1.5;".toList ∧
    ¬ SubstSpec asciiWord (recvB :: argBs) line (substTwoPass asciiWord recvB argBs line) := by
  char_lists
  intro line recvB argBs
  -- `substTwoPass` is evaluated once, for the first conjunct; the second is then decided about that literal
  refine (and_iff_left_of_imp fun h => ?_).2 (by decide +kernel)
  rw [h]
  decide +kernel

theorem get?_eq (t : Table) (n : Str) : t.get? n = Dict.get t n := by
  induction t with
  | nil => rfl
  | cons a t ih => obtain ⟨k, h⟩ := a; rw [Table.get?, Dict.get_cons, ih]

theorem dictSet_eq (t : Table) (k : Str) (h : Handler) : dictSet t k h = Dict.set t k h := by
  induction t with
  | nil => rfl
  | cons a t ih =>
    obtain ⟨k', h'⟩ := a
    rw [dictSet, Dict.set, ih]
    split
    · next e => rw [e]
    · rfl

theorem dictUpdate_eq (d o : Table) : dictUpdate d o = Dict.update d o := by
  induction o generalizing d with
  | nil => rfl
  | cons a o ih => obtain ⟨k, h⟩ := a; rw [dictUpdate, Dict.update, ih, dictSet_eq]

theorem lastNamed_eq (n : Str) (l : List FSpec) : lastNamed n l = Dict.lastBy (·.name) l n := by
  induction l with
  | nil => rfl
  | cons s l ih => rw [lastNamed, Dict.lastBy_cons, ih]; cases Dict.lastBy (·.name) l n <;> rfl

theorem get_dictSet (t : Table) (k : Str) (h : Handler) (n : Str) :
    (dictSet t k h).get? n = if k = n then some h else t.get? n := by
  rw [get?_eq, dictSet_eq, Dict.get_set, get?_eq]

theorem nodup_dictSet (t : Table) (k : Str) (h : Handler) (hn : (t.map (·.1)).Nodup) :
    ((dictSet t k h).map (·.1)).Nodup :=
  dictSet_eq t k h ▸ Dict.nodup_set t k h hn

theorem get_dictUpdate (d o : Table) (hn : (o.map (·.1)).Nodup) (n : Str) :
    (dictUpdate d o).get? n = (o.get? n).or (d.get? n) := by
  rw [get?_eq, dictUpdate_eq, Dict.get_update _ _ hn, get?_eq, get?_eq]

theorem callbackDict_fold (specs : List FSpec) (d : Table) (n : Str) :
    (specs.foldl (fun d s => dictSet d s.name (Handler.spec s)) d).get? n =
      match lastNamed n specs with
      | some s => some (.spec s)
      | none => d.get? n := by
  induction specs generalizing d with
  | nil => simp [lastNamed]
  | cons s r ih =>
    rw [List.foldl_cons, ih, get_dictSet]
    simp only [lastNamed]
    cases lastNamed n r with
    | some s' => rfl
    | none => by_cases hs : s.name = n <;> simp [hs]

theorem callbackDict_nodup (specs : List FSpec) (d : Table) (hd : (d.map (·.1)).Nodup) :
    ((specs.foldl (fun d s => dictSet d s.name (Handler.spec s)) d).map (·.1)).Nodup := by
  induction specs generalizing d with
  | nil => simpa using hd
  | cons s r ih => exact ih _ (nodup_dictSet d s.name _ hd)

/-- **What is registered under a name**: the callback of the LAST function declared under that
name (a later `add_cpp_function` replaces an earlier one of the same name and a built-in of that
name), the built-in otherwise. -/
theorem registered_get (builtins : Table) (mds : List Md) (n : Str) :
    (registered builtins mds).get? n =
      match lastNamed n (funcsOf mds) with
      | some s => some (.spec s)
      | none => builtins.get? n := by
  unfold registered callbackDict
  rw [get_dictUpdate _ _ (callbackDict_nodup _ [] List.nodup_nil), callbackDict_fold]
  cases lastNamed n (funcsOf mds) <;> rfl

theorem get_mkTable (builtins : Table) (specs : List FSpec) (n : Str) :
    (mkTable builtins specs).get? n =
      match lastNamed n specs with
      | some s => some (.spec s)
      | none => builtins.get? n := by
  rw [lastNamed_eq, Dict.lastBy, get?_eq, get?_eq, mkTable, Dict.get_append, Dict.get,
    Dict.firstBy_map (·.name) (fun s => (s.name, Handler.spec s)) (·.1) fun _ => rfl]
  cases Dict.firstBy (·.name) specs.reverse n <;> rfl

/-- The registration as the code performs it (dict copy, comprehension, `update`) and the table
the query model `runQuery` uses (`mkTable`) bind every name to the same handler. -/
theorem registered_agrees_with_mkTable (builtins : Table) (mds : List Md) (n : Str) :
    (registered builtins mds).get? n = (mkTable builtins (funcsOf mds)).get? n := by
  rw [registered_get, get_mkTable]

/-- **Each declared function's callback is its own specification.**  In a query that declares
any number of functions, a function whose name is declared once is found under its name with a
callback that builds from ITS OWN specification (not from that of a function declared before or
after it): calling the registered callback is `build_CPPCodeValue` of that specification. -/
theorem callback_is_own_spec (builtins : Table) (mds : List Md) (s : FSpec) (hs : s ∈ funcsOf mds)
    (huniq : ∀ s' ∈ funcsOf mds, s'.name = s.name → s' = s) :
    (registered builtins mds).get? s.name = some (.spec s) ∧
    ∀ f args, ((registered builtins mds).get? s.name).map (fun h => applyHandler h f args) =
      some (buildCPPCodeValue s f args) := by
  have hget : (registered builtins mds).get? s.name = some (.spec s) := by
    rw [registered_get, lastNamed_eq]
    cases hl : Dict.lastBy (·.name) (funcsOf mds) s.name with
    | none => exact absurd (List.mem_map_of_mem hs) ((Dict.lastBy_eq_none _).1 hl)
    | some s' => have := Dict.lastBy_some _ hl; rw [huniq s' this.1 this.2]
  exact ⟨hget, fun f args => by rw [hget]; rfl⟩

mutual
theorem finder_congr (t t' : Table) (h : ∀ n, t.get? n = t'.get? n) : ∀ e : Expr, finder t e = finder t' e
  | .name _ => by simp [finder]
  | .const _ => by simp [finder]
  | .opaque _ => by simp [finder]
  | .attr o a => by simp only [finder, finder_congr t t' h o]
  | .binop op l r => by simp only [finder, finder_congr t t' h l, finder_congr t t' h r]
  | .cpp cv args => by simp only [finder, finderList_congr t t' h args]
  | .call f args => by simp only [finder, finder_congr t t' h f, finderList_congr t t' h args, h]
theorem finderList_congr (t t' : Table) (h : ∀ n, t.get? n = t'.get? n) :
    ∀ es : List Expr, finderList t es = finderList t' es
  | [] => by simp [finderList]
  | e :: es => by simp only [finderList, finder_congr t t' h e, finderList_congr t t' h es]
end

/-- **Call sites are discovered through the registered table.**  The finder run with the table
`apply_ast_transformations` registers (dict copy, comprehension over the metadata, `update`) rewrites
every expression exactly as the query model does with `mkTable` — so `query_sound_partial`,
`call_sites_found_partial`, `finder_rejects_iff` speak about the registration path of the code. -/
theorem finder_registered (builtins : Table) (mds : List Md) (es : List Expr) :
    finderList (registered builtins mds) es = finderList (mkTable builtins (funcsOf mds)) es :=
  finderList_congr _ _ (registered_agrees_with_mkTable builtins mds) es

/-- A recognised call of a function declared once becomes the injected code of ITS OWN
specification: `f(args)` (or `r.f(args)`) under the registered table is `build_CPPCodeValue` of
that function's specification on the rewritten arguments. -/
theorem call_site_uses_own_spec (builtins : Table) (mds : List Md) (s : FSpec) (hs : s ∈ funcsOf mds)
    (huniq : ∀ s' ∈ funcsOf mds, s'.name = s.name → s' = s) (f : Expr) (args args' : List Expr)
    (hf : f = .name s.name ∨ ∃ r, f = .attr (.name r) s.name)
    (ha : finderList (registered builtins mds) args = .ok args') :
    finder (registered builtins mds) (.call f args) = buildCPPCodeValue s f args' := by
  have hget := (callback_is_own_spec builtins mds s hs huniq).1
  rcases hf with rfl | ⟨r, rfl⟩
  · simp [finder, ha, calleeKey, shape, hget, applyHandler]
  · simp [finder, ha, calleeKey, shape, hget, applyHandler]

/-- non-vacuity: three functions, two with the same arity; each is its own callback -/
example :
    let mk (n a : String) : FSpec :=
      { name := n.toList, includes := [(n ++ ".h").toList], args := [a.toList],
        code := [("auto result = compute_" ++ n ++ "(" ++ a ++ ");").toList], result := "result".toList,
        retType := "double".toList, isCollection := false, methodObject := none }
    let mds := [Md.func (mk "tagA" "x"), .other, .func (mk "tagB" "y"), .func (mk "tagC" "u")]
    (registered [] mds).get? "tagA".toList = some (.spec (mk "tagA" "x")) ∧
    (registered [] mds).get? "tagB".toList = some (.spec (mk "tagB" "y")) ∧
    (registered [] mds).get? "tagC".toList = some (.spec (mk "tagC" "u")) := by
  intro mk mds
  simp only [registered_get]
  exact ⟨rfl, rfl, rfl⟩

/-- Callbacks that close over the loop variable instead (every callback is the LAST
specification) break it: the first of two declared functions is found under its name with the
second one's specification. -/
theorem late_binding_counterexample :
    let mk (n a : String) : FSpec :=
      { name := n.toList, includes := [(n ++ ".h").toList], args := [a.toList],
        code := [("auto result = compute_" ++ n ++ "(" ++ a ++ ");").toList], result := "result".toList,
        retType := "double".toList, isCollection := false, methodObject := none }
    let mds := [Md.func (mk "tagA" "x"), .func (mk "tagB" "y")]
    (registeredLate [] mds).get? "tagA".toList = some (.spec (mk "tagB" "y")) ∧
    (registered [] mds).get? "tagA".toList = some (.spec (mk "tagA" "x")) := by
  intro mk mds
  exact ⟨rfl, by rw [registered_get]; rfl⟩

end FaxVerif.C11
