/-
C12 — property theorems.

The generated constants (`Gen.table` = the `add_function_mapping` rows of common/cpp_functions.py,
`Gen.readmeFunctions` = the function list of README.md, `Gen.typePriority`, `Gen.binOps`, `Gen.unOps`,
`Gen.evalEnv`) are evaluated in few places: `table_checked` (every row), `documented_keys` (every documented name),
`keys_nodup`, `cfg_ok`, `translator_complete`, and on literals in the counterexamples and examples; the named facts
about rows and names follow from the first three.  The facts about name resolution and emission hold for *every* table,
environment, operator table and expression, and are then instantiated with the generated constants.

Where the full statement is false of the code as it stands, the theorem is `_partial` with an
explicit decidable hypothesis and a `_counterexample` on a literal sits beside it.
-/
import FaxVerif.C12.Proofs
import FaxVerif.C12.Alive
import FaxVerif.Generated.C12Table
namespace FaxVerif.C12

/-- The translator read every statement that fills the table as data: no `add_function_mapping`
call with computed arguments, none inside a loop or function, no direct write to
`functions_to_replace`, the README list and the three dictionaries are literals. -/
theorem translator_complete : Gen.unrecognised = [] := by decide

/-- The table is walked once.  Every row meets the row-level Spec; `builtins.abs` is the only row
whose C++ function is overloaded on integers, `remquo` the only one whose function takes an output
parameter; python's `eval` binds no key but the built-ins `abs`, `pow`, `round`. -/
theorem table_checked : ∀ r ∈ Gen.table,
    SpecRow Gen.typePriority r = true ∧ (r.cpp = "std::abs" → r.py = "builtins.abs") ∧
    (r.py ≠ "remquo" → byValue r.py = true) ∧
    (r.py ∉ ["abs", "pow", "round", "builtins.abs", "builtins.pow", "builtins.round"] → Gen.evalEnv.get r.py = .unbound) := by
  decide +kernel

/-- The documented names are walked once.  Each is a key, and the key python's `eval` rule makes of it
(`builtins.<name>` for the three built-ins, the bare name otherwise) is a key that means the same. -/
theorem documented_keys : ∀ f ∈ Gen.readmeFunctions, f ∈ keys Gen.table ∧
    ∃ k ∈ (fncName (Gen.evalEnv.get f) f).toOption, k ∈ keys Gen.table ∧ meaningPy k = meaningPy f ∧
      (k = "builtins.abs" → f = "abs") ∧ (k = "remquo" → f = "remquo") := by
  decide +kernel

theorem documented_present : ∀ f ∈ Gen.readmeFunctions, f ∈ keys Gen.table :=
  fun f hf => (documented_keys f hf).1

/-- No key is assigned twice, so no row silently overrides another (the table is a `dict`). -/
theorem keys_nodup : (keys Gen.table).Nodup := by decide +kernel

/-- … hence every row is the one its own key finds: the order of the rows is immaterial. -/
theorem rows_found : ∀ r ∈ Gen.table, lookup Gen.table r.py = some r :=
  fun r hr => lookup_eq Gen.table r.py ▸ Dict.lastBy_of_nodup _ keys_nodup hr

/-- The row-level Spec (the harness also evaluates it on the live table). -/
theorem spec_row : ∀ r ∈ Gen.table, SpecRow Gen.typePriority r = true :=
  fun r hr => (table_checked r hr).1

/-- Every row maps its python name to the C++ function *of that name* (`ln ↦ log`,
`abs`/`builtins.abs ↦` absolute value, `builtins.pow ↦ pow`): `meaningCpp r.cpp = meaningPy r.py`,
both defined. -/
theorem namesake : ∀ r ∈ Gen.table, rowNamesake r = true :=
  fun r hr => (SpecRow_iff.1 (spec_row r hr)).1

/-- Every row pulls in the header that declares its C++ function. -/
theorem header : ∀ r ∈ Gen.table, rowHeader r = true :=
  fun r hr => (SpecRow_iff.1 (spec_row r hr)).2.1

/-- Every row declares as result type the type C++ really gives the call on `double` arguments:
`double`, and `int` for `ilogb` — so the value is held exactly and the arithmetic around the call
is typed as the compiler types it (the cast of an int/int division is emitted exactly when C++
would truncate). -/
theorem return_type_faithful : ∀ r ∈ Gen.table, rowRetFaithful r = true :=
  fun r hr => (SpecRow_iff.1 (spec_row r hr)).2.2.1

theorem return_type_numeric : ∀ r ∈ Gen.table, r.ret = "int" ∨ r.ret = "double" :=
  fun r hr => (ret_faithful (return_type_faithful r hr) (tys := []) (Or.inr rfl)).2.imp
    CT.ofName_int.1 CT.ofName_dbl.1

/-- Every declared result type (and `double`, the type of `/` and `**`) is a key of
`_type_priority`: `most_accurate_type` never asserts on a math call. -/
theorem table_arith : TableArith Gen.cfg = true := by
  simp only [TableArith, Bool.and_eq_true, List.all_eq_true]
  exact ⟨fun r hr => (SpecRow_iff.1 (spec_row r hr)).2.2.2, by decide⟩

/-
FULL STATEMENT (false): every documented name resolves to a namesake row whose declared type is the
C++ result type for all argument types and whose function can be called with values.
`std::abs(int)` is `int` (the row declares `double`); `remquo(x, y, int*)` has an output parameter.
-/
/-- **The scope, per function.** Every documented name, written as a call in a query, is replaced by
a row of the table whose C++ function is its namesake — through `eval`: `abs`, `pow` and `round` are
python built-ins and reach `builtins.abs` / `builtins.pow` / `builtins.round`, all others their bare
key.  Only `abs` reaches `std::abs`, only `remquo` a function with an output parameter. -/
theorem documented_plain_partial (f : String) (hf : f ∈ Gen.readmeFunctions) :
    ∃ r ∈ Gen.table, findKnown Gen.table Gen.evalEnv f = .ok (some r) ∧
      (meaningPy f).isSome = true ∧ meaningCpp r.cpp = meaningPy f ∧ rowRetFaithful r = true ∧
      (f ≠ "abs" → r.cpp ≠ "std::abs") ∧ (f ≠ "remquo" → byValue f = true) := by
  obtain ⟨_, k, hk, hin, hm, habs, hrem⟩ := documented_keys f hf
  obtain ⟨r, hr, rfl, hfk⟩ := findKnown_of_key (mem_toOption.1 hk) hin
  obtain ⟨hspec, hstd, hval, _⟩ := table_checked r hr
  obtain ⟨hsome, hmean⟩ := rowNamesake_iff.1 (SpecRow_iff.1 hspec).1
  refine ⟨r, hr, hfk, hm ▸ hsome, hm ▸ hmean, (SpecRow_iff.1 hspec).2.2.1, fun hne h => hne (habs (hstd h)), fun hne => ?_⟩
  have := hval fun h => hne (hrem h)
  rwa [byValue, hm] at this

theorem documented_accepted : ∀ f ∈ Gen.readmeFunctions, acceptedAs Gen.cfg f = true := fun f hf => by
  obtain ⟨r, _, hk, hs, hm, _⟩ := documented_plain_partial f hf
  simp [acceptedAs, Gen.cfg, hk, hs, hm]

/-- Every documented function except `remquo` takes only by-value parameters. -/
theorem callable_by_value_partial :
    ∀ f ∈ Gen.readmeFunctions, f ≠ "remquo" → (meaningPy f).any MathFn.callableByValue = true := fun f hf hne => by
  obtain ⟨_, _, _, _, _, _, _, hv⟩ := documented_plain_partial f hf
  exact hv hne

theorem callable_by_value_counterexample :
    "remquo" ∈ Gen.readmeFunctions ∧ (meaningPy "remquo").any MathFn.callableByValue = false := by
  decide +kernel

/-- Every row is reached by the call of its own bare key, except the rows `abs`, `pow`, `round`
(dead: python's `eval` finds the built-in first) and the three `builtins.` rows (reached by `abs`,
`pow`, `round`). -/
theorem rows_reached_partial :
    ∀ r ∈ Gen.table, r.py ∉ ["abs", "pow", "round", "builtins.abs", "builtins.pow", "builtins.round"] →
      (findKnown Gen.table Gen.evalEnv r.py).toOption = some (some r) := fun r hr hne => by
  simp [findKnown, fncName, (table_checked r hr).2.2.2 hne, rows_found r hr, Except.toOption]

/-- The operator tables give `+ - * /` and unary `+ -` their C++ symbols, `**` has no entry (it is
special-cased to `std::pow`), `int` ranks below `double`. -/
theorem cfg_ok : CfgOK Gen.cfg = true := by decide +kernel

/-- **Resolution rule.** A name python's `eval` does not find reaches the row of its bare key; a
name bound to something of module `m` reaches the row `m.<name>` and *never* its bare row; a name
bound to an object without `__module__` makes the resolver raise. -/
theorem resolver_spec (t : List Row) (env : Env) (id : String) :
    (env.get id = .unbound → findKnown t env id = .ok (lookup t id)) ∧
    (∀ m, env.get id = .inModule m → findKnown t env id = .ok (lookup t (m ++ "." ++ id))) ∧
    (env.get id = .noModuleAttr → findKnown t env id = .error (.attributeError id)) := by
  refine ⟨fun h => ?_, fun m h => ?_, fun h => ?_⟩ <;> simp [findKnown, fncName, h]

/-- A call is replaced iff the resolved key is in the table; the row is a row of the table with
that key. -/
theorem replaced_iff (t : List Row) (env : Env) (id k : String) (hk : fncName (env.get id) id = .ok k) :
    (∃ r, findKnown t env id = .ok (some r)) ↔ k ∈ keys t := by
  simp only [findKnown, hk, Except.ok.injEq]
  rw [← lookup_isSome_iff]
  cases lookup t k <;> simp

/-- **Call emission** (`visit_function_ast`): a call of a name that resolves to row `r`, whose
arguments translate to `ts`, becomes the C++ call `r.cpp(ts…)` of the declared type `r.ret`, and
the row's include files are added after those of the arguments; its text is
`r.cpp ++ "(" ++ ",".join(texts) ++ ")"`. -/
theorem call_emitted (c : Cfg) (f : String) (args : List PExpr) (r : Row) (ts : List CExpr) (incs : List String)
    (hf : findKnown c.table c.env f = .ok (some r)) (ha : TrList c args ts incs) :
    tr c (.call f args) = .ok ⟨.call r.cpp ts, r.ret, mergeIncs incs r.includes⟩ ∧
    render (.call r.cpp ts) = r.cpp ++ "(" ++ renderArgs ts ++ ")" :=
  ⟨(tr_iff _ _ _).2 (Tr.call ha hf), by simp [render]⟩

mutual
/-- **Headers.** Whatever is translated successfully, the include files of the row of every
function called anywhere in it are among the include files added. -/
theorem includes_of_called (c : Cfg) : ∀ (e : PExpr) (v : CVal), Tr c e v →
    ∀ f ∈ calledNames e, ∀ r, findKnown c.table c.env f = .ok (some r) → ∀ i ∈ r.includes, i ∈ v.incs
  | .leaf _ _, _, _, f, hf, _, _, _, _ => by simp [calledNames] at hf
  | .call g args, v, h, f, hf, r, hr, i, hi => by
    obtain ⟨r0, ts, incs, hg, hl, rfl⟩ := Tr.call_inv h
    simp only [calledNames, List.mem_cons] at hf
    rcases hf with rfl | hf
    · rw [hg] at hr
      cases hr
      exact mem_mergeIncs.2 (Or.inr hi)
    · exact mem_mergeIncs.2 (Or.inl (includes_of_calledList c args ts incs hl f hf r hr i hi))
  | .bin _ l r', v, h, f, hf, r, hr, i, hi => by
    obtain ⟨lv, rv, hl, hr', hsub⟩ := Tr.bin_inv h
    simp only [calledNames, List.mem_append] at hf
    rcases hf with hf | hf
    · exact hsub i (Or.inl (includes_of_called c l lv hl f hf r hr i hi))
    · exact hsub i (Or.inr (includes_of_called c r' rv hr' f hf r hr i hi))
  | .un _ e, v, h, f, hf, r, hr, i, hi => by
    obtain ⟨ev, he, hincs⟩ := Tr.un_inv h
    simp only [calledNames] at hf
    rw [hincs]
    exact includes_of_called c e ev he f hf r hr i hi
theorem includes_of_calledList (c : Cfg) : ∀ (es : List PExpr) (ts : List CExpr) (incs : List String),
    TrList c es ts incs →
    ∀ f ∈ calledNamesList es, ∀ r, findKnown c.table c.env f = .ok (some r) → ∀ i ∈ r.includes, i ∈ incs
  | [], _, _, _, f, hf, _, _, _, _ => by simp [calledNamesList] at hf
  | a :: as, ts, incs, h, f, hf, r, hr, i, hi => by
    obtain ⟨v, ts', incs', ha, hs, _, rfl⟩ := TrList.cons_inv h
    simp only [calledNamesList, List.mem_append] at hf
    rcases hf with hf | hf
    · exact mem_mergeIncs.2 (Or.inl (includes_of_called c a v ha f hf r hr i hi))
    · exact mem_mergeIncs.2 (Or.inr (includes_of_calledList c as ts' incs' hs f hf r hr i hi))
end

mutual
/-- **Usable inside larger arithmetic.** If every row's declared type is known to
`most_accurate_type` (`TableArith`, proved of the generated table: `table_arith`), then *every*
expression built from operands of known type, calls that resolve to a row (with operands of any
type as direct arguments), the operators of the operator table and `**` is translated — no
`TypeError`, no assertion — and its type is again one `most_accurate_type` knows; a `not` (declared
`bool` since ea7911a) is translated wherever the result type is not asked for (top, under a unary
operator, argument of a call, operand of `**`) and its declared type is `bool`. -/
theorem usable_in_arithmetic (c : Cfg) (hc : TableArith c = true) : ∀ e : PExpr, Accepted c e = true →
    ∃ v, Tr c e v ∧ (if boolTyped e = true then v.ty = "bool" else (assoc c.prio v.ty).isSome = true)
  | .leaf t ty, h => by
    simp only [Accepted] at h
    exact ⟨_, Tr.leaf c t ty, by simpa [boolTyped] using h⟩
  | .call f args, h => by
    simp only [Accepted, Bool.and_eq_true] at h
    obtain ⟨hargs, hf⟩ := h
    obtain ⟨ts, incs, hl⟩ := usable_args c hc args hargs
    split at hf
    · rename_i r hk
      simp only [TableArith, Bool.and_eq_true, List.all_eq_true] at hc
      exact ⟨_, Tr.call hl hk, by simpa [boolTyped, rowArith] using hc.1 r (findKnown_mem hk)⟩
    · cases hf
  | .bin op l r, h => by
    simp only [Accepted, Bool.and_eq_true] at h
    obtain ⟨⟨hop, hl⟩, hr⟩ := h
    obtain ⟨lv, hlv, hlt⟩ := usable_in_arithmetic c hc l hl
    obtain ⟨rv, hrv, hrt⟩ := usable_in_arithmetic c hc r hr
    have hdbl : (assoc c.prio "double").isSome := by
      simp only [TableArith, Bool.and_eq_true] at hc
      exact hc.2
    simp only [boolTyped, Bool.false_eq_true, if_false]
    cases hs : assoc c.binOps op with
    | some sym =>
      simp only [hs, Option.isSome_some, Option.isNone_some, Bool.true_and, Bool.false_and, Bool.or_false,
        Bool.and_eq_true, Bool.not_eq_true'] at hop
      simp only [hop.1, Bool.false_eq_true, if_false] at hlt
      simp only [hop.2, Bool.false_eq_true, if_false] at hrt
      obtain ⟨best, hb, hbest⟩ := bestType_ok hlt hrt
      refine ⟨_, Tr.bin hlv hrv hs hb, ?_⟩
      rw [binVal_eq]
      show (assoc c.prio (if op = "Div" then "double" else best)).isSome = true
      split
      · exact hdbl
      · rcases hbest with rfl | rfl <;> assumption
    | none =>
      simp only [hs, Option.isSome_none, Option.isNone_none, Bool.false_and, Bool.false_or, Bool.true_and, beq_iff_eq] at hop
      subst hop
      exact ⟨_, Tr.pow hlv hrv hs, hdbl⟩
  | .un op e, h => by
    simp only [Accepted, Bool.and_eq_true] at h
    obtain ⟨hop, he⟩ := h
    obtain ⟨v, hv, ht⟩ := usable_in_arithmetic c hc e he
    cases hs : assoc c.unOps op with
    | none => simp [hs] at hop
    | some sym =>
      refine ⟨_, Tr.un hv hs, ?_⟩
      by_cases hn : op = "Not"
      · simp [boolTyped, unTy, hn]
      · simpa [boolTyped, unTy, hn] using ht
theorem usable_args (c : Cfg) (hc : TableArith c = true) : ∀ es : List PExpr, AcceptedArgs c es = true →
    ∃ ts incs, TrList c es ts incs
  | [], _ => ⟨[], [], TrList.nil c⟩
  | a :: as, h => by
    simp only [AcceptedArgs, Bool.and_eq_true] at h
    obtain ⟨ha, has⟩ := h
    obtain ⟨ts, incs, hl⟩ := usable_args c hc as has
    have : ∃ v, Tr c a v := by
      cases a with
      | leaf t ty => exact ⟨_, Tr.leaf c t ty⟩
      | _ => obtain ⟨v, hv, _⟩ := usable_in_arithmetic c hc _ ha; exact ⟨v, hv⟩
    obtain ⟨v, hv⟩ := this
    exact ⟨_, _, TrList.cons hv hl⟩
end

mutual
/-- **Namesake, for every expression in scope** (the core of `computes_namesake_partial`). -/
theorem scoped_faithful (c : Cfg) (hc : CfgOK c = true) : ∀ e : PExpr, Scoped c e = true → ∃ v, Faithful c e v
  | .leaf t ty, h => by
    simp only [Scoped] at h
    have hty : ty = "int" ∨ ty = "double" := by simpa using h
    exact ⟨_, Tr.leaf c t ty, by simp [csym, psym], by simp [CExpr.ctype], hty⟩
  | .call f args, h => by
    simp only [Scoped, Bool.and_eq_true] at h
    obtain ⟨hargs, hcall⟩ := h
    obtain ⟨ts, incs, hl, hsyms, htys⟩ := scoped_args c hc args hargs
    obtain ⟨r, hk, hsome, hmean, hret, hnum, _⟩ := callOk_iff.1 hcall
    obtain ⟨m, hm⟩ := Option.isSome_iff_exists.1 hsome
    refine ⟨_, Tr.call hl hk, ?_, ?_, hnum.imp CT.ofName_int.1 CT.ofName_dbl.1⟩
    · simp only [csym, psym, hmean, hm, hsyms]
    · simp only [CExpr.ctype, htys]
      exact hret
  | .bin op l r, h => by
    simp only [Scoped, Bool.and_eq_true, decide_eq_true_eq] at h
    obtain ⟨lv, hlv⟩ := scoped_faithful c hc l h.1.2
    obtain ⟨rv, hrv⟩ := scoped_faithful c hc r h.2
    exact faithful_bin hc h.1.1 hlv hrv
  | .un op e, h => by
    simp only [Scoped, Bool.and_eq_true, decide_eq_true_eq] at h
    obtain ⟨v, hv⟩ := scoped_faithful c hc e h.2
    exact faithful_un hc h.1 hv
theorem scoped_args (c : Cfg) (hc : CfgOK c = true) : ∀ es : List PExpr, ScopedArgs c es = true →
    ∃ ts incs, TrList c es ts incs ∧ csyms ts = psyms es ∧ CExpr.ctypes ts = es.map (argTy c)
  | [], _ => ⟨[], [], TrList.nil c, by simp [csyms, psyms], by simp [CExpr.ctypes]⟩
  | a :: as, h => by
    simp only [ScopedArgs, Bool.and_eq_true] at h
    obtain ⟨ha, has⟩ := h
    obtain ⟨ts, incs, hl, hsyms, htys⟩ := scoped_args c hc as has
    have : ∃ v, Tr c a v ∧ csym v.term = psym a ∧ CT.ofName v.ty = v.term.ctype := by
      cases a with
      | leaf t ty => exact ⟨_, Tr.leaf c t ty, by simp [csym, psym], by simp [CExpr.ctype]⟩
      | _ => obtain ⟨v, h1, h2, h3, _⟩ := scoped_faithful c hc _ ha; exact ⟨v, h1, h2, h3⟩
    obtain ⟨v, hv1, hv2, hv3⟩ := this
    refine ⟨_, _, TrList.cons hv1 hl, ?_, ?_⟩
    · simp only [csyms, psyms, hv2, hsyms]
    · simp only [CExpr.ctypes, List.map_cons, htys, argTy_of_Tr hv1, hv3]
end

/-- **What is refused.** The translation fails with "Do not know how to call `f`" only if `f` is
called in the expression and its resolved key is not in the table; it fails with `AttributeError`
only for a called name bound to an object without `__module__`. -/
theorem refused_only_unresolved (c : Cfg) (e : PExpr) (f : String) :
    (tr c e = .error (.unknownCall f) → f ∈ calledNames e ∧ findKnown c.table c.env f = .ok none) ∧
    (tr c e = .error (.attributeError f) → f ∈ calledNames e ∧ c.env.get f = .noModuleAttr) := by
  unfold tr
  cases h : resolve c e with
  | error er =>
    obtain ⟨g, hg, rfl, h2⟩ := resolve_error c e er h
    exact ⟨fun h' => (by cases h'), fun h' => by cases h'; exact ⟨hg, h2⟩⟩
  | ok q => exact ⟨unknownCall_src c e q f h, fun h' => by cases emit_noattr c q _ h'⟩

theorem documented_eval_ok (f : String) (hf : f ∈ Gen.readmeFunctions) : Gen.evalEnv.get f ≠ .noModuleAttr := fun h => by
  obtain ⟨r, _, hk, _⟩ := documented_plain_partial f hf
  rw [(resolver_spec Gen.table Gen.evalEnv f).2.2 h] at hk
  cases hk

/-- A documented expression is never refused with "Do not know how to call" one of the documented
functions, and no documented name makes the resolver raise. -/
theorem documented_never_refused (e : PExpr) (f : String) (hf : f ∈ Gen.readmeFunctions) :
    tr Gen.cfg e ≠ .error (.unknownCall f) ∧ tr Gen.cfg e ≠ .error (.attributeError f) := by
  refine ⟨fun h => ?_, fun h => documented_eval_ok f hf ((refused_only_unresolved Gen.cfg e f).2 h).2⟩
  obtain ⟨r, _, hk, _⟩ := documented_plain_partial f hf
  have := ((refused_only_unresolved Gen.cfg e f).1 h).2
  rw [show findKnown Gen.cfg.table Gen.cfg.env f = _ from hk] at this
  cases this

theorem sees_direct {files : List FileObs} {f : FileObs} {n h : String} (k : Nat)
    (hf : files.find? (·.name == n) = some f) (hh : h ∈ f.incs) : sees files (k + 1) n h = true := by
  simp [sees, hf, hh]

/-- **The header is reachable in every rendered file** (`executor.write_cpp_files` + the templates of
the three backends).  Whatever `inject_code` blocks the query carries: if the translation added
`cmath` (it does for every call of a table function: `includes_of_called`, `header`), every rendered
C++ file that calls a math function sees `<cmath>` — `query.cxx` and `Analyzer.cc` directly;
`query.h` provided injected declarations that call a math function bring the include with them. -/
theorem package_spec (b : Backend) (qv : List String) (mds : List Inject) (hdrCalls : Bool)
    (hq : "cmath" ∈ qv) (hh : hdrCalls = true → "cmath" ∈ headerIncsOf mds) :
    PackageSpec (packageFiles b qv mds hdrCalls) = true := by
  -- every file that calls a math function lists `cmath` itself; the search through rendered headers is not needed
  have hbody : "cmath" ∈ qv ++ bodyIncsOf mds := List.mem_append_left _ hq
  cases b <;> simp only [PackageSpec, packageFiles, List.all_cons, List.all_nil, Bool.and_true, Bool.and_eq_true,
    Bool.or_eq_true, Bool.not_eq_true']
  · refine ⟨Or.inr (sees_direct _ rfl (List.mem_cons_of_mem _ hbody)), ?_⟩
    cases hdrCalls with
    | false => exact Or.inl rfl
    | true => exact Or.inr (sees_direct _ rfl (hh rfl))
  · exact Or.inr (sees_direct _ rfl hbody)
  · exact Or.inr (sees_direct _ rfl hbody)

/-- `PackageSpec` is not vacuous: a CMS `Analyzer.cc` that calls a math function and does not list
`cmath` fails it (CMS renders no header that could supply it); an ATLAS `query.cxx` may get it
through `query.h`. -/
theorem package_spec_discriminates :
    PackageSpec [⟨"Analyzer.cc", ["vector"], true⟩] = false ∧
    PackageSpec [⟨"query.cxx", ["query.h"], true⟩, ⟨"query.h", ["cmath"], false⟩] = true := by decide +kernel

/-
FULL STATEMENT (false as it stands): for every documented expression `e` (`Documented
Gen.readmeFunctions e`: numeric operands, calls of documented functions, `+ - * / **`, unary `+ -`)
the translator accepts `e`, the emitted C++ means what `e` means with every function read by its
documented name, the needed headers are included and the result has an arithmetic type:
    ∀ e, SpecTerm Gen.readmeFunctions e (tr Gen.cfg e) = true.
Counterexamples below: `remquo(x, y, 0)`, `abs(n)/2` with `n : int`.
-/
/-- **C12, on the model, for every expression in scope** (no bound on size or nesting): the query
is accepted; the C++ expression emitted *denotes the same value as the query under every
interpretation of the `<cmath>` meanings and of arithmetic* — each function is called by the C++
name that is the namesake of the name written in the query, `/` is real division also between
integers, every operand is evaluated in the position it was written; the type the translator
records is the type the C++ compiler gives the expression.

Scope (`Scoped Gen.cfg e`, decidable): operands of type `int`/`double`; operators `+ - * / **`,
unary `+ -`; every call resolves to a row that is the namesake of the written name and whose
declared result type is the C++ result type for the argument types at hand.  By
`documented_scoped_partial` and `abs_scope_partial` that is: every documented function except
`remquo` (defect: needs an `int*`) and `abs` applied to integers only (defect: `std::abs(int)` is
`int`, declared `double`).  `float` operands are outside the abstraction (single-precision overloads), not a known defect. -/
theorem computes_namesake_partial : ∀ e : PExpr, Scoped Gen.cfg e = true →
    ∃ v, tr Gen.cfg e = .ok v ∧ csym v.term = psym e ∧ CT.ofName v.ty = v.term.ctype ∧
      (v.ty = "int" ∨ v.ty = "double") ∧
      ∀ (α : Type) (I : Interp α), Sym.eval I (csym v.term) = Sym.eval I (psym e) := by
  intro e h
  obtain ⟨v, h1, h2, h3, h4⟩ := scoped_faithful Gen.cfg cfg_ok e h
  exact ⟨v, (tr_iff _ _ _).2 h1, h2, h3, h4, fun α I => by rw [h2]⟩

theorem scoped_header {e : PExpr} {v : CVal} (hs : Scoped Gen.cfg e = true) (h1 : Tr Gen.cfg e v)
    {f : String} (hf : f ∈ calledNames e) {m : MathFn} (hm : meaningPy f = some m) : m.header ∈ v.incs := by
  obtain ⟨r, hk, _, hmean, _⟩ := scoped_calls Gen.cfg e hs f hf
  have hh := header r (findKnown_mem hk)
  rw [rowHeader, hmean, hm] at hh
  exact includes_of_called Gen.cfg e v h1 f hf r hk _ (by simpa using hh)

theorem scoped_cmath {e : PExpr} {v : CVal} (hs : Scoped Gen.cfg e = true) (h1 : Tr Gen.cfg e v)
    (hcall : calledNames e ≠ []) : "cmath" ∈ v.incs := by
  obtain ⟨f, hf⟩ := List.exists_mem_of_ne_nil _ hcall
  obtain ⟨_, _, hsome, _⟩ := scoped_calls Gen.cfg e hs f hf
  obtain ⟨m, hm⟩ := Option.isSome_iff_exists.1 hsome
  exact scoped_header hs h1 hf hm

/-- The same, as the decidable Spec the harness evaluates on the real translator's output: inside
the scope the model's result satisfies `SpecTerm` (accepted, same meaning, headers, arithmetic type). -/
theorem spec_partial : ∀ e : PExpr, Scoped Gen.cfg e = true →
    SpecTerm Gen.readmeFunctions e (tr Gen.cfg e) = true := by
  intro e h
  obtain ⟨v, h1, h2, _, h4⟩ := scoped_faithful Gen.cfg cfg_ok e h
  have htr := (tr_iff _ _ _).2 h1
  unfold SpecTerm
  rw [htr]
  simp only [Bool.or_eq_true, Bool.not_eq_true']
  right
  unfold SpecTermOk
  simp only [Bool.and_eq_true]
  refine ⟨⟨⟨(Sym.beq_iff _ _).2 h2, ?_⟩, ?_⟩, ?_⟩
  · simp only [neededHeaders, List.all_eq_true, List.mem_filterMap, decide_eq_true_eq]
    rintro hd ⟨f, hf, hm⟩
    obtain ⟨m, hmf, rfl⟩ := Option.map_eq_some_iff.1 hm
    exact scoped_header h h1 hf hmf
  · rcases h4 with h4 | h4 <;> simp [h4, numericTypes]
  · simp only [List.all_eq_true]
    intro f hf
    obtain ⟨_, _, _, _, hv⟩ := scoped_calls Gen.cfg e h f hf
    exact hv

/-- **The scope, per call.** A call of a documented name satisfies the call condition of `Scoped` outside the
two defect classes: the name is not `remquo`, and an `abs` does not get integers only. -/
theorem documented_callOk (f : String) (hf : f ∈ Gen.readmeFunctions) (tys : List CT) (hrem : f ≠ "remquo")
    (habs : f = "abs" → (tys.isEmpty || !tys.all (· == .int)) = true) : callOk Gen.cfg f tys = true := by
  obtain ⟨r, _, hk, hs, hm, hret, hstd, hv⟩ := documented_plain_partial f hf
  refine callOk_of_row hk hs hm hret (hv hrem) ?_
  by_cases ha : f = "abs"
  · exact Or.inr (habs ha)
  · exact Or.inl (hstd ha)

/-- Every documented function other than `abs`, `remquo` satisfies the call condition of `Scoped`
for *all* argument types … -/
theorem documented_scoped_partial (f : String) (hf : f ∈ Gen.readmeFunctions)
    (hx : f ∉ ["abs", "remquo"]) (tys : List CT) : callOk Gen.cfg f tys = true := by
  simp only [List.mem_cons, List.mem_nil_iff, or_false, not_or] at hx
  exact documented_callOk f hf tys hx.2 fun h => absurd h hx.1

/-- … and `abs` satisfies it whenever not all of its arguments are integers (`std::abs(int)` is
`int`: `computes_namesake_counterexample_abs_int`). -/
theorem abs_scope_partial (tys : List CT) (h : (tys.isEmpty || !tys.all (· == .int)) = true) :
    callOk Gen.cfg "abs" tys = true :=
  documented_callOk "abs" (by decide +kernel) tys (by decide) fun _ => h

mutual
/-- **The scope in terms of the input alone.** A documented expression that stays out of the two
defect classes and has no `float` operand (`Clean`) is in the scope of the theorems. -/
theorem documented_clean_scoped : ∀ e : PExpr, Documented Gen.readmeFunctions e = true → Clean Gen.cfg e = true →
    Scoped Gen.cfg e = true
  | .leaf t ty, hd, hc => by
    simp only [Documented, numericTypes, List.mem_cons, List.mem_nil_iff, or_false, decide_eq_true_eq] at hd
    simp only [Clean, bne_iff_ne, ne_eq] at hc
    simp only [Scoped, Bool.or_eq_true, beq_iff_eq]
    rcases hd with h | h | h
    · exact Or.inl h
    · exact absurd h hc
    · exact Or.inr h
  | .call f args, hd, hc => by
    simp only [Documented, Bool.and_eq_true, decide_eq_true_eq] at hd
    simp only [Clean, Bool.and_eq_true, Bool.not_eq_true', decide_eq_false_iff_not, Bool.or_eq_true, bne_iff_ne, ne_eq,
      List.mem_singleton] at hc
    simp only [Scoped, Bool.and_eq_true]
    refine ⟨documented_clean_scopedArgs args hd.2 hc.2, documented_callOk f hd.1.1 _ hc.1.1 fun ha => ?_⟩
    rcases hc.1.2 with (h | h) | h
    · exact absurd ha h
    · simp [h]
    · simp [h]
  | .bin op l r, hd, hc => by
    simp only [Documented, Bool.and_eq_true] at hd
    simp only [Clean, Bool.and_eq_true] at hc
    simp only [Scoped, Bool.and_eq_true]
    exact ⟨⟨hd.1.1, documented_clean_scoped l hd.1.2 hc.1⟩, documented_clean_scoped r hd.2 hc.2⟩
  | .un op e, hd, hc => by
    simp only [Documented, Bool.and_eq_true] at hd
    simp only [Clean] at hc
    simp only [Scoped, Bool.and_eq_true]
    exact ⟨hd.1, documented_clean_scoped e hd.2 hc⟩
theorem documented_clean_scopedArgs : ∀ es : List PExpr, DocumentedArgs Gen.readmeFunctions es = true →
    CleanArgs Gen.cfg es = true → ScopedArgs Gen.cfg es = true
  | [], _, _ => by simp [ScopedArgs]
  | a :: as, hd, hc => by
    simp only [DocumentedArgs, Bool.and_eq_true] at hd
    simp only [CleanArgs, Bool.and_eq_true] at hc
    simp only [ScopedArgs, Bool.and_eq_true]
    refine ⟨?_, documented_clean_scopedArgs as hd.2 hc.2⟩
    cases a with
    | leaf t ty => simpa [Clean] using hc.1
    | _ => exact documented_clean_scoped _ hd.1 hc.1
end

/-- **C12 for the model, stated on the input alone.** For every documented expression (numeric
operands, calls of documented functions with the right number of arguments, `+ - * / **`, unary
`+ -`; no bound on size or nesting) outside the two defect classes and without `float`
operands, the translation satisfies the property's Spec: accepted, the emitted C++ denotes what the
query denotes with every function read by its documented name, `<cmath>` is included, the result
type is arithmetic — and the recorded type is the type C++ gives the expression. -/
theorem c12_partial (e : PExpr) (hd : Documented Gen.readmeFunctions e = true) (hc : Clean Gen.cfg e = true) :
    SpecTerm Gen.readmeFunctions e (tr Gen.cfg e) = true ∧
    ∃ v, tr Gen.cfg e = .ok v ∧ csym v.term = psym e ∧ CT.ofName v.ty = v.term.ctype ∧
      ∀ (α : Type) (I : Interp α), Sym.eval I (csym v.term) = Sym.eval I (psym e) := by
  have hs := documented_clean_scoped e hd hc
  obtain ⟨v, h1, h2, h3, _, h5⟩ := computes_namesake_partial e hs
  exact ⟨spec_partial e hs, v, h1, h2, h3, h5⟩

/-- **C12 at package level, for every expression in scope that calls a function**: on each of the
three backends and with any `inject_code` blocks (provided, `hh`, those that make the header call a math function bring
`cmath` with them), the model's package for the translated query lets
every C++ file that calls a math function see `<cmath>`. -/
theorem package_partial (b : Backend) (mds : List Inject) (hdrCalls : Bool)
    (hh : hdrCalls = true → "cmath" ∈ headerIncsOf mds)
    (e : PExpr) (hs : Scoped Gen.cfg e = true) (hcall : calledNames e ≠ []) :
    ∃ v, tr Gen.cfg e = .ok v ∧ PackageSpec (packageFiles b v.incs mds hdrCalls) = true := by
  obtain ⟨v, h1, _⟩ := scoped_faithful Gen.cfg cfg_ok e hs
  exact ⟨v, (tr_iff _ _ _).2 h1, package_spec b v.incs mds hdrCalls (scoped_cmath hs h1 hcall) hh⟩

/-- **The header is reachable whatever else the query uses.** For every expression in scope that
calls a function, every list of include requests made before (`pre`) and after (`post`) the
expression's own — `math.h` of the built-in `DeltaR`, the `include_files` of user C++ functions in C or
C++ spelling, headers of collections — and any `inject_code` include lists (with the proviso `hh` of
`package_partial`): every rendered C++ file
of the model's package that calls a math function sees `cmath` (the header that declares `std::f`;
`math.h` does not count). -/
theorem package_companions_partial (b : Backend) (mds : List Inject) (hdrCalls : Bool)
    (hh : hdrCalls = true → "cmath" ∈ headerIncsOf mds) (pre post : List String)
    (e : PExpr) (hs : Scoped Gen.cfg e = true) (hcall : calledNames e ≠ []) :
    ∃ v, tr Gen.cfg e = .ok v ∧ PackageSpec (packageFiles b (withCompanions pre v.incs post) mds hdrCalls) = true := by
  obtain ⟨v, h1, _⟩ := scoped_faithful Gen.cfg cfg_ok e hs
  refine ⟨v, (tr_iff _ _ _).2 h1, package_spec b _ mds hdrCalls ?_ hh⟩
  unfold withCompanions
  exact mem_mergeIncs.2 (Or.inl (mem_mergeIncs.2 (Or.inr (scoped_cmath hs h1 hcall))))

/-- The order of the requests is immaterial to what is in the list: nothing requested is lost. -/
theorem companions_keep_all (pre qv post : List String) (i : String) :
    i ∈ withCompanions pre qv post ↔ i ∈ pre ∨ i ∈ qv ∨ i ∈ post := by
  unfold withCompanions
  simp [mem_mergeIncs, or_assoc]

/-- The clause discriminates: had `add_include` treated `math.h` and `cmath` as one path, the query
`sin(DeltaR(…))` (requests `TVector2.h`, `math.h`, then `cmath`) would lose `cmath`, and the rendered
CMS file would fail `PackageSpec`; in the function-first order it would not. -/
theorem companions_discriminates :
    PackageSpec (packageFiles .cmsAod (mergeAliased [("math.h", "cmath"), ("cmath", "math.h")] [] ["TVector2.h", "math.h", "cmath"]) [] false) = false ∧
    PackageSpec (packageFiles .cmsAod (mergeAliased [("math.h", "cmath"), ("cmath", "math.h")] [] ["cmath", "TVector2.h", "math.h"]) [] false) = true ∧
    PackageSpec (packageFiles .cmsAod (withCompanions ["TVector2.h", "math.h"] ["cmath"] []) [] false) = true := by decide +kernel

/-- `abs(n)/2` with `n : int`: `std::abs(int)` is `int`, the row declares `double`: integer
division. -/
theorem computes_namesake_counterexample_abs_int :
    Documented Gen.readmeFunctions (.bin "Div" (.call "abs" [.leaf "n" "int"]) (.leaf "2" "int")) = true ∧
    SpecTerm Gen.readmeFunctions (.bin "Div" (.call "abs" [.leaf "n" "int"]) (.leaf "2" "int"))
      (tr Gen.cfg (.bin "Div" (.call "abs" [.leaf "n" "int"]) (.leaf "2" "int"))) = false := by
  decide +kernel

/-- `remquo(x, y, 0)`: the only way to write the third argument is a value; `std::remquo` wants an
`int*` (with the literal `0` the C++ even compiles — and writes through a null pointer). -/
theorem computes_namesake_counterexample_remquo :
    Documented Gen.readmeFunctions (.call "remquo" [.leaf "x" "double", .leaf "y" "double", .leaf "0" "int"]) = true ∧
    SpecTerm Gen.readmeFunctions (.call "remquo" [.leaf "x" "double", .leaf "y" "double", .leaf "0" "int"])
      (tr Gen.cfg (.call "remquo" [.leaf "x" "double", .leaf "y" "double", .leaf "0" "int"])) = false := by
  decide +kernel

/-! ### non-vacuity: the hypotheses are satisfiable by the inputs the property is about

`Scoped` of an input is shown through `documented_clean_scoped`: evaluating `Documented` and `Clean`
needs no table lookup per call (only the argument types of an `abs`), evaluating `Scoped` does. -/

-- `sin(x)*2 + 1`
example : Scoped Gen.cfg (.bin "Add" (.bin "Mult" (.call "sin" [.leaf "x" "double"]) (.leaf "2" "int")) (.leaf "1" "int")) = true :=
  documented_clean_scoped _ (by decide +kernel) (by decide +kernel)
-- `round(x)` (reaches `builtins.round`) and `ilogb(x)/2` (declared `int`, so the cast that keeps `/` a
-- real division is emitted)
example : Scoped Gen.cfg (.call "round" [.leaf "x" "double"]) = true :=
  documented_clean_scoped _ (by decide +kernel) (by decide +kernel)
example : (tr Gen.cfg (.bin "Div" (.call "ilogb" [.leaf "x" "double"]) (.leaf "2" "int"))).toOption.map
    (fun v => (render v.term, v.ty)) = some ("(static_cast<double>(std::ilogb(x))/2)", "double") ∧
    Scoped Gen.cfg (.bin "Div" (.call "ilogb" [.leaf "x" "double"]) (.leaf "2" "int")) = true :=
  ⟨by decide +kernel, documented_clean_scoped _ (by decide +kernel) (by decide +kernel)⟩
-- `1/2 + abs(y)`, `pow(x, 2)/3`, `-hypot(x, y) ** ldexp(x, 3)`
example : Scoped Gen.cfg (.bin "Add" (.bin "Div" (.leaf "1" "int") (.leaf "2" "int")) (.call "abs" [.leaf "y" "double"])) = true :=
  documented_clean_scoped _ (by decide +kernel) (by decide +kernel)
example : Scoped Gen.cfg (.bin "Div" (.call "pow" [.leaf "x" "double", .leaf "2" "int"]) (.leaf "3" "int")) = true :=
  documented_clean_scoped _ (by decide +kernel) (by decide +kernel)
example : Scoped Gen.cfg (.un "USub" (.bin "Pow" (.call "hypot" [.leaf "x" "double", .leaf "y" "double"])
    (.call "ldexp" [.leaf "x" "double", .leaf "3" "int"]))) = true :=
  documented_clean_scoped _ (by decide +kernel) (by decide +kernel)
-- `nan("")` with its string argument, nested calls
example : Scoped Gen.cfg (.call "fmax" [.call "nan" [.leaf "\"\"" "string"], .call "sin" [.call "cos" [.leaf "x" "double"]]]) = true :=
  documented_clean_scoped _ (by decide +kernel) (by decide +kernel)
-- the model's text for `sin(x)*2+1`
example : (tr Gen.cfg (.bin "Add" (.bin "Mult" (.call "sin" [.leaf "x" "double"]) (.leaf "2" "int")) (.leaf "1" "int"))).toOption.map
    (fun v => (render v.term, v.ty, v.incs)) = some ("((std::sin(x)*2)+1)", "double", ["cmath"]) := by decide +kernel
-- the same inputs satisfy the input-only hypotheses of `c12_partial`
example : Documented Gen.readmeFunctions (.bin "Add" (.bin "Mult" (.call "sin" [.leaf "x" "double"]) (.leaf "2" "int")) (.leaf "1" "int")) = true ∧
    Clean Gen.cfg (.bin "Add" (.bin "Mult" (.call "sin" [.leaf "x" "double"]) (.leaf "2" "int")) (.leaf "1" "int")) = true := by decide +kernel
example : Documented Gen.readmeFunctions (.call "fmax" [.call "nan" [.leaf "\"\"" "string"], .call "abs" [.leaf "x" "double"]]) = true ∧
    Clean Gen.cfg (.call "fmax" [.call "nan" [.leaf "\"\"" "string"], .call "abs" [.leaf "x" "double"]]) = true := by decide +kernel
-- `Accepted` covers more than `Scoped`: float operands, `%`, ilogb, `not` where no result type is asked for
example : Accepted Gen.cfg (.bin "Mod" (.call "ilogb" [.leaf "x" "float"]) (.un "USub" (.leaf "2" "int"))) = true := by
  decide +kernel
example : Accepted Gen.cfg (.call "sin" [.un "USub" (.un "Not" (.bin "Pow" (.un "Not" (.leaf "x" "double")) (.leaf "2" "int")))]) = true := by
  decide +kernel

def errOf : Except TrErr CVal → Option TrErr
  | .error e => some e
  | .ok _ => none

-- `not x` is declared bool, and a bool operand of a table operator is refused (most_accurate_type does not know bool)
example : (tr Gen.cfg (.un "Not" (.call "log1p" [.leaf "x" "double"]))).toOption.map (·.ty) = some "bool" := by decide +kernel
example : errOf (tr Gen.cfg (.bin "Add" (.un "Not" (.call "sin" [.leaf "x" "double"])) (.leaf "1" "int"))) = some (.unknownType "bool") := by
  decide +kernel
-- the refusals are real: an unknown name, a module-less binding, a string in arithmetic
example : errOf (tr Gen.cfg (.call "frexp" [.leaf "x" "double"])) = some (.unknownCall "frexp") := by decide +kernel
example : errOf (tr Gen.cfg (.call "ast" [.leaf "x" "double"])) = some (.attributeError "ast") := by decide +kernel
example : errOf (tr Gen.cfg (.bin "Add" (.leaf "\"a\"" "string") (.leaf "1" "int"))) = some (.unknownType "string") := by
  decide +kernel

end FaxVerif.C12
