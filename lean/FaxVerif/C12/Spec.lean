/-
C12 — the property as decidable predicates.

Table level: `SpecRow` and `acceptedAs` are proved of the generated table in Theorems.lean
(`table_checked`, `documented_accepted`) *and* evaluated by the driver on the rows of the live
`functions_to_replace`; `documentedPresent` is the Boolean form of `documented_present`.

Expression level: `SpecTerm` says what the property demands of the result of translating a query
expression `e` that uses only documented functions and arithmetic (`Documented`): it is accepted,
the emitted C++ *means* (under the C++ typing rules, `csym`) what the query means with every
function read by its documented name (`psym`), the header of every function used is included, and
the result has an arithmetic type.  The same predicate is (a) proved of the model (`tr`) in
Theorems.lean and (b) evaluated on the text the real translator emitted (`SpecEmit`, after parsing
the text with `parseCpp`).
-/
import FaxVerif.C12.Model
namespace FaxVerif.C12

/-! ### table level -/

/-- the C++ function of the row is the namesake of its python name -/
def rowNamesake (r : Row) : Bool := (meaningPy r.py).isSome && meaningCpp r.cpp == meaningPy r.py

/-- the row pulls in the header that declares its C++ function -/
def rowHeader (r : Row) : Bool :=
  match meaningCpp r.cpp with
  | some m => r.includes.contains m.header
  | none => false

/-- the declared result type is one `most_accurate_type` knows: usable in arithmetic -/
def rowArith (prio : List (String × Nat)) (r : Row) : Bool := (assoc prio r.ret).isSome

/-- the declared result type is the type C++ gives the call on `double` arguments (`double`, or
`int` for `ilogb`): the value is held exactly *and* the arithmetic around the call is typed as the
C++ compiler types it -/
def rowRetFaithful (r : Row) : Bool :=
  match meaningCpp r.cpp with
  | some m => CT.ofName r.ret == cppRet r.cpp (m.params.map fun _ => CT.dbl)
  | none => false

def SpecRow (prio : List (String × Nat)) (r : Row) : Bool :=
  rowNamesake r && rowHeader r && rowRetFaithful r && rowArith prio r

/-- every documented name is a key of the table -/
def documentedPresent (t : List Row) (readme : List String) : Bool := readme.all (· ∈ keys t)

/-- a call of the bare name `f` written in a query reaches a row whose C++ function is the namesake
of `f` -/
def acceptedAs (c : Cfg) (f : String) : Bool :=
  match findKnown c.table c.env f with
  | .ok (some r) => (meaningPy f).isSome && meaningCpp r.cpp == meaningPy f
  | _ => false

/-! ### expression level: which inputs the property speaks about -/

def arithBin : List String := ["Add", "Sub", "Mult", "Div", "Pow"]
def arithUn : List String := ["USub", "UAdd"]
def numericTypes : List String := ["int", "float", "double"]

/-- the call has as many arguments as the `<cmath>` function of that name has parameters -/
def arityOk (f : String) (n : Nat) : Bool :=
  match meaningPy f with
  | some m => m.params.length == n
  | none => false

/-- the function of that name takes only by-value parameters: a query can call it at all -/
def byValue (f : String) : Bool := (meaningPy f).any MathFn.callableByValue

/- `Documented readme e`: a scalar expression built from numeric operands, calls of documented
functions (whose direct arguments may also be string constants: `nan("")`) and arithmetic. -/
mutual
def Documented (readme : List String) : PExpr → Bool
  | .leaf _ ty => ty ∈ numericTypes
  | .call f args => f ∈ readme && arityOk f args.length && DocumentedArgs readme args
  | .bin op l r => op ∈ arithBin && Documented readme l && Documented readme r
  | .un op e => op ∈ arithUn && Documented readme e
def DocumentedArgs (readme : List String) : List PExpr → Bool
  | [] => true
  | a :: as =>
    (match a with
      | .leaf _ ty => ty ∈ numericTypes || ty == "string"
      | _ => Documented readme a) && DocumentedArgs readme as
end

/- names of the functions called anywhere in `e` -/
mutual
def calledNames : PExpr → List String
  | .leaf _ _ => []
  | .call f args => f :: calledNamesList args
  | .bin _ l r => calledNames l ++ calledNames r
  | .un _ e => calledNames e
def calledNamesList : List PExpr → List String
  | [] => []
  | a :: as => calledNames a ++ calledNamesList as
end

/-- the headers the functions called in `e` need -/
def neededHeaders (e : PExpr) : List String :=
  (calledNames e).filterMap fun f => (meaningPy f).map (·.header)

/-! ### expression level: the demand -/

/-- What the property demands of a *successful* translation, on terms. -/
def SpecTermOk (e : PExpr) (term : CExpr) (ty : String) (incs : List String) : Bool :=
  Sym.beq (csym term) (psym e) &&
  (neededHeaders e).all (· ∈ incs) &&
  ty ∈ numericTypes &&
  (calledNames e).all byValue

/-- The property on the model's result type. -/
def SpecTerm (readme : List String) (e : PExpr) (res : Except TrErr CVal) : Bool :=
  !Documented readme e ||
  match res with
  | .ok v => SpecTermOk e v.term v.ty v.incs
  | .error _ => false

/-! ### the scope of the theorems (decidable hypotheses) -/

/-- type the model gives a sub-expression -/
def argTy (c : Cfg) (a : PExpr) : CT :=
  match tr c a with
  | .ok v => CT.ofName v.ty
  | .error _ => .other

/-- `f(args)` resolves to a row that is the namesake of `f`, whose declared result type is the
type C++ really gives the call on arguments of these types. -/
def callOk (c : Cfg) (f : String) (tys : List CT) : Bool :=
  match findKnown c.table c.env f with
  | .ok (some r) =>
    (meaningPy f).isSome && meaningCpp r.cpp == meaningPy f &&
    CT.ofName r.ret == cppRet r.cpp tys && (CT.ofName r.ret == .int || CT.ofName r.ret == .dbl) &&
    byValue f
  | _ => false

/- `Scoped c e`: the inputs for which the full statement is proved: operands of type `int` or
`double` (single precision is outside the abstraction), operators `+ - * / **` and unary `+ -`,
every call satisfies `callOk` (resolves to its namesake, declared type = C++ type, by-value). -/
mutual
def Scoped (c : Cfg) : PExpr → Bool
  | .leaf _ ty => ty == "int" || ty == "double"
  | .call f args => ScopedArgs c args && callOk c f (args.map (argTy c))
  | .bin op l r => op ∈ arithBin && Scoped c l && Scoped c r
  | .un op e => op ∈ arithUn && Scoped c e
def ScopedArgs (c : Cfg) : List PExpr → Bool
  | [] => true
  | a :: as =>
    (match a with
      | .leaf _ ty => ty != "float"
      | _ => Scoped c a) && ScopedArgs c as
end

/- `Clean c e`: `e` stays out of the two classes of inputs on which the code is known to be wrong
(`remquo`: needs an `int*`; `abs` of integers only: `std::abs(int)` is `int`, declared `double`)
and has no `float` operand (single precision is outside
the abstraction). -/
mutual
def Clean (c : Cfg) : PExpr → Bool
  | .leaf _ ty => ty != "float"
  | .call f args =>
    !(f ∈ ["remquo"]) &&
    (f != "abs" || (args.map (argTy c)).isEmpty || !(args.map (argTy c)).all (· == .int)) &&
    CleanArgs c args
  | .bin _ l r => Clean c l && Clean c r
  | .un _ e => Clean c e
def CleanArgs (c : Cfg) : List PExpr → Bool
  | [] => true
  | a :: as => Clean c a && CleanArgs c as
end

/-- the configuration facts the expression theorems need: the operator tables give the arithmetic
operators their usual C++ symbols (and have no entry for `Pow`, which is special-cased), and `int`
ranks below `double` -/
def CfgOK (c : Cfg) : Bool :=
  assoc c.binOps "Add" == some "+" && assoc c.binOps "Sub" == some "-" &&
  assoc c.binOps "Mult" == some "*" && assoc c.binOps "Div" == some "/" &&
  assoc c.binOps "Pow" == none &&
  assoc c.unOps "USub" == some "-" && assoc c.unOps "UAdd" == some "+" &&
  (match assoc c.prio "int", assoc c.prio "double" with
    | some a, some b => decide (a < b)
    | _, _ => false)

/-- the value is declared `bool`: a `not`, possibly under unary `+`/`-` (which keep the declared
type of their operand).  `most_accurate_type` does not know `bool`. -/
def boolTyped : PExpr → Bool
  | .un op e => op == "Not" || boolTyped e
  | _ => false

/- `Accepted c e`: the inputs the translator takes (whatever the C++ then means): operands of a
type `_type_priority` knows, known operators, calls that resolve to a row (direct arguments may
be leaves of any type).  Since `not x` is declared `bool` (ea7911a), a `not` may stand at the top,
under another unary operator, as an argument of a call and as an operand of `**` (none of which asks
`most_accurate_type`), but not as an operand of an operator of the operator table. -/
mutual
def Accepted (c : Cfg) : PExpr → Bool
  | .leaf _ ty => (assoc c.prio ty).isSome
  | .call f args =>
    AcceptedArgs c args &&
    (match findKnown c.table c.env f with
      | .ok (some _) => true
      | _ => false)
  | .bin op l r =>
    (((assoc c.binOps op).isSome && !boolTyped l && !boolTyped r) || ((assoc c.binOps op).isNone && op == "Pow")) &&
    Accepted c l && Accepted c r
  | .un op e => (assoc c.unOps op).isSome && Accepted c e
def AcceptedArgs (c : Cfg) : List PExpr → Bool
  | [] => true
  | a :: as =>
    (match a with
      | .leaf _ _ => true
      | _ => Accepted c a) && AcceptedArgs c as
end

/-- every row's declared type, and `double`, are known to `most_accurate_type` -/
def TableArith (c : Cfg) : Bool :=
  c.table.all (rowArith c.prio) && (assoc c.prio "double").isSome

/-! ### reading the emitted text back (the Lean side owns what the text means) -/

def isIdentChar (ch : Char) : Bool := ch.isAlphanum || ch == '_' || ch == ':' || ch == '<' || ch == '>'

def stripPrefix? (p s : List Char) : Option (List Char) :=
  match p, s with
  | [], s => some s
  | _ :: _, [] => none
  | a :: p', b :: s' => if a == b then stripPrefix? p' s' else none

/-- the longest operand text that `s` starts with and that is not followed by more of a token -/
def matchLeaf (leaves : List (String × String)) (s : List Char) : Option ((String × String) × List Char) :=
  leaves.foldl (fun best lf =>
    match stripPrefix? lf.1.toList s with
    | some rest =>
      let ok := match rest with
        | [] => true
        | ch :: _ => !(ch.isAlphanum || ch == '_' || ch == '.')
      if ok && !lf.1.isEmpty then
        match best with
        | some (b, _) => if b.1.length < lf.1.length then some (lf, rest) else best
        | none => some (lf, rest)
      else best
    | none => best) none

def takeIdent : List Char → List Char × List Char
  | [] => ([], [])
  | ch :: s => if isIdentChar ch then let (a, b) := takeIdent s; (ch :: a, b) else ([], ch :: s)

/-- the symbol among `syms` that `s` starts with -/
def matchSym (syms : List String) (s : List Char) : Option (String × List Char) :=
  syms.findSome? fun y => if y.isEmpty then none else (stripPrefix? y.toList s).map fun rest => (y, rest)

mutual
/-- expression grammar of the emitted text:
`leaf | (E sym E) | (sym(E)) | static_cast<T>(E) | name(E,E,…) | std::pow(E, E)` -/
def parseE (c : Cfg) (leaves : List (String × String)) : Nat → List Char → Option (CExpr × List Char)
  | 0, _ => none
  | fuel + 1, s =>
    match matchLeaf leaves s with
    | some ((t, ty), rest) => some (.leaf t ty, rest)
    | none =>
      match s with
      | '(' :: s1 =>
        -- unary: `(` sym `(` E `))`
        let unary : Option (CExpr × List Char) :=
          match matchSym (c.unOps.map (·.2)) s1 with
          | some (y, '(' :: s2) =>
            match parseE c leaves fuel s2 with
            | some (e, ')' :: ')' :: rest) => some (.un y e, rest)
            | _ => none
          | _ => none
        match unary with
        | some r => some r
        | none =>
          match parseE c leaves fuel s1 with
          | some (l, s2) =>
            match matchSym (c.binOps.map (·.2)) s2 with
            | some (y, s3) =>
              match parseE c leaves fuel s3 with
              | some (r, ')' :: rest) => some (.bin y l r, rest)
              | _ => none
            | none => none
          | none => none
      | _ =>
        let (name, s1) := takeIdent s
        if name.isEmpty then none else
        match s1 with
        | '(' :: s2 =>
          let nm := String.ofList name
          if nm.startsWith "static_cast<" && nm.endsWith ">" then
            match parseE c leaves fuel s2 with
            | some (e, ')' :: rest) => some (.cast ((nm.drop 12).dropEnd 1).toString e, rest)
            | _ => none
          else
            match s2 with
            | ')' :: rest => some (.call nm [], rest)
            | _ =>
              match parseArgs c leaves fuel s2 with
              | some (args, seps, rest) =>
                if nm == "std::pow" && seps == [", "] then
                  match args with
                  | [l, r] => some (.pow l r, rest)
                  | _ => none
                else if seps.all (· == ",") then some (.call nm args, rest) else none
              | none => none
        | _ => none
/-- `E (sep E)* )` with `sep` = `,` or `, `; returns the arguments, the separators, the rest after `)` -/
def parseArgs (c : Cfg) (leaves : List (String × String)) : Nat → List Char → Option (List CExpr × List String × List Char)
  | 0, _ => none
  | fuel + 1, s =>
    match parseE c leaves fuel s with
    | some (e, ')' :: rest) => some ([e], [], rest)
    | some (e, ',' :: ' ' :: s1) =>
      match parseArgs c leaves fuel s1 with
      | some (es, seps, rest) => some (e :: es, ", " :: seps, rest)
      | none => none
    | some (e, ',' :: s1) =>
      match parseArgs c leaves fuel s1 with
      | some (es, seps, rest) => some (e :: es, "," :: seps, rest)
      | none => none
    | _ => none
end

def parseCpp (c : Cfg) (leaves : List (String × String)) (text : String) : Option CExpr :=
  let s := text.toList
  match parseE c leaves (s.length + 1) s with
  | some (e, []) => some e
  | _ => none

/-- what is observed of the real translator: the text of the expression assigned to the output
column, the declared C++ type of that column, the include files it added -/
structure Obs where
  text : String
  declTy : String
  incs : List String
deriving Repr

/-- The property evaluated on the implementation's output (`none`: the translator raised). -/
def SpecEmit (c : Cfg) (readme : List String) (leaves : List (String × String)) (e : PExpr) (obs : Option Obs) : Bool × String :=
  if !Documented readme e then (true, "not a documented expression: nothing demanded")
  else match obs with
    | none => (false, "a documented expression was rejected")
    | some o =>
      match parseCpp c leaves o.text with
      | none => (false, "the emitted text is not an expression of the emitted language")
      | some t =>
        if SpecTermOk e t o.declTy o.incs then (true, "")
        else if !Sym.beq (csym t) (psym e) then (false, "the emitted C++ does not mean what the query means (function or operation differs)")
        else if !(neededHeaders e).all (· ∈ o.incs) then (false, "a needed header is not included")
        else if !(calledNames e).all byValue then (false, "a function that needs an output parameter cannot be called from a query")
        else (false, "the result is not of an arithmetic type")

/-! ### package level: the header is reachable where the function is called -/

/-- Every rendered C++ file that calls a `std::` math function includes `<cmath>`, directly or
through a rendered header it includes. -/
def PackageSpec (files : List FileObs) : Bool :=
  files.all fun f => !f.callsMath || sees files (files.length + 1) f.name "cmath"

/-- the first file that calls a math function without seeing `<cmath>` -/
def packageCulprit (files : List FileObs) : Option String :=
  (files.find? fun f => f.callsMath && !sees files (files.length + 1) f.name "cmath").map (·.name)

/-! ### placement level: the function is accepted wherever an expression may stand

A documented call `e` is written at some position of a query (argument of an object method or of a
user C++ function, tuple / dict element, index, test or arm of a conditional, predicate of a
`Where`, …).  What the surrounding construct emits is the business of other properties; C12 demands
that the query is accepted, that *somewhere in the emitted code* stands an expression that means
what `e` means, and that the headers `e` needs are included. -/

def tailsOf : List Char → List (List Char)
  | [] => [[]]
  | c :: cs => (c :: cs) :: tailsOf cs

/-- some position of `code` starts an expression of the emitted language that means `psym e` -/
def occursMeaning (c : Cfg) (leaves : List (String × String)) (e : PExpr) (code : String) : Bool :=
  let target := psym e
  (tailsOf code.toList).any fun s =>
    match s with
    | [] => false
    | ch :: _ =>
      (ch.isAlpha || ch == '(') &&
      match parseE c leaves (s.length + 1) s with
      | some (t, _) => Sym.beq (csym t) target
      | none => false

/-- `code` = the emitted statements (white space removed), `none` = the translator raised -/
def PlacementSpec (c : Cfg) (readme : List String) (leaves : List (String × String)) (e : PExpr)
    (obs : Option (String × List String)) : Bool × String :=
  if !Documented readme e then (true, "not a documented expression: nothing demanded")
  else match obs with
    | none => (false, "a query using a documented function at this position was rejected")
    | some (code, incs) =>
      if !occursMeaning c leaves e code then
        (false, "no expression of the emitted code means what the function call means (not translated, or translated to another function)")
      else if !(neededHeaders e).all (· ∈ incs) then (false, "a needed header is not included")
      else if !(calledNames e).all byValue then (false, "a function that needs an output parameter cannot be called from a query")
      else (true, "")

/-! ### scope level: the call stands where its operands are alive

"Evaluates in the generated job to the same number as the function of that name" needs more than
the right text: the line that holds the call must stand inside the blocks that declare the
variables its operands mention (the loop variable of a `First()`, an accumulator, the loop variable
of the sequence), and those variables must be declared by *this* piece of generated code (a second
translation of the same query object may not hand out the text of the first).  The harness cuts the
per-event method into lines (`CodeLine`); which line holds the call is decided here, by meaning. -/

def visibleIn (stack : List (List String)) (v : String) : Bool := stack.any (·.contains v)

def declareIn (ds : List String) : List (List String) → List (List String)
  | [] => [ds]
  | f :: fs => (ds ++ f) :: fs

/-- Walk the lines with a stack of frames (innermost first; `pend` = the loop variable of a `for`
header waiting for its block).  Every line selected by `sel` may mention only visible variables. -/
def aliveGo (sel : CodeLine → Bool) : List (List String) → List String → List CodeLine → Bool
  | _, _, [] => true
  | stack, pend, l :: ls =>
    match l.kind with
    | .openB => aliveGo sel (pend :: stack) [] ls
    | .closeB => aliveGo sel stack.tail [] ls
    | .forL => (!sel l || l.uses.all (visibleIn stack)) && aliveGo sel stack l.decls ls
    | .stmt => (!sel l || l.uses.all (visibleIn stack)) && aliveGo sel (declareIn l.decls stack) [] ls

/-- the first selected line that mentions a variable that is not visible there, and that variable -/
def aliveCulprit (sel : CodeLine → Bool) : List (List String) → List String → List CodeLine → Option (String × String)
  | _, _, [] => none
  | stack, pend, l :: ls =>
    match l.kind with
    | .openB => aliveCulprit sel (pend :: stack) [] ls
    | .closeB => aliveCulprit sel stack.tail [] ls
    | .forL =>
      match (if sel l then l.uses.find? (fun v => !visibleIn stack v) else none) with
      | some v => some (l.text, v)
      | none => aliveCulprit sel stack l.decls ls
    | .stmt =>
      match (if sel l then l.uses.find? (fun v => !visibleIn stack v) else none) with
      | some v => some (l.text, v)
      | none => aliveCulprit sel (declareIn l.decls stack) [] ls

/-- the line holds an expression that means the call -/
def holdsCall (c : Cfg) (leaves : List (String × String)) (e : PExpr) (l : CodeLine) : Bool :=
  (l.kind == .stmt || l.kind == .forL) && !l.text.isEmpty && occursMeaning c leaves e l.text

/-- `members`: the data members of the generated class (alive everywhere); `lines`: the per-event
method.  Some line holds the call, and every such line mentions only variables alive there. -/
def AliveSpec (c : Cfg) (readme : List String) (leaves : List (String × String)) (e : PExpr)
    (members : List String) (lines : List CodeLine) : Bool × String :=
  if !Documented readme e then (true, "not a documented expression: nothing demanded")
  else if !lines.any (holdsCall c leaves e) then
    (false, "no line of the per-event method holds an expression that means the function call")
  else match aliveCulprit (holdsCall c leaves e) [members] [] lines with
    | some (line, v) => (false, "the call stands where its operand is not alive: `" ++ line ++ "` mentions `" ++ v ++
        "`, which no enclosing block of this generated method declares")
    | none => (true, "")


end FaxVerif.C12
