/-
C12 — property theorems for the POSITIONS: a math call inside any of the constructs of PosModel.lean (listed at its
head) and any nesting of these, without bound on size or depth.  The lemmas about the builders and `emitX` they rest
on are in PosProofs.lean; what the resolver pass `resolveX` does (`resolveX_sound`, `rows_right`, `called_iff`) opens
this file; the acceptance theorems are in PosAccepted.lean.
-/
import FaxVerif.C12.Theorems
import FaxVerif.C12.PosProofs
namespace FaxVerif.C12

/-- the generated configuration, with the user functions and variables of the query at hand -/
def Gen.xcfg (fns : List UserFn) (vars : List (String × String × String)) : XCfg :=
  ⟨Gen.cfg, Gen.cmpOps, Gen.seqOps, fns, vars, Gen.ifName, Gen.boolName, Gen.accName⟩

mutual
/-- the pre-pass changes nothing but the `func` of Name-calls (forgetting what it wrote gives the input
back), and every Name-call carries exactly what `findKnown` says of its own name -/
theorem resolveX_sound (c : Cfg) : ∀ (e : QExpr) (r : RX), resolveX c e = .ok r → r.erase = e ∧ r.rowsRight c
  | .leaf t ty, r, h => by simp only [resolveX, Except.ok.injEq] at h; subst h; simp [RX.erase, RX.rowsRight]
  | .var x, r, h => by simp only [resolveX, Except.ok.injEq] at h; subst h; simp [RX.erase, RX.rowsRight]
  | .call f args, r, h => by
    obtain ⟨as, ha, hr⟩ := resolveX_call_inv h
    obtain ⟨h1, h2⟩ := resolveListX_sound c args as ha
    rcases hr with ⟨row, hk, rfl⟩ | ⟨hk, rfl⟩ <;> simp [RX.erase, RX.rowsRight, h1, h2, hk]
  | .node k kids, r, h => by
    obtain ⟨ks, ha, rfl⟩ := resolveX_node_inv h
    simpa [RX.erase, RX.rowsRight] using resolveListX_sound c kids ks ha
theorem resolveListX_sound (c : Cfg) : ∀ (es : List QExpr) (rs : List RX), resolveListX c es = .ok rs →
    RX.eraseList rs = es ∧ RX.rowsRightList c rs
  | [], rs, h => by simp only [resolveListX, Except.ok.injEq] at h; subst h; simp [RX.eraseList, RX.rowsRightList]
  | a :: as, rs, h => by
    obtain ⟨a', as', h1, h2, rfl⟩ := resolveListX_cons_inv h
    simp [RX.eraseList, RX.rowsRightList, resolveX_sound c a a' h1, resolveListX_sound c as as' h2]
end

theorem resolve_eraseList (c : Cfg) : ∀ (es : List QExpr) (rs : List RX), resolveListX c es = .ok rs → RX.eraseList rs = es :=
  fun es rs h => (resolveListX_sound c es rs h).1

theorem resolve_rowsList (c : Cfg) : ∀ (es : List QExpr) (rs : List RX), resolveListX c es = .ok rs → RX.rowsRightList c rs :=
  fun es rs h => (resolveListX_sound c es rs h).2

mutual
theorem rows_right (c : Cfg) : ∀ r : RX, r.rowsRight c →
    (∀ p ∈ r.replaced, findKnown c.table c.env p.1 = .ok (some p.2)) ∧ ∀ f ∈ r.leftAlone, findKnown c.table c.env f = .ok none
  | .leaf _ _, _ => by simp [RX.replaced, RX.leftAlone]
  | .var _, _ => by simp [RX.replaced, RX.leftAlone]
  | .fcall f row args, h => by
    simp only [RX.rowsRight] at h
    obtain ⟨h1, h2⟩ := rows_rightList c args h.2
    simp only [RX.replaced, RX.leftAlone, List.mem_cons, forall_eq_or_imp]
    exact ⟨⟨h.1, h1⟩, h2⟩
  | .ucall f args, h => by
    simp only [RX.rowsRight] at h
    obtain ⟨h1, h2⟩ := rows_rightList c args h.2
    simp only [RX.replaced, RX.leftAlone, List.mem_cons, forall_eq_or_imp]
    exact ⟨h1, h.1, h2⟩
  | .node k kids, h => by
    simp only [RX.rowsRight] at h
    simpa only [RX.replaced, RX.leftAlone] using rows_rightList c kids h
theorem rows_rightList (c : Cfg) : ∀ rs : List RX, RX.rowsRightList c rs →
    (∀ p ∈ RX.replacedList rs, findKnown c.table c.env p.1 = .ok (some p.2)) ∧
    ∀ f ∈ RX.leftAloneList rs, findKnown c.table c.env f = .ok none
  | [], _ => by simp [RX.replacedList, RX.leftAloneList]
  | a :: as, h => by
    simp only [RX.rowsRightList] at h
    obtain ⟨h1, h2⟩ := rows_right c a h.1
    obtain ⟨h3, h4⟩ := rows_rightList c as h.2
    simp only [RX.replacedList, RX.leftAloneList, List.mem_append]
    exact ⟨fun p hp => hp.elim (h1 p) (h3 p), fun f hf => hf.elim (h2 f) (h4 f)⟩
end

theorem leftAlone_rightList (c : Cfg) : ∀ rs : List RX, RX.rowsRightList c rs → ∀ f ∈ RX.leftAloneList rs, findKnown c.table c.env f = .ok none :=
  fun rs h => (rows_rightList c rs h).2

mutual
theorem called_iff : ∀ (r : RX) (f : String), f ∈ r.erase.called ↔ (∃ row, (f, row) ∈ r.replaced) ∨ f ∈ r.leftAlone
  | .leaf _ _, f => by simp [RX.erase, QExpr.called, RX.replaced, RX.leftAlone]
  | .var _, f => by simp [RX.erase, QExpr.called, RX.replaced, RX.leftAlone]
  | .fcall g row args, f => by
    simp only [RX.erase, QExpr.called, RX.replaced, RX.leftAlone, List.mem_cons, called_iffList args f,
      Prod.mk.injEq, exists_or, exists_and_left, exists_eq, and_true, or_assoc]
  | .ucall g args, f => by
    simp only [RX.erase, QExpr.called, RX.replaced, RX.leftAlone, List.mem_cons, called_iffList args f, or_left_comm]
  | .node k kids, f => by simpa only [RX.erase, QExpr.called, RX.replaced, RX.leftAlone] using called_iffList kids f
theorem called_iffList : ∀ (rs : List RX) (f : String),
    f ∈ QExpr.calledList (RX.eraseList rs) ↔ (∃ row, (f, row) ∈ RX.replacedList rs) ∨ f ∈ RX.leftAloneList rs
  | [], f => by simp [RX.eraseList, QExpr.calledList, RX.replacedList, RX.leftAloneList]
  | a :: as, f => by
    simp only [RX.eraseList, QExpr.calledList, RX.replacedList, RX.leftAloneList, List.mem_append, called_iff a f,
      called_iffList as f, exists_or]
    exact or_or_or_comm
end

theorem called_coverList : ∀ rs : List RX, ∀ f ∈ QExpr.calledList (RX.eraseList rs),
    (∃ row, (f, row) ∈ RX.replacedList rs) ∨ f ∈ RX.leftAloneList rs :=
  fun rs f => (called_iffList rs f).1

/-- **Resolved everywhere** (`find_known_functions` = `generic_visit` + one lookup per Name-call).
For EVERY table, environment and expression of the extended language — a call standing as argument
of a method or of a user function, as tuple / dict / list element, subscript, arm or test of a
conditional, operand of `and`/`or` or of a comparison, inside the lambda of a `Where` / `Select` /
`Aggregate`, at any depth: the result of the pre-pass is the input with *every* Name-call annotated,
(1) nothing else is rewritten (`erase`), (2) every annotation is what `findKnown` gives for that very
name — a call is replaced by the row of its own key and by no other row, and is left alone only if its
key is not in the table —, (3) no call is dropped: each called name is among the replaced or the left
alone.  What surrounds the call plays no role. -/
theorem resolved_everywhere (c : Cfg) (e : QExpr) (r : RX) (h : resolveX c e = .ok r) :
    r.erase = e ∧ r.rowsRight c ∧
    (∀ p ∈ r.replaced, findKnown c.table c.env p.1 = .ok (some p.2)) ∧
    (∀ f ∈ r.leftAlone, findKnown c.table c.env f = .ok none) ∧
    (∀ f ∈ e.called, (∃ row, (f, row) ∈ r.replaced) ∨ f ∈ r.leftAlone) := by
  obtain ⟨h1, h2⟩ := resolveX_sound c e r h
  refine ⟨h1, h2, (rows_right c r h2).1, (rows_right c r h2).2, ?_⟩
  intro f hf
  rw [← h1] at hf
  exact (called_iff r f).1 hf

mutual
/-- the pre-pass fails only with the `AttributeError` of a called name that python's `eval` binds to
an object without `__module__` — wherever the call stands -/
theorem resolveX_error (c : Cfg) : ∀ (e : QExpr) (er : TrErr), resolveX c e = .error er →
    ∃ f ∈ e.called, er = .attributeError f ∧ c.env.get f = .noModuleAttr
  | .leaf _ _, er, h => by simp [resolveX] at h
  | .var _, er, h => by simp [resolveX] at h
  | .call g args, er, h => by
    unfold resolveX at h
    split at h
    · cases h
      exact (resolveListX_error c args _ ‹_›).imp fun f => And.imp_left fun hf => by simp [QExpr.called, hf]
    · split at h <;> cases h
      exact ⟨g, by simp [QExpr.called], findKnown_error ‹_›⟩
  | .node k kids, er, h => by
    unfold resolveX at h
    split at h <;> cases h
    exact (resolveListX_error c kids _ ‹_›).imp fun f => And.imp_left fun hf => by simpa [QExpr.called] using hf
theorem resolveListX_error (c : Cfg) : ∀ (es : List QExpr) (er : TrErr), resolveListX c es = .error er →
    ∃ f ∈ QExpr.calledList es, er = .attributeError f ∧ c.env.get f = .noModuleAttr
  | [], er, h => by simp [resolveListX] at h
  | a :: as, er, h => by
    unfold resolveListX at h
    split at h
    · cases h
      exact (resolveX_error c a _ ‹_›).imp fun f => And.imp_left fun hf => by simp [QExpr.calledList, hf]
    · split at h <;> cases h
      exact (resolveListX_error c as _ ‹_›).imp fun f => And.imp_left fun hf => by simp [QExpr.calledList, hf]
end

/-- **The pre-pass is total** on every expression none of whose called names is bound to a
module-less object. -/
theorem resolve_total (c : Cfg) (e : QExpr) (h : ∀ f ∈ e.called, c.env.get f ≠ .noModuleAttr) :
    ∃ r, resolveX c e = .ok r := by
  cases hr : resolveX c e with
  | ok r => exact ⟨r, rfl⟩
  | error er =>
    obtain ⟨f, hf, _, h2⟩ := resolveX_error c e er hr
    exact absurd h2 (h f hf)

/-- **A method named like a math function is never replaced**: `j.sin(x)` has `func` an
`ast.Attribute`; the pre-pass returns the node as it is (its receiver and arguments are visited
like any other children). -/
theorem shadow_method (c : Cfg) (name ret : String) (coll : Bool) (kids : List QExpr) (r : RX)
    (h : resolveX c (.node (.meth name ret coll) kids) = .ok r) :
    ∃ ks, resolveListX c kids = .ok ks ∧ r = .node (.meth name ret coll) ks :=
  resolveX_node_inv h

/-- **A lambda parameter does not shadow**: the body of a lambda is resolved exactly as it would be
outside of it, whatever the parameters are called — `lambda sin: sin(x)` still becomes
`std::sin(x)` (the pre-pass asks python's `eval` in its own scope, not the query's). -/
theorem shadow_lambda_param (c : Cfg) (ps : List String) (b : QExpr) :
    resolveX c (.node (.lam ps) [b]) =
      (match resolveX c b with
        | .ok b' => .ok (.node (.lam ps) [b'])
        | .error e => .error e) := by
  cases hb : resolveX c b with
  | error e => simp [resolveX, resolveListX, hb]
  | ok b' => simp [resolveX, resolveListX, hb]

/-- … and a variable that is not *called* is never touched, whatever its name (`lambda sqrt: sqrt.pt()`). -/
theorem shadow_variable (c : Cfg) (x : String) : resolveX c (.var x) = .ok (.var x) := by simp [resolveX]

/-- **The table wins over a user C++ function of the same name**: if `f` resolves to a row, the call
`f(args)` is emitted as the row's C++ function whatever `add_cpp_function` blocks the query carries —
the pre-pass runs before `cpp_ast_finder`, which then no longer sees a Name. -/
theorem shadow_user_function (c : XCfg) (f : String) (row : Row) (args : List QExpr) (as : List RX) (vs : List XVal)
    (hk : findKnown c.base.table c.base.env f = .ok (some row))
    (ha : resolveListX c.base args = .ok as) (he : emitListX c as = .ok vs) (hv : vs.all XVal.isValue = true) :
    trX c (.call f args) = .ok ⟨.node (.call row.cpp) row.ret (termsOf vs), row.ret, mergeIncs (incsOf vs) row.includes, stmtsOf vs⟩ := by
  unfold trX
  simp [resolveX, ha, hk, emitX, he, buildCall, hv]

/-- A call that the pre-pass left alone and that names a user C++ function of that arity is emitted as that function
(the other direction, that a table name wins over a user function, is `shadow_user_function`). -/
theorem user_function_used_iff_not_in_table (c : XCfg) (f : String) (fn : UserFn) (args : List QExpr) (as : List RX) (vs : List XVal)
    (hf : lookupFn c.userFns f = some fn) (hn : fn.nargs = vs.length)
    (hk : findKnown c.base.table c.base.env f = .ok none)
    (ha : resolveListX c.base args = .ok as) (he : emitListX c as = .ok vs) :
    ∃ v, trX c (.call f args) = .ok v ∧ v.term = .node (.bound f ("call:" ++ f)) fn.ret (termsOf vs) ∧
      v.incs = mergeIncs fn.incs (incsOf vs) := by
  unfold trX
  simp [resolveX, ha, hk, emitX, he, buildUCall, hf, hn, preIncs]

/-- **Call emission at every position** (`visit_function_ast`): whatever the arguments are — method
values, subscripts, conditionals, results of user functions, other math calls — as long as they are
values, the call becomes `cpp_name(a,b,…)` of the row's declared type, the row's include files are
requested after those of the arguments, and the statements are those of the arguments. -/
theorem call_emitted_everywhere (c : XCfg) (f : String) (r : Row) (args : List RX) (vs : List XVal)
    (he : emitListX c args = .ok vs) (hv : vs.all XVal.isValue = true) :
    emitX c (.fcall f r args) = .ok ⟨.node (.call r.cpp) r.ret (termsOf vs), r.ret, mergeIncs (incsOf vs) r.includes, stmtsOf vs⟩ ∧
    renderX (.node (.call r.cpp) r.ret (termsOf vs)) = r.cpp ++ "(" ++ joinWith "," (renderListX (termsOf vs)) ++ ")" := by
  constructor
  · simp [emitX, he, buildCall, hv]
  · simp [renderX, renderNode]

mutual
/-- **Headers, at every position.** Whatever is translated successfully, the include files of the row
of every replaced call anywhere in it — under a method call, a subscript, a conditional, a lambda … —
are among the include files requested. -/
theorem includes_of_replaced (c : XCfg) : ∀ (r : RX) (v : XVal), emitX c r = .ok v →
    ∀ p ∈ r.replaced, ∀ i ∈ p.2.includes, i ∈ v.incs
  | .leaf _ _, _, _, p, hp, _, _ => by simp [RX.replaced] at hp
  | .var _, _, _, p, hp, _, _ => by simp [RX.replaced] at hp
  | .fcall f row args, v, h, p, hp, i, hi => by
    obtain ⟨vs, v0, ha, _, rfl⟩ := emitX_fcall_inv h
    simp only [RX.replaced, List.mem_cons] at hp
    rcases hp with rfl | hp
    · exact mem_mergeIncs.2 (Or.inr hi)
    · exact mem_mergeIncs.2 (Or.inl (mem_incsOf.2 (includes_of_replacedList c args vs ha p hp i hi)))
  | .ucall f args, v, h, p, hp, i, hi => by
    obtain ⟨vs, v0, ha, _, rfl⟩ := emitX_ucall_inv h
    simp only [RX.replaced] at hp
    exact mem_mergeIncs.2 (Or.inr (mem_incsOf.2 (includes_of_replacedList c args vs ha p hp i hi)))
  | .node k kids, v, h, p, hp, i, hi => by
    obtain ⟨vs, v0, ha, _, rfl⟩ := emitX_node_inv h
    simp only [RX.replaced] at hp
    exact mem_mergeIncs.2 (Or.inl (mem_incsOf.2 (includes_of_replacedList c kids vs ha p hp i hi)))
theorem includes_of_replacedList (c : XCfg) : ∀ (rs : List RX) (vs : List XVal), emitListX c rs = .ok vs →
    ∀ p ∈ RX.replacedList rs, ∀ i ∈ p.2.includes, ∃ v ∈ vs, i ∈ v.incs
  | [], _, _, p, hp, _, _ => by simp [RX.replacedList] at hp
  | a :: as, vs, h, p, hp, i, hi => by
    obtain ⟨v, vs', h1, h2, rfl⟩ := emitListX_cons_inv h
    simp only [RX.replacedList, List.mem_append] at hp
    rcases hp with hp | hp
    · exact ⟨v, by simp, includes_of_replaced c a v h1 p hp i hi⟩
    · obtain ⟨w, hw, hiw⟩ := includes_of_replacedList c as vs' h2 p hp i hi
      exact ⟨w, by simp [hw], hiw⟩
end

theorem map_tyOfR {c : XCfg} : ∀ (rs : List RX) (vs : List XVal), emitListX c rs = .ok vs → rs.map (tyOfR c) = vs.map (·.ty)
  | [], vs, h => by rw [emitListX_nil_inv h]; simp
  | a :: as, vs, h => by
    obtain ⟨v, vs', h1, h2, rfl⟩ := emitListX_cons_inv h
    simp [tyOfR, h1, map_tyOfR as vs' h2]

mutual
/-- **Namesake semantics through every construct, for every configuration.**  If the translation of a
resolved expression succeeds and the expression is in scope (`goodR`: every replaced call's row is the
namesake of the written name and declares the C++ result type for the argument types at hand;
arithmetic `+ - * / **`, unary `+ -` on `int`/`double` operands; comparison symbols are those of their
python operators; nothing is asked of method calls, subscripts, conditionals, `and`/`or`, tuples,
dicts, lambdas, user functions, sequence operators), then the emitted term means what the query means
with every function read by its documented name, and the recorded type is the C++ type. -/
theorem sem_emit (c : XCfg) (hc : CfgOK c.base = true) : ∀ (r : RX) (v : XVal), emitX c r = .ok v → goodR c r = true →
    csymX v.term = psymX c.vars r.erase ∧ v.typeOK
  | .leaf t ty, v, h, _ => by
    simp only [emitX, Except.ok.injEq] at h; subst h
    simp [csymX, psymX, RX.erase, XVal.typeOK, ctypeX]
  | .var x, v, h, _ => by
    unfold emitX at h
    cases hx : lookupVar c.vars x with
    | none => simp [hx] at h
    | some p =>
      obtain ⟨t, ty⟩ := p
      simp only [hx, Except.ok.injEq] at h; subst h
      simp [csymX, psymX, RX.erase, hx, XVal.typeOK, ctypeX]
  | .fcall f row args, v, h, hg => by
    obtain ⟨vs, v0, ha, hb, rfl⟩ := emitX_fcall_inv h
    simp only [goodR, Bool.and_eq_true] at hg
    obtain ⟨hsyms, htys⟩ := sem_emitList c hc args vs ha hg.1
    have hmap : (args.map fun a => CT.ofName (tyOfR c a)) = vs.map fun v => CT.ofName v.ty := by
      have := congrArg (List.map CT.ofName) (map_tyOfR args vs ha)
      simpa [List.map_map, Function.comp_def] using this
    have hok := hg.2
    rw [hmap] at hok
    obtain ⟨h1, h2⟩ := call_sem hb hok htys
    refine ⟨?_, h2⟩
    simp only [RX.erase, psymX]
    rw [h1, hsyms]
    cases meaningPy f <;> rfl
  | .ucall f args, v, h, hg => by
    obtain ⟨vs, v0, ha, hb, rfl⟩ := emitX_ucall_inv h
    simp only [goodR, Bool.and_eq_true, Option.isNone_iff_eq_none] at hg
    obtain ⟨hsyms, htys⟩ := sem_emitList c hc args vs ha hg.2
    obtain ⟨h1, h2⟩ := ucall_sem hb
    refine ⟨?_, h2⟩
    simp only [RX.erase, psymX, hg.1]
    rw [h1, hsyms]
  | .node k kids, v, h, hg => by
    obtain ⟨vs, v0, ha, hb, rfl⟩ := emitX_node_inv h
    simp only [goodR, Bool.and_eq_true] at hg
    obtain ⟨hsyms, htys⟩ := sem_emitList c hc kids vs ha hg.1
    have hk := hg.2
    rw [map_tyOfR kids vs ha] at hk
    obtain ⟨h1, h2⟩ := node_sem hc hb hk htys
    refine ⟨?_, h2⟩
    simp only [RX.erase, psymX]
    rw [h1, hsyms]
theorem sem_emitList (c : XCfg) (hc : CfgOK c.base = true) : ∀ (rs : List RX) (vs : List XVal), emitListX c rs = .ok vs →
    goodRList c rs = true → csymsX (termsOf vs) = psymsX c.vars (RX.eraseList rs) ∧ ∀ v ∈ vs, v.typeOK
  | [], vs, h, _ => by
    rw [emitListX_nil_inv h]
    simp [termsOf, csymsX, psymsX, RX.eraseList]
  | a :: as, vs, h, hg => by
    obtain ⟨v, vs', h1, h2, rfl⟩ := emitListX_cons_inv h
    simp only [goodRList, Bool.and_eq_true] at hg
    obtain ⟨e1, t1⟩ := sem_emit c hc a v h1 hg.1
    obtain ⟨e2, t2⟩ := sem_emitList c hc as vs' h2 hg.2
    simp only [termsOf] at e2 ⊢
    exact ⟨by simp only [List.map_cons, csymsX, RX.eraseList, psymsX, e1, e2], List.forall_mem_cons.2 ⟨t1, t2⟩⟩
end

theorem header_is_cmath (m : MathFn) : m.header = "cmath" := rfl

/-- **Every documented function, at every position, is replaced by its own `<cmath>` row.**  For every
expression of the extended language (no bound on size, depth or nesting of the constructs) and every
Name-call in it of a function of the README list: the pre-pass replaces it (it is never left as an
unknown python call), and whatever row it carries is a row of the table that is the namesake of the
written name and pulls in `cmath` — it is never rewritten to another function. -/
theorem documented_resolved_everywhere (e : QExpr) (r : RX) (h : resolveX Gen.cfg e = .ok r) :
    ∀ f ∈ e.called, f ∈ Gen.readmeFunctions →
      f ∉ r.leftAlone ∧ (∃ row, (f, row) ∈ r.replaced) ∧
      ∀ row, (f, row) ∈ r.replaced →
        row ∈ Gen.table ∧ (meaningPy f).isSome = true ∧ meaningCpp row.cpp = meaningPy f ∧ "cmath" ∈ row.includes := by
  intro f hf hdoc
  obtain ⟨_, _, hrep, hleft, hcov⟩ := resolved_everywhere Gen.cfg e r h
  obtain ⟨r0, hr0, hk, hs, hm, _⟩ := documented_plain_partial f hdoc
  have hnl : f ∉ r.leftAlone := fun hin => by cases hk.symm.trans (hleft f hin)
  refine ⟨hnl, (hcov f hf).resolve_right hnl, fun row hrow => ?_⟩
  cases hk.symm.trans (hrep (f, row) hrow)
  obtain ⟨m, hmf⟩ := Option.isSome_iff_exists.1 hs
  have hh := header row hr0
  rw [rowHeader, hm, hmf] at hh
  exact ⟨hr0, hs, hm, by simpa [header_is_cmath] using hh⟩

/-- **No position makes the pre-pass refuse a documented function**: an expression whose called names
are documented functions or names python's `eval` does not find (sequence operators, user functions)
always passes the pre-pass. -/
theorem documented_positions_never_refused (e : QExpr)
    (h : ∀ f ∈ e.called, f ∈ Gen.readmeFunctions ∨ Gen.evalEnv.get f = .unbound) : ∃ r, resolveX Gen.cfg e = .ok r := by
  refine resolve_total _ e fun f hf => ?_
  rcases h f hf with h' | h'
  · exact documented_eval_ok f h'
  · show Gen.evalEnv.get f ≠ .noModuleAttr
    rw [h']; simp

/-- **`cmath` is requested whenever a documented function is called at any position** of a translated
expression, whatever user functions and variables the query has. -/
theorem includes_reachable_positions (fns : List UserFn) (vars : List (String × String × String)) (e : QExpr) (v : XVal)
    (h : trX (Gen.xcfg fns vars) e = .ok v) (hcall : ∃ f ∈ e.called, f ∈ Gen.readmeFunctions) : "cmath" ∈ v.incs := by
  obtain ⟨r, hr, h⟩ := trX_ok.1 h
  obtain ⟨f, hf, hdoc⟩ := hcall
  obtain ⟨_, ⟨row, hrow⟩, hall⟩ := documented_resolved_everywhere e r hr f hf hdoc
  exact includes_of_replaced _ r v h (f, row) hrow "cmath" (hall row hrow).2.2.2

/-- **… and every rendered C++ file that calls a math function sees it** — on the three backends, with
any `inject_code` include lists (with the proviso `hh` of `package_partial`), whatever other constructs of the query request before or after. -/
theorem package_positions (b : Backend) (mds : List Inject) (hdrCalls : Bool)
    (hh : hdrCalls = true → "cmath" ∈ headerIncsOf mds) (pre post : List String)
    (fns : List UserFn) (vars : List (String × String × String)) (e : QExpr) (v : XVal)
    (h : trX (Gen.xcfg fns vars) e = .ok v) (hcall : ∃ f ∈ e.called, f ∈ Gen.readmeFunctions) :
    PackageSpec (packageFiles b (withCompanions pre v.incs post) mds hdrCalls) = true := by
  apply package_spec b _ mds hdrCalls _ hh
  exact (companions_keep_all pre v.incs post "cmath").2 (Or.inr (Or.inl (includes_reachable_positions fns vars e v h hcall)))

/-- the comparison symbols of the translator are those of their python operators -/
theorem cmp_ops_ok : ∀ p ∈ Gen.cmpOps, cmpName p.2 = p.1 := by decide +kernel

/-- **The call condition of the scope holds for every documented function except `abs` and `remquo`**,
for all argument types — so at a position only calls of `abs` and `remquo` can put a documented call outside `ScopedX`
(for `abs` on other than integers the scalar tower has `abs_scope_partial`). -/
theorem documented_call_in_scope (f : String) (hf : f ∈ Gen.readmeFunctions) (hx : f ∉ ["abs", "remquo"]) (row : Row)
    (hk : findKnown Gen.cfg.table Gen.cfg.env f = .ok (some row)) (tys : List CT) : callOkRow f row tys = true := by
  obtain ⟨r, hr, hs, hm, hret, _⟩ := callOk_iff.1 (documented_scoped_partial f hf hx tys)
  cases hk.symm.trans hr
  simp [callOkRow, hs, hm, hret]

/-
FULL STATEMENT (false as it stands, for the same two reasons as in the scalar fragment — `remquo`
needs an `int*`, `abs` of integers is `int` but declared `double`): for every expression `e` of the
extended language whose Name-calls are documented functions with the right number of arguments,
`trX` succeeds and `csymX v.term = psymX vars e`.  Counterexample: `namesake_positions_counterexample_abs_int`.
-/
/-- **C12 at every position, on the model.**  For every expression of the extended language in scope
(`ScopedX`, decidable; by `documented_call_in_scope` every documented function but `abs`
and `remquo` meets its call clause) whose translation succeeds: the emitted C++ — the call wherever it
stands, inside whatever constructs — *denotes the same value as the query under every interpretation of
the `<cmath>` meanings, of arithmetic and of the surrounding constructs*, each function read by its
documented name; the recorded type is the type C++ gives the term. -/
theorem namesake_semantics_positions (fns : List UserFn) (vars : List (String × String × String)) (e : QExpr) (v : XVal)
    (h : trX (Gen.xcfg fns vars) e = .ok v) (hs : ScopedX (Gen.xcfg fns vars) e = true) :
    csymX v.term = psymX vars e ∧ CT.ofName v.ty = ctypeX v.term ∧
      ∀ (α : Type) (I : Interp α), Sym.eval I (csymX v.term) = Sym.eval I (psymX vars e) := by
  obtain ⟨r, hr, h⟩ := trX_ok.1 h
  simp only [ScopedX, hr] at hs
  obtain ⟨h1, h2⟩ := sem_emit (Gen.xcfg fns vars) cfg_ok r v h hs
  rw [(resolveX_sound _ e r hr).1] at h1
  have h1' : csymX v.term = psymX vars e := h1
  exact ⟨h1', h2, fun α I => by rw [h1']⟩

def exVars : List (String × String × String) :=
  [("j", "i_obj", "xAOD::Jet*"), ("sin", "i_obj", "xAOD::Jet*"), ("acc", "aggResult", "double")]
def exFns : List UserFn := [⟨"c12_twice", 1, [], "double"⟩, ⟨"sin", 1, ["my.h"], "double"⟩]
def exF : QExpr := .call "sin" [.leaf "i_obj->pt()" "double"]
def exShow (e : QExpr) : Option (String × String × List String × List String) :=
  (trX (Gen.xcfg exFns exVars) e).toOption.map fun v => (renderX v.term, v.ty, v.incs, v.stmts)

-- argument of a method call; subscript
example : exShow (.node (.meth "mD" "double" false) [.var "j", exF]) =
    some ("i_obj->mD(std::sin(i_obj->pt()))", "double", ["cmath"], []) ∧
    ScopedX (Gen.xcfg exFns exVars) (.node (.meth "mD" "double" false) [.var "j", exF]) = true := by decide +kernel
example : exShow (.node .index [.node (.meth "vD" "double" true) [.var "j"], exF]) =
    some ("i_obj->vD().at(std::sin(i_obj->pt()))", "double", ["cmath"], []) := by decide +kernel
-- test and arm of a conditional
example : exShow (.node .ite [.node (.cmp "Gt") [exF, .leaf "0.5" "double"], .leaf "1.5" "double", .node (.un "USub") [exF]]) =
    some (Gen.ifName, "double", ["cmath"],
      ["if((std::sin(i_obj->pt())>0.5))", Gen.ifName ++ "=1.5;", "else", Gen.ifName ++ "=(-(std::sin(i_obj->pt())));"]) ∧
    ScopedX (Gen.xcfg exFns exVars) (.node .ite [.node (.cmp "Gt") [exF, .leaf "0.5" "double"], .leaf "1.5" "double", .node (.un "USub") [exF]]) = true := by
  decide +kernel
-- operand of `and`
example : exShow (.node (.boolop "And") [.node (.cmp "Gt") [exF, .leaf "1.0" "double"], .node (.cmp "Gt") [.leaf "i_obj->pt()" "double", .leaf "2" "int"]]) =
    some (Gen.boolName, "bool", ["cmath"],
      [Gen.boolName ++ "=(std::sin(i_obj->pt())>1.0);", "if(" ++ Gen.boolName ++ ")", Gen.boolName ++ "=(i_obj->pt()>2);"]) := by decide +kernel
-- argument of a user function; `Where` predicate; body of an aggregate
example : exShow (.call "c12_twice" [exF]) = some ("c12_twice", "double", ["cmath"], ["std::sin(i_obj->pt())", "c12_twice=result;"]) := by
  decide +kernel
example : exShow (.call "Where" [.leaf "jets" "coll", .node (.lam ["j"]) [.node (.cmp "Lt") [exF, .leaf "2.4" "double"]]]) =
    some ("<call:Where>", "sequence", ["cmath"], ["if((std::sin(i_obj->pt())<2.4))"]) := by decide +kernel
example : exShow (.call "Aggregate" [.leaf "jets" "coll", .leaf "0.0" "double", .node (.lam ["acc", "j"]) [.node (.bin "Add") [.var "acc", exF]]]) =
    some (Gen.accName, "double", ["cmath"], [Gen.accName ++ "(0.0);", Gen.accName ++ "=(aggResult+std::sin(i_obj->pt()));"]) ∧
    ScopedX (Gen.xcfg exFns exVars) (.call "Aggregate" [.leaf "jets" "coll", .leaf "0.0" "double", .node (.lam ["acc", "j"]) [.node (.bin "Add") [.var "acc", exF]]]) = true := by
  decide +kernel
-- shadowing: a method named `sin` is a method; a lambda parameter named `sin` that is called is the math function;
-- a user function named `sin` loses against the table (`my.h` is not even requested)
example : exShow (.node (.meth "sin" "double" false) [.var "j", .leaf "1.0" "double"]) = some ("i_obj->sin(1.0)", "double", [], []) := by
  decide +kernel
example : exShow (.node (.lam ["sin"]) [.call "sin" [.node (.meth "pt" "double" false) [.var "sin"]]]) =
    some ("std::sin(i_obj->pt())", "double", ["cmath"], []) := by decide +kernel
example : exShow exF = some ("std::sin(i_obj->pt())", "double", ["cmath"], []) ∧ (lookupFn exFns "sin").isSome = true := by decide +kernel
-- a refusal that is not the math call's: an unknown name next to it
example : (trX (Gen.xcfg exFns exVars) (.node .tuple [exF, .call "frexp" [.leaf "x" "double"]])).toOption.isNone = true := by decide +kernel

/-- `j.mD(abs(n)/2)` with `n : int`: the defect of the scalar fragment is a defect at every position
(outside `ScopedX`; the emitted term divides two integers, the query divides reals). -/
theorem namesake_positions_counterexample_abs_int :
    ScopedX (Gen.xcfg [] [("j", "i_obj", "xAOD::Jet*")])
      (.node (.meth "mD" "double" false) [.var "j", .node (.bin "Div") [.call "abs" [.leaf "n" "int"], .leaf "2" "int"]]) = false ∧
    ((trX (Gen.xcfg [] [("j", "i_obj", "xAOD::Jet*")])
      (.node (.meth "mD" "double" false) [.var "j", .node (.bin "Div") [.call "abs" [.leaf "n" "int"], .leaf "2" "int"]])).toOption.map
        fun v => Sym.beq (csymX v.term) (psymX [("j", "i_obj", "xAOD::Jet*")]
          (.node (.meth "mD" "double" false) [.var "j", .node (.bin "Div") [.call "abs" [.leaf "n" "int"], .leaf "2" "int"]]))) = some false := by
  decide +kernel

/-- the tie predicate discriminates: the statements of a conditional in another order, or a call
replaced by another function, are rejected -/
theorem position_tie_discriminates :
    firstMissing ["if((std::sin(x)>0.5))", "r=1.5;", "else", "r=std::sin(x);"]
      ["doubler;", "if((std::sin(x)>0.5))", "{", "r=1.5;", "}", "else", "{", "r=std::sin(x);", "}", "_col=r;"] = none ∧
    firstMissing ["if((std::sin(x)>0.5))", "r=1.5;", "else", "r=std::sin(x);"]
      ["doubler;", "if((std::sin(x)>0.5))", "{", "r=std::sin(x);", "}", "else", "{", "r=1.5;", "}", "_col=r;"] = some "else" ∧
    firstMissing ["i_obj->mD(std::sin(x))"] ["_col=i_obj->mD(std::cos(x));"] = some "i_obj->mD(std::sin(x))" := by decide +kernel

end FaxVerif.C12
