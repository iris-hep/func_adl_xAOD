/-
C12 — the scope clause (`AliveSpec`): the stack of frames while the lines of `columnCode` are walked, and the
theorems that the call stands where its operands are alive.
-/
import FaxVerif.C12.Spec
namespace FaxVerif.C12

abbrev allLines : CodeLine → Bool := fun _ => true

theorem aliveGo_mono (sel : CodeLine → Bool) : ∀ (ls : List CodeLine) (stack : List (List String)) (pend : List String),
    aliveGo allLines stack pend ls = true → aliveGo sel stack pend ls = true := by
  intro ls
  induction ls with
  | nil => intro _ _ _; simp [aliveGo]
  | cons l ls ih =>
    intro stack pend h
    unfold aliveGo at h ⊢
    cases hk : l.kind <;>
      simp only [hk, Bool.and_eq_true, allLines, Bool.not_true, Bool.false_or, Bool.or_eq_true] at h ⊢
    · exact ih _ _ h
    · exact ih _ _ h
    · exact ⟨Or.inr h.1, ih _ _ h.2⟩
    · exact ⟨Or.inr h.1, ih _ _ h.2⟩

/-- the stack after the lines one argument emits before the call -/
def enter1 : ArgShape → List (List String) → List (List String)
  | .plain, S => S
  | .first c g v, S => [] :: [v] :: declareIn [c, g] S
  | .agg c acc _, S => declareIn [c, acc] S

def enter : List ArgShape → List (List String) → List (List String)
  | [], S => S
  | a :: as, S => enter as (enter1 a S)

/-- the stack after the blocks the arguments left open are closed again: whatever follows a `First()` was declared
inside its loop and goes with it, hence the tail is not looked at -/
def base : List ArgShape → List (List String) → List (List String)
  | [], S => S
  | .plain :: as, S => base as S
  | .first c g _ :: _, S => declareIn [c, g] S
  | .agg c acc _ :: as, S => base as (declareIn [c, acc] S)

theorem visibleIn_declareIn_self (ds : List String) (S : List (List String)) (v : String) (h : v ∈ ds) :
    visibleIn (declareIn ds S) v = true := by
  cases S with
  | nil => simp [declareIn, visibleIn, h]
  | cons f fs => simp [declareIn, visibleIn, h]

theorem visibleIn_declareIn_mono (ds : List String) (S : List (List String)) (v : String) (h : visibleIn S v = true) :
    visibleIn (declareIn ds S) v = true := by
  cases S with
  | nil => simp [visibleIn] at h
  | cons f fs =>
    simp only [visibleIn, List.any_cons, Bool.or_eq_true, declareIn] at h ⊢
    rcases h with h | h
    · left; simp only [List.contains_eq_mem, List.mem_append, decide_eq_true_eq] at h ⊢; exact Or.inr h
    · right; exact h

theorem visibleIn_cons_mono (f : List String) (S : List (List String)) (v : String) (h : visibleIn S v = true) :
    visibleIn (f :: S) v = true := by
  simp only [visibleIn, List.any_cons, Bool.or_eq_true] at h ⊢
  exact Or.inr h

theorem declareIn_ne (ds : List String) (S : List (List String)) : declareIn ds S ≠ [] := by
  cases S <;> simp [declareIn]

theorem declareIn_nil (S : List (List String)) (h : S ≠ []) : declareIn [] S = S := by
  cases S with
  | nil => exact absurd rfl h
  | cons f fs => simp [declareIn]

theorem declareIn_tail (ds : List String) (S : List (List String)) (h : S ≠ []) : (declareIn ds S).tail = S.tail := by
  cases S with
  | nil => exact absurd rfl h
  | cons f fs => simp [declareIn]

theorem enter1_ne (a : ArgShape) (S : List (List String)) (h : S ≠ []) : enter1 a S ≠ [] := by
  cases a <;> simp [enter1, h, declareIn_ne]

theorem enter1_mono (a : ArgShape) (S : List (List String)) (v : String) (h : visibleIn S v = true) :
    visibleIn (enter1 a S) v = true := by
  cases a with
  | plain => exact h
  | first c g w => exact visibleIn_cons_mono _ _ _ (visibleIn_cons_mono _ _ _ (visibleIn_declareIn_mono _ _ _ h))
  | agg c acc w => exact visibleIn_declareIn_mono _ _ _ h

theorem enter1_vars (a : ArgShape) (S : List (List String)) (v : String) (h : v ∈ a.vars) :
    visibleIn (enter1 a S) v = true := by
  cases a with
  | plain => simp [ArgShape.vars] at h
  | first c g w =>
    simp only [ArgShape.vars, List.mem_singleton] at h
    subst h
    simp [enter1, visibleIn]
  | agg c acc w =>
    simp only [ArgShape.vars, List.mem_singleton] at h
    subst h
    exact visibleIn_declareIn_self _ _ _ (by simp)

theorem enter_mono : ∀ (as : List ArgShape) (S : List (List String)) (v : String), visibleIn S v = true →
    visibleIn (enter as S) v = true := by
  intro as
  induction as with
  | nil => intro S v h; exact h
  | cons a as ih => intro S v h; exact ih _ _ (enter1_mono a S v h)

theorem enter_vars : ∀ (as : List ArgShape) (S : List (List String)) (v : String), v ∈ as.flatMap ArgShape.vars →
    visibleIn (enter as S) v = true := by
  intro as
  induction as with
  | nil => intro S v h; simp at h
  | cons a as ih =>
    intro S v h
    simp only [List.flatMap_cons, List.mem_append] at h
    rcases h with h | h
    · exact enter_mono as _ v (enter1_vars a S v h)
    · exact ih _ _ h

theorem enter_ne : ∀ (as : List ArgShape) (S : List (List String)), S ≠ [] → enter as S ≠ [] := by
  intro as
  induction as with
  | nil => intro S h; exact h
  | cons a as ih => intro S h; exact ih _ (enter1_ne a S h)

theorem base_ne : ∀ (as : List ArgShape) (S : List (List String)), S ≠ [] → base as S ≠ [] := by
  intro as
  induction as with
  | nil => intro S h; exact h
  | cons a as ih =>
    intro S h
    cases a with
    | plain => exact ih S h
    | first c g v => exact declareIn_ne _ _
    | agg c acc v => exact ih _ (declareIn_ne _ _)

theorem base_tail : ∀ (as : List ArgShape) (S : List (List String)), S ≠ [] → (base as S).tail = S.tail := by
  intro as
  induction as with
  | nil => intro S _; rfl
  | cons a as ih =>
    intro S h
    cases a with
    | plain => exact ih S h
    | first c g v => exact declareIn_tail _ _ h
    | agg c acc v => rw [base, ih _ (declareIn_ne _ _), declareIn_tail _ _ h]

theorem before_walk (a : ArgShape) (S : List (List String)) (rest : List CodeLine) :
    aliveGo allLines S [] (a.before ++ rest) = aliveGo allLines (enter1 a S) [] rest := by
  cases a with
  | plain => simp [ArgShape.before, enter1]
  | first c g v =>
    have hc : visibleIn (declareIn [c, g] S) c = true := visibleIn_declareIn_self _ _ _ (by simp)
    have hg : visibleIn ([v] :: declareIn [c, g] S) g = true :=
      visibleIn_cons_mono _ _ _ (visibleIn_declareIn_self _ _ _ (by simp))
    have hg2 : visibleIn ([] :: [v] :: declareIn [c, g] S) g = true := visibleIn_cons_mono _ _ _ hg
    simp [ArgShape.before, enter1, aliveGo, allLines, declareIn_nil, hc, hg, hg2]
  | agg c acc v =>
    have hc : visibleIn (declareIn [c, acc] S) c = true := visibleIn_declareIn_self _ _ _ (by simp)
    have ha : visibleIn ([v] :: declareIn [c, acc] S) acc = true :=
      visibleIn_cons_mono _ _ _ (visibleIn_declareIn_self _ _ _ (by simp))
    have hv : visibleIn ([v] :: declareIn [c, acc] S) v = true := by simp [visibleIn]
    simp [ArgShape.before, enter1, aliveGo, allLines, declareIn_nil, hc, ha, hv]

theorem befores_walk : ∀ (as : List ArgShape) (S : List (List String)) (rest : List CodeLine),
    aliveGo allLines S [] (as.flatMap ArgShape.before ++ rest) = aliveGo allLines (enter as S) [] rest := by
  intro as
  induction as with
  | nil => intro S rest; simp [enter]
  | cons a as ih =>
    intro S rest
    simp only [List.flatMap_cons, List.append_assoc]
    rw [before_walk, ih, enter]

theorem afters_walk : ∀ (as : List ArgShape) (S : List (List String)) (rest : List CodeLine), S ≠ [] →
    aliveGo allLines (enter as S) [] (afterAll as ++ rest) = aliveGo allLines (base as S) [] rest := by
  intro as
  induction as with
  | nil => intro S rest _; simp [enter, afterAll, base]
  | cons a as ih =>
    intro S rest hS
    simp only [afterAll, List.append_assoc, enter]
    rw [ih (enter1 a S) (a.after ++ rest) (enter1_ne a S hS)]
    cases a with
    | plain => simp [ArgShape.after, enter1, base]
    | agg c acc v => simp [ArgShape.after, enter1, base]
    | first c g v =>
      have hne : ([] : List String) :: [v] :: declareIn [c, g] S ≠ [] := by simp
      have ht := base_tail as _ hne
      have hg : visibleIn (declareIn [c, g] S) g = true := visibleIn_declareIn_self _ _ _ (by simp)
      have hD : declareIn [] (declareIn [c, g] S) = declareIn [c, g] S := declareIn_nil _ (declareIn_ne _ _)
      have hD2 : declareIn [] ([] :: declareIn [c, g] S) = [] :: declareIn [c, g] S := declareIn_nil _ (by simp)
      simp only [enter1, ArgShape.after, List.cons_append, List.nil_append, base]
      simp [aliveGo, allLines, ht, hg, hD, hD2]

theorem culprit_none {sel : CodeLine → Bool} {l : CodeLine} {stack : List (List String)}
    (h : (!sel l || l.uses.all (visibleIn stack)) = true) :
    (if sel l = true then l.uses.find? (fun v => !visibleIn stack v) else none) = none := by
  cases hs : sel l
  · simp
  · simpa [hs] using h

theorem aliveCulprit_none (sel : CodeLine → Bool) : ∀ (ls : List CodeLine) (stack : List (List String)) (pend : List String),
    aliveGo sel stack pend ls = true → aliveCulprit sel stack pend ls = none := by
  intro ls
  induction ls with
  | nil => intro _ _ _; simp [aliveCulprit]
  | cons l ls ih =>
    intro stack pend h
    unfold aliveGo at h
    unfold aliveCulprit
    cases hk : l.kind <;> simp only [hk, Bool.and_eq_true] at h ⊢
    · exact ih _ _ h
    · exact ih _ _ h
    · rw [culprit_none h.1]; exact ih _ _ h.2
    · rw [culprit_none h.1]; exact ih _ _ h.2

/-! The call stands where its operands are alive: the model of where `visit_function_ast` puts the call (`columnCode`: the lines the arguments emit,
then the line with the call, then the closing lines) against the scope clause of the Spec
(`aliveGo` / `AliveSpec`).  The same `AliveSpec` is evaluated by the harness on the per-event method
the real translator rendered, also for a second translation of the same query object. -/

/-- For every list of arguments — constants, values out of a `First()` (which stays inside its loop
and guard), accumulators of `Count()`/`Sum()` — in any order and number: in the code the model emits
for a column whose value is the call, *every* line (whatever `sel` selects) mentions only variables
declared in an enclosing block, provided the line with the call mentions only data members and the
variables the arguments' values are made of.  In particular the call is evaluated inside the loop of
every `First()` it reads from. -/
theorem call_alive (sel : CodeLine → Bool) (members : List String) (args : List ArgShape) (call : CodeLine)
    (hk : call.kind = .stmt) (hd : call.decls = [])
    (hu : ∀ u ∈ call.uses, u ∈ members ∨ u ∈ args.flatMap ArgShape.vars) :
    aliveGo sel [members] [] (columnCode args call) = true := by
  apply aliveGo_mono
  unfold columnCode
  rw [befores_walk]
  have hne : enter args [members] ≠ [] := enter_ne args _ (by simp)
  have hvis : call.uses.all (visibleIn (enter args [members])) = true := by
    rw [List.all_eq_true]
    intro u huu
    rcases hu u huu with hm | hv
    · exact enter_mono args _ u (by simp [visibleIn, hm])
    · exact enter_vars args _ u hv
  unfold aliveGo
  simp only [hk, hd, hvis, allLines, Bool.not_true, Bool.false_or, Bool.true_and]
  rw [declareIn_nil _ hne]
  have := afters_walk args [members] [] (by simp)
  rw [List.append_nil] at this
  rw [this]
  simp [aliveGo]

/-- … hence the Spec holds of the model's code: if the line with the call is recognised as holding
an expression that means `e`, `AliveSpec` accepts `columnCode`. -/
theorem alive_spec_model (c : Cfg) (readme : List String) (leaves : List (String × String)) (e : PExpr)
    (members : List String) (args : List ArgShape) (call : CodeLine)
    (hk : call.kind = .stmt) (hd : call.decls = [])
    (hu : ∀ u ∈ call.uses, u ∈ members ∨ u ∈ args.flatMap ArgShape.vars)
    (hh : holdsCall c leaves e call = true) :
    (AliveSpec c readme leaves e members (columnCode args call)).1 = true := by
  unfold AliveSpec
  by_cases hdoc : Documented readme e = true
  · have hany : (columnCode args call).any (holdsCall c leaves e) = true := by
      unfold columnCode
      simp [List.any_append, hh]
    have hnone := aliveCulprit_none (holdsCall c leaves e) _ _ _ (call_alive (holdsCall c leaves e) members args call hk hd hu)
    simp [hdoc, hany, hnone]
  · simp [hdoc]

/-- The clause discriminates (1): the call emitted *after* the blocks of a `First()` were closed —
what a scope captured before the arguments were evaluated gives — is rejected. -/
theorem alive_discriminates_late :
    aliveGo (fun l => l.text == "_col=std::abs(i_obj->pt());") [["_col"]] []
      ((ArgShape.first "jets0" "is_first2" "i_obj1").before ++ (ArgShape.first "jets0" "is_first2" "i_obj1").after
        ++ [⟨.stmt, "_col=std::abs(i_obj->pt());", [], ["_col", "i_obj1"]⟩]) = false := by decide +kernel

/-- The clause discriminates (2): a call that mentions the loop variable of *another* piece of
generated code (the text of an earlier translation handed out again) is rejected, although it stands
inside a loop. -/
theorem alive_discriminates_stale :
    aliveGo (fun l => l.text == "_col=std::sqrt(i_obj->pt());") [["_col"]] []
      [⟨.stmt, "", ["jets4"], []⟩, ⟨.forL, "", ["i_obj5"], ["jets4"]⟩, ⟨.openB, "", [], []⟩,
       ⟨.stmt, "_col=std::sqrt(i_obj->pt());", [], ["_col", "i_obj1"]⟩, ⟨.closeB, "", [], []⟩] = false := by decide +kernel

-- non-vacuity: the hypotheses of `call_alive` are met by the shape `fmax(X.First().pt(), X.Count())`
example : aliveGo allLines [["_col"]] []
    (columnCode [.first "jets0" "is_first2" "i_obj1", .agg "jets3" "aggResult5" "i_obj4"]
      ⟨.stmt, "_col=std::fmax(i_obj->pt(),aggResult);", [], ["_col", "i_obj1", "aggResult5"]⟩) = true := by decide +kernel

end FaxVerif.C12
