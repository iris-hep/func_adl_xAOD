/-
C12 — helper lemmas for the positions (PosModel.lean): what a successful `resolveX` / `emitX` of each form was made
of, what `incsOf` holds, and that each builder (`buildCall`, `buildBin`, `buildNode`, `buildUCall`) on operands whose
recorded type is their C++ type gives, within the scope its lemma names (`callOkRow`, `arithBin` on `int` / `double`,
`kindOk`), a term that means what the python node means, again with its C++ type; and
when `buildNode` / `buildUCall` give a term at all: `kindAccepts` / `ucallAccepts`, what the builder tests of the
declared types of its operands (`buildNode_ok`, `buildUCall_ok`).
-/
import FaxVerif.C12.Proofs
import FaxVerif.C12.PosSpec
namespace FaxVerif.C12

theorem trX_ok {c : XCfg} {e : QExpr} {v : XVal} :
    trX c e = .ok v ↔ ∃ r, resolveX c.base e = .ok r ∧ emitX c r = .ok v := by
  unfold trX
  cases resolveX c.base e <;> simp

theorem resolveX_call_inv {c : Cfg} {f : String} {args : List QExpr} {r : RX} (h : resolveX c (.call f args) = .ok r) :
    ∃ as, resolveListX c args = .ok as ∧
      ((∃ row, findKnown c.table c.env f = .ok (some row) ∧ r = .fcall f row as) ∨
       (findKnown c.table c.env f = .ok none ∧ r = .ucall f as)) := by
  unfold resolveX at h
  split at h
  · cases h
  · rename_i as has
    split at h <;> cases h
    · exact ⟨as, has, Or.inl ⟨_, ‹_›, rfl⟩⟩
    · exact ⟨as, has, Or.inr ⟨‹_›, rfl⟩⟩

theorem resolveX_node_inv {c : Cfg} {k : Kind} {kids : List QExpr} {r : RX} (h : resolveX c (.node k kids) = .ok r) :
    ∃ ks, resolveListX c kids = .ok ks ∧ r = .node k ks := by
  unfold resolveX at h
  split at h <;> cases h
  exact ⟨_, ‹_›, rfl⟩

theorem resolveListX_cons_inv {c : Cfg} {a : QExpr} {as : List QExpr} {rs : List RX} (h : resolveListX c (a :: as) = .ok rs) :
    ∃ a' as', resolveX c a = .ok a' ∧ resolveListX c as = .ok as' ∧ rs = a' :: as' := by
  unfold resolveListX at h
  split at h
  · cases h
  · split at h <;> cases h
    exact ⟨_, _, ‹_›, ‹_›, rfl⟩

theorem mem_incsOf_aux (vs : List XVal) : ∀ (acc : List String) (i : String),
    i ∈ vs.foldl (fun acc v => mergeIncs acc v.incs) acc ↔ i ∈ acc ∨ ∃ v ∈ vs, i ∈ v.incs := by
  induction vs with
  | nil => intro acc i; simp
  | cons v vs ih =>
    intro acc i
    simp only [List.foldl_cons, ih, mem_mergeIncs, List.mem_cons, exists_eq_or_imp, or_assoc]

theorem mem_incsOf {vs : List XVal} {i : String} : i ∈ incsOf vs ↔ ∃ v ∈ vs, i ∈ v.incs := by
  unfold incsOf
  rw [mem_incsOf_aux]
  simp

theorem emitListX_nil_inv {c : XCfg} {vs : List XVal} (h : emitListX c [] = .ok vs) : vs = [] := by
  simp only [emitListX, Except.ok.injEq] at h; exact h.symm

theorem emitListX_cons_inv {c : XCfg} {a : RX} {as : List RX} {vs : List XVal} (h : emitListX c (a :: as) = .ok vs) :
    ∃ v vs', emitX c a = .ok v ∧ emitListX c as = .ok vs' ∧ vs = v :: vs' := by
  unfold emitListX at h
  split at h
  · cases h
  · split at h <;> cases h
    exact ⟨_, _, ‹_›, ‹_›, rfl⟩

theorem emitX_fcall_inv {c : XCfg} {f : String} {r : Row} {args : List RX} {v : XVal} (h : emitX c (.fcall f r args) = .ok v) :
    ∃ vs v0, emitListX c args = .ok vs ∧ buildCall r vs = .ok v0 ∧ v = { v0 with incs := mergeIncs (incsOf vs) r.includes } := by
  unfold emitX at h
  split at h
  · cases h
  · split at h <;> cases h
    exact ⟨_, _, ‹_›, ‹_›, rfl⟩

theorem emitX_ucall_inv {c : XCfg} {f : String} {args : List RX} {v : XVal} (h : emitX c (.ucall f args) = .ok v) :
    ∃ vs v0, emitListX c args = .ok vs ∧ buildUCall c f vs = .ok v0 ∧ v = { v0 with incs := mergeIncs (preIncs c f) (incsOf vs) } := by
  unfold emitX at h
  split at h
  · cases h
  · split at h <;> cases h
    exact ⟨_, _, ‹_›, ‹_›, rfl⟩

theorem emitX_node_inv {c : XCfg} {k : Kind} {kids : List RX} {v : XVal} (h : emitX c (.node k kids) = .ok v) :
    ∃ vs v0, emitListX c kids = .ok vs ∧ buildNode c k vs = .ok v0 ∧ v = { v0 with incs := mergeIncs (incsOf vs) (postIncs c k) } := by
  unfold emitX at h
  split at h
  · cases h
  · split at h
    · cases h
    · split at h <;> cases h
      exact ⟨_, _, ‹_›, ‹_›, rfl⟩

theorem ctypesX_termsOf (vs : List XVal) (h : ∀ v ∈ vs, v.typeOK) : ctypesX (termsOf vs) = vs.map fun v => CT.ofName v.ty := by
  induction vs with
  | nil => simp [termsOf, ctypesX]
  | cons v vs ih =>
    have hv : v.typeOK := h v (by simp)
    have := ih (fun w hw => h w (by simp [hw]))
    simp only [termsOf, List.map_cons, ctypesX] at this ⊢
    rw [this, ← hv]

theorem call_sem {f : String} {r : Row} {vs : List XVal} {v0 : XVal} (hb : buildCall r vs = .ok v0)
    (hok : callOkRow f r (vs.map fun v => CT.ofName v.ty) = true) (hty : ∀ v ∈ vs, v.typeOK) :
    csymX v0.term = (match meaningPy f with
      | some m => Sym.app m (csymsX (termsOf vs))
      | none => Sym.unk (tagName ("call:" ++ f)) (csymsX (termsOf vs))) ∧ v0.typeOK := by
  unfold buildCall at hb
  split at hb <;> cases hb
  simp only [callOkRow, Bool.and_eq_true, beq_iff_eq] at hok
  obtain ⟨⟨hsome, hmean⟩, hret⟩ := hok
  obtain ⟨m, hm⟩ := Option.isSome_iff_exists.1 hsome
  rw [hm] at hmean
  refine ⟨by simp [csymX, symNode, hmean, hm], ?_⟩
  simp only [XVal.typeOK, ctypeX, ctypeNode, ctypesX_termsOf vs hty]
  exact hret

/-- `buildBin` where it succeeds on a table operator, with the one choice, to cast or not, at the operand it concerns -/
theorem buildBin_eq {c : Cfg} {op sym best : String} {l r : XVal} (hs : assoc c.binOps op = some sym)
    (hb : bestType c.prio l.ty r.ty = .ok best) : buildBin c op l r =
    .ok ⟨.node (.bin sym) (if op = "Div" then "double" else best)
          [if op = "Div" ∧ best = "int" then .node (.cast "double") "double" [l.term] else l.term, r.term],
         if op = "Div" then "double" else best, [], l.stmts ++ r.stmts⟩ := by
  simp only [buildBin, hs, hb]
  by_cases hd : op = "Div"
  · by_cases hi : best = "int" <;> simp [hd, hi]
  · simp [hd]

theorem bin_sem {c : Cfg} (hc : CfgOK c = true) {op : String} {l r v0 : XVal} (hb : buildBin c op l r = .ok v0)
    (hop : op ∈ arithBin) (hl : l.ty = "int" ∨ l.ty = "double") (hr : r.ty = "int" ∨ r.ty = "double")
    (hlt : l.typeOK) (hrt : r.typeOK) :
    csymX v0.term = psymNode (.bin op) [csymX l.term, csymX r.term] ∧ v0.typeOK := by
  rcases (show op ∈ ["Add", "Sub", "Mult", "Div"] ∨ op = "Pow" by simpa [arithBin, or_assoc] using hop) with hop | rfl
  · have hnp : op ≠ "Pow" := by rintro rfl; simp at hop
    obtain ⟨sym, best, hs, hbest, hsem, hty, _⟩ := arith_sem hc hop hl hr
    rw [buildBin_eq hs hbest] at hb
    cases hb
    have e1 : ctypeX l.term = CT.ofName l.ty := hlt.symm
    have e2 : ctypeX r.term = CT.ofName r.ty := hrt.symm
    constructor
    · simp only [csymX, csymsX, symNode, ctypesX, psymNode, hnp, if_false, apply_ite ctypeX, apply_ite csymX, ite_self,
        ctypeX, ctypeNode, e1, e2, hsem]
    · simp only [XVal.typeOK, ctypeX, ctypesX, ctypeNode, apply_ite ctypeX, e1, e2, hty]
  · simp only [buildBin, (cfgOK_ops hc).2.2.2.2.1, if_true, Except.ok.injEq] at hb
    subst hb
    exact ⟨by simp [csymX, csymsX, symNode, psymNode], by simp [XVal.typeOK, ctypeX, ctypeNode, CT.ofName]⟩


theorem node_sem {c : XCfg} (hc : CfgOK c.base = true) {k : Kind} {vs : List XVal} {v0 : XVal}
    (hb : buildNode c k vs = .ok v0) (hk : kindOk c k (vs.map (·.ty)) = true) (hty : ∀ v ∈ vs, v.typeOK) :
    csymX v0.term = psymNode k (csymsX (termsOf vs)) ∧ v0.typeOK := by
  unfold buildNode at hb
  split at hb
  · -- bin
    simp only [kindOk, Bool.and_eq_true, decide_eq_true_eq, List.map_cons, List.map_nil, List.all_cons, List.all_nil,
      Bool.and_true, Bool.or_eq_true, beq_iff_eq] at hk
    have := bin_sem hc hb hk.1 hk.2.1 hk.2.2 (hty _ (by simp)) (hty _ (by simp))
    simpa [termsOf, csymsX] using this
  · -- un
    rename_i op e
    simp only [kindOk, arithUn, List.mem_cons, List.mem_nil_iff, or_false, decide_eq_true_eq] at hk
    obtain ⟨_, _, _, _, _, hNeg, hPos⟩ := cfgOK_ops hc
    have he : e.typeOK := hty e (by simp)
    rcases hk with rfl | rfl
    · simp only [hNeg, Except.ok.injEq] at hb
      subst hb
      exact ⟨by simp [csymX, csymsX, symNode, psymNode, termsOf, cUn, pUn],
        by simpa [XVal.typeOK, ctypeX, ctypesX, ctypeNode, unTy] using he⟩
    · simp only [hPos, Except.ok.injEq] at hb
      subst hb
      exact ⟨by simp [csymX, csymsX, symNode, psymNode, termsOf, cUn, pUn],
        by simpa [XVal.typeOK, ctypeX, ctypesX, ctypeNode, unTy] using he⟩
  · -- cmp
    split at hb
    · cases hb
    · rename_i sym hs
      simp only [kindOk, hs, beq_iff_eq] at hk
      cases hb
      exact ⟨by simp [csymX, csymsX, symNode, psymNode, termsOf, hk], by simp [XVal.typeOK, ctypeX, ctypeNode, CT.ofName]⟩
  · -- boolop
    cases hb
    exact ⟨by simp [csymX, symNode, psymNode], by simp [XVal.typeOK, ctypeX, ctypeNode]⟩
  · -- ite
    split at hb <;> cases hb
    exact ⟨by simp [csymX, csymsX, symNode, psymNode, termsOf], by simp [XVal.typeOK, ctypeX, ctypeNode]⟩
  · -- tuple
    cases hb
    exact ⟨by simp [csymX, symNode, psymNode], by simp [XVal.typeOK, ctypeX, ctypeNode, CT.ofName]⟩
  · -- list
    cases hb
    exact ⟨by simp [csymX, symNode, psymNode], by simp [XVal.typeOK, ctypeX, ctypeNode, CT.ofName]⟩
  · -- dict
    cases hb
    exact ⟨by simp [csymX, symNode, psymNode], by simp [XVal.typeOK, ctypeX, ctypeNode, CT.ofName]⟩
  · -- index
    split at hb <;> cases hb
    exact ⟨by simp [csymX, csymsX, symNode, psymNode, termsOf], by simp [XVal.typeOK, ctypeX, ctypeNode]⟩
  · -- meth
    split at hb <;> cases hb
    exact ⟨by simp [csymX, symNode, psymNode], by simp [XVal.typeOK, ctypeX, ctypeNode]⟩
  · -- lam: the body
    cases hb
    exact ⟨by simp [psymNode, termsOf, csymsX], hty _ (by simp)⟩
  · cases hb

theorem ucall_sem {c : XCfg} {f : String} {vs : List XVal} {v0 : XVal} (hb : buildUCall c f vs = .ok v0) :
    csymX v0.term = Sym.unk (tagName ("call:" ++ f)) (csymsX (termsOf vs)) ∧ v0.typeOK := by
  unfold buildUCall at hb
  split at hb
  · -- a user function
    split at hb <;> cases hb
    exact ⟨by simp [csymX, symNode], by simp [XVal.typeOK, ctypeX, ctypeNode]⟩
  · -- a sequence operator: `Where`, `Aggregate`, any other
    split at hb
    · split at hb
      · cases hb
        exact ⟨by simp [csymX, symNode], by simp [XVal.typeOK, ctypeX, ctypeNode, CT.ofName]⟩
      · split at hb <;> cases hb
        exact ⟨by simp [csymX, symNode], by simp [XVal.typeOK, ctypeX, ctypeNode]⟩
      · cases hb
        exact ⟨by simp [csymX, symNode], by simp [XVal.typeOK, ctypeX, ctypeNode, CT.ofName]⟩
    · cases hb

/-- what one node needs of the declared types of its operands to be translated -/
def kindAccepts (c : XCfg) (k : Kind) (tys : List String) : Bool :=
  match k, tys with
  | .bin op, [l, r] =>
    (match assoc c.base.binOps op with
      | some _ => (assoc c.base.prio l).isSome && (assoc c.base.prio r).isSome
      | none => op == "Pow")
  | .un op, [_] => (assoc c.base.unOps op).isSome
  | .cmp op, [_, _] => (assoc c.cmpOps op).isSome
  | .boolop _, _ :: _ => true
  | .ite, [_, a, b] => a != "string" && b != "string"
  | .tuple, _ => true
  | .list, _ => true
  | .dict _, _ => true
  | .index, [v, _] => (elemOf v).isSome
  | .meth _ _ _, recv :: _ => !(recv ∈ structTys)
  | .lam _, [_] => true
  | _, _ => false

/-- a Name-call the pre-pass left alone is translated: a user function with the right number of
arguments, or a sequence operator (an `Aggregate` of three arguments needs seed and update types
`most_accurate_type` can join) -/
def ucallAccepts (c : XCfg) (f : String) (tys : List String) : Bool :=
  match lookupFn c.userFns f with
  | some fn => fn.nargs == tys.length
  | none =>
    f ∈ c.seqOps &&
    (match f, tys with
      | "Where", [_, _] => true
      | "Aggregate", [_, seed, body] => body == seed || ((assoc c.base.prio seed).isSome && (assoc c.base.prio body).isSome)
      | _, _ => true)

/-- Per kind, the arity pattern of `kindAccepts` leaves one shape of `vs` (every other makes `h` false), and each lookup
it tested (`assoc`, `bestType` through `bestType_ok`, `elemOf`) is the one `buildNode` branches on. -/
theorem buildNode_ok {c : XCfg} {k : Kind} {vs : List XVal} (h : kindAccepts c k (vs.map (·.ty)) = true) :
    ∃ v, buildNode c k vs = .ok v := by
  cases k with
  | bin op =>
    rcases vs with _ | ⟨l, _ | ⟨r, _ | ⟨x, rest⟩⟩⟩ <;> try (simp [kindAccepts] at h)
    simp only [buildNode, buildBin]
    cases hs : assoc c.base.binOps op with
    | none =>
      simp only [hs, beq_iff_eq] at h
      simp [h]
    | some sym =>
      simp only [hs, Bool.and_eq_true] at h
      obtain ⟨best, hb, _⟩ := bestType_ok h.1 h.2
      simp only [hb]
      by_cases hd : op = "Div"
      · by_cases hi : best = "int" <;> simp [hd, hi]
      · simp [hd]
  | un op =>
    rcases vs with _ | ⟨e, _ | ⟨x, rest⟩⟩ <;> try (simp [kindAccepts] at h)
    cases hs : assoc c.base.unOps op with
    | none => simp [hs] at h
    | some sym => simp [buildNode, hs]
  | cmp op =>
    rcases vs with _ | ⟨l, _ | ⟨r, _ | ⟨x, rest⟩⟩⟩ <;> try (simp [kindAccepts] at h)
    cases hs : assoc c.cmpOps op with
    | none => simp [hs] at h
    | some sym => simp [buildNode, hs]
  | boolop op =>
    rcases vs with _ | ⟨v, rest⟩
    · simp [kindAccepts] at h
    · simp [buildNode]
  | ite =>
    rcases vs with _ | ⟨t, _ | ⟨a, _ | ⟨b, _ | ⟨x, rest⟩⟩⟩⟩ <;> try (simp [kindAccepts] at h)
    simp [buildNode, h.1, h.2]
  | tuple => simp [buildNode]
  | list => simp [buildNode]
  | dict keys => simp [buildNode]
  | index =>
    rcases vs with _ | ⟨v, _ | ⟨i, _ | ⟨x, rest⟩⟩⟩ <;> try (simp [kindAccepts] at h)
    cases he : elemOf v.ty with
    | none => simp [he] at h
    | some el => simp [buildNode, he]
  | meth name ret coll =>
    rcases vs with _ | ⟨recv, args⟩
    · simp [kindAccepts] at h
    · simp only [kindAccepts, List.map_cons] at h
      simp [buildNode, XVal.isValue, h]
  | lam ps =>
    rcases vs with _ | ⟨b, _ | ⟨x, rest⟩⟩ <;> try (simp [kindAccepts] at h)
    simp [buildNode]

theorem preCheck_none {c : XCfg} {k : Kind} {tys : List String} (h : kindAccepts c k tys = true) : preCheck c k = none := by
  cases k with
  | bin op =>
    rcases tys with _ | ⟨l, _ | ⟨r, _ | ⟨x, rest⟩⟩⟩ <;> try (simp [kindAccepts] at h)
    cases hs : assoc c.base.binOps op with
    | none => simp only [hs, beq_iff_eq] at h; simp [preCheck, h]
    | some sym => simp [preCheck, hs]
  | un op =>
    rcases tys with _ | ⟨e, _ | ⟨x, rest⟩⟩ <;> try (simp [kindAccepts] at h)
    cases hs : assoc c.base.unOps op with
    | none => simp [hs] at h
    | some sym => simp [preCheck, hs]
  | _ => simp [preCheck]

theorem buildUCall_ok {c : XCfg} {f : String} {vs : List XVal} (h : ucallAccepts c f (vs.map (·.ty)) = true) :
    ∃ v, buildUCall c f vs = .ok v := by
  unfold ucallAccepts at h
  unfold buildUCall
  cases hf : lookupFn c.userFns f with
  | some fn =>
    simp only [hf, List.length_map, beq_iff_eq] at h
    simp [h]
  | none =>
    simp only [hf, Bool.and_eq_true, decide_eq_true_eq] at h
    obtain ⟨hseq, hrest⟩ := h
    simp only [hseq, if_true]
    split
    · exact ⟨_, rfl⟩
    · rename_i src seed body
      simp only [List.map_cons, List.map_nil] at hrest
      by_cases heq : body.ty = seed.ty
      · simp [heq]
      · have : (assoc c.base.prio seed.ty).isSome = true ∧ (assoc c.base.prio body.ty).isSome = true := by
          simp only [Bool.or_eq_true, beq_iff_eq, Bool.and_eq_true] at hrest
          rcases hrest with h' | h'
          · exact absurd h' heq
          · exact h'
        obtain ⟨best, hb, _⟩ := bestType_ok this.1 this.2
        simp [heq, hb]
    · exact ⟨_, rfl⟩

end FaxVerif.C12
