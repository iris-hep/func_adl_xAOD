/-
C12 — model of the math-function machinery of func_adl_xAOD:

* the table `functions_to_replace` filled by `add_function_mapping` (common/cpp_functions.py) — a
  list of `Row`s, regenerated from the source on every run (`Generated/C12Table.lean`);
* `find_known_functions.visit_Call`: name resolution (`eval(id)` → `<module>.<id>`, `NameError` →
  bare `id`) and table lookup — `fncName`, `findKnown`, `resolve`;
* `query_ast_visitor.visit_function_ast` / `visit_BinOp` / `visit_special_BinOp` / `visit_UnaryOp`
  (common/ast_to_cpp_translator.py) and `most_accurate_type` (common/utils.py) on the scalar
  expression fragment — `emit`;
* what the functions *mean*: one enumeration `MathFn` of <cmath> function meanings with two maps
  into it, written independently of each other and of the table: `meaningPy` (the documented
  python-side names) and `meaningCpp` (the C++ names), and a symbolic semantics (`psym` for the
  query expression under Python numerics, `csym` for the emitted C++ term under the C++ typing
  rules) in a free term algebra `Sym`.

No Mathlib; everything here is computable and is what the driver runs.
-/
namespace FaxVerif.C12

/-! ### the table -/

/-- one `add_function_mapping(python_name, cpp_name, include_files, return_type)`; `includes` is
already normalised the way the function does it (a single string becomes a one-element list) and
`ret` is the `.type` of `terminal(return_type)`. -/
structure Row where
  py : String
  cpp : String
  includes : List String
  ret : String
deriving Repr, DecidableEq, Inhabited

/-- `functions_to_replace[k]` after the rows were added in order: dict assignment, so the *last*
row with that key wins. -/
def lookup : List Row → String → Option Row
  | [], _ => none
  | r :: rs, k =>
    match lookup rs k with
    | some r' => some r'
    | none => if r.py = k then some r else none

def keys (t : List Row) : List String := t.map (·.py)

/-! ### meanings -/

/-- The functions of `<cmath>` the documentation lists, as *meanings*: `ln` and `log` are the same
meaning (natural logarithm); `abs`, `fabs`, the python built-in `abs`, `std::abs` and `std::fabs`
are the same meaning (absolute value — on floating-point arguments they are the same function). -/
inductive MathFn where
  | sin | cos | tan | acos | asin | atan | atan2
  | sinh | cosh | tanh | asinh | acosh | atanh
  | exp | ldexp | log | log10 | exp2 | expm1 | ilogb | log1p | log2 | scalbn | scalbln
  | pow | sqrt | cbrt | hypot
  | erf | erfc | tgamma | lgamma
  | ceil | floor | fmod | trunc | round | rint | nearbyint | remainder | remquo
  | copysign | nan | nextafter | nexttoward
  | fdim | fmax | fmin
  | fabs | fma
deriving Repr, DecidableEq, Inhabited

/-- What a python-side name (a key of the table: a documented bare name, or `builtins.<name>`)
means.  Written from the documentation (README "Math": the functions of the C++ `cmath` library,
plus `ln`; python's built-in `abs` and `pow`). -/
def meaningPy : String → Option MathFn
  | "sin" => some .sin | "cos" => some .cos | "tan" => some .tan
  | "acos" => some .acos | "asin" => some .asin | "atan" => some .atan | "atan2" => some .atan2
  | "sinh" => some .sinh | "cosh" => some .cosh | "tanh" => some .tanh
  | "asinh" => some .asinh | "acosh" => some .acosh | "atanh" => some .atanh
  | "exp" => some .exp | "ldexp" => some .ldexp | "log" => some .log | "ln" => some .log
  | "log10" => some .log10 | "exp2" => some .exp2 | "expm1" => some .expm1 | "ilogb" => some .ilogb
  | "log1p" => some .log1p | "log2" => some .log2 | "scalbn" => some .scalbn | "scalbln" => some .scalbln
  | "pow" => some .pow | "sqrt" => some .sqrt | "cbrt" => some .cbrt | "hypot" => some .hypot
  | "erf" => some .erf | "erfc" => some .erfc | "tgamma" => some .tgamma | "lgamma" => some .lgamma
  | "ceil" => some .ceil | "floor" => some .floor | "fmod" => some .fmod | "trunc" => some .trunc
  | "round" => some .round | "rint" => some .rint | "nearbyint" => some .nearbyint
  | "remainder" => some .remainder | "remquo" => some .remquo
  | "copysign" => some .copysign | "nan" => some .nan | "nextafter" => some .nextafter
  | "nexttoward" => some .nexttoward
  | "fdim" => some .fdim | "fmax" => some .fmax | "fmin" => some .fmin
  | "fabs" => some .fabs | "abs" => some .fabs | "fma" => some .fma
  | "builtins.abs" => some .fabs | "builtins.pow" => some .pow | "builtins.round" => some .round
  | _ => none

/-- What a C++ name means (ISO C++ `<cmath>`). -/
def meaningCpp : String → Option MathFn
  | "std::sin" => some .sin | "std::cos" => some .cos | "std::tan" => some .tan
  | "std::acos" => some .acos | "std::asin" => some .asin | "std::atan" => some .atan
  | "std::atan2" => some .atan2
  | "std::sinh" => some .sinh | "std::cosh" => some .cosh | "std::tanh" => some .tanh
  | "std::asinh" => some .asinh | "std::acosh" => some .acosh | "std::atanh" => some .atanh
  | "std::exp" => some .exp | "std::ldexp" => some .ldexp | "std::log" => some .log
  | "std::log10" => some .log10 | "std::exp2" => some .exp2 | "std::expm1" => some .expm1
  | "std::ilogb" => some .ilogb | "std::log1p" => some .log1p | "std::log2" => some .log2
  | "std::scalbn" => some .scalbn | "std::scalbln" => some .scalbln
  | "std::pow" => some .pow | "std::sqrt" => some .sqrt | "std::cbrt" => some .cbrt
  | "std::hypot" => some .hypot
  | "std::erf" => some .erf | "std::erfc" => some .erfc | "std::tgamma" => some .tgamma
  | "std::lgamma" => some .lgamma
  | "std::ceil" => some .ceil | "std::floor" => some .floor | "std::fmod" => some .fmod
  | "std::trunc" => some .trunc | "std::round" => some .round | "std::rint" => some .rint
  | "std::nearbyint" => some .nearbyint | "std::remainder" => some .remainder
  | "std::remquo" => some .remquo
  | "std::copysign" => some .copysign | "std::nan" => some .nan | "std::nextafter" => some .nextafter
  | "std::nexttoward" => some .nexttoward
  | "std::fdim" => some .fdim | "std::fmax" => some .fmax | "std::fmin" => some .fmin
  | "std::fabs" => some .fabs | "std::abs" => some .fabs | "std::fma" => some .fma
  | _ => none

/-- The header ISO C++ declares the function in. -/
def MathFn.header : MathFn → String := fun _ => "cmath"

/-- Kinds of parameter of the `<cmath>` signatures (the `double` overload). -/
inductive Param where
  | num      -- double
  | int      -- int
  | long     -- long
  | ldbl     -- long double
  | cstr     -- const char*
  | intPtr   -- int* (an output parameter)
deriving Repr, DecidableEq

/-- Signature of the `double` overload (ISO C++ [c.math]). -/
def MathFn.params : MathFn → List Param
  | .atan2 | .pow | .hypot | .fmod | .remainder | .copysign | .nextafter
  | .fdim | .fmax | .fmin => [.num, .num]
  | .ldexp | .scalbn => [.num, .int]
  | .scalbln => [.num, .long]
  | .nexttoward => [.num, .ldbl]
  | .remquo => [.num, .num, .intPtr]
  | .nan => [.cstr]
  | .fma => [.num, .num, .num]
  | _ => [.num]

/-- A query can only pass values (numbers, string constants); an `int*` cannot be written. -/
def MathFn.callableByValue (m : MathFn) : Bool := m.params.all (· != .intPtr)

/-! ### C++ arithmetic types -/

inductive CT where
  | int | flt | dbl | other
deriving Repr, DecidableEq, Inhabited

def CT.ofName : String → CT
  | "int" => .int | "float" => .flt | "double" => .dbl | _ => .other

/-- the usual arithmetic conversions on `int`/`float`/`double` -/
def CT.join : CT → CT → CT
  | .other, _ => .other | _, .other => .other
  | .dbl, _ => .dbl | _, .dbl => .dbl
  | .flt, _ => .flt | _, .flt => .flt
  | .int, .int => .int

/-- The type C++ gives the call `name(args)` for arguments of type `int`/`double`: `std::ilogb`
returns `int`; `std::abs` of integers is the integer overload; everything else is the `double`
overload (integer arguments are converted to `double`, [cmath.syn]).  `float` arguments (which
would select the single-precision overloads) are outside the scope of the theorems. -/
def cppRet (name : String) (args : List CT) : CT :=
  if name = "std::ilogb" then .int
  else if name = "std::abs" ∧ args ≠ [] ∧ args.all (· == .int) then .int
  else .dbl

/-! ### name resolution: `find_known_functions.visit_Call` -/

/-- What python's `eval(id)` finds in the scope of `visit_Call` and what `.__module__` gives. -/
inductive Binding where
  | unbound                 -- `NameError`
  | inModule (m : String)   -- bound, `fnc.__module__ == m`
  | noModuleAttr            -- bound to an object without `__module__`: `AttributeError` escapes
deriving Repr, DecidableEq, Inhabited

abbrev Env := List (String × Binding)

def Env.get (env : Env) (id : String) : Binding :=
  match env.find? (·.1 == id) with
  | some p => p.2
  | none => .unbound

inductive TrErr where
  | attributeError (f : String)  -- resolver: `module 'x' has no attribute '__module__'`
  | unknownCall (f : String)     -- RuntimeError: Do not know how to call 'f'
  | unknownType (t : String)     -- AssertionError of most_accurate_type
  | unknownOp (op : String)      -- RuntimeError: Do not know how to translate … operator
deriving Repr, DecidableEq

/-- `fnc_name` of `visit_Call`. -/
def fncName (b : Binding) (id : String) : Except TrErr String :=
  match b with
  | .unbound => .ok id
  | .inModule m => .ok (m ++ "." ++ id)
  | .noModuleAttr => .error (.attributeError id)

/-- The table row a call of the bare name `id` is replaced by (`none`: the call is left alone). -/
def findKnown (t : List Row) (env : Env) (id : String) : Except TrErr (Option Row) :=
  match fncName (env.get id) id with
  | .ok k => .ok (lookup t k)
  | .error e => .error e

/-! ### the scalar expression fragment -/

/-- Python side: what stands in the query.  `leaf` is an already translated operand (a method
call on the loop variable, a constant) with the C++ text and the type name the translator has for
it; `bin`/`un` carry the *python ast class name* of the operator (`"Add"`, `"USub"`, …). -/
inductive PExpr where
  | leaf (text ty : String)
  | call (f : String) (args : List PExpr)
  | bin (op : String) (l r : PExpr)
  | un (op : String) (e : PExpr)
deriving Repr, Inhabited

/-- after `find_known_functions`: every call is either replaced by its row or left alone -/
inductive RExpr where
  | leaf (text ty : String)
  | fcall (r : Row) (args : List RExpr)
  | ucall (f : String) (args : List RExpr)
  | bin (op : String) (l r : RExpr)
  | un (op : String) (e : RExpr)
deriving Repr, Inhabited

/-- the emitted C++ expression -/
inductive CExpr where
  | leaf (text ty : String)
  | call (name : String) (args : List CExpr)     -- `name(a,b)`
  | pow (l r : CExpr)                            -- `std::pow(l, r)` of the `**` operator
  | bin (sym : String) (l r : CExpr)             -- `(l+r)`
  | cast (ty : String) (e : CExpr)               -- `static_cast<ty>(e)`
  | un (sym : String) (e : CExpr)                -- `(-(e))`
deriving Repr, Inhabited

structure Cfg where
  table : List Row
  env : Env
  prio : List (String × Nat)        -- `_type_priority`
  binOps : List (String × String)   -- `_known_binary_operators`: ast class name ↦ C++ symbol
  unOps : List (String × String)    -- `_known_unary_operators`

def assoc (l : List (String × α)) (k : String) : Option α :=
  match l.find? (·.1 == k) with
  | some p => some p.2
  | none => none

/- pass 1, `find_known_functions().visit(a)`: bottom-up (arguments left to right, then the call) -/
mutual
def resolve (c : Cfg) : PExpr → Except TrErr RExpr
  | .leaf t ty => .ok (.leaf t ty)
  | .call f args =>
    match resolveList c args with
    | .error e => .error e
    | .ok as =>
      match findKnown c.table c.env f with
      | .error e => .error e
      | .ok (some r) => .ok (.fcall r as)
      | .ok none => .ok (.ucall f as)
  | .bin op l r =>
    match resolve c l with
    | .error e => .error e
    | .ok l' =>
      match resolve c r with
      | .error e => .error e
      | .ok r' => .ok (.bin op l' r')
  | .un op e =>
    match resolve c e with
    | .error e => .error e
    | .ok e' => .ok (.un op e')
def resolveList (c : Cfg) : List PExpr → Except TrErr (List RExpr)
  | [] => .ok []
  | a :: as =>
    match resolve c a with
    | .error e => .error e
    | .ok a' =>
      match resolveList c as with
      | .error e => .error e
      | .ok as' => .ok (a' :: as')
end

/-- the value a visitor leaves as `rep`: the expression, the type name, and the include files
`add_include` was called with so far (in order of first call) -/
structure CVal where
  term : CExpr
  ty : String
  incs : List String
deriving Repr, Inhabited

/-- `add_include` for each element of `b` after all of `a` -/
def mergeIncs (a b : List String) : List String :=
  b.foldl (fun acc i => if i ∈ acc then acc else acc ++ [i]) a

/-- `most_accurate_type([l, r])`: both must be keys of `_type_priority`; stable sort, descending. -/
def bestType (prio : List (String × Nat)) (l r : String) : Except TrErr String :=
  match assoc prio l, assoc prio r with
  | some pl, some pr => .ok (if pl < pr then r else l)
  | none, _ => .error (.unknownType l)
  | _, none => .error (.unknownType r)

/-- `visit_UnaryOp`: `not x` is a bool whatever the operand is (since ea7911a); `+x` and `-x` keep
the operand's declared type. -/
def unTy (op ty : String) : String := if op = "Not" then "bool" else ty

/- pass 2: `visit_function_ast`, `visit_Call` (unknown name), `visit_BinOp`,
`visit_special_BinOp`, `visit_UnaryOp`. -/
mutual
def emit (c : Cfg) : RExpr → Except TrErr CVal
  | .leaf t ty => .ok ⟨.leaf t ty, ty, []⟩
  | .fcall r args =>
    match emitList c args with
    | .error e => .error e
    | .ok (ts, incs) => .ok ⟨.call r.cpp ts, r.ret, mergeIncs incs r.includes⟩
  | .ucall f args =>
    -- generic_visit translates the arguments, then: "Do not know how to call"
    match emitList c args with
    | .error e => .error e
    | .ok _ => .error (.unknownCall f)
  | .bin op l r =>
    match assoc c.binOps op with
    | none =>
      if op = "Pow" then
        match emit c l with
        | .error e => .error e
        | .ok lv =>
          match emit c r with
          | .error e => .error e
          | .ok rv => .ok ⟨.pow lv.term rv.term, "double", mergeIncs (mergeIncs lv.incs rv.incs) ["cmath"]⟩
      else .error (.unknownOp op)
    | some sym =>
      match emit c l with
      | .error e => .error e
      | .ok lv =>
        match emit c r with
        | .error e => .error e
        | .ok rv =>
          match bestType c.prio lv.ty rv.ty with
          | .error e => .error e
          | .ok best =>
            let incs := mergeIncs lv.incs rv.incs
            if op = "Div" then
              if best = "int" then .ok ⟨.bin sym (.cast "double" lv.term) rv.term, "double", incs⟩
              else .ok ⟨.bin sym lv.term rv.term, "double", incs⟩
            else .ok ⟨.bin sym lv.term rv.term, best, incs⟩
  | .un op e =>
    match assoc c.unOps op with
    | none => .error (.unknownOp op)
    | some sym =>
      match emit c e with
      | .error er => .error er
      | .ok v => .ok ⟨.un sym v.term, unTy op v.ty, v.incs⟩
def emitList (c : Cfg) : List RExpr → Except TrErr (List CExpr × List String)
  | [] => .ok ([], [])
  | a :: as =>
    match emit c a with
    | .error e => .error e
    | .ok v =>
      match emitList c as with
      | .error e => .error e
      | .ok (ts, incs) => .ok (v.term :: ts, mergeIncs v.incs incs)
end

/-- the whole pipeline on the fragment -/
def tr (c : Cfg) (e : PExpr) : Except TrErr CVal :=
  match resolve c e with
  | .error er => .error er
  | .ok r => emit c r

/-! ### text of the emitted expression -/

mutual
def render : CExpr → String
  | .leaf t _ => t
  | .call n args => n ++ "(" ++ renderArgs args ++ ")"
  | .pow l r => "std::pow(" ++ render l ++ ", " ++ render r ++ ")"
  | .bin s l r => "(" ++ render l ++ s ++ render r ++ ")"
  | .cast ty e => "static_cast<" ++ ty ++ ">(" ++ render e ++ ")"
  | .un s e => "(" ++ s ++ "(" ++ render e ++ "))"
/-- `",".join(...)` -/
def renderArgs : List CExpr → String
  | [] => ""
  | [a] => render a
  | a :: b :: rest => render a ++ "," ++ renderArgs (b :: rest)
end

/-! ### meaning: a free term algebra -/

/-- arithmetic operations as *meanings*: python's `/` is always real division (`fdiv`), C++'s `/`
on two `int`s is `idiv`; python's `%` (sign of the divisor) and C++'s `%` (`imod`, integers only,
sign of the dividend) are different operations -/
inductive Arith where
  | add | sub | mul | fdiv | idiv | pymod | imod | badmod | neg | pos | lnot | unknown (s : String)
deriving Repr, DecidableEq

inductive Sym where
  | leaf (text : String)
  | app (f : MathFn) (args : List Sym)
  | unk (name : String) (args : List Sym)
  | op (a : Arith) (args : List Sym)
deriving Repr, Inhabited

mutual
def Sym.beq : Sym → Sym → Bool
  | .leaf a, .leaf b => a == b
  | .app f as, .app g bs => f == g && Sym.beqList as bs
  | .unk f as, .unk g bs => f == g && Sym.beqList as bs
  | .op f as, .op g bs => f == g && Sym.beqList as bs
  | _, _ => false
def Sym.beqList : List Sym → List Sym → Bool
  | [], [] => true
  | a :: as, b :: bs => Sym.beq a b && Sym.beqList as bs
  | _, _ => false
end

/- actual C++ type of the emitted expression (what the compiler will give it) -/
mutual
def CExpr.ctype : CExpr → CT
  | .leaf _ ty => CT.ofName ty
  | .call n args => cppRet n (CExpr.ctypes args)
  | .pow _ _ => .dbl
  | .bin _ l r => CT.join l.ctype r.ctype
  | .cast ty _ => CT.ofName ty
  | .un _ e => e.ctype
def CExpr.ctypes : List CExpr → List CT
  | [] => []
  | a :: as => a.ctype :: CExpr.ctypes as
end

/-- the operation a C++ binary operator symbol denotes on operands of these types -/
def cArith (sym : String) (l r : CT) : Arith :=
  if sym = "+" then .add else if sym = "-" then .sub else if sym = "*" then .mul
  else if sym = "/" then (if l = .int ∧ r = .int then .idiv else .fdiv)
  else if sym = "%" then (if l = .int ∧ r = .int then .imod else .badmod)
  else .unknown sym

def cUn (sym : String) : Arith :=
  if sym = "-" then .neg else if sym = "+" then .pos else if sym = "!" then .lnot else .unknown sym

/-- the operation a python operator denotes -/
def pArith (op : String) : Arith :=
  if op = "Add" then .add else if op = "Sub" then .sub else if op = "Mult" then .mul
  else if op = "Div" then .fdiv else if op = "Mod" then .pymod else .unknown op

def pUn (op : String) : Arith :=
  if op = "USub" then .neg else if op = "UAdd" then .pos else if op = "Not" then .lnot else .unknown op

/- meaning of the emitted C++ (value conversions `int → double` are exact and erased) -/
mutual
def csym : CExpr → Sym
  | .leaf t _ => .leaf t
  | .call n args =>
    match meaningCpp n with
    | some m => .app m (csyms args)
    | none => .unk n (csyms args)
  | .pow l r => .app .pow [csym l, csym r]
  | .bin s l r => .op (cArith s l.ctype r.ctype) [csym l, csym r]
  | .cast _ e => csym e
  | .un s e => .op (cUn s) [csym e]
def csyms : List CExpr → List Sym
  | [] => []
  | a :: as => csym a :: csyms as
end

/- meaning of the query expression: each function *by its documented name*, python numerics -/
mutual
def psym : PExpr → Sym
  | .leaf t _ => .leaf t
  | .call f args =>
    match meaningPy f with
    | some m => .app m (psyms args)
    | none => .unk f (psyms args)
  | .bin op l r =>
    if op = "Pow" then .app .pow [psym l, psym r] else .op (pArith op) [psym l, psym r]
  | .un op e => .op (pUn op) [psym e]
def psyms : List PExpr → List Sym
  | [] => []
  | a :: as => psym a :: psyms as
end

/-- An interpretation of the meanings over any carrier (the `Num` of DESIGN §3.1): the denotation of
a symbolic term.  Equal symbolic terms have equal denotations under every interpretation. -/
structure Interp (α : Type) where
  leaf : String → α
  fn : MathFn → List α → α
  unk : String → List α → α
  op : Arith → List α → α

mutual
def Sym.eval (I : Interp α) : Sym → α
  | .leaf t => I.leaf t
  | .app f as => I.fn f (Sym.evalList I as)
  | .unk n as => I.unk n (Sym.evalList I as)
  | .op a as => I.op a (Sym.evalList I as)
def Sym.evalList (I : Interp α) : List Sym → List α
  | [] => []
  | a :: as => Sym.eval I a :: Sym.evalList I as
end

/-! ### the rendered package: which file sees which include

`executor.write_cpp_files` hands the templates `body_include_files` = the include files the
translation added (`qv.include_files()`) followed by the `body_includes` of every `inject_code`
block, and `header_include_files` = their `header_includes`.  The ATLAS templates render `query.cxx`
(which includes the rendered `query.h`, then the body includes) and `query.h` (the header includes);
the CMS AOD and miniAOD templates render one C++ file, `Analyzer.cc`, with the body includes only —
`header_include_files` is not used there. -/

inductive Backend where
  | atlas | cmsAod | cmsMiniaod
deriving Repr, DecidableEq

/-- the include lists of one `inject_code` metadata block -/
structure Inject where
  headerIncs : List String
  bodyIncs : List String
deriving Repr

/-- one rendered C++ file: its name, the files it includes (a rendered file is named by its base
name), whether it calls a `std::` math function -/
structure FileObs where
  name : String
  incs : List String
  callsMath : Bool
deriving Repr

def headerIncsOf (mds : List Inject) : List String := mds.flatMap (·.headerIncs)
def bodyIncsOf (mds : List Inject) : List String := mds.flatMap (·.bodyIncs)

/-- the C++ files of the package as far as includes go; `qv` are the include files the translation
of the query added, `hdrCalls` says whether injected declarations (`private_members`, rendered into
the class declaration: `query.h` on ATLAS) call a math function themselves -/
def packageFiles (b : Backend) (qv : List String) (mds : List Inject) (hdrCalls : Bool) : List FileObs :=
  match b with
  | .atlas => [⟨"query.cxx", ["query.h"] ++ qv ++ bodyIncsOf mds, true⟩, ⟨"query.h", headerIncsOf mds, hdrCalls⟩]
  | _ => [⟨"Analyzer.cc", qv ++ bodyIncsOf mds, true⟩]

/-- The include list of the query (`generated_code.add_include`, one call per request: the first
request of a path fixes its position, a path is dropped only if *that very path* is in the list) when
the math expression is used together with other sources of includes — built-in injected functions
(`DeltaR`: `TVector2.h`, `math.h`), user `add_cpp_function` blocks, collections: `pre` are the
requests made before the expression's own (`qv`), `post` those made after. -/
def withCompanions (pre qv post : List String) : List String :=
  mergeIncs (mergeIncs (mergeIncs [] pre) qv) post

/-- what a list of requests would give if a C header and the C++ header that wraps it counted as
the same path (`alias`: pairs, both directions) — NOT what the code does; kept to show what the
package clause rejects -/
def mergeAliased (alias : List (String × String)) (a b : List String) : List String :=
  b.foldl (fun acc i => if i ∈ acc || (alias.any fun p => p.1 == i && acc.contains p.2) then acc else acc ++ [i]) a

/-- `name` includes `h`, directly or through rendered files it includes -/
def sees (files : List FileObs) : Nat → String → String → Bool
  | 0, _, _ => false
  | fuel + 1, name, h =>
    match files.find? (·.name == name) with
    | none => false
    | some f => f.incs.contains h || f.incs.any fun i => files.any (·.name == i) && sees files fuel i h

/-! ### where a call is put: the block structure of the emitted per-event method

The call of a math function is emitted *after* its arguments were evaluated
(`visit_function_ast`: `arg_reps = [get_rep_value(a) …]` first, then the value is given
`self._gc.current_scope()`).  Evaluating an argument may emit statements and may leave the cursor
inside new blocks (`First()` stays inside `for (…) { if (is_first) {`; `Count()`/`Sum()` open a
loop and close it again, the value is the accumulator declared before the loop).  Only the block
structure matters here: a line is an opening brace, a closing brace, a `for` header (its loop
variable belongs to the block that follows) or any other statement, with the translator-generated
variables it declares and mentions. -/

inductive LineKind where
  | openB | closeB | forL | stmt
deriving Repr, DecidableEq

structure CodeLine where
  kind : LineKind
  /-- the text of the line (white space removed, loop variables renamed as in the operand texts) -/
  text : String
  /-- generated variables the line declares (`forL`: the loop variable, alive in the next block) -/
  decls : List String
  /-- generated variables the line mentions (other than those it declares) -/
  uses : List String
deriving Repr, DecidableEq

/-- what evaluating one argument of the call leaves in the emitted code -/
inductive ArgShape where
  /-- a constant, or a value of something already alive: no statement -/
  | plain
  /-- `X.First().m()` / `X.Select(…).First()`: collection `coll` and flag `flag` are declared, the
  loop over `coll` with variable `v` and the guard `if (flag)` are opened and stay open -/
  | first (coll flag v : String)
  /-- `X.Count()` / `X.Select(…).Sum()`: `coll` and the accumulator `acc` are declared, the loop is
  opened and closed again -/
  | agg (coll acc v : String)
deriving Repr

/-- lines emitted before the call -/
def ArgShape.before : ArgShape → List CodeLine
  | .plain => []
  | .first coll flag v =>
    [⟨.stmt, "", [coll, flag], []⟩, ⟨.forL, "", [v], [coll]⟩, ⟨.openB, "", [], []⟩,
     ⟨.stmt, "", [], [flag]⟩, ⟨.openB, "", [], []⟩, ⟨.stmt, "", [], [flag]⟩]
  | .agg coll acc v =>
    [⟨.stmt, "", [coll, acc], []⟩, ⟨.forL, "", [v], [coll]⟩, ⟨.openB, "", [], []⟩,
     ⟨.stmt, "", [], [acc, v]⟩, ⟨.closeB, "", [], []⟩]

/-- lines emitted when the blocks the argument left open are closed (after the call) -/
def ArgShape.after : ArgShape → List CodeLine
  | .first _ flag _ =>
    [⟨.closeB, "", [], []⟩, ⟨.closeB, "", [], []⟩, ⟨.stmt, "", [], [flag]⟩, ⟨.openB, "", [], []⟩,
     ⟨.stmt, "", [], []⟩, ⟨.closeB, "", [], []⟩]
  | _ => []

/-- the generated variables the text of the argument's value mentions -/
def ArgShape.vars : ArgShape → List String
  | .plain => []
  | .first _ _ v => [v]
  | .agg _ acc _ => [acc]

def afterAll : List ArgShape → List CodeLine
  | [] => []
  | a :: as => afterAll as ++ a.after

/-- the per-event code of a column whose value is the call: the arguments left to right, the line
holding the call, then the blocks closed innermost first -/
def columnCode (args : List ArgShape) (call : CodeLine) : List CodeLine :=
  args.flatMap ArgShape.before ++ call :: afterAll args


end FaxVerif.C12
