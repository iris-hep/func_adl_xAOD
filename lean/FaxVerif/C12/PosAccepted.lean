/-
C12 — positions: acceptance.  `acceptedR` (evaluated on the resolved expression) asks of every node what its builder
tests of the declared types of its operands (`kindAccepts`, `ucallAccepts` of PosProofs.lean, where `buildNode_ok` /
`buildUCall_ok` show that this is enough for each builder); `accepted_emit` carries it through the tree,
`positions_accepted` puts it together with the meaning and include theorems of PosTheorems.lean.  Of a math call only
that its arguments are values is asked: it is never the reason of a refusal.
-/
import FaxVerif.C12.PosTheorems
namespace FaxVerif.C12

mutual
def acceptedR (c : XCfg) : RX → Bool
  | .leaf _ _ => true
  | .var x => (lookupVar c.vars x).isSome
  | .fcall _ _ args => acceptedRList c args && (args.map (tyOfR c)).all (fun t => !(t ∈ structTys))
  | .ucall f args => acceptedRList c args && ucallAccepts c f (args.map (tyOfR c))
  | .node k kids => acceptedRList c kids && kindAccepts c k (kids.map (tyOfR c))
def acceptedRList (c : XCfg) : List RX → Bool
  | [] => true
  | a :: as => acceptedR c a && acceptedRList c as
end

mutual
/-- **Accepted at every position.**  Every resolved expression that is well formed for the call
visitor (`acceptedR`: variables are bound, operators are known and their operand types known to
`most_accurate_type`, a subscript is taken of a collection, a method is called on a value, arms of a
conditional are not strings, a left-alone Name-call is a user function with the right number of
arguments or a sequence operator) is translated.  For a math call the *only* condition is that its
arguments are values (not tuples / dicts / sequences): a documented function is never the reason of a
refusal, whatever stands around it and whatever its arguments are made of. -/
theorem accepted_emit (c : XCfg) : ∀ r : RX, acceptedR c r = true → ∃ v, emitX c r = .ok v
  | .leaf t ty, _ => ⟨⟨.leaf t ty, ty, [], []⟩, by simp [emitX]⟩
  | .var x, h => by
    simp only [acceptedR] at h
    cases hx : lookupVar c.vars x with
    | none => simp [hx] at h
    | some p => obtain ⟨t, ty⟩ := p; exact ⟨⟨.leaf t ty, ty, [], []⟩, by simp [emitX, hx]⟩
  | .fcall f row args, h => by
    simp only [acceptedR, Bool.and_eq_true] at h
    obtain ⟨vs, hvs⟩ := accepted_emitList c args h.1
    have hv : vs.all XVal.isValue = true := by
      have := h.2
      rw [map_tyOfR args vs hvs] at this
      simpa [XVal.isValue, List.all_map] using this
    exact ⟨_, (call_emitted_everywhere c f row args vs hvs hv).1⟩
  | .ucall f args, h => by
    simp only [acceptedR, Bool.and_eq_true] at h
    obtain ⟨vs, hvs⟩ := accepted_emitList c args h.1
    have h2 := h.2
    rw [map_tyOfR args vs hvs] at h2
    obtain ⟨v0, hb⟩ := buildUCall_ok h2
    exact ⟨{ v0 with incs := mergeIncs (preIncs c f) (incsOf vs) }, by simp [emitX, hvs, hb]⟩
  | .node k kids, h => by
    simp only [acceptedR, Bool.and_eq_true] at h
    obtain ⟨vs, hvs⟩ := accepted_emitList c kids h.1
    have h2 := h.2
    rw [map_tyOfR kids vs hvs] at h2
    obtain ⟨v0, hb⟩ := buildNode_ok h2
    have hp := preCheck_none h2
    exact ⟨{ v0 with incs := mergeIncs (incsOf vs) (postIncs c k) }, by simp [emitX, hp, hvs, hb]⟩
theorem accepted_emitList (c : XCfg) : ∀ rs : List RX, acceptedRList c rs = true → ∃ vs, emitListX c rs = .ok vs
  | [], _ => ⟨[], by simp [emitListX]⟩
  | a :: as, h => by
    simp only [acceptedRList, Bool.and_eq_true] at h
    obtain ⟨v, hv⟩ := accepted_emit c a h.1
    obtain ⟨vs, hvs⟩ := accepted_emitList c as h.2
    exact ⟨v :: vs, by simp [emitListX, hv, hvs]⟩
end

/-- the scope of `positions_accepted`, on the input -/
def AcceptedX (c : XCfg) (e : QExpr) : Bool :=
  match resolveX c.base e with
  | .ok r => acceptedR c r
  | .error _ => false

/-- **C12 at every position, acceptance and meaning together** (generated constants): a position that is well
formed for the call visitor (`AcceptedX`) is translated; where it is also in the scope `ScopedX` of the meaning
theorems, the translation means what the query means and has the type of its term; and `cmath` is requested as soon as a
documented function is called anywhere in it. -/
theorem positions_accepted (fns : List UserFn) (vars : List (String × String × String)) (e : QExpr)
    (ha : AcceptedX (Gen.xcfg fns vars) e = true) :
    ∃ v, trX (Gen.xcfg fns vars) e = .ok v ∧
      (ScopedX (Gen.xcfg fns vars) e = true → csymX v.term = psymX vars e ∧ CT.ofName v.ty = ctypeX v.term) ∧
      ((∃ f ∈ e.called, f ∈ Gen.readmeFunctions) → "cmath" ∈ v.incs) := by
  unfold AcceptedX at ha
  split at ha
  · rename_i r hr
    obtain ⟨v, hv⟩ := accepted_emit _ r ha
    have htr := trX_ok.2 ⟨r, hr, hv⟩
    exact ⟨v, htr, fun hs => (namesake_semantics_positions fns vars e v htr hs).imp_right And.left,
      includes_reachable_positions fns vars e v htr⟩
  · cases ha

-- non-vacuity: the positions of the examples are accepted
example : AcceptedX (Gen.xcfg exFns exVars) (.node .ite [.node (.cmp "Gt") [exF, .leaf "0.5" "double"], .leaf "1.5" "double", .node (.un "USub") [exF]]) = true := by
  decide +kernel
example : AcceptedX (Gen.xcfg exFns exVars) (.call "Aggregate" [.leaf "jets" "coll", .call "ilogb" [.leaf "0.5" "double"],
    .node (.lam ["acc", "j"]) [.node (.bin "Add") [.var "acc", exF]]]) = true := by decide +kernel
example : AcceptedX (Gen.xcfg exFns exVars) (.node .index [.node (.meth "vD" "double" true) [.var "j"], .call "c12_twice" [exF]]) = true := by
  decide +kernel
-- a tuple as the argument of a math function is the refusal that remains
example : AcceptedX (Gen.xcfg exFns exVars) (.call "sin" [.node .tuple [exF]]) = false := by decide +kernel

end FaxVerif.C12
