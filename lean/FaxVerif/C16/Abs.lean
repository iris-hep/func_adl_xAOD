/-
C16 — an abstract interpreter for decision trees.

`absCheck P t ab` explores every branch of `t` that is compatible with what is known (`ab`: the
file-system updates made so far, facts assumed about the initial file system, the log so far) and
checks `P` at every leaf reached; `leafP` is the leaf predicate that stands for `SpecOK`.  Definitions only: what
the kernel evaluates on the generated scripts.  What an abstract state says of a real one (`Rel`) and why the
exploration is sound is in `Proofs.lean`.
-/
import FaxVerif.C16.Spec
namespace FaxVerif.C16

inductive Kind where
  | A | D | F
  deriving DecidableEq, Repr

def Node.kind : Node → Kind
  | .absent => .A
  | .dir => .D
  | .file _ => .F

inductive Fact where
  | dir | file | absent | notDir | notFile | present
  deriving DecidableEq, Repr

def Fact.holdsK : Fact → Kind → Bool
  | .dir, k => k = .D
  | .file, k => k = .F
  | .absent, k => k = .A
  | .notDir, k => k ≠ .D
  | .notFile, k => k ≠ .F
  | .present, k => k ≠ .A

def Fact.neg : Fact → Fact
  | .dir => .notDir
  | .file => .notFile
  | .absent => .present
  | .notDir => .dir
  | .notFile => .file
  | .present => .absent

def Fact.implies (f g : Fact) : Option Bool :=
  let ks := [Kind.A, Kind.D, Kind.F].filter (fun k => f.holdsK k)
  if ks.all (fun k => g.holdsK k) then some true
  else if ks.all (fun k => !g.holdsK k) then some false
  else none

/-- symbolic file contents: may refer to what the initial file system holds -/
inductive SCont where
  | lit (c : Content)
  | ofInit (p : SPath)
  | jobOut (idx : Nat) (input : SCont)
  | converted (c : SCont)
  deriving DecidableEq, Repr

inductive SNode where
  | absent | dir | file (c : SCont)
  deriving DecidableEq, Repr

def SNode.kind : SNode → Kind
  | .absent => .A
  | .dir => .D
  | .file _ => .F

inductive SEvent where
  | set (p : SPath) (n : SNode)
  | removeUnder (p : SPath)
  deriving DecidableEq, Repr

structure Abs where
  events : List SEvent := []             -- newest first
  facts : List (SPath × Fact) := []      -- about the INITIAL file system
  qfacts : List (Query × Bool) := []     -- answers already given to non-file queries
  cmds : List (Cmd × Bool) := []         -- the log, newest first; `true` = succeeded
  deriving Repr

def symLookup : List SEvent → SPath → Option SNode
  | [], _ => none
  | .set q n :: r, p => if p = q then some n else symLookup r p
  | .removeUnder q :: r, p => if p.isUnder q then some .absent else symLookup r p

/-- the file system is a tree: nothing exists below an absent path -/
def WF (fs : FS) : Prop := ∀ p q : SPath, q.isUnder p = true → fs p = .absent → fs q = .absent

def initKnow : List (SPath × Fact) → SPath → Fact → Option Bool
  | [], _, _ => none
  | (q, f) :: r, p, g =>
    if q = p then
      match f.implies g with
      | some b => some b
      | none => initKnow r p g
    else if f = .absent ∧ p.isUnder q = true then some (g.holdsK .A)
    else initKnow r p g

/-- is `g` true of what is at `p` NOW? -/
def Abs.know (ab : Abs) (p : SPath) (g : Fact) : Option Bool :=
  match symLookup ab.events p with
  | some n => some (g.holdsK n.kind)
  | none => initKnow ab.facts p g

def Abs.assume (ab : Abs) (p : SPath) (f : Fact) : Abs := { ab with facts := (p, f) :: ab.facts }
def Abs.push (ab : Abs) (e : SEvent) : Abs := { ab with events := e :: ab.events }

def Abs.content (ab : Abs) (p : SPath) : SCont :=
  match symLookup ab.events p with
  | some (.file c) => c
  | some _ => .lit .missing
  | none => .ofInit p

def queryFact : Query → Option (SPath × Fact)
  | .isDir p => some (p, .dir)
  | .isFile p => some (p, .file)
  | .pathExists p => some (p, .present)
  | _ => none

def lookupQ : List (Query × Bool) → Query → Option Bool
  | [], _ => none
  | (q, b) :: r, q' => if q = q' then some b else lookupQ r q'

def Abs.answer (ab : Abs) (q : Query) : Option Bool :=
  match queryFact q with
  | some (p, f) => ab.know p f
  | none => lookupQ ab.qfacts q

def Abs.assumeQ (ab : Abs) (q : Query) (b : Bool) : Abs :=
  match queryFact q with
  | some (p, f) => ab.assume p (if b then f else f.neg)
  | none => { ab with qfacts := (q, b) :: ab.qfacts }

def Abs.pre3 (ab : Abs) : Pre → Option Bool
  | .static ok => some ok
  | .absent p => ab.know p .absent
  | .isFile p => ab.know p .file

def Abs.assumePre (ab : Abs) : Pre → Abs
  | .static _ => ab
  | .absent p => ab.assume p .absent
  | .isFile p => ab.assume p .file

inductive PreRes where
  | fails
  | holds
  | unknown (ab : Abs)     -- not decided; `ab` = the state if they all hold

def absPres : Abs → List Pre → PreRes
  | _, [] => .holds
  | ab, pr :: r =>
    match ab.pre3 pr with
    | some false => .fails
    | some true => absPres ab r
    | none =>
      match absPres (ab.assumePre pr) r with
      | .fails => .fails
      | .holds => .unknown (ab.assumePre pr)
      | .unknown ab' => .unknown ab'

def absEff (idx : Nat) (ab : Abs) : Effect → List Abs
  | .mkdir p => [ab.push (.set p .dir)]
  | .write p c => [ab.push (.set p (.file (.lit c)))]
  | .copy s d => [ab.push (.set d (.file (ab.content s)))]
  | .copyInto s d n =>
    match ab.know d .dir with
    | some true => [ab.push (.set (d.child n) (.file (ab.content s)))]
    | some false => [ab.push (.set d (.file (ab.content s)))]
    | none => [(ab.assume d .dir).push (.set (d.child n) (.file (ab.content s))),
               (ab.assume d .notDir).push (.set d (.file (ab.content s)))]
  | .convert s d => [ab.push (.set d (.file (.converted (ab.content s))))]
  | .job out inp => [ab.push (.set out (.file (.jobOut idx (ab.content inp))))]
  | .remove p => [ab.push (.removeUnder p)]

def absEffs (idx : Nat) : List Abs → List Effect → List Abs
  | abs, [] => abs
  | abs, e :: r => absEffs idx (abs.flatMap (fun ab => absEff idx ab e)) r

def Abs.logCmd (ab : Abs) (c : Cmd) (ok : Bool) : Abs := { ab with cmds := (c, ok) :: ab.cmds }

/-- `allOk = true`: only oracles under which every tool succeeds whenever its pre-conditions hold. -/
def absCheck {α : Type} (allOk : Bool) (P : Abs → α → Bool) : Tree α → Abs → Bool
  | .ret a, ab => P ab a
  | .cmd c pre effs ok fail, ab =>
    let idx := ab.cmds.length
    match absPres ab pre with
    | .fails => absCheck allOk P (fail ()) (ab.logCmd c false)
    | .holds =>
      (absEffs idx [ab] effs).all (fun ab' => absCheck allOk P (ok ()) (ab'.logCmd c true)) &&
      (allOk || absCheck allOk P (fail ()) (ab.logCmd c false))
    | .unknown ab1 =>
      (absEffs idx [ab1] effs).all (fun ab' => absCheck allOk P (ok ()) (ab'.logCmd c true)) &&
      absCheck allOk P (fail ()) (ab.logCmd c false)
  | .ask q y n, ab =>
    match ab.answer q with
    | some true => absCheck allOk P (y ()) ab
    | some false => absCheck allOk P (n ()) ab
    | none => absCheck allOk P (y ()) (ab.assumeQ q true) && absCheck allOk P (n ()) (ab.assumeQ q false)
  | .eff e next, ab => (absEff ab.cmds.length ab e).all (fun ab' => absCheck allOk P (next ()) ab')

def viewOf (log : List (Cmd × Nat)) : View := (log.map (fun e => (e.1.argv, e.2))).map (fun e => (e.1, e.2 == 0))

def optTok : Nat → Val := fun k => [.optarg k]

def leafView (ab : Abs) : View := ab.cmds.reverse.map (fun e => (e.1.argv, e.2))

/-- is the exit code at this leaf zero?  (`statusOf k` is known to be non-zero when step k failed) -/
def leafOk (ab : Abs) : Code → Option Bool
  | .lit n => some (n == 0)
  | .statusOf k =>
    match ab.cmds.reverse[k]? with
    | some (_, false) => some false
    | _ => none

/-- the job read the requested input -/
def symInputOk (f : Flags) (ab : Abs) : SCont → Bool
  | .lit (.text v) =>
    (match f.d with
     | some k => v.norm = (Val.norm ([Atom.optarg k] ++ [Atom.lit "\n"])).norm
     | none => false)
  | .ofInit p =>
    f.d = none &&
      ((p = scriptList && initKnow ab.facts scriptList .present = some true) ||
       (p = cwdList && initKnow ab.facts scriptList .present = some false))
  | _ => false

def symOutOk (b : Backend) (f : Flags) (ab : Abs) (j : Nat) : SCont → Bool
  | .jobOut j' cin => b = .atlas && j' = j && symInputOk f ab cin
  | .converted (.jobOut j' cin) => b = .cms && j' = j && symInputOk f ab cin
  | _ => false

def symDelivered (b : Backend) (f : Flags) (ab : Abs) (j : Nat) : Bool :=
  let outp := outPath f
  match ab.know outp .dir with
  | some true =>
    (match symLookup ab.events (outp.child "ANALYSIS.root") with
     | some (.file c) => symOutOk b f ab j c
     | _ => false)
  | _ =>
    (match symLookup ab.events outp with
     | some (.file c) => symOutOk b f ab j c
     | _ => false)

def symUntouched (f : Flags) (ab : Abs) : Bool :=
  (symLookup ab.events (outPath f)).isNone && (symLookup ab.events ((outPath f).child "ANALYSIS.root")).isNone

/-- `SpecOK`, evaluated on the abstract state at a leaf -/
def leafP (b : Backend) (i : Inv) (live : Bool) (ab : Abs) (code : Code) : Bool :=
  let f := flagsOf i.evs {}
  let v := leafView ab
  if f.bad then code = .lit 10 && v.isEmpty && symUntouched f ab
  else if i.nrest ≠ 0 then code = .lit 1 && v.isEmpty && symUntouched f ab
  else
    match leafOk ab code with
    | none => false
    | some ok =>
      specFailstopV ok v && specPhasesV b f v && specBuildThenRunV b f ok v &&
      (!(ok && !f.c) || (deliveryLogV b v && symDelivered b f ab (findIdxV (isJob b) v))) &&
      (!(!ok || f.c) || symUntouched f ab) &&
      (!live || ok)

end FaxVerif.C16
