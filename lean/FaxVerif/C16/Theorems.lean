/-
C16 — property theorems, after the general statements they are read from (`spec_run_cases`, `failstop`, `leafAll_sound`,
`rerun_generic`: any script, any oracle).

Universally quantified over: the oracle deciding the exit status of every external command at every
invocation index (`o.status : Nat → Cmd → Nat` — every set of failing steps), the answers to every
environment query, the initial file system (any tree), the option-argument strings (opaque tokens)
and, for `rerun_*`, the length of the invocation history.  NOT over the command line: `spec_*`, `flags_*`,
`delivery_*`, `no_fresh_output_*` are for the 62 shapes of `allInvs`, `live_*` and `rerun_*` for those of `canonInvs`;
only `failstop_*` and `rejects_*` hold for every invocation.  The scripts are the GENERATED terms
`Gen.atlasR21`, `Gen.cmsR5`, `Gen.cmsR7`.
-/
import FaxVerif.C16.Strict
import FaxVerif.C16.Proofs
import FaxVerif.C16.OptionLoop
import FaxVerif.C16.SpecRun
import FaxVerif.C16.CheckAtlasR21
import FaxVerif.C16.CheckCmsR5
import FaxVerif.C16.CheckCmsR7
import FaxVerif.C16.LiveAtlasR21
import FaxVerif.C16.LiveCmsR5
import FaxVerif.C16.LiveCmsR7
namespace FaxVerif.C16

/-- **C16.failstop** — for EVERY script of the `Strict` discipline (`set -e` first and never switched
off, no `|| true`, nothing the translator did not recognise), every invocation, every oracle and every
file system: if the run exits 0 then every step in its log succeeded. -/
theorem failstop (script : List Sh) (hs : strictScript script = true) (i : Inv) (o : Oracle) (inv : Nat) (fs : FS) :
    (run script i o inv fs).code = 0 → ∀ e ∈ (run script i o inv fs).log, e.2 = 0 := by
  unfold strictScript at hs
  split at hs
  · next rest =>
    -- after `set -e` the invariant of strict scripts holds
    have hpost := post_execBlock (o := o) (inv := inv) rest
      { (St.init i) with errexit := true, last := .lit 0 } { fs := fs, log := [] } hs
      ⟨rfl, rfl, fun e he => nomatch he⟩
    have hb : execBlock (Sh.setE true :: rest) (St.init i) =
        execBlock rest { (St.init i) with errexit := true, last := .lit 0 } := rfl
    unfold Post at hpost
    simp only [run, scriptTree, hb, interp_bind]
    generalize interp o inv (execBlock rest _) _ = r at hpost ⊢
    rcases r with ⟨st' | c, d'⟩
    · exact fun _ => hpost.allOk
    · exact hpost
  · cases hs

/-- failstop is not vacuous: the three generated scripts are `Strict` -/
theorem strict_atlasR21 : strictScript Gen.atlasR21 = true := by decide +kernel
theorem strict_cmsR5 : strictScript Gen.cmsR5 = true := by decide +kernel
theorem strict_cmsR7 : strictScript Gen.cmsR7 = true := by decide +kernel

/-- the discipline is needed: the same job step followed by `|| true` reports success after a failure -/
theorem failstop_needs_strict_counterexample :
    ∃ (script : List Sh) (i : Inv) (o : Oracle) (fs : FS),
      (run script i o 0 fs).code = 0 ∧ ∃ e ∈ (run script i o 0 fs).log, e.2 ≠ 0 := by
  refine ⟨[.setE true, .orTrue (.cmd ⟨false, [.lit "cmsRun"]⟩ [])], ⟨[], 0, 0⟩,
    ⟨fun _ _ => 1, fun _ => false⟩, ⟨fun _ => .absent⟩, ?_, ?_⟩
  · decide +kernel
  · exact ⟨(⟨.ext, [[.lit "cmsRun"]]⟩, 1), by decide +kernel, by decide⟩

theorem rel_init (o : Oracle) (inv : Nat) (fs : FS) (facts : List (SPath × Fact))
    (hf : FactsHold fs facts) : Rel o inv fs { facts := facts } { fs := fs, log := [] } :=
  ⟨fun p => by simp [evalLookup, symLookup], hf, by intro qb h; simp at h, by simp⟩

theorem leaf_of_check {P : Abs → Code → Bool} (script : List Sh) (i : Inv) (allOk : Bool) (facts : List (SPath × Fact))
    (hc : absCheck allOk P (scriptTree script i) { facts := facts } = true)
    (o : Oracle) (inv : Nat) (fs : FS) (hwf : WF fs) (hall : allOk = true → ∀ k c, o.status k c = 0)
    (hf : FactsHold fs facts) :
    ∃ ab', Rel o inv fs ab' (interp o inv (scriptTree script i) { fs := fs, log := [] }).2 ∧
      P ab' (interp o inv (scriptTree script i) { fs := fs, log := [] }).1 = true :=
  absCheck_sound o inv fs hwf allOk hall P (scriptTree script i) { facts := facts } { fs := fs, log := [] }
    (rel_init o inv fs facts hf) hc

/-- If the abstract exploration of the script's decision tree finds `leafP` at every leaf, then
EVERY concrete run (any oracle, any tree-shaped file system satisfying the assumed facts) satisfies
`SpecOK`. -/
theorem spec_of_check (b : Backend) (script : List Sh) (i : Inv) (allOk live : Bool) (facts : List (SPath × Fact))
    (hc : absCheck allOk (leafP b i live) (scriptTree script i) { facts := facts } = true)
    (o : Oracle) (inv : Nat) (fs : FS) (hwf : WF fs)
    (hall : allOk = true → ∀ k c, o.status k c = 0) (hf : FactsHold fs facts) :
    SpecOK (obsOf b script i o inv fs live) = true := by
  obtain ⟨ab', hr', hp'⟩ := leaf_of_check script i allOk facts hc o inv fs hwf hall hf
  exact leafP_sound hr' hwf b i live _ hp'

theorem viewOf_isEmpty {log : List (Cmd × Nat)} (h : (viewOf log).isEmpty = true) : log = [] := by
  cases log with
  | nil => rfl
  | cons a r => simp [viewOf] at h

theorem viewOf_all {log : List (Cmd × Nat)} {p : List Val → Bool} (h : (viewOf log).all (fun e => p e.1) = true) :
    ∀ e ∈ log, p e.1.argv = true := by
  intro e he
  simp only [viewOf, List.all_map, List.all_eq_true] at h
  exact h e he

theorem specCore_iff {b : Backend} {f : Flags} {tokVal : Nat → Val} {invId : Nat} {live ok : Bool} {v : View}
    {outBefore outAfter fileBefore fileAfter : Node} {listInput : Content} :
    SpecCore b f tokVal invId live ok v outBefore outAfter fileBefore fileAfter listInput = true ↔
      specFailstopV ok v = true ∧ specPhasesV b f v = true ∧ specBuildThenRunV b f ok v = true ∧
      (ok = true → f.c = false → deliveryLogV b v = true ∧
        (destNode outAfter fileAfter).norm = .file (expectedOut b invId tokVal listInput f (findIdxV (isJob b) v))) ∧
      (ok = false ∨ f.c = true → outAfter = outBefore ∧ fileAfter = fileBefore) ∧
      (live = true → ok = true) := by
  cases ok <;> cases hc : f.c <;> simp [SpecCore, hc, and_assoc]

/-- `SpecOK` is one evaluated Boolean; here it is taken apart along the three kinds of command line (turned away with 10,
turned away with 1, accepted: `SpecCore`).  With `specCore_iff` this is how the named clauses `FlagsHonoured`,
`Delivered`, `NoFreshOutput` are read off it. -/
theorem spec_run_cases {b : Backend} {script : List Sh} {i : Inv} {o : Oracle} {inv : Nat} {fs : FS} {live : Bool}
    (h : SpecOK (obsOf b script i o inv fs live) = true) :
    let f := flagsOf i.evs {}
    let p := outPath f
    let out := run script i o inv fs
    (f.bad = true → out.code = 10 ∧ out.log = [] ∧
      out.fs p = fs p ∧ out.fs (p.child "ANALYSIS.root") = fs (p.child "ANALYSIS.root")) ∧
    (f.bad = false → i.nrest ≠ 0 → out.code = 1 ∧ out.log = [] ∧
      out.fs p = fs p ∧ out.fs (p.child "ANALYSIS.root") = fs (p.child "ANALYSIS.root")) ∧
    (f.bad = false → i.nrest = 0 →
      SpecCore b f optTok inv live (out.code == 0) (viewOf out.log) (fs p) (out.fs p)
        (fs (p.child "ANALYSIS.root")) (out.fs (p.child "ANALYSIS.root")) (listInputOf fs) = true) := by
  unfold obsOf at h
  simp only [specOK_mkObs] at h
  refine ⟨fun hb => ?_, fun hb hn => ?_, fun hb hn => ?_⟩
  · simp only [hb, if_true, Bool.and_eq_true, decide_eq_true_eq] at h
    exact ⟨h.1.1, viewOf_isEmpty h.1.2, h.2⟩
  · simp only [hb, Bool.false_eq_true, if_false, if_pos hn, Bool.and_eq_true, decide_eq_true_eq] at h
    exact ⟨h.1.1, viewOf_isEmpty h.1.2, h.2⟩
  · simpa only [hb, Bool.false_eq_true, if_false, hn, ne_eq, not_true_eq_false] using h

theorem flags_of_spec (b : Backend) (script : List Sh) (i : Inv) (o : Oracle) (inv : Nat) (fs : FS) (live : Bool)
    (h : SpecOK (obsOf b script i o inv fs live) = true) : FlagsHonoured b i (run script i o inv fs) := by
  obtain ⟨hbad, hstray, hcore⟩ := spec_run_cases h
  refine ⟨fun hb => ⟨(hbad hb).1, (hbad hb).2.1⟩, fun hb hn => ⟨(hstray hb hn).1, (hstray hb hn).2.1⟩, fun hb hn => ?_⟩
  obtain ⟨_, h2, h3, _⟩ := specCore_iff.1 (hcore hb hn)
  simp only [specPhasesV, Bool.and_eq_true, Bool.or_eq_true, Bool.not_eq_true'] at h2
  refine ⟨fun hc e he => ?_, fun hr e he => ?_, fun hc0 hc hr t ht => ?_⟩
  · have := viewOf_all (p := fun a => !isRunStep b a) (h2.1.resolve_left (by simp [hc])) e he
    simpa using this
  · have := viewOf_all (p := fun a => !isBuild b a) (h2.2.resolve_left (by simp [hr])) e he
    simpa using this
  · simp only [specBuildThenRunV, hc0, hc, hr, beq_self_eq_true, Bool.not_false, Bool.and_self, Bool.not_true,
      Bool.false_or, List.all_eq_true, List.any_eq_true] at h3
    exact h3 t ht

theorem delivered_of_spec (b : Backend) (script : List Sh) (i : Inv) (o : Oracle) (inv : Nat) (fs : FS) (live : Bool)
    (h : SpecOK (obsOf b script i o inv fs live) = true) : Delivered b i inv fs (run script i o inv fs) :=
  fun hb hn hc0 hc => (specCore_iff.1 ((spec_run_cases h).2.2 hb hn)).2.2.2.1 (beq_iff_eq.2 hc0) hc

theorem noFresh_of_spec (b : Backend) (script : List Sh) (i : Inv) (o : Oracle) (inv : Nat) (fs : FS) (live : Bool)
    (h : SpecOK (obsOf b script i o inv fs live) = true) : NoFreshOutput i fs (run script i o inv fs) := by
  obtain ⟨hbad, hstray, hcore⟩ := spec_run_cases h
  intro hfail
  cases hb : (flagsOf i.evs {}).bad with
  | true => exact (hbad hb).2.2
  | false =>
    by_cases hn : i.nrest = 0
    · exact (specCore_iff.1 (hcore hb hn)).2.2.2.2.1 (hfail.imp (fun hc => beq_eq_false_iff_ne.2 hc) id)
    · exact (hstray hb hn).2.2

/-- the build directory a run-only invocation needs -/
def BuildPresent (b : Backend) (fs : FS) : Prop := fs (buildDir b) = .dir

theorem canonInvs_ok {i : Inv} (hi : i ∈ canonInvs) :
    i ∈ allInvs ∧ (flagsOf i.evs {}).bad = false ∧ i.nrest = 0 := by
  have hflags : ∀ i ∈ canonInvs, (flagsOf i.evs {}).bad = false ∧ i.nrest = 0 := by decide
  obtain ⟨l, hl, rfl⟩ := List.mem_map.1 hi
  exact ⟨List.mem_append_left _ (List.mem_append_left _ (List.mem_map.2 ⟨l, List.mem_append_left _ hl, rfl⟩)),
    hflags _ hi⟩

theorem rerunInvs_ok {i : Inv} (hi : i ∈ rerunInvs) :
    i ∈ canonInvs ∧ (flagsOf i.evs {}).r = true ∧ (flagsOf i.evs {}).c = false := by
  simpa [rerunInvs, List.mem_filter] using hi

theorem buildInvs_ok {i : Inv} (hi : i ∈ buildInvs) : i ∈ canonInvs ∧ (flagsOf i.evs {}).r = false := by
  simpa [buildInvs, List.mem_filter] using hi

/-- what `leafAll` asks of a leaf beyond `leafP`, read on the real file system: a building invocation that exits 0
leaves the build directory behind, a run-only invocation keeps it -/
theorem leafAll_sound {o inv fs₀ ab d} (hr : Rel o inv fs₀ ab d) (hwf : WF fs₀) (b : Backend) (i : Inv) (code : Code)
    (h : leafAll b i ab code = true) :
    leafP b i false ab code = true ∧
    ((flagsOf i.evs {}).bad = false → i.nrest = 0 →
      ((flagsOf i.evs {}).r = false → code.eval d.log = 0 → d.fs (buildDir b) = .dir) ∧
      ((flagsOf i.evs {}).r = true → fs₀ (buildDir b) = .dir → d.fs (buildDir b) = .dir)) := by
  simp only [leafAll, Bool.and_eq_true] at h
  refine ⟨h.1.1, fun hbad hn => ⟨fun hr' h0 => ?_, fun hr' hb => ?_⟩⟩
  · have hp := h.1.1
    have hm := h.1.2
    simp only [hbad, hn, hr', Bool.false_or, bne_self_eq_false] at hm
    cases hok : leafOk ab code with
    | none => simp [leafP, hbad, hn, hok] at hp   -- `leafP` already fails when the exit code is not understood
    | some ok =>
      have hcode := leafOk_sound hr code ok hok
      rw [h0] at hcode
      rw [hok, ← hcode] at hm
      exact fs_dir_of_know hr hwf _ (by simpa using hm)
  · have hk := h.2
    simp only [hbad, hn, hr', Bool.or_eq_true, Bool.false_or, bne_self_eq_false, Bool.not_true, decide_eq_true_eq,
      Option.isNone_iff_eq_none] at hk
    rcases hk with hu | hk
    · rw [hr.fsOk]; simp only [evalLookup, hu]; exact hb
    · exact fs_dir_of_know hr hwf _ hk

section generic
variable (b : Backend) (script : List Sh)

theorem leafAll_of_checkAll (hc : checkAll b script allInvs = true) (i : Inv) (hi : i ∈ allInvs)
    (o : Oracle) (inv : Nat) (fs : FS) (hwf : WF fs) :
    ∃ ab', Rel o inv fs ab' (interp o inv (scriptTree script i) { fs := fs, log := [] }).2 ∧
      leafAll b i ab' (interp o inv (scriptTree script i) { fs := fs, log := [] }).1 = true :=
  leaf_of_check script i false [] (List.all_eq_true.1 hc i hi) o inv fs hwf (by intro h; cases h) (by intro pf h; cases h)

/-- the whole Spec (`SpecOK`: flags, fail-stop, input, delivery, no fresh output on failure) for every command
line of `allInvs`, every oracle (every set of failing steps, every status), every invocation number and every
tree-shaped initial file system -/
theorem spec_of_checkAll (hc : checkAll b script allInvs = true) (i : Inv) (hi : i ∈ allInvs)
    (o : Oracle) (inv : Nat) (fs : FS) (hwf : WF fs) : SpecOK (obsOf b script i o inv fs false) = true := by
  obtain ⟨ab', hr', hp'⟩ := leafAll_of_checkAll b script hc i hi o inv fs hwf
  exact leafP_sound hr' hwf b i false _ (leafAll_sound hr' hwf b i _ hp').1

theorem keeps_of_checkAll (hc : checkAll b script allInvs = true) (i : Inv) (hi : i ∈ rerunInvs)
    (o : Oracle) (inv : Nat) (fs : FS) (hwf : WF fs) (hb : BuildPresent b fs) :
    BuildPresent b (run script i o inv fs).fs := by
  obtain ⟨hic, hr, _⟩ := rerunInvs_ok hi
  obtain ⟨hia, hbad, hn⟩ := canonInvs_ok hic
  obtain ⟨ab', hrel, hp⟩ := leafAll_of_checkAll b script hc i hia o inv fs hwf
  exact ((leafAll_sound hrel hwf b i _ hp).2 hbad hn).2 hr hb

theorem establishes_of_checkAll (hc : checkAll b script allInvs = true) (i : Inv) (hi : i ∈ buildInvs)
    (o : Oracle) (inv : Nat) (fs : FS) (hwf : WF fs) (h0 : (run script i o inv fs).code = 0) :
    BuildPresent b (run script i o inv fs).fs := by
  obtain ⟨hic, hr⟩ := buildInvs_ok hi
  obtain ⟨hia, hbad, hn⟩ := canonInvs_ok hic
  obtain ⟨ab', hrel, hp⟩ := leafAll_of_checkAll b script hc i hia o inv fs hwf
  exact ((leafAll_sound hrel hwf b i _ hp).2 hbad hn).1 hr h0

/-- with no flags the script does build and run, `-c` does build, `-r` does run: when no tool fails spontaneously
and the environment is adequate (`adequateFacts`), it exits 0 (and all of the Spec holds) -/
theorem live_of_checkLive (hc : checkLive b script canonInvs = true) (i : Inv) (hi : i ∈ canonInvs)
    (o : Oracle) (hall : ∀ k c, o.status k c = 0) (inv : Nat) (fs : FS) (hwf : WF fs)
    (hf : FactsHold fs (adequateFacts b (flagsOf i.evs {}))) :
    (run script i o inv fs).code = 0 ∧ SpecOK (obsOf b script i o inv fs true) = true := by
  have hs := spec_of_check b script i true true _ (List.all_eq_true.1 hc i hi) o inv fs hwf (fun _ => hall) hf
  obtain ⟨_, hbad, hn⟩ := canonInvs_ok hi
  exact ⟨beq_iff_eq.1 ((specCore_iff.1 ((spec_run_cases hs).2.2 hbad hn)).2.2.2.2.2 rfl), hs⟩

end generic

/-- after a build, ANY number of run-only invocations (induction over the history, invariant: build directory
present): none has a build step, each delivers its own job's output on its own input to its own destination
when it exits 0, leaves nothing new otherwise, and does exit 0 whenever its tools succeed -/
theorem rerun_generic (b : Backend) (script : List Sh) (hc : checkAll b script allInvs = true)
    (hl : checkLive b script canonInvs = true) :
    ∀ (steps : List RStep) (prev : FS) (n : Nat), BuildPresent b prev → Chain script prev n steps →
      ChainGood b script n steps := by
  intro steps
  induction steps with
  | nil => intro _ _ _ _; trivial
  | cons s r ih =>
    intro prev n hb hch
    obtain ⟨hi, hwf, hag, hrest⟩ := hch
    obtain ⟨hic, hr, hcf⟩ := rerunInvs_ok hi
    obtain ⟨hia, hbad, hn⟩ := canonInvs_ok hic
    have hb' : BuildPresent b s.fs := by
      unfold BuildPresent at hb ⊢
      rw [hag (buildDir b) (by cases b <;> rfl)]
      exact hb
    have hspec := spec_of_checkAll b script hc s.i hia s.o n s.fs hwf
    have hflags := flags_of_spec b script s.i s.o n s.fs false hspec
    refine ⟨⟨?_, delivered_of_spec b script s.i s.o n s.fs false hspec, noFresh_of_spec b script s.i s.o n s.fs false hspec, ?_⟩, ?_⟩
    · exact (hflags.2.2 hbad hn).2.1 hr
    · intro hall hf
      apply (live_of_checkLive b script hl s.i hic s.o hall n s.fs hwf ?_).1
      intro pf hpf
      simp only [adequateFacts, hr, hcf, if_true, Bool.false_eq_true, if_false, List.mem_append, List.mem_singleton] at hpf
      rcases hpf with (hpf | hpf) | hpf
      · exact hf pf (by simp [hpf])
      · subst hpf
        rw [← node_isDir]
        have hb'' : s.fs (buildDir b) = Node.dir := hb'
        simp [hb'']
      · exact hf pf (by simp [hpf])
    · exact ih _ _ (keeps_of_checkAll b script hc s.i hi s.o n s.fs hwf hb') hrest

section atlasR21

/-- **C16.spec_atlasR21** — `spec_of_checkAll` for the ATLAS r21 script -/
theorem spec_atlasR21 (i : Inv) (hi : i ∈ allInvs) (o : Oracle) (inv : Nat) (fs : FS) (hwf : WF fs) :
    SpecOK (obsOf .atlas Gen.atlasR21 i o inv fs false) = true :=
  spec_of_checkAll .atlas Gen.atlasR21 check_atlasR21 i hi o inv fs hwf

/-- **C16.failstop_atlasR21** — for EVERY invocation (any getopts event list, any operands): exit 0 ⇒ every logged step succeeded. -/
theorem failstop_atlasR21 (i : Inv) (o : Oracle) (inv : Nat) (fs : FS) :
    (run Gen.atlasR21 i o inv fs).code = 0 → ∀ e ∈ (run Gen.atlasR21 i o inv fs).log, e.2 = 0 :=
  failstop Gen.atlasR21 strict_atlasR21 i o inv fs

/-- **C16.flags_atlasR21** -/
theorem flags_atlasR21 (i : Inv) (hi : i ∈ allInvs) (o : Oracle) (inv : Nat) (fs : FS) (hwf : WF fs) :
    FlagsHonoured .atlas i (run Gen.atlasR21 i o inv fs) :=
  flags_of_spec _ _ _ _ _ _ _ (spec_atlasR21 i hi o inv fs hwf)

/-- **C16.delivery_atlasR21** (includes C16.input: the job's input is exactly the `-d` argument) -/
theorem delivery_atlasR21 (i : Inv) (hi : i ∈ allInvs) (o : Oracle) (inv : Nat) (fs : FS) (hwf : WF fs) :
    Delivered .atlas i inv fs (run Gen.atlasR21 i o inv fs) :=
  delivered_of_spec _ _ _ _ _ _ _ (spec_atlasR21 i hi o inv fs hwf)

/-- **C16.no_fresh_output_atlasR21** -/
theorem no_fresh_output_atlasR21 (i : Inv) (hi : i ∈ allInvs) (o : Oracle) (inv : Nat) (fs : FS) (hwf : WF fs) :
    NoFreshOutput i fs (run Gen.atlasR21 i o inv fs) :=
  noFresh_of_spec _ _ _ _ _ _ _ (spec_atlasR21 i hi o inv fs hwf)

/-- **C16.live_atlasR21** — `live_of_checkLive` for the ATLAS r21 script -/
theorem live_atlasR21 (i : Inv) (hi : i ∈ canonInvs) (o : Oracle) (hall : ∀ k c, o.status k c = 0) (inv : Nat) (fs : FS)
    (hwf : WF fs) (hf : FactsHold fs (adequateFacts .atlas (flagsOf i.evs {}))) :
    (run Gen.atlasR21 i o inv fs).code = 0 ∧ SpecOK (obsOf .atlas Gen.atlasR21 i o inv fs true) = true :=
  live_of_checkLive .atlas Gen.atlasR21 checkLive_atlasR21 i hi o hall inv fs hwf hf

/-- **C16.rerun_atlasR21** — `rerun_generic` after one successful building invocation of the ATLAS r21 script -/
theorem rerun_atlasR21 (ic : Inv) (hic : ic ∈ buildInvs) (oc : Oracle) (n : Nat) (fs0 : FS) (hwf : WF fs0)
    (h0 : (run Gen.atlasR21 ic oc n fs0).code = 0) (steps : List RStep)
    (hch : Chain Gen.atlasR21 (run Gen.atlasR21 ic oc n fs0).fs (n + 1) steps) :
    ChainGood .atlas Gen.atlasR21 (n + 1) steps :=
  rerun_generic .atlas Gen.atlasR21 check_atlasR21 checkLive_atlasR21 steps _ _
    (establishes_of_checkAll .atlas Gen.atlasR21 check_atlasR21 ic hic oc n fs0 hwf h0) hch

theorem badFlagOK_atlasR21 : badFlagOK Gen.atlasR21 = true := by decide +kernel
theorem strayOK_atlasR21 : strayOK Gen.atlasR21 = true := by decide +kernel
theorem loopSpec_atlasR21 : loopSpec Gen.atlasR21 = "d:o:cr" := by decide +kernel

/-- **C16.rejects_atlasR21** — `run_args_rejected` for the ATLAS r21 script; it enters through two decidable syntactic
conditions and the getopts string of its loop, evaluated on the generated term -/
theorem rejects_atlasR21 (args : List String) (o : Oracle) (inv : Nat) (fs : FS) :
    let i := (getoptsParse "d:o:cr" args).1
    let out := run Gen.atlasR21 i o inv fs
    ((∃ ev ∈ i.evs, ev.opt = "?") → out.code = 10 ∧ out.log = [] ∧ out.fs = fs) ∧
    ((¬ ∃ ev ∈ i.evs, ev.opt = "?") → i.nrest ≠ 0 → out.code = 1 ∧ out.log = [] ∧ out.fs = fs) :=
  loopSpec_atlasR21 ▸ run_args_rejected Gen.atlasR21 badFlagOK_atlasR21 strayOK_atlasR21 args o inv fs

end atlasR21

section cmsR5

/-- **C16.spec_cmsR5** — `spec_of_checkAll` for the CMS r5 script -/
theorem spec_cmsR5 (i : Inv) (hi : i ∈ allInvs) (o : Oracle) (inv : Nat) (fs : FS) (hwf : WF fs) :
    SpecOK (obsOf .cms Gen.cmsR5 i o inv fs false) = true :=
  spec_of_checkAll .cms Gen.cmsR5 check_cmsR5 i hi o inv fs hwf

/-- **C16.failstop_cmsR5** — for EVERY invocation (any getopts event list, any operands): exit 0 ⇒ every logged step succeeded. -/
theorem failstop_cmsR5 (i : Inv) (o : Oracle) (inv : Nat) (fs : FS) :
    (run Gen.cmsR5 i o inv fs).code = 0 → ∀ e ∈ (run Gen.cmsR5 i o inv fs).log, e.2 = 0 :=
  failstop Gen.cmsR5 strict_cmsR5 i o inv fs

/-- **C16.flags_cmsR5** -/
theorem flags_cmsR5 (i : Inv) (hi : i ∈ allInvs) (o : Oracle) (inv : Nat) (fs : FS) (hwf : WF fs) :
    FlagsHonoured .cms i (run Gen.cmsR5 i o inv fs) :=
  flags_of_spec _ _ _ _ _ _ _ (spec_cmsR5 i hi o inv fs hwf)

/-- **C16.delivery_cmsR5** (includes C16.input: the job's input is exactly the `-d` argument) -/
theorem delivery_cmsR5 (i : Inv) (hi : i ∈ allInvs) (o : Oracle) (inv : Nat) (fs : FS) (hwf : WF fs) :
    Delivered .cms i inv fs (run Gen.cmsR5 i o inv fs) :=
  delivered_of_spec _ _ _ _ _ _ _ (spec_cmsR5 i hi o inv fs hwf)

/-- **C16.no_fresh_output_cmsR5** -/
theorem no_fresh_output_cmsR5 (i : Inv) (hi : i ∈ allInvs) (o : Oracle) (inv : Nat) (fs : FS) (hwf : WF fs) :
    NoFreshOutput i fs (run Gen.cmsR5 i o inv fs) :=
  noFresh_of_spec _ _ _ _ _ _ _ (spec_cmsR5 i hi o inv fs hwf)

/-- **C16.live_cmsR5** — `live_of_checkLive` for the CMS r5 script -/
theorem live_cmsR5 (i : Inv) (hi : i ∈ canonInvs) (o : Oracle) (hall : ∀ k c, o.status k c = 0) (inv : Nat) (fs : FS)
    (hwf : WF fs) (hf : FactsHold fs (adequateFacts .cms (flagsOf i.evs {}))) :
    (run Gen.cmsR5 i o inv fs).code = 0 ∧ SpecOK (obsOf .cms Gen.cmsR5 i o inv fs true) = true :=
  live_of_checkLive .cms Gen.cmsR5 checkLive_cmsR5 i hi o hall inv fs hwf hf

/-- **C16.rerun_cmsR5** — `rerun_generic` after one successful building invocation of the CMS r5 script -/
theorem rerun_cmsR5 (ic : Inv) (hic : ic ∈ buildInvs) (oc : Oracle) (n : Nat) (fs0 : FS) (hwf : WF fs0)
    (h0 : (run Gen.cmsR5 ic oc n fs0).code = 0) (steps : List RStep)
    (hch : Chain Gen.cmsR5 (run Gen.cmsR5 ic oc n fs0).fs (n + 1) steps) :
    ChainGood .cms Gen.cmsR5 (n + 1) steps :=
  rerun_generic .cms Gen.cmsR5 check_cmsR5 checkLive_cmsR5 steps _ _
    (establishes_of_checkAll .cms Gen.cmsR5 check_cmsR5 ic hic oc n fs0 hwf h0) hch

theorem badFlagOK_cmsR5 : badFlagOK Gen.cmsR5 = true := by decide +kernel
theorem strayOK_cmsR5 : strayOK Gen.cmsR5 = true := by decide +kernel
theorem loopSpec_cmsR5 : loopSpec Gen.cmsR5 = "d:o:cr" := by decide +kernel

/-- **C16.rejects_cmsR5** — `run_args_rejected` for the CMS r5 script; it enters through two decidable syntactic
conditions and the getopts string of its loop, evaluated on the generated term -/
theorem rejects_cmsR5 (args : List String) (o : Oracle) (inv : Nat) (fs : FS) :
    let i := (getoptsParse "d:o:cr" args).1
    let out := run Gen.cmsR5 i o inv fs
    ((∃ ev ∈ i.evs, ev.opt = "?") → out.code = 10 ∧ out.log = [] ∧ out.fs = fs) ∧
    ((¬ ∃ ev ∈ i.evs, ev.opt = "?") → i.nrest ≠ 0 → out.code = 1 ∧ out.log = [] ∧ out.fs = fs) :=
  loopSpec_cmsR5 ▸ run_args_rejected Gen.cmsR5 badFlagOK_cmsR5 strayOK_cmsR5 args o inv fs

end cmsR5

section cmsR7

/-- **C16.spec_cmsR7** — `spec_of_checkAll` for the CMS r7 script -/
theorem spec_cmsR7 (i : Inv) (hi : i ∈ allInvs) (o : Oracle) (inv : Nat) (fs : FS) (hwf : WF fs) :
    SpecOK (obsOf .cms Gen.cmsR7 i o inv fs false) = true :=
  spec_of_checkAll .cms Gen.cmsR7 check_cmsR7 i hi o inv fs hwf

/-- **C16.failstop_cmsR7** — for EVERY invocation (any getopts event list, any operands): exit 0 ⇒ every logged step succeeded. -/
theorem failstop_cmsR7 (i : Inv) (o : Oracle) (inv : Nat) (fs : FS) :
    (run Gen.cmsR7 i o inv fs).code = 0 → ∀ e ∈ (run Gen.cmsR7 i o inv fs).log, e.2 = 0 :=
  failstop Gen.cmsR7 strict_cmsR7 i o inv fs

/-- **C16.flags_cmsR7** -/
theorem flags_cmsR7 (i : Inv) (hi : i ∈ allInvs) (o : Oracle) (inv : Nat) (fs : FS) (hwf : WF fs) :
    FlagsHonoured .cms i (run Gen.cmsR7 i o inv fs) :=
  flags_of_spec _ _ _ _ _ _ _ (spec_cmsR7 i hi o inv fs hwf)

/-- **C16.delivery_cmsR7** (includes C16.input: the job's input is exactly the `-d` argument) -/
theorem delivery_cmsR7 (i : Inv) (hi : i ∈ allInvs) (o : Oracle) (inv : Nat) (fs : FS) (hwf : WF fs) :
    Delivered .cms i inv fs (run Gen.cmsR7 i o inv fs) :=
  delivered_of_spec _ _ _ _ _ _ _ (spec_cmsR7 i hi o inv fs hwf)

/-- **C16.no_fresh_output_cmsR7** -/
theorem no_fresh_output_cmsR7 (i : Inv) (hi : i ∈ allInvs) (o : Oracle) (inv : Nat) (fs : FS) (hwf : WF fs) :
    NoFreshOutput i fs (run Gen.cmsR7 i o inv fs) :=
  noFresh_of_spec _ _ _ _ _ _ _ (spec_cmsR7 i hi o inv fs hwf)

/-- **C16.live_cmsR7** — `live_of_checkLive` for the CMS r7 script -/
theorem live_cmsR7 (i : Inv) (hi : i ∈ canonInvs) (o : Oracle) (hall : ∀ k c, o.status k c = 0) (inv : Nat) (fs : FS)
    (hwf : WF fs) (hf : FactsHold fs (adequateFacts .cms (flagsOf i.evs {}))) :
    (run Gen.cmsR7 i o inv fs).code = 0 ∧ SpecOK (obsOf .cms Gen.cmsR7 i o inv fs true) = true :=
  live_of_checkLive .cms Gen.cmsR7 checkLive_cmsR7 i hi o hall inv fs hwf hf

/-- **C16.rerun_cmsR7** — `rerun_generic` after one successful building invocation of the CMS r7 script -/
theorem rerun_cmsR7 (ic : Inv) (hic : ic ∈ buildInvs) (oc : Oracle) (n : Nat) (fs0 : FS) (hwf : WF fs0)
    (h0 : (run Gen.cmsR7 ic oc n fs0).code = 0) (steps : List RStep)
    (hch : Chain Gen.cmsR7 (run Gen.cmsR7 ic oc n fs0).fs (n + 1) steps) :
    ChainGood .cms Gen.cmsR7 (n + 1) steps :=
  rerun_generic .cms Gen.cmsR7 check_cmsR7 checkLive_cmsR7 steps _ _
    (establishes_of_checkAll .cms Gen.cmsR7 check_cmsR7 ic hic oc n fs0 hwf h0) hch

theorem badFlagOK_cmsR7 : badFlagOK Gen.cmsR7 = true := by decide +kernel
theorem strayOK_cmsR7 : strayOK Gen.cmsR7 = true := by decide +kernel
theorem loopSpec_cmsR7 : loopSpec Gen.cmsR7 = "d:o:cr" := by decide +kernel

/-- **C16.rejects_cmsR7** — `run_args_rejected` for the CMS r7 script; it enters through two decidable syntactic
conditions and the getopts string of its loop, evaluated on the generated term -/
theorem rejects_cmsR7 (args : List String) (o : Oracle) (inv : Nat) (fs : FS) :
    let i := (getoptsParse "d:o:cr" args).1
    let out := run Gen.cmsR7 i o inv fs
    ((∃ ev ∈ i.evs, ev.opt = "?") → out.code = 10 ∧ out.log = [] ∧ out.fs = fs) ∧
    ((¬ ∃ ev ∈ i.evs, ev.opt = "?") → i.nrest ≠ 0 → out.code = 1 ∧ out.log = [] ∧ out.fs = fs) :=
  loopSpec_cmsR7 ▸ run_args_rejected Gen.cmsR7 badFlagOK_cmsR7 strayOK_cmsR7 args o inv fs

end cmsR7


example : mkInv ["r", "d", "o"] 0 ∈ allInvs ∧ mkInv [] 0 ∈ canonInvs ∧ mkInv ["c"] 0 ∈ buildInvs ∧
    mkInv ["r", "d", "o"] 0 ∈ rerunInvs := by decide +kernel

theorem isUnder_trans {p q r : SPath} (h1 : q.isUnder p = true) (h2 : r.isUnder q = true) : r.isUnder p = true := by
  simp only [SPath.isUnder, Bool.and_eq_true, decide_eq_true_eq, List.isPrefixOf_iff_prefix] at *
  exact ⟨h2.1.trans h1.1, h1.2.trans h2.2⟩

/-- a fresh container: nothing below the build root, everything else a file -/
def freshFS (b : Backend) : FS := ⟨fun p => if p.isUnder (buildRoot b) then .absent else .file .missing⟩

theorem freshFS_wf (b : Backend) : WF (freshFS b) := by
  intro p q hqp hp
  simp only [freshFS] at hp ⊢
  by_cases h : p.isUnder (buildRoot b) = true
  · simp [isUnder_trans h hqp]
  · simp [h] at hp


instance (fs : FS) (facts : List (SPath × Fact)) : Decidable (FactsHold fs facts) :=
  inferInstanceAs (Decidable (∀ pf ∈ facts, pf.2.holdsK (fs pf.1).kind = true))

/-- the liveness hypotheses hold of a fresh container, for both backends and e.g. no flags, `-c`, `-d x -o y` -/
example : ∀ b ∈ [Backend.atlas, Backend.cms], ∀ i ∈ [mkInv [] 0, mkInv ["c"] 0, mkInv ["d", "o"] 0],
    FactsHold (freshFS b) (adequateFacts b (flagsOf i.evs {})) := by decide +kernel

/-- The two runs of the examples below, evaluated together: they agree up to step 8, and the kernel
keeps what it has reduced for the length of one declaration. -/
theorem cmsR5_fresh_runs :
    (let out := run Gen.cmsR5 (mkInv [] 0) ⟨fun _ _ => 0, fun _ => true⟩ 0 (freshFS .cms)
     out.code = 0 ∧ out.log.length = 10 ∧ (out.log.getLast?.map (fun e => e.1.argv.head?)) = some (some [.lit "root"])) ∧
    (let out := run Gen.cmsR5 (mkInv [] 0) ⟨fun k _ => if k = 8 then 7 else 0, fun _ => true⟩ 0 (freshFS .cms)
     out.code = 7 ∧ out.log.length = 9 ∧ out.fs ⟨.root, ["results"]⟩ = (freshFS .cms) ⟨.root, ["results"]⟩) := by
  decide +kernel

/-- … so the scripts do build and run there: e.g. the CMS r5 script, no flags, exits 0 after 10 steps,
the last of which is the conversion into /results -/
example : let out := run Gen.cmsR5 (mkInv [] 0) ⟨fun _ _ => 0, fun _ => true⟩ 0 (freshFS .cms)
    out.code = 0 ∧ out.log.length = 10 ∧ (out.log.getLast?.map (fun e => e.1.argv.head?)) = some (some [.lit "root"]) :=
  cmsR5_fresh_runs.1

/-- … and a failing job step is reported: status 7 of step 8 (cmsRun) becomes the exit status, nothing reaches /results -/
example : let out := run Gen.cmsR5 (mkInv [] 0) ⟨fun k _ => if k = 8 then 7 else 0, fun _ => true⟩ 0 (freshFS .cms)
    out.code = 7 ∧ out.log.length = 9 ∧ out.fs ⟨.root, ["results"]⟩ = (freshFS .cms) ⟨.root, ["results"]⟩ :=
  cmsR5_fresh_runs.2

/-- `rejects_*` is not vacuous: e.g. `-c -x` makes getopts report `?`, `-c foo` leaves an operand -/
example : (∃ ev ∈ (getoptsParse "d:o:cr" ["-c", "-x"]).1.evs, ev.opt = "?") ∧
    (¬ ∃ ev ∈ (getoptsParse "d:o:cr" ["-c", "foo", "-r"]).1.evs, ev.opt = "?") ∧
    (getoptsParse "d:o:cr" ["-c", "foo", "-r"]).1.nrest = 2 ∧
    (getoptsParse "d:o:cr" ["-cr", "-dfile", "-o", "dir"]).1.evs = (mkInv ["c", "r", "d", "o"] 0).evs := by decide +kernel

/-- histories as in `rerun_generic` exist -/
example : ∃ (s : RStep) (prev : FS), BuildPresent .atlas prev ∧ Chain Gen.atlasR21 prev 1 [s] := by
  refine ⟨⟨mkInv ["r", "d", "o"] 0, ⟨fun _ _ => 0, fun _ => false⟩, ⟨fun _ => .dir⟩⟩, ⟨fun _ => .dir⟩, rfl, ?_, ?_, ?_, trivial⟩
  · decide
  · intro p q _ h; simp at h
  · intro p _; rfl

end FaxVerif.C16
