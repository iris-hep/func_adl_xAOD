/-
C16 — the finite families of command lines, the environment facts and the combined leaf predicate that
the per-script kernel computations (`CheckAtlasR21.lean`, `CheckCmsR5.lean`) evaluate on the generated terms.
-/
import FaxVerif.C16.Abs
import FaxVerif.Generated.C16Scripts
namespace FaxVerif.C16

/-! ## The command lines covered -/

def sublists {α : Type} : List α → List (List α)
  | [] => [[]]
  | x :: xs => sublists xs ++ (sublists xs).map (x :: ·)

/-- getopts events for a sequence of option letters; `-d` / `-o` get the next fresh token -/
def mkEvs : List String → Nat → List Ev
  | [], _ => []
  | l :: r, k =>
    if l = "d" ∨ l = "o" then { opt := l, arg := some k } :: mkEvs r (k + 1)
    else { opt := l, arg := none } :: mkEvs r k

def mkInv (letters : List String) (nrest : Nat) : Inv :=
  let evs := mkEvs letters 0
  { evs := evs, nargs := evs.length + (evs.filter (fun e => e.arg.isSome)).length + nrest, nrest := nrest }

def flagSets : List (List String) := sublists ["c", "r", "d", "o"]

def extraOrders : List (List String) :=
  [["o", "d"], ["d", "r"], ["o", "r"], ["o", "d", "r"], ["d", "o", "c"], ["o", "d", "r", "c"],
   ["d", "d"], ["o", "o"], ["r", "c", "r"], ["d", "o", "d"]]

/-- every subset of {-c, -r, -d x, -o y} (16), plus other orders and repetitions (10) -/
def validInvs : List Inv := (flagSets ++ extraOrders).map (mkInv · 0)

/-- the 16 subsets in one order (for the liveness explorations) -/
def canonInvs : List Inv := flagSets.map (mkInv · 0)

/-- an unknown flag (or a missing option argument) after any set of valid flags -/
def badInvs : List Inv := flagSets.map (fun l => mkInv (l ++ ["?"]) 0) ++ [mkInv ["?", "c"] 0, mkInv ["c", "?", "r"] 1]

/-- stray operands after any set of valid flags -/
def strayInvs : List Inv := flagSets.map (mkInv · 1) ++ [mkInv [] 2, mkInv ["r"] 3]

def allInvs : List Inv := validInvs ++ badInvs ++ strayInvs

/-- the run-only invocations -/
def rerunInvs : List Inv := canonInvs.filter (fun i => (flagsOf i.evs {}).r && !(flagsOf i.evs {}).c)

/-- the invocations that build -/
def buildInvs : List Inv := canonInvs.filter (fun i => !(flagsOf i.evs {}).r)


/-! ## What a run needs from its environment (hypotheses of the liveness theorems) -/

def buildDir : Backend → SPath
  | .atlas => { base := .cwd0, segs := ["rel", "build"] }
  | .cms => { base := .cwd0, segs := ["analysis", "Analyzer"] }

def buildRoot : Backend → SPath
  | .atlas => { base := .cwd0, segs := ["rel"] }
  | .cms => { base := .cwd0, segs := ["analysis"] }

def scriptFile (n : String) : SPath := { base := .scriptDir, segs := [n] }

/-- to build: no build directory yet, the generated sources next to the script (and, for CMS, the
software set-up script) -/
def buildFacts : Backend → List (SPath × Fact)
  | .atlas => [(buildRoot .atlas, .absent), (scriptFile "package_CMakeLists.txt", .file), (scriptFile "query.h", .file),
               (scriptFile "query.cxx", .file), (scriptFile "ATestRun_eljob.py", .file)]
  | .cms => [(buildRoot .cms, .absent), (scriptFile "Analyzer.cc", .file), (scriptFile "analyzer_cfg.py", .file),
             (scriptFile "BuildFile.xml", .file)]

/-- to run: the platform set-up script (ATLAS), and a file list next to the script unless `-d` is given -/
def runFacts (b : Backend) (f : Flags) : List (SPath × Fact) :=
  (match b with
   | .atlas => [(({ base := .opaque (.env "AnalysisBaseExternals_PLATFORM"), segs := ["setup.sh"] } : SPath), Fact.file)]
   | .cms => []) ++
  (if f.d.isSome then [] else [(scriptList, Fact.file)])

def envFacts : Backend → List (SPath × Fact)
  | .atlas => []
  | .cms => [(({ base := .root, segs := ["opt", "cms", "entrypoint.sh"] } : SPath), Fact.file)]

def adequateFacts (b : Backend) (f : Flags) : List (SPath × Fact) :=
  envFacts b ++ (if f.r then [(buildDir b, Fact.dir)] else buildFacts b) ++ (if f.c then [] else runFacts b f)

def FactsHold (fs : FS) (facts : List (SPath × Fact)) : Prop := ∀ pf ∈ facts, pf.2.holdsK (fs pf.1).kind = true

/-! ## The explorations -/

/-- everything checked at a leaf of the general exploration (all oracles, all file systems) -/
def leafAll (b : Backend) (i : Inv) (ab : Abs) (code : Code) : Bool :=
  let f := flagsOf i.evs {}
  leafP b i false ab code &&
  -- a building invocation that exits 0 leaves the build directory behind
  (f.bad || i.nrest != 0 || f.r ||
    (match leafOk ab code with
     | some true => ab.know (buildDir b) .dir = some true
     | _ => true)) &&
  -- a run-only invocation does not disturb the build directory, whatever fails
  (f.bad || i.nrest != 0 || !f.r ||
    (symLookup ab.events (buildDir b)).isNone || ab.know (buildDir b) .dir = some true)

def checkAll (b : Backend) (script : List Sh) (invs : List Inv) : Bool :=
  invs.all (fun i => absCheck false (leafAll b i) (scriptTree script i) {})

/-- oracles under which no tool fails spontaneously, adequate file systems: must exit 0 -/
def checkLive (b : Backend) (script : List Sh) (invs : List Inv) : Bool :=
  invs.all (fun i => absCheck true (leafP b i true) (scriptTree script i) { facts := adequateFacts b (flagsOf i.evs {}) })

end FaxVerif.C16
