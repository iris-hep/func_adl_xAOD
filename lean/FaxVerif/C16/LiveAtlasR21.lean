/- C16 — `Gen.atlasR21`: the liveness exploration (no tool fails spontaneously, adequate environment), read off `checks_atlasR21`. -/
import FaxVerif.C16.CheckAtlasR21
namespace FaxVerif.C16
theorem checkLive_atlasR21 : checkLive .atlas Gen.atlasR21 canonInvs = true := (Bool.and_eq_true_iff.1 checks_atlasR21).2
end FaxVerif.C16
