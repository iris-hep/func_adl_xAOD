/-
C16 — what the per-script theorems claim of a run (`FlagsHonoured`, `Delivered`, `NoFreshOutput`) and of a history of
run-only invocations after a build (`Chain`, `ChainGood`).  Definitions only.
-/
import FaxVerif.C16.Checks
namespace FaxVerif.C16

/-- the flags are honoured: an unknown flag (or missing option argument) exits 10 and stray operands
exit 1, both before any step; `-c` runs no job and no delivery; `-r` runs no build step; a successful
invocation with neither flag ran every build tool before the job. -/
def FlagsHonoured (b : Backend) (i : Inv) (out : Outcome) : Prop :=
  let f := flagsOf i.evs {}
  (f.bad = true → out.code = 10 ∧ out.log = []) ∧
  (f.bad = false → i.nrest ≠ 0 → out.code = 1 ∧ out.log = []) ∧
  (f.bad = false → i.nrest = 0 →
    (f.c = true → ∀ e ∈ out.log, isRunStep b e.1.argv = false) ∧
    (f.r = true → ∀ e ∈ out.log, isBuild b e.1.argv = false) ∧
    (out.code = 0 → f.c = false → f.r = false →
      ∀ t ∈ buildTools b, ∃ e ∈ (viewOf out.log).take (findIdxV (isJob b) (viewOf out.log)), nameIs e.1 t = true))

/-- exit 0 of an invocation that runs ⇒ exactly one job step ran, the delivery is the last step and comes
after it, and the destination (`<-o path>/ANALYSIS.root` if the `-o` path is a directory, else the `-o`
path; default /results) holds the output of THIS invocation's job (`jobOut inv j …`) whose input was
exactly the `-d` argument (one line) or, without `-d`, the file list next to the script (else the one in
the start directory). -/
def Delivered (b : Backend) (i : Inv) (inv : Nat) (fs : FS) (out : Outcome) : Prop :=
  let f := flagsOf i.evs {}
  f.bad = false → i.nrest = 0 → out.code = 0 → f.c = false →
    deliveryLogV b (viewOf out.log) = true ∧
    (destNode (out.fs (outPath f)) (out.fs ((outPath f).child "ANALYSIS.root"))).norm =
      .file (expectedOut b inv optTok (listInputOf fs) f (findIdxV (isJob b) (viewOf out.log)))

/-- a non-zero exit (and a compile-only invocation) leaves nothing new at the destination -/
def NoFreshOutput (i : Inv) (fs : FS) (out : Outcome) : Prop :=
  let f := flagsOf i.evs {}
  (out.code ≠ 0 ∨ f.c = true) →
    out.fs (outPath f) = fs (outPath f) ∧
    out.fs ((outPath f).child "ANALYSIS.root") = fs ((outPath f).child "ANALYSIS.root")

structure RStep where
  i : Inv
  o : Oracle
  fs : FS

/-- A history of run-only invocations.  Each one starts from a tree-shaped file system that agrees, on the
script's own working area (everything below the start directory), with what the previous invocation
left behind; everything else — destinations, inputs, what this invocation's option arguments denote —
is arbitrary, so every invocation has its own `-d` input and `-o` destination. -/
def Chain (script : List Sh) : FS → Nat → List RStep → Prop
  | _, _, [] => True
  | prev, n, s :: r =>
    s.i ∈ rerunInvs ∧ WF s.fs ∧ (∀ p : SPath, p.base = .cwd0 → s.fs p = prev p) ∧
      Chain script (run script s.i s.o n s.fs).fs (n + 1) r

/-- every invocation of the history: no build step; exit 0 ⇒ delivered (own job, own input, own
destination); non-zero ⇒ nothing new at its destination; and it does exit 0 whenever none of its tools
fails and its run-time environment is adequate — the build made once is still usable. -/
def ChainGood (b : Backend) (script : List Sh) : Nat → List RStep → Prop
  | _, [] => True
  | n, s :: r =>
    ((∀ e ∈ (run script s.i s.o n s.fs).log, isBuild b e.1.argv = false) ∧
      Delivered b s.i n s.fs (run script s.i s.o n s.fs) ∧
      NoFreshOutput s.i s.fs (run script s.i s.o n s.fs) ∧
      ((∀ k c, s.o.status k c = 0) → FactsHold s.fs (envFacts b ++ runFacts b (flagsOf s.i.evs {})) →
        (run script s.i s.o n s.fs).code = 0)) ∧
    ChainGood b script (n + 1) r

end FaxVerif.C16
