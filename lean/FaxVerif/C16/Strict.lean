/-
C16 — the invariant of `Strict` scripts: after `set -e`, between two statements every logged step has succeeded
(`SInv`); a statement either keeps that or exits with a code that is 0 only if every step succeeded (`Post`).  By
induction over the script (`post_all`); `failstop` rests on it.
-/
import FaxVerif.C16.Model
namespace FaxVerif.C16

theorem interp_bind {α β : Type} (o : Oracle) (inv : Nat) (t : Tree α) (k : α → Tree β) (d : Dyn) :
    interp o inv (t.bind k) d = interp o inv (k (interp o inv t d).1) (interp o inv t d).2 := by
  induction t generalizing d with
  | ret a => simp [Tree.bind, interp]
  | cmd c pre effs ok fail ihok ihfail =>
    simp only [Tree.bind, interp]
    split
    · exact ihok () _
    · exact ihfail () _
  | ask q y n ihy ihn =>
    simp only [Tree.bind, interp]
    split
    · exact ihy () _
    · exact ihn () _
  | eff e next ih =>
    simp only [Tree.bind, interp]
    exact ih () _

theorem interp_seqRes (o : Oracle) (inv : Nat) (t : Tree Res) (k : St → Tree Res) (d : Dyn) :
    interp o inv (seqRes t k) d =
      match interp o inv t d with
      | (.norm st, d') => interp o inv (k st) d'
      | (.exit c, d') => (.exit c, d') := by
  unfold seqRes
  rw [interp_bind]
  rcases interp o inv t d with ⟨_ | _, d'⟩ <;> rfl

def AllOk (log : List (Cmd × Nat)) : Prop := ∀ e ∈ log, e.2 = 0

/-- the invariant of a `Strict` script between two statements -/
structure SInv (st : St) (d : Dyn) : Prop where
  errexit : st.errexit = true
  ncmd : st.ncmd = d.log.length
  allOk : AllOk d.log

def Post (o : Oracle) (inv : Nat) (t : Tree Res) (d : Dyn) : Prop :=
  match interp o inv t d with
  | (.norm st', d') => SInv st' d'
  | (.exit c, d') => c.eval d'.log = 0 → AllOk d'.log

theorem post_ret_norm {o inv st d} (h : SInv st d) : Post o inv (.ret (.norm st)) d := by
  simp [Post, interp]; exact h

theorem post_ret_exit_lit {o inv n d} (h : AllOk d.log) : Post o inv (.ret (.exit (.lit n))) d := by
  simp [Post, interp]; intro _; exact h

theorem post_seqRes {o inv} {t : Tree Res} {k : St → Tree Res} {d : Dyn}
    (h1 : Post o inv t d) (h2 : ∀ st' d', SInv st' d' → Post o inv (k st') d') :
    Post o inv (seqRes t k) d := by
  unfold Post at h1 ⊢
  rw [interp_seqRes]
  generalize interp o inv t d = r at h1 ⊢
  rcases r with ⟨st' | c, d'⟩
  · exact h2 st' d' h1
  · exact h1

theorem statusAt_append_self (log : List (Cmd × Nat)) (c : Cmd) (s : Nat) :
    statusAt (log ++ [(c, s)]) log.length = s := by
  simp [statusAt]

theorem post_failWith_lit {o inv st d n} (hn : n ≠ 0) (h : SInv st d) :
    Post o inv (failWith st (.lit n)) d := by
  simp [failWith, h.errexit, Post, interp, Code.eval, hn]

theorem post_ask {o inv q} {y n : Unit → Tree Res} {d : Dyn}
    (hy : Post o inv (y ()) d) (hn : Post o inv (n ()) d) : Post o inv (.ask q y n) d := by
  unfold Post at *
  simp only [interp]
  cases h : answer o d.fs q <;> simp only [Bool.false_eq_true, if_true, if_false] <;> assumption

theorem post_eff {o inv e} {next : Unit → Tree Res} {d : Dyn}
    (h : Post o inv (next ()) { d with fs := applyEff inv d.log.length d.fs e }) : Post o inv (.eff e next) d := by
  unfold Post at *
  simp only [interp]
  exact h

theorem post_cmd {o inv c pre effs} {ok fail : Unit → Tree Res} {d : Dyn}
    (hok : Post o inv (ok ()) { fs := applyEffs inv d.log.length d.fs effs, log := d.log ++ [(c, 0)] })
    (hfail : ∀ s, s ≠ 0 → Post o inv (fail ()) { d with log := d.log ++ [(c, s)] }) :
    Post o inv (.cmd c pre effs ok fail) d := by
  unfold Post at *
  simp only [interp]
  by_cases hs : cmdStatus o d.fs d.log.length c pre = 0
  · simp only [hs, if_true]; exact hok
  · simp only [hs, if_false]; exact hfail _ hs

theorem post_runCmd {o inv} (st : St) (kind : CmdKind) (argv : List Val) (extra : List Effect) (d : Dyn)
    (h : SInv st d) : Post o inv (runCmd st kind argv extra) d := by
  unfold runCmd
  apply post_cmd
  · apply post_ret_norm
    refine ⟨h.errexit, ?_, ?_⟩
    · simp [h.ncmd]
    · intro e he
      simp only [List.mem_append, List.mem_singleton] at he
      rcases he with he | he
      · exact h.allOk e he
      · subst he; rfl
  · intro s hs
    simp only [failWith, h.errexit, if_true]
    unfold Post
    simp only [interp]
    intro hc
    exfalso
    simp only [Code.eval, h.ncmd, statusAt_append_self] at hc
    exact hs hc

theorem interp_staticOrAsk (o : Oracle) (inv : Nat) (a b : Val) (d : Dyn) :
    (interp o inv (staticOrAsk a b) d).2 = d := by
  unfold staticOrAsk
  split <;> simp only [interp] <;> (try split) <;> rfl

theorem interp_testTree (o : Oracle) (inv : Nat) (st : St) (c : Test) (d : Dyn) :
    (interp o inv (testTree st c) d).2 = d := by
  cases c with
  | strEq a b => exact interp_staticOrAsk ..
  | strNe a b =>
    simp only [testTree, interp_bind, interp]
    exact interp_staticOrAsk ..
  | empty a => simp only [testTree]; split <;> simp only [interp] <;> (try split) <;> rfl
  | pathExists p => simp only [testTree, interp]; split <;> rfl
  | isFile p => simp only [testTree, interp]; split <;> rfl
  | isDir p => simp only [testTree, interp]; split <;> rfl
  | globPrefix a pre => simp only [testTree]; split <;> simp only [interp] <;> (try split) <;> rfl
  | bad t => simp [testTree, interp]

theorem post_test_bind {o inv} (st : St) (c : Test) (k : Bool → Tree Res) (d : Dyn)
    (h : ∀ b, Post o inv (k b) d) : Post o inv ((testTree st c).bind k) d := by
  unfold Post
  rw [interp_bind, interp_testTree]
  exact h _

theorem SInv.congr {st st' d} (h : SInv st d) (he : st'.errexit = st.errexit) (hn : st'.ncmd = st.ncmd) : SInv st' d :=
  ⟨he.trans h.errexit, hn.trans h.ncmd, h.allOk⟩

theorem post_loopEvs {o inv} (var : String) (body : Ev → St → Tree Res)
    (hb : ∀ ev st d, SInv st d → Post o inv (body ev st) d) :
    ∀ (evs : List Ev) (st : St) (d : Dyn), SInv st d → Post o inv (loopEvs var body evs st) d := by
  intro evs
  induction evs with
  | nil => intro st d h; exact post_ret_norm (h.congr rfl rfl)
  | cons ev evs ih =>
    intro st d h
    exact post_seqRes (hb _ _ _ (h.congr rfl rfl)) ih

/-- The invariant through `exec`, `execArms` and `execBlock`, proved jointly by the induction principle of `exec`:
stated as three mutually recursive theorems, the recursion over the nested inductive `Sh` has to be compiled
for them once more, which is slow to check. -/
theorem post_all {o inv} :
    (∀ s st, strictSh s = true → ∀ d, SInv st d → Post o inv (exec s st) d) ∧
    (∀ arms subject st, strictArms arms = true → ∀ d, SInv st d → Post o inv (execArms arms subject st) d) ∧
    (∀ b st, strictBlock b = true → ∀ d, SInv st d → Post o inv (execBlock b st) d) := by
  apply exec.mutual_induct
  · intro on st hs d h
    simp only [strictSh] at hs
    subst hs
    exact post_ret_norm ⟨rfl, h.ncmd, h.allOk⟩
  · exact fun st _ d h => post_ret_norm (h.congr rfl rfl)
  · exact fun v w st _ d h => post_ret_norm (h.congr rfl rfl)
  · exact fun v st _ d h => post_ret_norm (h.congr rfl rfl)
  · exact fun v st _ d h => post_ret_norm (h.congr rfl rfl)
  · exact fun v w st _ d h => by cases w <;> exact post_ret_norm (h.congr rfl rfl)
  · exact fun name args st _ d h => post_runCmd _ _ _ _ _ h
  · exact fun target lines st _ d h => post_eff (post_runCmd st _ _ _ _ ⟨h.errexit, h.ncmd, h.allOk⟩)
  · exact fun args st _ d h => post_ret_norm (h.congr rfl rfl)
  · exact fun args st t _ d h => post_eff (post_ret_norm ⟨h.errexit, h.ncmd, h.allOk⟩)
  · exact fun dir st _ d h => post_ask (post_ret_norm (h.congr rfl rfl)) (post_failWith_lit (by decide) h)
  · exact fun file st _ d h => post_ask (post_runCmd st _ _ _ _ h) (post_failWith_lit (by decide) h)
  · exact fun _ name args st _ d h => post_runCmd _ _ _ _ _ h
  · exact fun code st _ d h => post_ret_exit_lit h.allOk
  · exact fun st _ d h => post_ret_norm (h.congr rfl rfl)
  · intro c thn els st ihT ihE hs d h
    simp only [strictSh, Bool.and_eq_true] at hs
    unfold exec
    apply post_test_bind
    intro b
    cases b with
    | true => exact ihT hs.1.2 d (h.congr rfl rfl)
    | false => exact ihE hs.2 d (h.congr rfl rfl)
  · intro spec var arms st ih hs d h
    unfold exec
    exact post_loopEvs _ _ (fun ev st' d' h' => ih ev st' hs d' (h'.congr rfl rfl)) _ _ _ h
  · exact fun s st _ hs => by cases hs
  · exact fun t st hs => by cases hs
  · exact fun st _ d h => post_ret_norm h
  · intro s r st ih1 ih2 hs d h
    simp only [strictBlock, Bool.and_eq_true] at hs
    exact post_seqRes (ih1 hs.1 d h) (fun st' d' h' => ih2 st' hs.2 d' h')
  · exact fun _ st _ d h => post_ret_norm h
  · intro pat body r subject st hm ih hs d h
    simp only [strictArms, Bool.and_eq_true] at hs
    simp only [execArms, hm, if_true]
    exact ih hs.1 d h
  · intro pat body r subject st hm ih hs d h
    simp only [strictArms, Bool.and_eq_true] at hs
    simp only [execArms, hm]
    exact ih hs.2 d h

theorem post_exec {o inv} : ∀ (s : Sh) (st : St) (d : Dyn), strictSh s = true → SInv st d → Post o inv (exec s st) d :=
  fun s st d hs h => post_all.1 s st hs d h

theorem post_execBlock {o inv} : ∀ (b : List Sh) (st : St) (d : Dyn), strictBlock b = true → SInv st d → Post o inv (execBlock b st) d :=
  fun b st d hs h => post_all.2.2 b st hs d h

theorem post_execArms {o inv} : ∀ (arms : List (String × List Sh)) (subject : List Char) (st : St) (d : Dyn),
    strictArms arms = true → SInv st d → Post o inv (execArms arms subject st) d :=
  fun arms subject st d hs h => post_all.2.1 arms subject st hs d h

end FaxVerif.C16
