/-
C16 — model of the three `runner.sh` scripts.

* `Sh` is the AST of the bash subset the scripts use.  The scripts themselves are *generated*
  constants (`FaxVerif/Generated/C16Scripts.lean`, rewritten from /repo on every run by
  tools/props/c16.py + tools/c16_lib/shparse.py).  Anything the translator does not recognise is an
  `unknown` node (or a `bad` word part / `bad` test), which the `Strict` discipline rejects.
* Strings the script never inspects (option arguments, inherited environment, the start directory,
  the script directory) are *atoms*; a value is a list of atoms.  So a theorem about a script run with
  `-d ⟨optarg 0⟩` is a theorem about every string the user may pass (word splitting of such strings is
  NOT modelled: see the known findings).
* Big-step semantics in two stages:
    `exec : Sh → St → Tree Res`   unfolds the script into a decision tree whose inner nodes are the
                                  points where the outside world is consulted: an external command
                                  (`cmd`: succeeds or fails; carries the tool's pre-conditions and its
                                  file-system effects), a file-system / environment query (`ask`) or a
                                  file-system effect of the shell itself (`eff`: redirections);
    `interp : Tree α → Dyn → α × Dyn`  walks the tree under universally quantified oracles
                                  (`Oracle.status : Nat → Cmd → Nat` per invocation index,
                                  `Oracle.q` for non-file queries) from an arbitrary initial file
                                  system, maintaining the file system and the command log.
  `set -e`, `$?`, `exit`, `if`/`elif`/`else` over `[ … ]`/`[[ … ]]`, the `while getopts … case` loop
  (`getoptsParse spec` models `getopts spec` for any option string, the three scripts carry `"d:o:cr"`:
  clusters, attached/detached arguments, missing argument, `--`), `shift $((OPTIND-1))`, `cd`, `source`,
  `eval` of a literal, `export`, redirections and here-documents are modelled; a step is atomic success / failure.  The semantics and the tool table
  (`toolPlan`: what mkdir/cp/rm/cat/the job/the converter do) are validated against bash with stub
  tools on every run of the check.
No Mathlib / Batteries import: the driver runs this file with `lean --run`.
-/
namespace FaxVerif.C16

/-! ## Symbolic strings -/

inductive Atom where
  | lit (s : String)
  | num (n : Nat)
  | optarg (k : Nat)      -- argument of the k-th getopts event of this invocation
  | cwd0                  -- directory the script is started in
  | scriptDir             -- directory that contains the script
  | env (name : String)   -- inherited environment variable
  | posarg (n : Nat)      -- n-th operand left after the options
  | posargs               -- "$@" after the shift
  deriving DecidableEq, Repr, Inhabited

abbrev Val := List Atom

inductive Tok where
  | ch (c : Char)
  | at (a : Atom)
  deriving DecidableEq, Repr

def digitChar (d : Nat) : Char := ['0', '1', '2', '3', '4', '5', '6', '7', '8', '9'].getD d '0'

def digitsAux : Nat → Nat → List Char → List Char
  | 0, _, acc => acc
  | f + 1, n, acc =>
    let acc' := digitChar (n % 10) :: acc
    if n / 10 = 0 then acc' else digitsAux f (n / 10) acc'

def natChars (n : Nat) : List Char := digitsAux (n + 1) n []

def Atom.toks : Atom → List Tok
  | .lit s => s.toList.map .ch
  | .num n => (natChars n).map .ch
  | a => [.at a]

def Val.toks (v : Val) : List Tok := v.flatMap Atom.toks

/-- characters of a value made of literals only -/
def toksChars : List Tok → Option (List Char)
  | [] => some []
  | .ch c :: r => (toksChars r).map (c :: ·)
  | .at _ :: _ => none

def Val.chars? (v : Val) : Option (List Char) := toksChars v.toks

/-- regroup tokens into a value (adjacent characters become one literal) -/
def toksValAux : List Tok → List Char → Val
  | [], acc => if acc.isEmpty then [] else [.lit (String.ofList acc.reverse)]
  | .ch c :: r, acc => toksValAux r (c :: acc)
  | .at a :: r, acc => (if acc.isEmpty then [] else [.lit (String.ofList acc.reverse)]) ++ a :: toksValAux r []

def toksVal (t : List Tok) : Val := toksValAux t []

/-- canonical form of a value: adjacent literals merged, numbers spelled out -/
def Val.norm (v : Val) : Val := toksVal v.toks

/-! ## Symbolic paths -/

inductive Base where
  | root | cwd0 | scriptDir
  | opaque (a : Atom)     -- a path handed in from outside (option argument, environment)
  | weird (v : Val)       -- not understood as a path
  deriving DecidableEq, Repr

structure SPath where
  base : Base
  segs : List String
  deriving DecidableEq, Repr

def SPath.push (p : SPath) (seg : String) : SPath :=
  if seg = "" ∨ seg = "." then p
  else if seg = ".." then
    match p.segs.reverse with
    | [] => (match p.base with | .root => p | _ => { p with segs := [".."] })
    | l :: r => if l = ".." then { p with segs := p.segs ++ [".."] } else { p with segs := r.reverse }
  else { p with segs := p.segs ++ [seg] }

/-- split a token list at '/' into segments; `none` if an atom occurs inside -/
def segsAux : List Tok → List Char → Option (List String)
  | [], acc => some [String.ofList acc.reverse]
  | .ch c :: r, acc =>
    if c = '/' then (segsAux r []).map (String.ofList acc.reverse :: ·) else segsAux r (c :: acc)
  | .at _ :: _, _ => none

def pushAll (p : SPath) : List String → SPath
  | [] => p
  | s :: r => pushAll (p.push s) r

def baseOfAtom : Atom → Base
  | .cwd0 => .cwd0
  | .scriptDir => .scriptDir
  | a => .opaque a

/-- the path a word value denotes when used as a file name in directory `cwd` -/
def resolve (cwd : SPath) (v : Val) : SPath :=
  match v.toks with
  | [] => { base := .weird v, segs := [] }
  | .ch c :: r =>
    if c = '/' then
      match segsAux r [] with
      | some ss => pushAll { base := .root, segs := [] } ss
      | none => { base := .weird v, segs := [] }
    else
      match segsAux (.ch c :: r) [] with
      | some ss => pushAll cwd ss
      | none => { base := .weird v, segs := [] }
  | .at a :: r =>
    match r with
    | [] => { base := baseOfAtom a, segs := [] }
    | .ch c :: r' =>
      if c = '/' then
        match segsAux r' [] with
        | some ss => pushAll { base := baseOfAtom a, segs := [] } ss
        | none => { base := .weird v, segs := [] }
      else { base := .weird v, segs := [] }
    | .at _ :: _ => { base := .weird v, segs := [] }

def intersperseSlash : List String → Val
  | [] => []
  | s :: r => .lit "/" :: .lit s :: intersperseSlash r

/-- the string `pwd` prints in that directory -/
def SPath.toVal (p : SPath) : Val :=
  match p.base with
  | .root => if p.segs.isEmpty then [.lit "/"] else intersperseSlash p.segs
  | .cwd0 => .cwd0 :: intersperseSlash p.segs
  | .scriptDir => .scriptDir :: intersperseSlash p.segs
  | .opaque a => a :: intersperseSlash p.segs
  | .weird v => v ++ intersperseSlash p.segs

def SPath.child (p : SPath) (seg : String) : SPath := { p with segs := p.segs ++ [seg] }

def SPath.isUnder (q p : SPath) : Bool := decide (q.base = p.base) && p.segs.isPrefixOf q.segs

def SPath.last? (p : SPath) : Option String := p.segs.getLast?

/-! ## Syntax -/

inductive Part where
  | lit (s : String)
  | var (name : String)
  | pos (n : Nat)          -- $1 …
  | argc                   -- $#
  | allArgs                -- $@
  | optindMinus1           -- $((OPTIND-1))
  | bad (text : String)    -- not recognised by the translator
  deriving DecidableEq, Repr

structure Word where
  quoted : Bool
  parts : List Part
  deriving DecidableEq, Repr

inductive Test where
  | strEq (a b : Word)
  | strNe (a b : Word)
  | empty (a : Word)                       -- -z
  | pathExists (p : Word)                  -- -e
  | isFile (p : Word)                      -- -f
  | isDir (p : Word)                       -- -d
  | globPrefix (a : Word) (pre : String)   -- [[ a == "pre"* ]]
  | bad (text : String)
  deriving DecidableEq, Repr

inductive Sh where
  | setE (on : Bool)
  | setX
  | assign (v : String) (w : Word)
  | assignPwd (v : String)                 -- v=`pwd`
  | assignScriptDir (v : String)           -- v="$( cd "$( dirname "${BASH_SOURCE[0]}" )" >/dev/null 2>&1 && pwd )"
  | exportVar (v : String) (w : Option Word)
  | cmd (name : Word) (args : List Word)   -- simple command found through PATH
  | heredoc (target : Word) (lines : Nat)  -- cat > target << EOF … EOF
  | echo (args : List Word) (redir : Option Word)
  | cd (dir : Word)
  | source (file : Word)
  | evalCmd (var : String) (name : Word) (args : List Word)  -- eval $var, var holding this literal command
  | exit (code : Nat)
  | shiftOptind                            -- shift $((OPTIND-1))
  | ite (c : Test) (thn els : List Sh)
  | getoptsCase (spec : String) (var : String) (arms : List (String × List Sh))
  | orTrue (s : Sh)                        -- s || true
  | unknown (text : String)
  deriving Repr

/-! ## getopts -/

/-- one round of `getopts`: the value the variable gets and, for options with an argument, the
index of the token standing for `$OPTARG` -/
structure Ev where
  opt : String
  arg : Option Nat
  deriving DecidableEq, Repr

/-- what one invocation looks like to the script -/
structure Inv where
  evs : List Ev
  nargs : Nat      -- `$#` before the shift
  nrest : Nat      -- operands left after the options
  deriving DecidableEq, Repr

/-- does option letter `c` occur in the getopts spec, and does it take an argument? -/
def specLookup : List Char → Char → Option Bool
  | [], _ => none
  | [x], c => if x = c ∧ c ≠ ':' then some false else none
  | x :: y :: r, c =>
    if x = c ∧ c ≠ ':' then some (y = ':') else specLookup (y :: r) c

/-- Events for one cluster `-abc` (characters after the dash).  Returns the events, the values of
the option arguments found, and the arguments that remain (one fewer if the cluster's last option took the
next argument as its value); the `Nat` is the token number the next option argument gets. -/
def clusterEvs (spec : List Char) : List Char → List String → Nat → (List Ev × List String × List String)
  | [], rest, _ => ([], [], rest)
  | c :: cs, rest, k =>
    match specLookup spec c with
    | none =>
      let (e, a, r) := clusterEvs spec cs rest k
      ({ opt := "?", arg := none } :: e, a, r)
    | some false =>
      let (e, a, r) := clusterEvs spec cs rest k
      ({ opt := String.singleton c, arg := none } :: e, a, r)
    | some true =>
      if cs ≠ [] then ([{ opt := String.singleton c, arg := some k }], [String.ofList cs], rest)
      else match rest with
        | [] => ([{ opt := "?", arg := none }], [], [])
        | a :: rest' => ([{ opt := String.singleton c, arg := some k }], [a], rest')

/-- `getopts spec` iterated over an argument vector: events, option-argument values (token k of the
events is the k-th value) and the operands left over.  (Non-silent mode: an unknown letter and a
missing argument both give `?`.) -/
def getoptsAux (spec : List Char) : Nat → List String → Nat → (List Ev × List String × List String)
  | 0, rest, _ => ([], [], rest)
  | fuel + 1, args, k =>
    match args with
    | [] => ([], [], [])
    | a :: rest =>
      match a.toList with
      | '-' :: c :: cs =>
        if c = '-' ∧ cs = [] then ([], [], rest)
        else
          let (e1, v1, rest1) := clusterEvs spec (c :: cs) rest k
          let (e2, v2, rest2) := getoptsAux spec fuel rest1 (k + v1.length)
          (e1 ++ e2, v1 ++ v2, rest2)
      | _ => ([], [], a :: rest)

def getoptsParse (spec : String) (args : List String) : Inv × List String × List String :=
  let (e, v, rest) := getoptsAux spec.toList (args.length + 1) args 0
  ({ evs := e, nargs := args.length, nrest := rest.length }, v, rest)

/-! ## Decision trees -/

inductive CmdKind where
  | ext | source
  deriving DecidableEq, Repr

structure Cmd where
  kind : CmdKind
  argv : List Val
  deriving DecidableEq, Repr

inductive Content where
  | missing
  | text (v : Val)
  | heredoc (lines : Nat)
  | jobOut (inv idx : Nat) (input : Content)
  | converted (c : Content)
  deriving DecidableEq, Repr

inductive Node where
  | absent | dir | file (c : Content)
  deriving DecidableEq, Repr

inductive Pre where
  | absent (p : SPath)     -- the tool refuses an existing path
  | isFile (p : SPath)     -- the tool needs this file
  | static (ok : Bool)
  deriving DecidableEq, Repr

inductive Effect where
  | mkdir (p : SPath)
  | write (p : SPath) (c : Content)
  | copy (src dst : SPath)
  | copyInto (src dst : SPath) (name : String)   -- `cp src dst`: into dst/name if dst is a directory, else onto dst
  | convert (src dst : SPath)
  | job (out inp : SPath)
  | remove (p : SPath)
  deriving DecidableEq, Repr

inductive Query where
  | isDir (p : SPath)
  | isFile (p : SPath)
  | pathExists (p : SPath)
  | valEmpty (v : Val)
  | strEq (a b : Val)
  | globPrefix (v : Val) (pre : String)
  deriving DecidableEq, Repr

/-- Sub-trees are suspended (`Unit → Tree α`) so that running the model only unfolds the branch taken. -/
inductive Tree (α : Type) where
  | ret (a : α)
  | cmd (c : Cmd) (pre : List Pre) (effs : List Effect) (ok fail : Unit → Tree α)
  | ask (q : Query) (yes no : Unit → Tree α)
  | eff (e : Effect) (next : Unit → Tree α)

def Tree.bind {α β : Type} : Tree α → (α → Tree β) → Tree β
  | .ret a, k => k a
  | .cmd c p e ok fail, k => .cmd c p e (fun u => (ok u).bind k) (fun u => (fail u).bind k)
  | .ask q y n, k => .ask q (fun u => (y u).bind k) (fun u => (n u).bind k)
  | .eff e next, k => .eff e (fun u => (next u).bind k)

/-! ## Shell state and expansion -/

inductive Code where
  | lit (n : Nat)
  | statusOf (idx : Nat)     -- exit status of the idx-th external command of this invocation
  deriving DecidableEq, Repr

structure St where
  vars : List (String × Val)
  exported : List String
  errexit : Bool
  last : Code                -- `$?`
  ncmd : Nat                 -- external commands run so far
  cwd : SPath
  evs : List Ev              -- getopts events not yet consumed
  nargs : Nat
  nrest : Nat
  shifted : Bool
  deriving Repr

inductive Res where
  | norm (st : St)
  | exit (c : Code)

def lookupVar : List (String × Val) → String → Option Val
  | [], _ => none
  | (k, v) :: r, n => if k = n then some v else lookupVar r n

def setVarL : List (String × Val) → String → Val → List (String × Val)
  | [], n, v => [(n, v)]
  | (k, w) :: r, n, v => if k = n then (k, v) :: r else (k, w) :: setVarL r n v

def St.get (st : St) (n : String) : Val :=
  match lookupVar st.vars n with
  | some v => v
  | none => [.env n]

def St.set (st : St) (n : String) (v : Val) : St := { st with vars := setVarL st.vars n v }

def posargsFrom : Nat → Nat → Val
  | 0, _ => []
  | n + 1, i => (if i = 1 then [] else [.lit " "]) ++ .posarg i :: posargsFrom n (i + 1)

def expandPart (st : St) : Part → Val
  | .lit s => [.lit s]
  | .var n => st.get n
  | .pos n => if st.shifted then (if n ≤ st.nrest ∧ 0 < n then [.posarg n] else []) else [.lit "?unshifted"]
  | .argc => if st.shifted then [.num st.nrest] else [.num st.nargs]
  | .allArgs => if st.shifted then posargsFrom st.nrest 1 else [.lit "?unshifted"]
  | .optindMinus1 => [.num (st.nargs - st.nrest)]
  | .bad t => [.lit t]

def expand (st : St) (w : Word) : Val := w.parts.flatMap (expandPart st)

/-- words of a command line; an unquoted word that expands to nothing disappears -/
def expandArgs (st : St) : List Word → List Val
  | [] => []
  | w :: r =>
    let v := expand st w
    if !w.quoted && v.isEmpty then expandArgs st r else v :: expandArgs st r

/-! ## What the tools do (as far as the property needs; the stubs of the harness do the same) -/

structure Plan where
  pre : List Pre
  effs : List Effect

def noPlan : Plan := { pre := [], effs := [] }

def isOption (v : Val) : Bool :=
  match v.toks with
  | .ch c :: _ => c = '-'
  | _ => false

/-- drop a literal prefix from a token list -/
def dropPrefix : List Char → List Tok → Option (List Tok)
  | [], t => some t
  | c :: cs, .ch d :: t => if c = d then dropPrefix cs t else none
  | _ :: _, _ => none

/-- split at the first occurrence of a literal pattern -/
def splitAt? (pat : List Char) : List Tok → Option (List Tok × List Tok)
  | [] => if pat.isEmpty then some ([], []) else none
  | t :: r =>
    match dropPrefix pat (t :: r) with
    | some rest => some ([], rest)
    | none => (splitAt? pat r).map (fun (a, b) => (t :: a, b))

/-- `macro.C("in","out")` → (in, out) -/
def macroArgs (v : Val) : Option (Val × Val) :=
  match splitAt? ['(', '"'] v.toks with
  | none => none
  | some (_, r1) =>
    match splitAt? ['"', ',', '"'] r1 with
    | none => none
    | some (a, r2) =>
      match splitAt? ['"', ')'] r2 with
      | none => none
      | some (b, _) => some (toksVal a, toksVal b)

def submissionDir? : List Val → Option Val
  | [] => none
  | v :: r =>
    match dropPrefix "--submission-dir=".toList v.toks with
    | some t => some (toksVal t)
    | none => submissionDir? r

def copyPlan (st : St) (a b : Val) : Plan :=
  let src := resolve st.cwd a
  let dst := resolve st.cwd b
  match src.last? with
  | some n => { pre := [.isFile src], effs := [.copyInto src dst n] }
  | none => { pre := [.static false], effs := [] }

/-- pre-conditions and effects of the tools the scripts call -/
def toolPlan (st : St) (argv : List Val) : Plan :=
  match argv with
  | [] => noPlan
  | name :: args =>
    match name.chars? with
    | none => noPlan
    | some n =>
      let operands := args.filter (fun a => !isOption a)
      let hasOpts := args.any isOption
      if n = "mkdir".toList then
        let ps := operands.map (resolve st.cwd)
        { pre := if hasOpts then [] else ps.map .absent, effs := ps.map .mkdir }
      else if n = "cp".toList ∨ n = "xrdcp".toList then
        match args with
        | [a, b] => if hasOpts then noPlan else copyPlan st a b
        | _ => noPlan
      else if n = "rm".toList then
        { pre := [], effs := operands.map (fun a => .remove (resolve st.cwd a)) }
      else if n = "python".toList then
        match submissionDir? args with
        | some d =>
          let p := resolve st.cwd d
          { pre := [.absent p],
                   effs := [.mkdir p, .mkdir (p.child "data-ANALYSIS"),
                            .job ((p.child "data-ANALYSIS").child "ANALYSIS.root") (st.cwd.child "filelist.txt")] }
        | none => noPlan
      else if n = "cmsRun".toList then
        { pre := [.static (st.exported.contains "CMS_OUTPUT_FILE")],
                 effs := [.job (resolve st.cwd (st.get "CMS_OUTPUT_FILE")) (st.cwd.child "filelist.txt")] }
      else if n = "mkedanlzr".toList then
        match operands with
        | [a] =>
          let p := resolve st.cwd a
          { pre := [.absent p], effs := [.mkdir p, .mkdir (p.child "src"), .mkdir (p.child "plugins"), .mkdir (p.child "python")] }
        | _ => noPlan
      else if n = "root".toList then
        match args.getLast? with
        | some m =>
          match macroArgs m with
          | some (a, b) =>
            let src := resolve st.cwd a
            { pre := [.isFile src], effs := [.convert src (resolve st.cwd b)] }
          | none => noPlan
        | none => noPlan
      else noPlan

/-! ## Big-step semantics, stage 1: script ↦ decision tree -/

def failWith (st : St) (c : Code) : Tree Res :=
  if st.errexit then .ret (.exit c) else .ret (.norm { st with last := c })

def okSt (st : St) : St := { st with last := .lit 0 }

/-- run an external command with the given argv -/
def runCmd (st : St) (kind : CmdKind) (argv : List Val) (extra : List Effect) : Tree Res :=
  let c : Cmd := { kind := kind, argv := argv }
  let stOk : St := { st with ncmd := st.ncmd + 1, last := .lit 0 }
  let stFail : St := { st with ncmd := st.ncmd + 1 }
  let p : Plan := if kind = .ext then toolPlan st argv else noPlan
  .cmd c p.pre (extra ++ p.effs) (fun _ => .ret (.norm stOk)) (fun _ => failWith stFail (.statusOf st.ncmd))

def staticOrAsk (a b : Val) : Tree Bool :=
  match a.chars?, b.chars? with
  | some x, some y => .ret (x == y)
  | _, _ => .ask (.strEq a.norm b.norm) (fun _ => .ret true) (fun _ => .ret false)

def testTree (st : St) : Test → Tree Bool
  | .strEq a b => staticOrAsk (expand st a) (expand st b)
  | .strNe a b => (staticOrAsk (expand st a) (expand st b)).bind (fun r => .ret (!r))
  | .empty a =>
    let v := expand st a
    match v.chars? with
    | some x => .ret x.isEmpty
    | none => .ask (.valEmpty v.norm) (fun _ => .ret true) (fun _ => .ret false)
  | .pathExists p => .ask (.pathExists (resolve st.cwd (expand st p))) (fun _ => .ret true) (fun _ => .ret false)
  | .isFile p => .ask (.isFile (resolve st.cwd (expand st p))) (fun _ => .ret true) (fun _ => .ret false)
  | .isDir p => .ask (.isDir (resolve st.cwd (expand st p))) (fun _ => .ret true) (fun _ => .ret false)
  | .globPrefix a pre =>
    let v := expand st a
    match v.chars? with
    | some x => .ret (pre.toList.isPrefixOf x)
    | none => .ask (.globPrefix v.norm pre) (fun _ => .ret true) (fun _ => .ret false)
  | .bad _ => .ret false

/-- `case` pattern: literal characters, `?` (one character), a trailing `*` -/
def patMatch : List Char → List Char → Bool
  | [], s => s.isEmpty
  | ['*'], _ => true
  | p :: ps, s =>
    match s with
    | [] => false
    | c :: cs => (p = '?' ∨ p = c) && patMatch ps cs

def seqRes (t : Tree Res) (k : St → Tree Res) : Tree Res :=
  t.bind (fun r => match r with | .norm st => k st | .exit c => .ret (.exit c))

def loopEvs (var : String) (body : Ev → St → Tree Res) : List Ev → St → Tree Res
  | [], st => .ret (.norm (okSt ((st.set var [.lit "?"]).set "OPTARG" [])))
  | ev :: evs, st =>
    let st1 := (st.set var [.lit ev.opt]).set "OPTARG" (match ev.arg with | some k => [.optarg k] | none => [])
    seqRes (body ev { st1 with evs := evs }) (loopEvs var body evs)

mutual
def exec : Sh → St → Tree Res
  | .setE on, st => .ret (.norm { st with errexit := on, last := .lit 0 })
  | .setX, st => .ret (.norm (okSt st))
  | .assign v w, st => .ret (.norm (okSt (st.set v (expand st w))))
  | .assignPwd v, st => .ret (.norm (okSt (st.set v st.cwd.toVal)))
  | .assignScriptDir v, st => .ret (.norm (okSt (st.set v [.scriptDir])))
  | .exportVar v w, st =>
    let st1 := match w with | some w => st.set v (expand st w) | none => st
    .ret (.norm (okSt { st1 with exported := v :: st1.exported }))
  | .cmd name args, st => runCmd st .ext (expandArgs st (name :: args)) []
  | .heredoc target lines, st =>
    -- the shell creates / truncates the target, then `cat` copies the document into it
    let p := resolve st.cwd (expand st target)
    .eff (.write p (.text [])) (fun _ => runCmd st .ext [[.lit "cat"]] [.write p (.heredoc lines)])
  | .echo args redir, st =>
    match redir with
    | none => .ret (.norm (okSt st))
    | some t =>
      .eff (.write (resolve st.cwd (expand st t)) (.text (Val.norm (((expandArgs st args).intersperse [.lit " "]).flatten ++ [.lit "\n"]))))
        (fun _ => .ret (.norm (okSt st)))
  | .cd dir, st =>
    let p := resolve st.cwd (expand st dir)
    .ask (.isDir p) (fun _ => .ret (.norm (okSt { st with cwd := p }))) (fun _ => failWith st (.lit 1))
  | .source file, st =>
    let v := expand st file
    .ask (.isFile (resolve st.cwd v)) (fun _ => runCmd st .source [v] []) (fun _ => failWith st (.lit 1))
  | .evalCmd _ name args, st => runCmd st .ext (expandArgs st (name :: args)) []
  | .exit code, _ => .ret (.exit (.lit code))
  | .shiftOptind, st => .ret (.norm (okSt { st with shifted := true }))
  | .ite c thn els, st =>
    (testTree st c).bind (fun b => if b then execBlock thn (okSt st) else execBlock els (okSt st))
  | .getoptsCase _ var arms, st =>
    loopEvs var (fun ev st' => execArms arms ev.opt.toList (okSt st')) st.evs st
  | .orTrue s, st =>
    (exec s { st with errexit := false }).bind (fun r =>
      match r with
      | .norm st' => .ret (.norm (okSt { st' with errexit := st.errexit }))
      | .exit c => .ret (.exit c))
  | .unknown _, st => .ret (.norm st)
def execBlock : List Sh → St → Tree Res
  | [], st => .ret (.norm st)
  | s :: r, st => seqRes (exec s st) (fun st' => execBlock r st')
def execArms : List (String × List Sh) → List Char → St → Tree Res
  | [], _, st => .ret (.norm st)
  | (pat, body) :: r, subject, st =>
    if patMatch pat.toList subject then execBlock body st else execArms r subject st
end

def St.init (inv : Inv) : St :=
  { vars := [], exported := [], errexit := false, last := .lit 0, ncmd := 0,
    cwd := { base := .cwd0, segs := [] }, evs := inv.evs, nargs := inv.nargs, nrest := inv.nrest,
    shifted := false }

/-- the decision tree of one invocation of a script; leaves carry the exit code -/
def scriptTree (script : List Sh) (inv : Inv) : Tree Code :=
  (execBlock script (St.init inv)).bind (fun r =>
    match r with
    | .norm st => .ret st.last
    | .exit c => .ret c)

/-! ## Stage 2: walking the tree under oracles -/

/-- a file system: what is at every (symbolic) path.  (A structure rather than a bare function so that
updates are evaluated when they happen, not at every later look-up.) -/
structure FS where
  node : SPath → Node

instance : CoeFun FS (fun _ => SPath → Node) := ⟨FS.node⟩

structure Oracle where
  status : Nat → Cmd → Nat       -- exit status of the idx-th command of this invocation
  q : Query → Bool               -- environment / string facts (file facts come from the FS)

structure Dyn where
  fs : FS
  log : List (Cmd × Nat)

def FS.set (fs : FS) (p : SPath) (n : Node) : FS := ⟨fun q => if q = p then n else fs q⟩

def FS.content (fs : FS) (p : SPath) : Content :=
  match fs p with
  | .file c => c
  | _ => .missing

def applyEff (inv idx : Nat) (fs : FS) : Effect → FS
  | .mkdir p => fs.set p .dir
  | .write p c => fs.set p (.file c)
  | .copy src dst => fs.set dst (.file (fs.content src))
  | .copyInto src dst name =>
    if fs dst = .dir then fs.set (dst.child name) (.file (fs.content src)) else fs.set dst (.file (fs.content src))
  | .convert src dst => fs.set dst (.file (.converted (fs.content src)))
  | .job out inp => fs.set out (.file (.jobOut inv idx (fs.content inp)))
  | .remove p => ⟨fun q => if q.isUnder p then .absent else fs q⟩

def applyEffs (inv idx : Nat) (fs : FS) : List Effect → FS
  | [] => fs
  | e :: r => applyEffs inv idx (applyEff inv idx fs e) r

def preOk (fs : FS) : Pre → Bool
  | .absent p => fs p = .absent
  | .isFile p => match fs p with | .file _ => true | _ => false
  | .static ok => ok

/-- status of a command: the tool's own refusal (pre-condition violated) or the oracle -/
def cmdStatus (o : Oracle) (fs : FS) (idx : Nat) (c : Cmd) (pre : List Pre) : Nat :=
  if pre.all (preOk fs) then o.status idx c else (if o.status idx c = 0 then 1 else o.status idx c)

def answer (o : Oracle) (fs : FS) : Query → Bool
  | .isDir p => fs p = .dir
  | .isFile p => match fs p with | .file _ => true | _ => false
  | .pathExists p => fs p ≠ .absent
  | q => o.q q

def interp {α : Type} (o : Oracle) (inv : Nat) : Tree α → Dyn → α × Dyn
  | .ret a, d => (a, d)
  | .cmd c pre effs ok fail, d =>
    let idx := d.log.length
    let s := cmdStatus o d.fs idx c pre
    if s = 0 then interp o inv (ok ()) { fs := applyEffs inv idx d.fs effs, log := d.log ++ [(c, 0)] }
    else interp o inv (fail ()) { d with log := d.log ++ [(c, s)] }
  | .ask q y n, d => if answer o d.fs q then interp o inv (y ()) d else interp o inv (n ()) d
  | .eff e next, d => interp o inv (next ()) { d with fs := applyEff inv d.log.length d.fs e }

def statusAt (log : List (Cmd × Nat)) (idx : Nat) : Nat :=
  match log[idx]? with
  | some (_, s) => s
  | none => 0

def Code.eval (log : List (Cmd × Nat)) : Code → Nat
  | .lit n => n
  | .statusOf i => statusAt log i

structure Outcome where
  code : Nat
  log : List (Cmd × Nat)
  fs : FS

/-- one invocation (number `inv` of a history) of a script from file system `fs` -/
def run (script : List Sh) (i : Inv) (o : Oracle) (inv : Nat) (fs : FS) : Outcome :=
  let (c, d) := interp o inv (scriptTree script i) { fs := fs, log := [] }
  { code := c.eval d.log, log := d.log, fs := d.fs }

/-! ## The `Strict` discipline -/

def Part.ok : Part → Bool
  | .bad _ => false
  | _ => true

def Word.ok (w : Word) : Bool := w.parts.all Part.ok

def Test.ok : Test → Bool
  | .strEq a b => a.ok && b.ok
  | .strNe a b => a.ok && b.ok
  | .empty a => a.ok
  | .pathExists p => p.ok
  | .isFile p => p.ok
  | .isDir p => p.ok
  | .globPrefix a _ => a.ok
  | .bad _ => false

mutual
def strictSh : Sh → Bool
  | .setE on => on
  | .assign _ w => w.ok
  | .exportVar _ w => (match w with | some w => w.ok | none => true)
  | .cmd name args => name.ok && args.all Word.ok
  | .heredoc t _ => t.ok
  | .echo args r => args.all Word.ok && (match r with | some w => w.ok | none => true)
  | .cd d => d.ok
  | .source f => f.ok
  | .evalCmd _ name args => name.ok && args.all Word.ok
  | .ite c t e => c.ok && strictBlock t && strictBlock e
  | .getoptsCase _ _ arms => strictArms arms
  | .orTrue _ => false
  | .unknown _ => false
  | _ => true
def strictBlock : List Sh → Bool
  | [] => true
  | s :: r => strictSh s && strictBlock r
def strictArms : List (String × List Sh) → Bool
  | [] => true
  | (_, b) :: r => strictBlock b && strictArms r
end

/-- `set -e` is the first thing the script does, it is never switched off, no failure is masked
(`|| true`), and the translator recognised every construct. -/
def strictScript : List Sh → Bool
  | .setE true :: rest => strictBlock rest
  | _ => false

end FaxVerif.C16
