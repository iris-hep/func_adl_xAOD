/- C16 — `Gen.cmsR7`: the liveness exploration (no tool fails spontaneously, adequate environment), read off `checks_cms`. -/
import FaxVerif.C16.CheckCmsR5
namespace FaxVerif.C16
theorem checkLive_cmsR7 : checkLive .cms Gen.cmsR7 canonInvs = true :=
  (Bool.and_eq_true_iff.1 (Bool.and_eq_true_iff.1 checks_cms).2).2
end FaxVerif.C16
