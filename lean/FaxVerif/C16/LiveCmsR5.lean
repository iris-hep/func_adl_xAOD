/- C16 — `Gen.cmsR5`: the liveness exploration (no tool fails spontaneously, adequate environment), read off `checks_cms`. -/
import FaxVerif.C16.CheckCmsR5
namespace FaxVerif.C16
theorem checkLive_cmsR5 : checkLive .cms Gen.cmsR5 canonInvs = true :=
  (Bool.and_eq_true_iff.1 (Bool.and_eq_true_iff.1 checks_cms).1).2
end FaxVerif.C16
