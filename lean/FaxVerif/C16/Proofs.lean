/-
C16 — soundness of the abstract interpreter: `Rel`, what an abstract state says of a real one; `absCheck_sound`,
whatever the oracles and the initial file system are, the leaf `interp` ends in was visited with an abstract state
that describes the real one; `leafP_sound`, the leaf predicate there gives `SpecOK` of the real outcome.
-/
import FaxVerif.C16.Abs
namespace FaxVerif.C16

def SCont.eval (fs₀ : FS) (inv : Nat) : SCont → Content
  | .lit c => c
  | .ofInit p => fs₀.content p
  | .jobOut idx c => .jobOut inv idx (c.eval fs₀ inv)
  | .converted c => .converted (c.eval fs₀ inv)

def SNode.eval (fs₀ : FS) (inv : Nat) : SNode → Node
  | .absent => .absent
  | .dir => .dir
  | .file c => .file (c.eval fs₀ inv)

def evalLookup (evs : List SEvent) (fs₀ : FS) (inv : Nat) (p : SPath) : Node :=
  match symLookup evs p with
  | some n => n.eval fs₀ inv
  | none => fs₀ p

structure Rel (o : Oracle) (inv : Nat) (fs₀ : FS) (ab : Abs) (d : Dyn) : Prop where
  fsOk : ∀ p, d.fs p = evalLookup ab.events fs₀ inv p
  factsOk : ∀ pf ∈ ab.facts, pf.2.holdsK (fs₀ pf.1).kind = true
  qOk : ∀ qb ∈ ab.qfacts, o.q qb.1 = qb.2
  logOk : d.log.map (fun e => (e.1, decide (e.2 = 0))) = ab.cmds.reverse

theorem Fact.implies_sound (f g : Fact) (k : Kind) (b : Bool) (hf : f.holdsK k = true)
    (hi : f.implies g = some b) : g.holdsK k = b := by
  -- `k` is among the kinds that `implies` looks at
  have hk : k ∈ [Kind.A, Kind.D, Kind.F].filter (fun k => f.holdsK k) :=
    List.mem_filter.2 ⟨by cases k <;> simp, hf⟩
  unfold Fact.implies at hi
  simp only at hi
  split at hi
  · next h => cases hi; exact List.all_eq_true.1 h k hk
  · split at hi
    · next h => cases hi; simpa using List.all_eq_true.1 h k hk
    · cases hi

theorem Fact.neg_holds (f : Fact) (k : Kind) : f.neg.holdsK k = !f.holdsK k := by
  cases f <;> cases k <;> decide

theorem FS.set_apply (fs : FS) (p : SPath) (n : Node) (q : SPath) :
    (fs.set p n) q = if q = p then n else fs q := rfl

theorem SNode.eval_kind (fs₀ : FS) (inv : Nat) (n : SNode) : (n.eval fs₀ inv).kind = n.kind := by
  cases n <;> rfl

theorem Node.kind_A {n : Node} : n.kind = .A ↔ n = .absent := by
  cases n <;> simp [Node.kind]

theorem Node.kind_D {n : Node} : n.kind = .D ↔ n = .dir := by
  cases n <;> simp [Node.kind]

theorem initKnow_sound {fs₀ : FS} (hwf : WF fs₀) :
    ∀ (facts : List (SPath × Fact)), (∀ pf ∈ facts, pf.2.holdsK (fs₀ pf.1).kind = true) →
      ∀ p g b, initKnow facts p g = some b → g.holdsK (fs₀ p).kind = b := by
  intro facts
  induction facts with
  | nil => intro _ p g b h; simp [initKnow] at h
  | cons qf r ih =>
    obtain ⟨q, f⟩ := qf
    intro hf p g b h
    have hq : f.holdsK (fs₀ q).kind = true := hf (q, f) (by simp)
    have hr : ∀ pf ∈ r, pf.2.holdsK (fs₀ pf.1).kind = true := fun pf hpf => hf pf (by simp [hpf])
    simp only [initKnow] at h
    by_cases hqp : q = p
    · subst hqp
      simp only [if_true] at h
      cases hi : f.implies g with
      | some b' =>
        rw [hi] at h
        simp only [Option.some.injEq] at h
        subst h
        exact Fact.implies_sound f g _ _ hq hi
      | none =>
        rw [hi] at h
        exact ih hr q g b h
    · simp only [hqp, if_false] at h
      by_cases hu : f = .absent ∧ p.isUnder q = true
      · simp only [hu, and_self, if_true, Option.some.injEq] at h
        obtain ⟨hfa, hun⟩ := hu
        subst hfa
        have hqa : fs₀ q = .absent := by
          apply Node.kind_A.1
          cases hk : (fs₀ q).kind <;> simp [Fact.holdsK, hk] at hq
          rfl
        have hpa : fs₀ p = .absent := hwf q p hun hqa
        rw [hpa]
        exact h
      · simp only [hu, if_false] at h
        exact ih hr p g b h

/-- the one law of the three-valued layer: the abstract state knows the truth about `g` at `p`, or it knows nothing
about `p` and may be told whatever holds there -/
theorem know_cases {o inv fs₀ ab d} (hr : Rel o inv fs₀ ab d) (hwf : WF fs₀) (p : SPath) (g : Fact) :
    ab.know p g = some (g.holdsK (d.fs p).kind) ∨
    (ab.know p g = none ∧ ∀ f : Fact, f.holdsK (d.fs p).kind = true → Rel o inv fs₀ (ab.assume p f) d) := by
  unfold Abs.know
  have hfs := hr.fsOk p
  unfold evalLookup at hfs
  cases hl : symLookup ab.events p with
  | some n => rw [hl] at hfs; exact .inl (by rw [hfs, SNode.eval_kind])
  | none =>
    rw [hl] at hfs
    simp only [hfs]
    cases hk : initKnow ab.facts p g with
    | some b => exact .inl (by rw [initKnow_sound hwf ab.facts hr.factsOk p g b hk])
    | none =>
      refine .inr ⟨rfl, fun f hf => ⟨hr.fsOk, fun pf hpf => ?_, hr.qOk, hr.logOk⟩⟩
      rcases List.mem_cons.1 hpf with rfl | hpf
      · exact hf
      · exact hr.factsOk pf hpf

theorem know_sound {o inv fs₀ ab d} (hr : Rel o inv fs₀ ab d) (hwf : WF fs₀) (p : SPath) (g : Fact) (b : Bool)
    (h : ab.know p g = some b) : g.holdsK (d.fs p).kind = b := by
  rcases know_cases hr hwf p g with h' | ⟨h', _⟩ <;> rw [h] at h'
  · exact (Option.some.inj h').symm
  · cases h'

theorem node_isDir (n : Node) : decide (n = Node.dir) = Fact.dir.holdsK n.kind := by
  cases n <;> simp [Node.kind, Fact.holdsK]

theorem fs_dir_of_know {o inv fs₀ ab d} (hr : Rel o inv fs₀ ab d) (hwf : WF fs₀) (p : SPath)
    (h : ab.know p .dir = some true) : d.fs p = .dir :=
  of_decide_eq_true ((node_isDir _).trans (know_sound hr hwf p .dir true h))

theorem node_isFile (n : Node) : (match n with | Node.file _ => true | _ => false) = Fact.file.holdsK n.kind := by
  cases n <;> simp [Node.kind, Fact.holdsK]

theorem node_present (n : Node) : decide (n ≠ Node.absent) = Fact.present.holdsK n.kind := by
  cases n <;> simp [Node.kind, Fact.holdsK]

theorem node_absent (n : Node) : decide (n = Node.absent) = Fact.absent.holdsK n.kind := by
  cases n <;> simp [Node.kind, Fact.holdsK]

theorem answer_fact (o : Oracle) (fs : FS) (q : Query) (p : SPath) (f : Fact) (h : queryFact q = some (p, f)) :
    answer o fs q = f.holdsK (fs p).kind := by
  cases q with
  | isDir p' => cases h; exact node_isDir _
  | isFile p' => cases h; exact node_isFile _
  | pathExists p' => cases h; exact node_present _
  | valEmpty | strEq | globPrefix => cases h

theorem answer_nofact (o : Oracle) (fs : FS) (q : Query) (h : queryFact q = none) : answer o fs q = o.q q := by
  cases q <;> simp [queryFact] at h <;> rfl

theorem lookupQ_sound (o : Oracle) : ∀ (l : List (Query × Bool)), (∀ qb ∈ l, o.q qb.1 = qb.2) →
    ∀ q b, lookupQ l q = some b → o.q q = b := by
  intro l
  induction l with
  | nil => intro _ q b h; simp [lookupQ] at h
  | cons x r ih =>
    obtain ⟨q', b'⟩ := x
    intro hl q b h
    simp only [lookupQ] at h
    by_cases hq : q' = q
    · subst hq
      simp only [if_true, Option.some.injEq] at h
      subst h
      exact hl (q', b') (by simp)
    · simp only [hq, if_false] at h
      exact ih (fun qb hqb => hl qb (by simp [hqb])) q b h

theorem answer_cases {o inv fs₀ ab d} (hr : Rel o inv fs₀ ab d) (hwf : WF fs₀) (q : Query) :
    ab.answer q = some (answer o d.fs q) ∨
    (ab.answer q = none ∧ Rel o inv fs₀ (ab.assumeQ q (answer o d.fs q)) d) := by
  unfold Abs.answer Abs.assumeQ
  cases hq : queryFact q with
  | some pf =>
    obtain ⟨p, f⟩ := pf
    simp only [answer_fact o d.fs q p f hq]
    refine (know_cases hr hwf p f).imp_right (fun ⟨hn, ha⟩ => ⟨hn, ha _ ?_⟩)
    cases hb : f.holdsK (d.fs p).kind <;> simp [Fact.neg_holds, hb]
  | none =>
    simp only [answer_nofact o d.fs q hq]
    cases hl : lookupQ ab.qfacts q with
    | some b => exact .inl (by rw [lookupQ_sound o ab.qfacts hr.qOk q b hl])
    | none =>
      refine .inr ⟨rfl, hr.fsOk, hr.factsOk, fun qb hqb => ?_, hr.logOk⟩
      rcases List.mem_cons.1 hqb with rfl | hqb
      · rfl
      · exact hr.qOk qb hqb

theorem preOk_fact (fs : FS) (pr : Pre) :
    preOk fs pr = (match pr with
      | .static ok => ok
      | .absent p => Fact.absent.holdsK (fs p).kind
      | .isFile p => Fact.file.holdsK (fs p).kind) := by
  cases pr with
  | static ok => rfl
  | absent p => exact node_absent _
  | isFile p => exact node_isFile _

theorem pre3_cases {o inv fs₀ ab d} (hr : Rel o inv fs₀ ab d) (hwf : WF fs₀) (pr : Pre) :
    ab.pre3 pr = some (preOk d.fs pr) ∨
    (ab.pre3 pr = none ∧ (preOk d.fs pr = true → Rel o inv fs₀ (ab.assumePre pr) d)) := by
  rw [preOk_fact]
  cases pr with
  | static ok => exact .inl rfl
  | absent p => exact (know_cases hr hwf p .absent).imp_right fun ⟨hn, ha⟩ => ⟨hn, ha _⟩
  | isFile p => exact (know_cases hr hwf p .file).imp_right fun ⟨hn, ha⟩ => ⟨hn, ha _⟩

theorem absPres_sound {o inv fs₀} (hwf : WF fs₀) : ∀ (pre : List Pre) (ab : Abs) (d : Dyn), Rel o inv fs₀ ab d →
    (match absPres ab pre with
     | .fails => pre.all (preOk d.fs) = false
     | .holds => pre.all (preOk d.fs) = true
     | .unknown ab' => pre.all (preOk d.fs) = true → Rel o inv fs₀ ab' d) := by
  intro pre
  induction pre with
  | nil => intro ab d _; simp [absPres]
  | cons pr r ih =>
    intro ab d hr
    simp only [absPres, List.all_cons]
    rcases pre3_cases hr hwf pr with h3 | ⟨h3, hr'⟩ <;> rw [h3]
    · cases preOk d.fs pr with
      | false => rfl
      | true => exact ih ab d hr
    · cases hp : preOk d.fs pr with
      | false =>
        cases absPres (ab.assumePre pr) r with
        | fails => rfl
        | holds => exact fun h => Bool.noConfusion h
        | unknown _ => exact fun h => Bool.noConfusion h
      | true =>
        have := ih (ab.assumePre pr) d (hr' hp)
        cases hres : absPres (ab.assumePre pr) r with
        | fails => rw [hres] at this; exact this
        | holds => exact fun _ => hr' hp
        | unknown ab' => rw [hres] at this; exact this

theorem content_sound {o inv fs₀ ab d} (hr : Rel o inv fs₀ ab d) (p : SPath) :
    (ab.content p).eval fs₀ inv = d.fs.content p := by
  unfold Abs.content FS.content
  rw [hr.fsOk p]
  unfold evalLookup
  cases hl : symLookup ab.events p with
  | none => simp only [SCont.eval, FS.content]
  | some n => cases n <;> simp [SNode.eval, SCont.eval]

theorem push_set_rel {o inv fs₀ ab d} (hr : Rel o inv fs₀ ab d) (p : SPath) (n : SNode) :
    Rel o inv fs₀ (ab.push (.set p n)) { d with fs := d.fs.set p (n.eval fs₀ inv) } := by
  refine ⟨fun q => ?_, hr.factsOk, hr.qOk, hr.logOk⟩
  simp only [FS.set_apply, Abs.push, evalLookup, symLookup]
  by_cases hq : q = p
  · simp [hq]
  · simp only [hq, if_false]
    exact hr.fsOk q

theorem absEff_sound {o inv fs₀} (hwf : WF fs₀) (idx : Nat) (e : Effect) (ab : Abs) (d : Dyn)
    (hr : Rel o inv fs₀ ab d) :
    ∃ ab' ∈ absEff idx ab e, Rel o inv fs₀ ab' { d with fs := applyEff inv idx d.fs e } := by
  have hc := content_sound hr
  cases e with
  | mkdir p => exact ⟨_, List.mem_singleton.2 rfl, push_set_rel hr p .dir⟩
  | write p c => exact ⟨_, List.mem_singleton.2 rfl, push_set_rel hr p (.file (.lit c))⟩
  | copy s t =>
    exact ⟨_, List.mem_singleton.2 rfl, by simpa only [applyEff, SNode.eval, hc] using push_set_rel hr t (.file (ab.content s))⟩
  | convert s t =>
    exact ⟨_, List.mem_singleton.2 rfl, by
      simpa only [applyEff, SNode.eval, SCont.eval, hc] using push_set_rel hr t (.file (.converted (ab.content s)))⟩
  | job out inp =>
    exact ⟨_, List.mem_singleton.2 rfl, by
      simpa only [applyEff, SNode.eval, SCont.eval, hc] using push_set_rel hr out (.file (.jobOut idx (ab.content inp)))⟩
  | remove p =>
    refine ⟨_, List.mem_singleton.2 rfl, ⟨fun q => ?_, hr.factsOk, hr.qOk, hr.logOk⟩⟩
    show (applyEff inv idx d.fs (.remove p)) q = evalLookup (SEvent.removeUnder p :: ab.events) fs₀ inv q
    simp only [applyEff, evalLookup, symLookup]
    by_cases hq : q.isUnder p = true
    · simp [hq, SNode.eval]
    · simp only [hq]
      exact hr.fsOk q
  | copyInto s t n =>
    -- the two things `cp` can do
    have into : ∀ ab', Rel o inv fs₀ ab' d → d.fs t = .dir →
        Rel o inv fs₀ (ab'.push (.set (t.child n) (.file (ab.content s)))) { d with fs := applyEff inv idx d.fs (.copyInto s t n) } := by
      intro ab' hr' hd
      simpa only [applyEff, hd, if_true, SNode.eval, hc] using push_set_rel hr' (t.child n) (.file (ab.content s))
    have onto : ∀ ab', Rel o inv fs₀ ab' d → d.fs t ≠ .dir →
        Rel o inv fs₀ (ab'.push (.set t (.file (ab.content s)))) { d with fs := applyEff inv idx d.fs (.copyInto s t n) } := by
      intro ab' hr' hd
      simpa only [applyEff, hd, if_false, SNode.eval, hc] using push_set_rel hr' t (.file (ab.content s))
    simp only [absEff]
    have hk := know_cases hr hwf t .dir
    rw [← node_isDir] at hk
    rcases hk with hk | ⟨hk, ha⟩ <;> rw [hk]
    · by_cases hd : d.fs t = .dir
      · simp only [hd, decide_true]; exact ⟨_, List.mem_singleton.2 rfl, into ab hr hd⟩
      · simp only [hd, decide_false]; exact ⟨_, List.mem_singleton.2 rfl, onto ab hr hd⟩
    · by_cases hd : d.fs t = .dir
      · exact ⟨_, List.mem_cons_self, into _ (ha .dir (by rw [hd]; rfl)) hd⟩
      · have hnd : Fact.notDir.holdsK (d.fs t).kind = true := by
          cases h : d.fs t with
          | dir => exact absurd h hd
          | _ => rfl
        exact ⟨_, List.mem_cons_of_mem _ (List.mem_singleton.2 rfl), onto _ (ha .notDir hnd) hd⟩

theorem absEffs_sound {o inv fs₀} (hwf : WF fs₀) (idx : Nat) : ∀ (effs : List Effect) (abs : List Abs) (ab : Abs) (d : Dyn),
    ab ∈ abs → Rel o inv fs₀ ab d →
    ∃ ab' ∈ absEffs idx abs effs, Rel o inv fs₀ ab' { d with fs := applyEffs inv idx d.fs effs } := by
  intro effs
  induction effs with
  | nil => intro abs ab d hm hr; exact ⟨ab, hm, hr⟩
  | cons e r ih =>
    intro abs ab d hm hr
    obtain ⟨ab1, hm1, hr1⟩ := absEff_sound hwf idx e ab d hr
    exact ih _ ab1 _ (List.mem_flatMap.2 ⟨ab, hm, hm1⟩) hr1

theorem cmdStatus_pre_false {o : Oracle} {fs : FS} {idx : Nat} {c : Cmd} {pre : List Pre}
    (h : pre.all (preOk fs) = false) : cmdStatus o fs idx c pre ≠ 0 := by
  unfold cmdStatus
  simp only [h, Bool.false_eq_true, if_false]
  split <;> omega

theorem cmdStatus_pre_true {o : Oracle} {fs : FS} {idx : Nat} {c : Cmd} {pre : List Pre}
    (h : pre.all (preOk fs) = true) : cmdStatus o fs idx c pre = o.status idx c := by
  unfold cmdStatus
  simp [h]

theorem logCmd_rel {o inv fs₀ ab d} (hr : Rel o inv fs₀ ab d) (c : Cmd) (s : Nat) (fs' : FS)
    (hfs : ∀ p, fs' p = d.fs p) :
    Rel o inv fs₀ (ab.logCmd c (decide (s = 0))) { fs := fs', log := d.log ++ [(c, s)] } := by
  refine ⟨fun p => (hfs p).trans (hr.fsOk p), hr.factsOk, hr.qOk, ?_⟩
  simp only [Abs.logCmd, List.map_append, List.map_cons, List.map_nil, List.reverse_cons, hr.logOk]

theorem rel_log_length {o inv fs₀ ab d} (hr : Rel o inv fs₀ ab d) : d.log.length = ab.cmds.length := by
  have := congrArg List.length hr.logOk
  simpa using this

theorem absCheck_sound {α : Type} (o : Oracle) (inv : Nat) (fs₀ : FS) (hwf : WF fs₀) (allOk : Bool)
    (hall : allOk = true → ∀ i c, o.status i c = 0) (P : Abs → α → Bool) :
    ∀ (t : Tree α) (ab : Abs) (d : Dyn), Rel o inv fs₀ ab d → absCheck allOk P t ab = true →
      ∃ ab', Rel o inv fs₀ ab' (interp o inv t d).2 ∧ P ab' (interp o inv t d).1 = true := by
  intro t
  induction t with
  | ret a =>
    intro ab d hr hc
    exact ⟨ab, by simpa [interp] using hr, by simpa [absCheck, interp] using hc⟩
  | cmd c pre effs ok fail ihok ihfail =>
    intro ab d hr hc
    have hlen := rel_log_length hr
    have hps := absPres_sound (o := o) (inv := inv) hwf pre ab d hr
    simp only [interp]
    simp only [absCheck] at hc
    by_cases hs : cmdStatus o d.fs d.log.length c pre = 0
    · -- the command succeeds: its pre-conditions hold, so the succeeding branch was explored, with the effects,
      -- from a state `ab1` that describes `d`
      simp only [hs, if_true]
      have hpre : pre.all (preOk d.fs) = true := by
        cases hp : pre.all (preOk d.fs) with
        | true => rfl
        | false => exact absurd hs (cmdStatus_pre_false hp)
      obtain ⟨ab1, hr1, hall1⟩ : ∃ ab1, Rel o inv fs₀ ab1 d ∧
          (absEffs ab.cmds.length [ab1] effs).all (fun ab' => absCheck allOk P (ok ()) (ab'.logCmd c true)) = true := by
        cases hres : absPres ab pre with
        | fails => rw [hres, hpre] at hps; cases hps
        | holds => rw [hres] at hc; exact ⟨ab, hr, (Bool.and_eq_true_iff.1 hc).1⟩
        | unknown ab1 => rw [hres] at hc hps; exact ⟨ab1, hps hpre, (Bool.and_eq_true_iff.1 hc).1⟩
      obtain ⟨ab2, hm2, hr2⟩ := absEffs_sound hwf ab.cmds.length effs [ab1] ab1 d (by simp) hr1
      have hr3 := logCmd_rel hr2 c 0 (applyEffs inv d.log.length d.fs effs) (fun p => by rw [hlen])
      exact ihok () _ _ hr3 (List.all_eq_true.1 hall1 ab2 hm2)
    · -- it fails: the failing branch was explored from `ab`
      simp only [hs, if_false]
      have hcf : absCheck allOk P (fail ()) (ab.logCmd c false) = true := by
        cases hres : absPres ab pre with
        | fails => rw [hres] at hc; exact hc
        | holds =>
          rw [hres] at hc hps
          rcases Bool.or_eq_true_iff.1 (Bool.and_eq_true_iff.1 hc).2 with hA | hF
          · rw [cmdStatus_pre_true hps] at hs
            exact absurd (hall hA _ _) hs
          · exact hF
        | unknown ab1 => rw [hres] at hc; exact (Bool.and_eq_true_iff.1 hc).2
      have hr' := logCmd_rel hr c (cmdStatus o d.fs d.log.length c pre) d.fs (fun _ => rfl)
      simp only [hs, decide_false] at hr'
      exact ihfail () _ _ hr' hcf
  | ask q y n ihy ihn =>
    intro ab d hr hc
    simp only [interp]
    simp only [absCheck] at hc
    rcases answer_cases hr hwf q with ha | ⟨ha, hr'⟩ <;> rw [ha] at hc
    · -- the answer is known: one branch was explored, from `ab`
      cases hb : answer o d.fs q with
      | true => rw [hb] at hc; exact ihy () ab d hr hc
      | false => rw [hb] at hc; exact ihn () ab d hr hc
    · -- it is not: both were, each from `ab` told the answer
      simp only [Bool.and_eq_true] at hc
      cases hb : answer o d.fs q with
      | true => exact ihy () _ d (hb ▸ hr') hc.1
      | false => exact ihn () _ d (hb ▸ hr') hc.2
  | eff e next ih =>
    intro ab d hr hc
    simp only [interp]
    simp only [absCheck] at hc
    obtain ⟨ab1, hm1, hr1⟩ := absEff_sound hwf ab.cmds.length e ab d hr
    rw [List.all_eq_true] at hc
    have hlen := rel_log_length hr
    rw [hlen]
    exact ih () ab1 _ hr1 (hc ab1 hm1)

theorem view_eq {o inv fs₀ ab d} (hr : Rel o inv fs₀ ab d) :
    viewOf d.log = leafView ab := by
  unfold leafView viewOf
  rw [← hr.logOk]
  simp only [List.map_map]
  apply List.map_congr_left
  intro e _
  have : (e.snd == 0) = decide (e.snd = 0) := by cases hh : e.snd == 0 <;> simp_all
  simp [Function.comp, this]

theorem leafOk_sound {o inv fs₀ ab d} (hr : Rel o inv fs₀ ab d) (code : Code) (ok : Bool)
    (h : leafOk ab code = some ok) : (code.eval d.log == 0) = ok := by
  cases code with
  | lit n => simpa [leafOk, Code.eval] using h
  | statusOf k =>
    simp only [leafOk, ← hr.logOk, List.getElem?_map] at h
    simp only [Code.eval, statusAt]
    cases hd : d.log[k]? with
    | none => simp [hd] at h
    | some e =>
      by_cases he : e.2 = 0
      · simp [hd, he] at h
      · simp [hd, he] at h
        rw [h]
        exact beq_eq_false_iff_ne.2 he

theorem symInputOk_sound {o inv fs₀ ab d} (hr : Rel o inv fs₀ ab d) (hwf : WF fs₀) (f : Flags) (cin : SCont)
    (h : symInputOk f ab cin = true) :
    (cin.eval fs₀ inv).norm =
      (match f.d with
       | some k => Content.text (Val.norm ([Atom.optarg k] ++ [Atom.lit "\n"]))
       | none => listInputOf fs₀).norm := by
  cases cin with
  | lit c =>
    cases c with
    | text v =>
      simp only [symInputOk] at h
      cases hd : f.d with
      | none => rw [hd] at h; cases h
      | some k =>
        rw [hd] at h
        simp only [decide_eq_true_eq] at h
        simp only [SCont.eval, Content.norm, h]
    | _ => cases h
  | ofInit p =>
    simp only [symInputOk, Bool.and_eq_true, Bool.or_eq_true, decide_eq_true_eq] at h
    obtain ⟨hd, hp⟩ := h
    rw [hd]
    simp only [SCont.eval]
    rcases hp with ⟨rfl, hk⟩ | ⟨rfl, hk⟩
    · have := initKnow_sound hwf ab.facts hr.factsOk scriptList .present true hk
      rw [← node_present] at this
      simp only [decide_eq_true_eq] at this
      simp [listInputOf, this]
    · have := initKnow_sound hwf ab.facts hr.factsOk scriptList .present false hk
      rw [← node_present] at this
      simp only [decide_eq_false_iff_not, ne_eq, Decidable.not_not] at this
      simp [listInputOf, this]
  | _ => cases h

theorem symOutOk_sound {o inv fs₀ ab d} (hr : Rel o inv fs₀ ab d) (hwf : WF fs₀) (b : Backend) (f : Flags) (j : Nat)
    (c : SCont) (h : symOutOk b f ab j c = true) :
    (Node.file (c.eval fs₀ inv)).norm = .file (expectedOut b inv optTok (listInputOf fs₀) f j) := by
  -- both shapes: the job's output, wrapped as the backend wraps it
  have job : ∀ j' cin, (b = .atlas ∨ b = .cms) → j' = j → symInputOk f ab cin = true →
      (Node.file (wrapOut b (.jobOut inv j' (cin.eval fs₀ inv)))).norm =
        .file (expectedOut b inv optTok (listInputOf fs₀) f j) := by
    intro j' cin hb hj hin
    subst hj
    have := symInputOk_sound hr hwf f cin hin
    rcases hb with rfl | rfl <;> simp only [Node.norm, Content.norm, expectedOut, wrapOut, this] <;> rfl
  cases c with
  | jobOut j' cin =>
    simp only [symOutOk, Bool.and_eq_true, decide_eq_true_eq] at h
    obtain ⟨⟨rfl, hj⟩, hin⟩ := h
    exact job j' cin (.inl rfl) hj hin
  | converted c' =>
    cases c' with
    | jobOut j' cin =>
      simp only [symOutOk, Bool.and_eq_true, decide_eq_true_eq] at h
      obtain ⟨⟨rfl, hj⟩, hin⟩ := h
      exact job j' cin (.inr rfl) hj hin
    | _ => cases h
  | _ => cases h

theorem symDelivered_sound {o inv fs₀ ab d} (hr : Rel o inv fs₀ ab d) (hwf : WF fs₀) (b : Backend) (f : Flags) (j : Nat)
    (h : symDelivered b f ab j = true) :
    (destNode (d.fs (outPath f)) (d.fs ((outPath f).child "ANALYSIS.root"))).norm =
      .file (expectedOut b inv optTok (listInputOf fs₀) f j) := by
  -- a path whose latest event wrote a file that passes `symOutOk`
  have fileAt : ∀ p, (match symLookup ab.events p with
        | some (.file c) => symOutOk b f ab j c
        | _ => false) = true →
      (d.fs p).norm = .file (expectedOut b inv optTok (listInputOf fs₀) f j) := by
    intro p hp
    split at hp
    · next c hl =>
      rw [hr.fsOk p]
      simp only [evalLookup, hl, SNode.eval]
      exact symOutOk_sound hr hwf b f j c hp
    · cases hp
  unfold symDelivered at h
  simp only at h
  split at h
  · next hk =>
    rw [destNode, if_pos (fs_dir_of_know hr hwf _ hk)]
    exact fileAt _ h
  · have hfile := fileAt _ h
    have hdir : d.fs (outPath f) ≠ .dir := fun hd => by rw [hd] at hfile; cases hfile
    rw [destNode, if_neg hdir]
    exact hfile

theorem symUntouched_sound {o inv fs₀ ab d} (hr : Rel o inv fs₀ ab d) (f : Flags) (h : symUntouched f ab = true) :
    d.fs (outPath f) = fs₀ (outPath f) ∧
      d.fs ((outPath f).child "ANALYSIS.root") = fs₀ ((outPath f).child "ANALYSIS.root") := by
  simp only [symUntouched, Bool.and_eq_true, Option.isNone_iff_eq_none] at h
  constructor
  · rw [hr.fsOk]; simp [evalLookup, h.1]
  · rw [hr.fsOk]; simp [evalLookup, h.2]

theorem specOK_mkObs (b : Backend) (i : Inv) (inv : Nat) (live : Bool) (code : Nat) (log : List (Cmd × Nat)) (fs fs' : FS) :
    SpecOK (mkObs b i inv live code log fs fs') =
      (let f := flagsOf i.evs {}
       let p := outPath f
       let unchanged := decide (fs' p = fs p) && decide (fs' (p.child "ANALYSIS.root") = fs (p.child "ANALYSIS.root"))
       if f.bad then decide (code = 10) && (viewOf log).isEmpty && unchanged
       else if i.nrest ≠ 0 then decide (code = 1) && (viewOf log).isEmpty && unchanged
       else SpecCore b f optTok inv live (code == 0) (viewOf log) (fs p) (fs' p)
              (fs (p.child "ANALYSIS.root")) (fs' (p.child "ANALYSIS.root")) (listInputOf fs)) := rfl

theorem leafP_sound {o inv fs₀ ab d} (hr : Rel o inv fs₀ ab d) (hwf : WF fs₀) (b : Backend) (i : Inv) (live : Bool)
    (code : Code) (h : leafP b i live ab code = true) :
    SpecOK (mkObs b i inv live (code.eval d.log) d.log fs₀ d.fs) = true := by
  unfold leafP at h
  simp only [specOK_mkObs, view_eq hr]
  -- a command line that is turned away: exit code `n`, nothing ran, destination as before
  have rejected : ∀ n : Nat, (decide (code = .lit n) && (leafView ab).isEmpty && symUntouched (flagsOf i.evs {}) ab) = true →
      (decide (code.eval d.log = n) && (leafView ab).isEmpty &&
        (decide (d.fs (outPath (flagsOf i.evs {})) = fs₀ (outPath (flagsOf i.evs {}))) &&
         decide (d.fs ((outPath (flagsOf i.evs {})).child "ANALYSIS.root") =
           fs₀ ((outPath (flagsOf i.evs {})).child "ANALYSIS.root")))) = true := by
    intro n hn
    simp only [Bool.and_eq_true, decide_eq_true_eq] at hn ⊢
    obtain ⟨⟨rfl, hl⟩, hu⟩ := hn
    exact ⟨⟨rfl, hl⟩, symUntouched_sound hr _ hu⟩
  simp only at h
  by_cases hbad : (flagsOf i.evs {}).bad = true
  · rw [if_pos hbad] at h ⊢; exact rejected 10 h
  · rw [if_neg hbad] at h ⊢
    by_cases hn : i.nrest ≠ 0
    · rw [if_pos hn] at h ⊢; exact rejected 1 h
    · rw [if_neg hn] at h ⊢
      cases hok : leafOk ab code with
      | none => rw [hok] at h; cases h
      | some ok =>
        rw [hok] at h
        have hcode := leafOk_sound hr code ok hok
        simp only [Bool.and_eq_true] at h
        obtain ⟨⟨⟨⟨⟨h1, h2⟩, h3⟩, h4⟩, h5⟩, h6⟩ := h
        unfold SpecCore
        simp only [hcode, Bool.and_eq_true]
        refine ⟨⟨⟨⟨⟨h1, h2⟩, h3⟩, ?_⟩, ?_⟩, h6⟩
        · simp only [Bool.or_eq_true, Bool.and_eq_true, decide_eq_true_eq] at h4 ⊢
          exact h4.imp_right (fun h4 => ⟨h4.1, symDelivered_sound hr hwf b _ _ h4.2⟩)
        · simp only [Bool.or_eq_true, Bool.and_eq_true, decide_eq_true_eq] at h5 ⊢
          exact h5.imp_right (fun h5 => symUntouched_sound hr _ h5)

end FaxVerif.C16
