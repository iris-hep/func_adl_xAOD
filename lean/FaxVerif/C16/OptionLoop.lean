/-
C16 — the option loop, for EVERY list of getopts events.

A decidable syntactic condition on a script (`badFlagOK`): everything before the `while getopts … case`
loop only changes shell variables, every `case` arm only assigns variables or ends in `exit 10`, and the
arm selected for `?` ends in `exit 10`.  Generic consequence: whatever the events are, if one of them is `?`
the script exits 10 without having run a step or touched the file system.  `strayOK` is the same for operands left
over after the options: exit 1.
-/
import FaxVerif.C16.Model
namespace FaxVerif.C16

def isPureSh : Sh → Bool
  | .setE _ => true
  | .setX => true
  | .assign _ _ => true
  | .assignPwd _ => true
  | .assignScriptDir _ => true
  | .exportVar _ _ => true
  | .echo _ none => true
  | .shiftOptind => true
  | _ => false

def isPureBlock : List Sh → Bool
  | [] => true
  | s :: r => isPureSh s && isPureBlock r

/-- what a statement that only changes shell variables leaves alone, as far as the option loop looks -/
def Frame (st st' : St) : Prop := st'.evs = st.evs ∧ st'.nrest = st.nrest

theorem exec_pure (s : Sh) (st : St) (h : isPureSh s = true) : ∃ st', exec s st = .ret (.norm st') ∧ Frame st st' := by
  cases s with
  | exportVar v w => cases w <;> exact ⟨_, rfl, rfl, rfl⟩
  | echo args redir =>
    cases redir with
    | none => exact ⟨_, rfl, rfl, rfl⟩
    | some _ => cases h
  | setE | setX | assign | assignPwd | assignScriptDir | shiftOptind => exact ⟨_, rfl, rfl, rfl⟩
  | _ => cases h

theorem execBlock_pure_append (pre rest : List Sh) (st : St) (h : isPureBlock pre = true) :
    ∃ st', execBlock (pre ++ rest) st = execBlock rest st' ∧ Frame st st' := by
  induction pre generalizing st with
  | nil => exact ⟨st, rfl, rfl, rfl⟩
  | cons s r ih =>
    simp only [isPureBlock, Bool.and_eq_true] at h
    obtain ⟨st1, h1, e1, n1⟩ := exec_pure s st h.1
    obtain ⟨st2, h2, e2, n2⟩ := ih st1 h.2
    refine ⟨st2, ?_, e2.trans e1, n2.trans n1⟩
    simp only [List.cons_append, execBlock, h1]
    exact h2

theorem execBlock_pure (b : List Sh) (st : St) (h : isPureBlock b = true) :
    ∃ st', execBlock b st = .ret (.norm st') ∧ Frame st st' := by
  simpa [execBlock] using execBlock_pure_append b [] st h

/-- statements that only change shell variables, then `exit n` -/
def endsExit (n : Nat) (b : List Sh) : Bool :=
  isPureBlock b.dropLast && (match b.getLast? with | some (.exit m) => m == n | _ => false)

theorem execBlock_endsExit (n : Nat) (b : List Sh) (st : St) (h : endsExit n b = true) :
    execBlock b st = .ret (.exit (.lit n)) := by
  simp only [endsExit, Bool.and_eq_true] at h
  obtain ⟨hp, hl⟩ := h
  split at hl
  · next m hg =>
    obtain ⟨pre, rfl⟩ := List.getLast?_eq_some_iff.1 hg
    rw [List.dropLast_concat] at hp
    obtain ⟨st', h, _⟩ := execBlock_pure_append pre [.exit m] st hp
    rw [h, ← beq_iff_eq.1 hl]
    rfl
  · cases hl

def armsOK : List (String × List Sh) → Bool
  | [] => true
  | (_, body) :: r => (isPureBlock body || endsExit 10 body) && armsOK r

def selectArm : List (String × List Sh) → List Char → Option (List Sh)
  | [], _ => none
  | (pat, body) :: r, subject => if patMatch pat.toList subject then some body else selectArm r subject

theorem execArms_select (arms : List (String × List Sh)) (subject : List Char) (st : St) :
    execArms arms subject st = (match selectArm arms subject with
      | some body => execBlock body st
      | none => .ret (.norm st)) := by
  induction arms with
  | nil => simp [execArms, selectArm]
  | cons a r ih =>
    obtain ⟨pat, body⟩ := a
    simp only [execArms, selectArm]
    split
    · rfl
    · exact ih

theorem selectArm_ok (arms : List (String × List Sh)) (subject : List Char) (body : List Sh)
    (hok : armsOK arms = true) (h : selectArm arms subject = some body) :
    isPureBlock body = true ∨ endsExit 10 body = true := by
  induction arms with
  | nil => simp [selectArm] at h
  | cons a r ih =>
    obtain ⟨pat, b⟩ := a
    simp only [armsOK, Bool.and_eq_true, Bool.or_eq_true] at hok
    simp only [selectArm] at h
    split at h
    · simp only [Option.some.injEq] at h; subst h; exact hok.1
    · exact ih hok.2 h

theorem execArms_ok (arms : List (String × List Sh)) (subject : List Char) (st : St) (hok : armsOK arms = true) :
    (∃ st', execArms arms subject st = .ret (.norm st')) ∨ execArms arms subject st = .ret (.exit (.lit 10)) := by
  rw [execArms_select]
  cases hsel : selectArm arms subject with
  | none => exact Or.inl ⟨st, rfl⟩
  | some body =>
    rcases selectArm_ok arms subject body hok hsel with hp | he
    · exact Or.inl ((execBlock_pure body st hp).imp fun _ h => h.1)
    · exact Or.inr (execBlock_endsExit 10 body st he)

def loopSt (var : String) (ev : Ev) (evs : List Ev) (st : St) : St :=
  { ((st.set var [.lit ev.opt]).set "OPTARG" (match ev.arg with | some k => [.optarg k] | none => [])) with evs := evs }

theorem loopEvs_cons (var : String) (body : Ev → St → Tree Res) (ev : Ev) (evs : List Ev) (st : St) :
    loopEvs var body (ev :: evs) st = seqRes (body ev (loopSt var ev evs st)) (loopEvs var body evs) := rfl

theorem seqRes_norm (st : St) (k : St → Tree Res) : seqRes (.ret (.norm st)) k = k st := rfl

theorem loopEvs_bad (var : String) (body : Ev → St → Tree Res)
    (h1 : ∀ ev st, (∃ st', body ev st = .ret (.norm st')) ∨ body ev st = .ret (.exit (.lit 10)))
    (h2 : ∀ ev st, ev.opt = "?" → body ev st = .ret (.exit (.lit 10))) :
    ∀ (evs : List Ev) (st : St), (∃ ev ∈ evs, ev.opt = "?") → loopEvs var body evs st = .ret (.exit (.lit 10)) := by
  intro evs
  induction evs with
  | nil => intro _ h; simp at h
  | cons ev evs ih =>
    intro st ⟨e, he, heq⟩
    rw [loopEvs_cons]
    rcases h1 ev (loopSt var ev evs st) with ⟨st', hb⟩ | hb
    · -- a round that goes on was not the round of `?`
      have hev : ev.opt ≠ "?" := fun hev => by rw [h2 _ _ hev] at hb; cases hb
      rw [hb, seqRes_norm]
      rcases List.mem_cons.1 he with rfl | he
      · exact absurd heq hev
      · exact ih st' ⟨e, he, heq⟩
    · rw [hb]; rfl

theorem loopEvs_norm (var : String) (body : Ev → St → Tree Res) (n : Nat) :
    ∀ (evs : List Ev), (∀ ev ∈ evs, ∀ st, st.nrest = n → ∃ st', body ev st = .ret (.norm st') ∧ st'.nrest = n) →
      ∀ (st : St), st.nrest = n → ∃ st', loopEvs var body evs st = .ret (.norm st') ∧ st'.nrest = n := by
  intro evs
  induction evs with
  | nil => intro _ st hn; exact ⟨_, rfl, hn⟩
  | cons ev evs ih =>
    intro hb st hn
    obtain ⟨st1, h1, hn1⟩ := hb ev (by simp) (loopSt var ev evs st) hn
    rw [loopEvs_cons, h1, seqRes_norm]
    exact ih (fun e he => hb e (by simp [he])) st1 hn1

def isLoop : Sh → Bool
  | .getoptsCase .. => true
  | _ => false

/-- position of the option loop in a script: (what comes before, the loop as (getopts string, variable, arms), what comes after) -/
def splitLoop (script : List Sh) : Option (List Sh × (String × String × List (String × List Sh)) × List Sh) :=
  match script.dropWhile (fun s => !isLoop s) with
  | .getoptsCase spec var arms :: post => some (script.takeWhile (fun s => !isLoop s), (spec, var, arms), post)
  | _ => none

theorem splitLoop_eq {script pre post : List Sh} {spec var : String} {arms : List (String × List Sh)}
    (h : splitLoop script = some (pre, (spec, var, arms), post)) : script = pre ++ .getoptsCase spec var arms :: post := by
  unfold splitLoop at h
  split at h
  · next hd => cases h; rw [← hd, List.takeWhile_append_dropWhile]
  · cases h

theorem execBlock_splitLoop {script pre post : List Sh} {spec var : String} {arms : List (String × List Sh)}
    (hsp : splitLoop script = some (pre, (spec, var, arms), post)) (hpre : isPureBlock pre = true) (st : St) :
    ∃ st1, st1.nrest = st.nrest ∧ execBlock script st =
      seqRes (loopEvs var (fun ev st' => execArms arms ev.opt.toList (okSt st')) st.evs st1) (execBlock post) := by
  obtain ⟨st1, h, he, hn⟩ := execBlock_pure_append pre (.getoptsCase spec var arms :: post) st hpre
  refine ⟨st1, hn, ?_⟩
  rw [splitLoop_eq hsp, h]
  simp only [execBlock, exec, he]

def loopSpec (script : List Sh) : String :=
  match splitLoop script with
  | some (_, (spec, _, _), _) => spec
  | none => ""

/-- a command line that is turned away: its whole decision tree is one leaf -/
theorem run_of_exit {script : List Sh} {i : Inv} {n : Nat} (h : execBlock script (St.init i) = .ret (.exit (.lit n)))
    (o : Oracle) (inv : Nat) (fs : FS) :
    (run script i o inv fs).code = n ∧ (run script i o inv fs).log = [] ∧ (run script i o inv fs).fs = fs := by
  simp [run, scriptTree, h, Tree.bind, interp, Code.eval]

def badFlagOK (script : List Sh) : Bool :=
  match splitLoop script with
  | some (pre, (_, _, arms), _) =>
    isPureBlock pre && armsOK arms &&
      (match selectArm arms ['?'] with
       | some body => endsExit 10 body
       | none => false)
  | none => false

theorem run_bad_flag (script : List Sh) (h : badFlagOK script = true) (i : Inv) (o : Oracle) (inv : Nat) (fs : FS)
    (hbad : ∃ ev ∈ i.evs, ev.opt = "?") :
    (run script i o inv fs).code = 10 ∧ (run script i o inv fs).log = [] ∧ (run script i o inv fs).fs = fs := by
  unfold badFlagOK at h
  split at h
  · next pre spec var arms post hsp =>
    simp only [Bool.and_eq_true] at h
    obtain ⟨⟨hpre, harms⟩, hq⟩ := h
    have hq' : ∀ (ev : Ev) (st : St), ev.opt = "?" → execArms arms ev.opt.toList (okSt st) = .ret (.exit (.lit 10)) := by
      intro ev st hev
      rw [execArms_select, hev]
      split at hq
      · next body hsel => rw [show "?".toList = ['?'] from rfl, hsel]; exact execBlock_endsExit 10 body _ hq
      · cases hq
    obtain ⟨st1, _, hsplit⟩ := execBlock_splitLoop hsp hpre (St.init i)
    refine run_of_exit ?_ o inv fs
    rw [hsplit, loopEvs_bad var (fun ev st' => execArms arms ev.opt.toList (okSt st'))
      (fun ev st => execArms_ok arms _ _ harms) hq' (St.init i).evs st1 hbad]
    rfl
  · cases h

theorem toksChars_map_ch (l : List Char) : toksChars (l.map Tok.ch) = some l := by
  induction l with
  | nil => rfl
  | cons c r ih => simp [toksChars, ih]

theorem digitChar_eq_core : ∀ d, d < 10 → digitChar d = Nat.digitChar d := by decide

theorem digitsAux_eq_core : ∀ f n acc, digitsAux f n acc = Nat.toDigitsCore 10 f n acc := by
  intro f
  induction f with
  | zero => intro n acc; rfl
  | succ f ih =>
    intro n acc
    simp only [digitsAux, Nat.toDigitsCore, digitChar_eq_core _ (Nat.mod_lt n (by decide)), ih]

theorem natChars_eq_toDigits (n : Nat) : natChars n = Nat.toDigits 10 n := digitsAux_eq_core _ _ _

theorem natChars_ne_zero (n : Nat) (hn : n ≠ 0) : natChars n ≠ ['0'] := by
  intro h
  have := @Nat.ofDigitChars_ten_toDigits n
  rw [← natChars_eq_toDigits, h] at this
  exact hn this.symm

theorem staticOrAsk_static {a b : Val} {x y : List Char} (ha : a.chars? = some x) (hb : b.chars? = some y) :
    staticOrAsk a b = .ret (x == y) := by
  simp only [staticOrAsk, ha, hb]

/-- the script's `shift $((OPTIND-1)); if [ $# != 0 ]; then …; exit 1; fi` -/
def strayGuard : List Sh → Bool
  | .shiftOptind :: .ite (.strNe a b) thn _ :: _ => decide (a.parts = [.argc]) && decide (b.parts = [.lit "0"]) && endsExit 1 thn
  | _ => false

theorem execBlock_strayGuard (post : List Sh) (st : St) (h : strayGuard post = true) (hn : st.nrest ≠ 0) :
    execBlock post st = .ret (.exit (.lit 1)) := by
  unfold strayGuard at h
  split at h
  · next a b thn els rest =>
    simp only [Bool.and_eq_true, decide_eq_true_eq] at h
    obtain ⟨⟨ha, hb⟩, hthn⟩ := h
    have hca : (expand (okSt { st with shifted := true }) a).chars? = some (natChars st.nrest) := by
      simp [expand, ha, expandPart, okSt, Val.chars?, Val.toks, Atom.toks, toksChars_map_ch]
    have hcb : (expand (okSt { st with shifted := true }) b).chars? = some ['0'] := by
      simp only [expand, hb, List.flatMap_cons, List.flatMap_nil, expandPart]; rfl
    have ht : testTree (okSt { st with shifted := true }) (.strNe a b) = .ret true := by
      have hne : (natChars st.nrest == ['0']) = false := beq_eq_false_iff_ne.2 (natChars_ne_zero st.nrest hn)
      simp only [testTree, staticOrAsk_static hca hcb, Tree.bind, hne, Bool.not_false]
    show seqRes ((testTree (okSt { st with shifted := true }) (.strNe a b)).bind _) _ = _
    rw [ht]
    show seqRes (execBlock thn _) _ = _
    rw [execBlock_endsExit 1 thn _ hthn]
    rfl
  · cases h

theorem specLookup_mem : ∀ (spec : List Char) (c : Char) (b : Bool), specLookup spec c = some b → c ∈ spec ∧ c ≠ ':'
  | [], _, _, h => by cases h
  | [x], c, b, h => by
    simp only [specLookup] at h
    split at h
    · next hx => exact ⟨by simp [hx.1], hx.2⟩
    · cases h
  | x :: y :: r, c, b, h => by
    simp only [specLookup] at h
    split at h
    · next hx => exact ⟨by simp [hx.1], hx.2⟩
    · exact ⟨List.mem_cons_of_mem _ (specLookup_mem (y :: r) c b h).1, (specLookup_mem (y :: r) c b h).2⟩

def specLetters (spec : List Char) : List Char := spec.filter (· ≠ ':')

/-- what `getopts spec` can report: `?`, or a letter of `spec` -/
def EvOK (spec : List Char) (ev : Ev) : Prop := ev.opt = "?" ∨ ∃ c ∈ specLetters spec, ev.opt = String.singleton c

theorem specLookup_letter {spec : List Char} {c : Char} {b : Bool} (h : specLookup spec c = some b) :
    c ∈ specLetters spec :=
  List.mem_filter.2 ⟨(specLookup_mem spec c b h).1, by simpa using (specLookup_mem spec c b h).2⟩

theorem clusterEvs_ok (spec : List Char) : ∀ (cs : List Char) (rest : List String) (k : Nat),
    ∀ ev ∈ (clusterEvs spec cs rest k).1, EvOK spec ev := by
  intro cs
  induction cs with
  | nil => intro rest k ev h; simp [clusterEvs] at h
  | cons c cs ih =>
    intro rest k ev h
    simp only [clusterEvs] at h
    cases hl : specLookup spec c with
    | none =>
      rw [hl] at h
      rcases List.mem_cons.1 h with rfl | h
      · exact Or.inl rfl
      · exact ih rest k ev h
    | some b =>
      rw [hl] at h
      have hc : EvOK spec ⟨String.singleton c, ev.arg⟩ := Or.inr ⟨c, specLookup_letter hl, rfl⟩
      cases b with
      | false =>
        rcases List.mem_cons.1 h with rfl | h
        · exact hc
        · exact ih rest k ev h
      | true =>
        simp only at h
        split at h
        · rw [List.mem_singleton.1 h]; exact hc
        · split at h
          · rw [List.mem_singleton.1 h]; exact Or.inl rfl
          · rw [List.mem_singleton.1 h]; exact hc

theorem getoptsAux_ok (spec : List Char) : ∀ (fuel : Nat) (args : List String) (k : Nat),
    ∀ ev ∈ (getoptsAux spec fuel args k).1, EvOK spec ev := by
  intro fuel
  induction fuel with
  | zero => intro args k ev h; simp [getoptsAux] at h
  | succ f ih =>
    intro args k ev h
    simp only [getoptsAux] at h
    split at h
    · simp at h
    · split at h
      · split at h
        · simp at h
        · rcases List.mem_append.1 h with h | h
          · exact clusterEvs_ok spec _ _ _ ev h
          · exact ih _ _ ev h
      · simp at h

theorem getoptsParse_ok (spec : String) (args : List String) : ∀ ev ∈ (getoptsParse spec args).1.evs, EvOK spec.toList ev :=
  fun ev h => getoptsAux_ok _ _ _ _ ev (by simpa only [getoptsParse] using h)

/-- before the loop only variables change, every letter of the loop's getopts string selects no arm or one that
only assigns variables, and what follows the loop is the guard against stray operands -/
def strayOK (script : List Sh) : Bool :=
  match splitLoop script with
  | some (pre, (spec, _, arms), post) =>
    isPureBlock pre &&
      (specLetters spec.toList).all (fun c => match selectArm arms [c] with | some b => isPureBlock b | none => true) &&
      strayGuard post
  | none => false

theorem run_stray (script : List Sh) (h : strayOK script = true) (i : Inv) (o : Oracle) (inv : Nat) (fs : FS)
    (hvalid : ∀ ev ∈ i.evs, ∃ c ∈ specLetters (loopSpec script).toList, ev.opt = String.singleton c) (hn : i.nrest ≠ 0) :
    (run script i o inv fs).code = 1 ∧ (run script i o inv fs).log = [] ∧ (run script i o inv fs).fs = fs := by
  unfold strayOK at h
  unfold loopSpec at hvalid
  split at h
  · next pre spec var arms post hsp =>
    rw [hsp] at hvalid
    simp only [Bool.and_eq_true, List.all_eq_true] at h
    obtain ⟨⟨hpre, harms⟩, hpost⟩ := h
    have hbody : ∀ ev ∈ i.evs, ∀ st : St, st.nrest = i.nrest →
        ∃ st', execArms arms ev.opt.toList (okSt st) = .ret (.norm st') ∧ st'.nrest = i.nrest := by
      -- the loop only changes variables
      intro ev hev st hst
      obtain ⟨c, hc, hopt⟩ := hvalid ev hev
      have := harms c hc
      rw [execArms_select, hopt, String.toList_singleton]
      cases hsel : selectArm arms [c] with
      | some b =>
        rw [hsel] at this
        obtain ⟨st', h, _, hn'⟩ := execBlock_pure b (okSt st) this
        exact ⟨st', h, hn'.trans hst⟩
      | none => exact ⟨okSt st, rfl, hst⟩
    obtain ⟨st0, hn0, hsplit⟩ := execBlock_splitLoop hsp hpre (St.init i)
    obtain ⟨st1, hloop, hn1⟩ := loopEvs_norm var (fun ev st' => execArms arms ev.opt.toList (okSt st')) i.nrest
      (St.init i).evs hbody st0 hn0
    refine run_of_exit ?_ o inv fs
    rw [hsplit, hloop, seqRes_norm]
    exact execBlock_strayGuard post st1 hpost (hn1 ▸ hn)
  · cases h

/-- **every argument vector** (any number of words, clustered flags, attached or detached option arguments,
`--`), parsed with the getopts string the script's loop carries: if `getopts` reports `?` anywhere (unknown
letter, missing option argument) a script with `badFlagOK` exits 10, otherwise if operands are left over a script
with `strayOK` exits 1 — in both cases before any step and without touching the file system. -/
theorem run_args_rejected (script : List Sh) (hb : badFlagOK script = true) (hs : strayOK script = true)
    (args : List String) (o : Oracle) (inv : Nat) (fs : FS) :
    let i := (getoptsParse (loopSpec script) args).1
    let out := run script i o inv fs
    ((∃ ev ∈ i.evs, ev.opt = "?") → out.code = 10 ∧ out.log = [] ∧ out.fs = fs) ∧
    ((¬ ∃ ev ∈ i.evs, ev.opt = "?") → i.nrest ≠ 0 → out.code = 1 ∧ out.log = [] ∧ out.fs = fs) := by
  refine ⟨fun hq => run_bad_flag script hb _ o inv fs hq, fun hno hn => run_stray script hs _ o inv fs (fun ev hev => ?_) hn⟩
  exact (getoptsParse_ok _ args ev hev).resolve_left (fun h => hno ⟨ev, hev, h⟩)


end FaxVerif.C16
