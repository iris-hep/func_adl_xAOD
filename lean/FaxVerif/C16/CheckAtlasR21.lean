/- C16 — kernel computation on the generated term `Gen.atlasR21`. -/
import FaxVerif.C16.Checks
namespace FaxVerif.C16

/-- The general exploration (every oracle, every file system) and the liveness exploration in ONE
evaluation: the kernel keeps what it has already reduced only for the length of one declaration, and
the second exploration walks the same script, so together they cost little more than the first alone. -/
theorem checks_atlasR21 :
    (checkAll .atlas Gen.atlasR21 allInvs && checkLive .atlas Gen.atlasR21 canonInvs) = true := by decide +kernel

theorem check_atlasR21 : checkAll .atlas Gen.atlasR21 allInvs = true := (Bool.and_eq_true_iff.1 checks_atlasR21).1

end FaxVerif.C16
