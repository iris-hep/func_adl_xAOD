/- C16 — `Gen.cmsR7`: the general exploration (every oracle, every file system), read off `checks_cms`. -/
import FaxVerif.C16.CheckCmsR5
namespace FaxVerif.C16
theorem check_cmsR7 : checkAll .cms Gen.cmsR7 allInvs = true :=
  (Bool.and_eq_true_iff.1 (Bool.and_eq_true_iff.1 checks_cms).2).1
end FaxVerif.C16
