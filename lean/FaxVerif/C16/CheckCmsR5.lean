/- C16 — kernel computation on the generated terms `Gen.cmsR5` and `Gen.cmsR7`. -/
import FaxVerif.C16.Checks
namespace FaxVerif.C16

/-- Both explorations (general: every oracle, every file system; liveness) of both CMS scripts in ONE
evaluation: the kernel keeps what it has already reduced only for the length of one declaration; the
liveness exploration walks the same script as the general one, and the r7 script differs from the r5
script in a few words, so each further conjunct costs a fraction of the first. -/
theorem checks_cms :
    ((checkAll .cms Gen.cmsR5 allInvs && checkLive .cms Gen.cmsR5 canonInvs) &&
      (checkAll .cms Gen.cmsR7 allInvs && checkLive .cms Gen.cmsR7 canonInvs)) = true := by decide +kernel

theorem check_cmsR5 : checkAll .cms Gen.cmsR5 allInvs = true :=
  (Bool.and_eq_true_iff.1 (Bool.and_eq_true_iff.1 checks_cms).1).1

end FaxVerif.C16
