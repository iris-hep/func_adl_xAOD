/-
C03 — the translator model's package and the terminal model's booking / descriptor agree: for every query of the
one-loop fragment, what `Gen.compile` books (tree, column names, declared types) is what `C03.book` (C03/Labels.lean:
the implicit terminal wrapped by `get_as_ROOT`) says, and the descriptor names that tree.
-/
import FaxVerif.C03.TheoremsGen
import FaxVerif.C03.TheoremsLabels
namespace FaxVerif.C03
open FaxVerif.Cpp FaxVerif.Gen FaxVerif.Linq

theorem book_implicit_of_finalColumns {S : Sig} {pfx : String} {q : Query} {cols : List (String × CTy)}
    (hc : finalColumns S q = .ok cols) :
    book S pfx q .implicit = .ok (⟨pfx ++ "_tree", cols, pfx ++ "_tree"⟩, ⟨pfx ++ "_tree", outputFile⟩) := by
  obtain ⟨row, hr, _⟩ := (finalColumns_iff_exists cols).mp hc
  have hcr := (callResultTTree_implicit_iff hr cols).mpr hc
  simp only [book, hr, terminalCall, hcr]

/-- **C03.compile_matches_book** — for EVERY query of the one-loop fragment (hypotheses of
`types_agree_with_typing`) and every backend whose default tree is `<prefix>_tree`: the terminal model accepts the
embedded user-level query with the implicit terminal; the descriptor it returns names the tree of the translator
model's package and the file the job writes; the booked column names are the package's branch names, in order, and
the booked C++ types are the types the translator model declares. -/
theorem compile_matches_book (B : Backend) (nm cn : Nat → String) (pfx : String) (hB : B.treeName = pfx ++ "_tree")
    (S : Sig) (fq : FQ) (hwt : fq.wt = true) (hsig : fq.sigOk S = true) (hsc : fq.scalarElems = true) :
    ∃ b d, book S pfx (FQ.toQuery fq) .implicit = .ok (b, d) ∧
      d.treename = (compile B nm cn fq).tree ∧ d.filename = outputFile ∧ b.tree = (compile B nm cn fq).tree ∧
      b.fill = (compile B nm cn fq).tree ∧
      b.columns.map (·.1) = (compile B nm cn fq).branches.map (·.1) ∧
      b.columns.map (fun c => cppName c.2) = FQ.types fq := by
  obtain ⟨cols, hc, h1, h2⟩ := types_agree_with_typing S fq hwt hsig hsc
  refine ⟨_, _, book_implicit_of_finalColumns hc, ?_, rfl, ?_, ?_, ?_, h2⟩
  · rw [tree_name, hB]
  · rw [tree_name, hB]
  · rw [tree_name, hB]
  · rw [schema_names]; exact h1

example : C01.atlasB.treeName = "atlas_xaod" ++ "_tree" ∧ C01.cmsMiniAodB.treeName = "cms_miniaod" ++ "_tree" := by decide +kernel
example : exFQ.wt = true ∧ exFQ.sigOk exSig = true ∧ exFQ.scalarElems = true := by decide +kernel

end FaxVerif.C03
