/-
C03 — output tree schema and returned descriptor match the query's final shape.

Theorems about the translator model `Gen.compile` (tied to the real translator by C01's text
tie) for ALL fragment queries; the decidable `SchemaOk` is additionally evaluated on the
implementation's own parsed output for every generated query of the larger language.
What `compile` books is stated once, `compile_books`; the theorems on names, variables and width read it off.
-/
import FaxVerif.C03.Spec
import FaxVerif.Gen.EventRowsCorrect
namespace FaxVerif.Gen

/-- the C++ type `compile` declares for a column of an event-level row -/
def Col.cppTy : Col → String
  | .scalar e => (tyEE e).cpp
  | .seq c => "std::vector<" ++ ((chainTy none c.steps).getD .double).cpp ++ ">"
  | .first c => ((chainTy none c.steps).getD .double).cpp

theorem compCols_types (B : Backend) (nm cn : Nat → String) (cols : List Col) (idx n : Nat) :
    (compCols B nm cn cols idx n).map (·.classVar.1) = cols.map Col.cppTy :=
  (compCols_graph B nm cn cols idx n).map_eq _ _ fun _ _ _ c h => by subst h; cases c <;> rfl

/-- the C++ types of the columns `compile` declares, in column order -/
def FQ.types : FQ → List String
  | .eventRows cols => cols.map fun p => p.2.cppTy
  | .elemRows c cols => cols.map fun p => (tyPE ((chainTy none c.steps).getD .double) p.2).cpp

end FaxVerif.Gen
namespace FaxVerif.C03
open FaxVerif.Cpp FaxVerif.Gen

def FQ.names : FQ → List String
  | .eventRows cols => cols.map (·.1)
  | .elemRows _ cols => cols.map (·.1)

def FQ.width : FQ → Nat
  | .eventRows cols => cols.length
  | .elemRows _ cols => cols.length

theorem FQ.names_length (fq : FQ) : (FQ.names fq).length = FQ.width fq := by
  cases fq <;> simp [FQ.names, FQ.width]

/-- column types of the model for scalar element-level columns: integers stay `int`, `/` is
`double`, comparisons are `bool` -/
theorem elem_col_types (cn : Nat → String) (t : Option Ty) : ∀ (pes : List PE) (idx : Nat),
    (colVars cn t pes idx).map (·.1) = pes.map fun pe => (tyPE (t.getD .double) pe).cpp
  | [], _ => rfl
  | pe :: rest, idx => by simp [colVars, elem_col_types cn t rest (idx + 1)]

/-- what `compile` books (`Gen.Books`): the names of the final expression's entries, in that order, each against a variable
of its own, of the entry's C++ type -/
theorem compile_books (B : Backend) (nm cn : Nat → String) (fq : FQ) :
    Books (compile B nm cn fq) cn (FQ.names fq) (FQ.types fq) := by
  cases fq with
  | eventRows cols =>
    have h := compile_eventRows_books B nm cn cols
    rwa [compCols_types, List.map_map] at h
  | elemRows c cols =>
    have h := compile_elemRows_books B nm cn c cols
    rwa [elem_col_types, List.map_map] at h

theorem branch_vars (B : Backend) (nm cn : Nat → String) (fq : FQ) :
    (compile B nm cn fq).branches.map (·.2) = colNames cn (FQ.width fq) 0 :=
  FQ.names_length fq ▸ (compile_books B nm cn fq).vars_eq

/-- **C03.schema_names** — the booked columns are exactly the names the final expression gives
(dict keys), in that order. -/
theorem schema_names (B : Backend) (nm cn : Nat → String) (fq : FQ) :
    (compile B nm cn fq).branches.map (·.1) = FQ.names fq :=
  (compile_books B nm cn fq).names_eq

/-- **C03.schema_own_storage** — each column is bound to its own storage: the variables behind
the booked branches are pairwise distinct. -/
theorem schema_own_storage (B : Backend) (nm cn : Nat → String) (hinj : ∀ i j, cn i = cn j → i = j) (fq : FQ) :
    ((compile B nm cn fq).branches.map (·.2)).Nodup :=
  (compile_books B nm cn fq).own_storage hinj

/-- **C03.schema_width** — as many branches as the final expression has entries. -/
theorem schema_width (B : Backend) (nm cn : Nat → String) (fq : FQ) :
    (compile B nm cn fq).branches.length = FQ.width fq :=
  (compile_books B nm cn fq).width.trans (FQ.names_length fq)

/-- **C03.tree_name** — the package's tree name is the backend's default tree name, the one
the fill statement carries (`B.fillTree B.treeName`). -/
theorem tree_name (B : Backend) (nm cn : Nat → String) (fq : FQ) : (compile B nm cn fq).tree = B.treeName := by
  cases fq <;> rfl

example : tyPE .double (.bin .div (.meth "i" .int) (.int 2)) = .double := by decide +kernel
example : tyPE .double (.bin .add (.meth "i" .int) (.int 2)) = .int := by decide +kernel
example : tyPE .double (.cmp .lt (.meth "i" .int) (.int 2)) = .bool := by decide +kernel

end FaxVerif.C03
