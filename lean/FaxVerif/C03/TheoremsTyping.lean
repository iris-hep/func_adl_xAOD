/-
C03 — "a column of the element type the expression has": the typing model of the query language
(`Linq/Typing.lean`) is SOUND for the reference semantics `Linq.denote`, for every query of the
language and every event of the data model; plus the facts about the final shape (names, order,
distinctness, width, labels) of `finalColumns` / `finalColumnsLabeled`.

`typeOf` / `finalColumns` are the oracle of the check (tools/props/c03.py asks the driver
`C03/TypingDriver.lean` for the expected names and C++ types of every generated query and
evaluates `SchemaOk` on the implementation's output against them); `type_soundness` is what makes
that oracle mean something: whatever value the query yields fits the column type the oracle demands.
-/
import FaxVerif.Linq.FinalShape
namespace FaxVerif.C03
open FaxVerif.Cpp FaxVerif.Linq
variable {D : Type}

/-- exact integers standing in for doubles (examples only) -/
def exNum : Num Int where
  ofInt := id
  ofDec := fun m _ => m
  add := (· + ·)
  sub := (· - ·)
  mul := (· * ·)
  div := Int.tdiv
  neg := fun x => -x
  lt := fun a b => decide (a < b)
  le := fun a b => decide (a ≤ b)
  eq := fun a b => decide (a = b)
  toInt := id
  fn := fun _ _ => none

def exSig : Sig where
  colls := [("As", "Aa")]
  meths := [("Aa", [("i", .int), ("f", .float), ("d", .double), ("b", .bool), ("vs", .vec .double), ("kids", .vec (.obj "Aa"))])]

def exObj (i : Int) (kids : List (Val Int)) : Val Int :=
  .obj "Aa" [("i", .int i), ("f", .dbl 1), ("d", .dbl 2), ("b", .bool true), ("vs", .vec [.dbl 1, .dbl 5]), ("kids", .vec kids)]

def exCtx : QCtx Int where
  N := exNum
  ev := { banks := [("ba", "AaContainer", .vec [exObj 3 [exObj 4 []], exObj 7 []])] }
  collTypes := [("As", "AaContainer")]

/-- `ds.Select(e -> {"n": e.As("ba").Count(), "half": e.As("ba").Select(j -> j.i() / 2), "vs": e.As("ba").Select(j -> j.vs())})` -/
def exQuery : Query :=
  .select .ds "e" (.dict ["n", "half", "vs"] [
    .count (.coll (.var "e") "As" "ba"),
    .select (.coll (.var "e") "As" "ba") "j" (.bin "/" (.meth (.var "j") "i") (.int 2)),
    .select (.coll (.var "e") "As" "ba") "j" (.meth (.var "j") "vs")])

def exQueryT : Query :=
  .select .ds "e" (.tuple [
    .count (.coll (.var "e") "As" "ba"),
    .select (.coll (.var "e") "As" "ba") "j" (.bin "/" (.meth (.var "j") "i") (.int 2))])

example : eventOk exSig exCtx = true := by decide +kernel
example : ((finalColumns exSig exQuery).toOption.map fun cs => cs.map fun c => (c.1, cppName c.2)) =
    some [("n", "int"), ("half", "std::vector<double>"), ("vs", "std::vector<std::vector<double>>")] := by decide +kernel
example : ((finalColumns exSig exQueryT).toOption.map fun cs => cs.map fun c => (c.1, cppName c.2)) =
    some [("col0", "int"), ("col1", "std::vector<double>")] := by decide +kernel

/-- **C03.type_soundness** — for EVERY query `q` of the language, every event whose banks hold what the
data model declares (`eventOk`: objects whose methods return values of the declared kinds) and every
environment fitting the typing environment: if the typing rules give `q` the type `t` and `q` yields the
value `v` on the event, then `v` fits a column of type `t` (`hasCTy`: an integer fits `int`/`float`/`double`,
a floating value `float`/`double`, a boolean `bool`; every element of a sequence fits the element type;
nested sequences likewise). This is what "a column of the element type the expression has" means. -/
theorem type_soundness (S : Sig) (C : QCtx D) (hev : eventOk S C = true) (Γ : TyEnv) (ρ : LEnv D)
    (hρ : envOk S ρ Γ = true) (q : Query) (t : CTy) (v : Val D)
    (ht : typeOf S Γ q = .ok t) (hd : denote C ρ q = .ok v) : hasCTy S v t = true :=
  typeOf_sound hev q Γ ρ hρ t v ht hd

-- non-vacuity: a query that has a type AND a value on a well-formed event
example : (match typeOf exSig [] exQuery, denote exCtx [] exQuery with
    | .ok t, .ok v => hasCTy exSig v t && t == .vec (.dict (.fcons "n" .int (.fcons "half" (.vec .double) (.fcons "vs" (.vec (.vec .double)) .fnil))))
    | _, _ => false) = true := by decide +kernel

theorem rows_fit {S : Sig} {C : QCtx D} (hev : eventOk S C = true) {q : Query} {row : CTy} (hr : rowType S q = .ok row)
    (hs : allShapes (rowFields row).2 = true) {rows : List (List (Val D))} (hd : denoteRows C q = .ok rows) :
    ∀ r ∈ rows, rowFits S r (rowFields row).2 = true := by
  unfold denoteRows at hd
  inv_at hd; cases hd
  have hv := typeOf_sound hev q [] [] rfl _ _ (rowType_ok hr) (by assumption)
  simp only [hasCTy] at hv
  intro r hrm
  obtain ⟨v, hv', rfl⟩ := List.mem_map.mp hrm
  exact rowOf_fits (allCTy_iff.mp hv v hv') hs

/-- **C03.columns_sound** — the property-level reading: every row the query yields on an event of the data
model has as many cells as the tree has columns, and each cell fits its column's type. -/
theorem columns_sound (S : Sig) (C : QCtx D) (hev : eventOk S C = true) (q : Query)
    (cols : List (String × CTy)) (rows : List (List (Val D)))
    (hc : finalColumns S q = .ok cols) (hr : denoteRows C q = .ok rows) :
    ∀ r ∈ rows, rowFits S r (cols.map (·.2)) = true := by
  obtain ⟨row, hrow, hcols⟩ := (finalColumns_iff_exists cols).mp hc
  rw [hcols.types]
  exact rows_fit hev hrow hcols.2.1 hr

theorem columns_sound_labeled (S : Sig) (C : QCtx D) (hev : eventOk S C = true) (q : Query) (labels : List String)
    (cols : List (String × CTy)) (rows : List (List (Val D)))
    (hc : finalColumnsLabeled S q labels = .ok cols) (hr : denoteRows C q = .ok rows) :
    ∀ r ∈ rows, rowFits S r (cols.map (·.2)) = true := by
  obtain ⟨row, hrow, _, hcols⟩ := (finalColumnsLabeled_iff_exists labels cols).mp hc
  rw [hcols.types]
  exact rows_fit hev hrow hcols.2.1 hr

example : (match finalColumns exSig exQuery, denoteRows exCtx exQuery with
    | .ok cols, .ok rows => rows.length == 1 && rows.all fun r => rowFits exSig r (cols.map (·.2))
    | _, _ => false) = true := by decide +kernel

/-- **C03.int_stays_int** — `+ - * %` of two integers, unary minus of an integer, `Count`, and `Sum` over
integers are `int`. -/
theorem int_stays_int (S : Sig) (Γ : TyEnv) (op : String) (hop : op ∈ arithOps) (a b s : Query)
    (ha : typeOf S Γ a = .ok .int) (hb : typeOf S Γ b = .ok .int) :
    typeOf S Γ (.bin op a b) = .ok .int ∧ typeOf S Γ (.neg a) = .ok .int ∧
    (∀ te, typeOf S Γ s = .ok (.vec te) → typeOf S Γ (.count s) = .ok .int) ∧
    (typeOf S Γ s = .ok (.vec .int) → typeOf S Γ (.sum s) = .ok .int) := by
  refine ⟨?_, ?_, ?_, ?_⟩
  · have h1 : op ≠ "/" := by rintro rfl; simp [arithOps] at hop
    have h2 : op ≠ "**" := by rintro rfl; simp [arithOps] at hop
    simp [typeOf, ha, hb, binTy, join, CTy.rank, h1, h2, hop]
  · simp [typeOf, ha, negTy]
  · intro te hs; simp [typeOf, hs]
  · intro hs; simp [typeOf, hs, sumTy, join, CTy.rank]

example : (typeOf exSig [("j", .obj "Aa")] (.bin "*" (.meth (.var "j") "i") (.int 2))).toOption = some .int := by decide +kernel

theorem sum_has_element_type (S : Sig) (Γ : TyEnv) (s : Query) (te : CTy) (hn : te.isNum = true)
    (hs : typeOf S Γ s = .ok (.vec te)) : typeOf S Γ (.sum s) = .ok te := by
  rcases isNum_cases hn with rfl | rfl | rfl <;> simp [typeOf, hs, sumTy, join, CTy.rank]

/-- **C03.division_is_floating** — real division (and `**`) is `double`, whatever the operands (also of two
integers), and it is typed whenever the operands are numbers. -/
theorem division_is_floating (S : Sig) (Γ : TyEnv) (a b : Query) :
    (∀ t, typeOf S Γ (.bin "/" a b) = .ok t → t = .double) ∧
    (∀ t, typeOf S Γ (.bin "**" a b) = .ok t → t = .double) ∧
    (∀ ta tb, typeOf S Γ a = .ok ta → typeOf S Γ b = .ok tb → ta.isNum = true → tb.isNum = true →
      typeOf S Γ (.bin "/" a b) = .ok .double) := by
  have hdiv : ∀ {op t}, op = "/" ∨ op = "**" → typeOf S Γ (.bin op a b) = .ok t → t = .double := by
    intro op t hop h
    simp only [typeOf] at h; inv_at h
    obtain ⟨_, _, h⟩ := binTy_ok h
    rcases h with ⟨_, rfl⟩ | ⟨hn, _⟩
    · rfl
    · exact absurd hop hn
  refine ⟨fun t => hdiv (.inl rfl), fun t => hdiv (.inr rfl), fun ta tb ha hb hna hnb => ?_⟩
  obtain ⟨j, hj⟩ : ∃ j, join ta tb = some j := by
    rcases isNum_cases hna with rfl | rfl | rfl <;> rcases isNum_cases hnb with rfl | rfl | rfl <;> exact ⟨_, rfl⟩
  simp [typeOf, ha, hb, binTy, hj]

example : (typeOf exSig [("j", .obj "Aa")] (.bin "/" (.meth (.var "j") "i") (.int 2))).toOption = some .double := by decide +kernel

/-- **C03.conditional_is_floating** — a conditional expression is `double` (also with two integer arms). -/
theorem conditional_is_floating (S : Sig) (Γ : TyEnv) (c a b : Query) (t : CTy)
    (h : typeOf S Γ (.ite c a b) = .ok t) : t = .double := by
  simp only [typeOf] at h; inv_at h
  exact (iteTy_ok h).1

example : (typeOf exSig [("j", .obj "Aa")] (.ite (.meth (.var "j") "b") (.int 1) (.int 2))).toOption = some .double := by decide +kernel

/-- **C03.comparison_is_bool** — comparisons, `and`, `or`, `not` are `bool`. -/
theorem comparison_is_bool (S : Sig) (Γ : TyEnv) (op : String) (a b : Query) (t : CTy) :
    (typeOf S Γ (.cmp op a b) = .ok t → t = .bool) ∧ (typeOf S Γ (.and a b) = .ok t → t = .bool) ∧
    (typeOf S Γ (.or a b) = .ok t → t = .bool) ∧ (typeOf S Γ (.not a) = .ok t → t = .bool) := by
  refine ⟨fun h => ?_, fun h => ?_, fun h => ?_, fun h => ?_⟩
  · simp only [typeOf] at h; inv_at h; exact (cmpTy_ok h).2
  · simp only [typeOf] at h; inv_at h; exact boolOpTy_ok h
  · simp only [typeOf] at h; inv_at h; exact boolOpTy_ok h
  · simp only [typeOf] at h; inv_at h; exact notTy_ok h

example : (typeOf exSig [("j", .obj "Aa")] (.cmp ">" (.meth (.var "j") "i") (.dbl 15 (-1)))).toOption = some .bool := by decide +kernel
example : (typeOf exSig [("j", .obj "Aa")] (.and (.meth (.var "j") "b") (.not (.meth (.var "j") "b")))).toOption = some .bool := by decide +kernel

/-- **C03.not_is_bool_of_a_number** — `not x` is `bool` whatever scalar `x` is: `not 2` is the boolean `False`,
which would not fit a column of the operand's type `int`. (`visit_UnaryOp` books `bool` for `not` since fix
ea7911a; before it kept the operand's type. The deterministic `typing-rules` stream of the check has `not` on
int / float / double operands.) -/
theorem not_is_bool_of_a_number :
    denote exCtx [] (.not (.int 2)) = .ok (.bool false) ∧ hasCTy exSig (.bool false : Val Int) .int = false ∧
    typeOf exSig [] (.not (.int 2)) = .ok .bool ∧
    (∀ (S : Sig) (Γ : TyEnv) (a : Query) (ta : CTy), typeOf S Γ a = .ok ta → ta.isScalar = true →
      typeOf S Γ (.not a) = .ok .bool) :=
  ⟨rfl, rfl, rfl, fun S Γ a ta ha hs => by simp [typeOf, ha, notTy, hs]⟩

/-- **C03.declared_type_kept** — a method call has exactly the type the data model declares for it, whatever C++
type that is (`short`, `unsigned int`, `size_t`, `long`, `char` … are kept by name: `cppName (declTy …)`), a
sequence of such calls is a vector of it, and the value an event of the data model holds for it fits that column. -/
theorem declared_type_kept (S : Sig) (Γ : TyEnv) (o s : Query) (x cls name : String) (t : CTy)
    (ho : typeOf S Γ o = .ok (.obj cls)) (hm : S.method cls name = some t) :
    typeOf S Γ (.meth o name) = .ok t ∧
    (typeOf S Γ s = .ok (.vec (.obj cls)) → typeOf S Γ (.select s x (.meth (.var x) name)) = .ok (.vec t)) := by
  refine ⟨by simp [typeOf, ho, hm], fun hs => ?_⟩
  simp [typeOf, hs, assoc, hm]

example : [declTy "const short", declTy "unsigned int", declTy "const size_t", declTy "long", declTy "const char",
    declTy "const float", declTy "int", declTy "const double", declTy " const bool "].map cppName =
    ["short", "unsigned int", "size_t", "long", "char", "float", "int", "double", "bool"] := by decide +kernel
example : cppName (.vec (.vec (declTy "const unsigned int"))) = "std::vector<std::vector<unsigned int>>" := by decide +kernel
example : hasCTy exSig (.int 3 : Val Int) (declTy "const short") = true ∧ hasCTy exSig (.dbl 3 : Val Int) (declTy "const short") = false ∧
    hasCTy exSig (.bool true : Val Int) (declTy "const short") = false := by decide +kernel

/-- **C03.fn_is_declared_floating** — a call of a user C++ function has the return type its metadata declares
(`float` stays `float`, `double` stays `double`; each function its OWN type), a function without a declaration
(<cmath>) is `double`; a function declared to return anything else has no type in this model (the reference
semantics `denote` gives every function a floating value). -/
theorem fn_is_declared_floating (S : Sig) (Γ : TyEnv) (f : String) (args : List Query) (t : CTy)
    (h : typeOf S Γ (.fn f args) = .ok t) :
    (t = .float ∨ t = .double) ∧ (∀ d, assoc S.fns f = some d → t = d) ∧ (assoc S.fns f = none → t = .double) := by
  simp only [typeOf] at h
  inv_at h
  refine ⟨fnTy_ok h, fun d hd => ?_, fun hn => ?_⟩
  · unfold fnTy at h; rw [hd] at h
    cases d <;> simp at h <;> exact h.symm
  · unfold fnTy at h; rw [hn] at h; cases h; rfl

example : (typeOf { exSig with fns := [("wpf", .float), ("vpf", .double)] } [("j", .obj "Aa")]
      (.tuple [.fn "wpf" [.meth (.var "j") "d"], .fn "vpf" [.meth (.var "j") "d", .meth (.var "j") "i"], .fn "sqrt" [.meth (.var "j") "f"]])).toOption =
    some (.tup (.fcons "0" .float (.fcons "1" .double (.fcons "2" .double .fnil)))) := by decide +kernel

/-! ### where the translator's own rule is NOT the type of Python's value (constructs outside the generated
stream; replayed on the real translator at /repo commit 1c4553a, see the report of this property) -/

/-- `visit_UnaryOp` gives `-x` (and `+x`) the operand's type. For a boolean operand Python computes an `int`
(`-True == -1`): the value does not fit the `bool` column the translator books (`typeOf` says `int`). -/
theorem neg_bool_counterexample :
    denote exCtx [] (.neg (.bool true)) = .ok (.int (-1)) ∧ hasCTy exSig (.int (-1) : Val Int) .bool = false ∧
    typeOf exSig [] (.neg (.bool true)) = .ok .int := ⟨rfl, rfl, rfl⟩

/-- `visit_IfExp` is always `double` (a STRING arm is refused since fix 6a224ae, any other arm is accepted): with
boolean arms the value is a boolean, which is not a floating value (`typeOf` assigns no type to such a
conditional, nor to one with a string arm). -/
theorem ite_bool_counterexample :
    denote exCtx [] (.ite (.bool true) (.bool true) (.bool false)) = .ok (.bool true) ∧
    hasCTy exSig (.bool true : Val Int) .double = false ∧
    (typeOf exSig [] (.ite (.bool true) (.bool true) (.bool false))).toOption = none := ⟨rfl, rfl, rfl⟩

/-- **C03.final_names_order** — the columns are, in order: the dict's keys as written; `col0, col1, …` for a
tuple / list; `col1` for a single value. -/
theorem final_names_order (S : Sig) (q : Query) (cols : List (String × CTy)) (h : finalColumns S q = .ok cols) :
    ∃ row, rowType S q = .ok row ∧ cols.map (·.1) = (rowFields row).1 ∧ cols.map (·.2) = (rowFields row).2 ∧
      (∀ fs, row = .dict fs → cols.map (·.1) = fieldNames fs) ∧
      (∀ fs, row = .tup fs → ∀ i, i < cols.length → (cols.map (·.1))[i]? = some ("col" ++ natStr i)) ∧
      ((∀ fs, row ≠ .dict fs) → (∀ fs, row ≠ .tup fs) → cols.map (·.1) = ["col1"]) := by
  obtain ⟨row, hr, hcols⟩ := (finalColumns_iff_exists cols).mp h
  have h1 := hcols.names
  refine ⟨row, hr, h1, hcols.types, ?_, ?_, ?_⟩
  · rintro fs rfl; rw [h1]; rfl
  · rintro fs rfl i hi
    rw [← List.length_map (·.1)] at hi
    rw [h1] at hi ⊢
    simp only [rowFields, defaultNames_length] at hi ⊢
    rw [defaultNames_get _ _ _ hi]; simp
  · intro hd ht
    rw [h1, rowFields_other hd ht]

theorem final_names_dict (S : Sig) (s : Query) (x : String) (keys : List String) (es : List Query)
    (cols : List (String × CTy)) (h : finalColumns S (.select s x (.dict keys es)) = .ok cols) :
    cols.map (·.1) = keys := by
  obtain ⟨row, hr, h1, _, hd, _, _⟩ := final_names_order S _ cols h
  obtain ⟨ts, rfl, hk, _⟩ := rowType_select_dict hr
  rw [hd _ rfl, fieldNames_mk _ _ (by omega)]

theorem final_names_tuple (S : Sig) (s : Query) (x : String) (es : List Query)
    (cols : List (String × CTy)) (h : finalColumns S (.select s x (.tuple es)) = .ok cols) :
    cols.map (·.1) = defaultNames es.length 0 := by
  obtain ⟨row, hr, h1, _, _, _, _⟩ := final_names_order S _ cols h
  obtain ⟨ts, rfl, hl⟩ := rowType_select_tuple hr
  rw [h1]
  simp only [rowFields]
  rw [fieldTypes_mk _ _ (by rw [indexNames_length]; exact Nat.le_refl _), hl]

example : ((finalColumns exSig exQuery).toOption.map fun cs => cs.map (·.1)) = some ["n", "half", "vs"] := by decide +kernel
example : defaultNames 3 0 = ["col0", "col1", "col2"] := by decide +kernel
example : ∀ n < 200, natStr n = toString n := fun n _ => natStr_eq_toString n

/-- **C03.final_names_distinct_partial** — the positional default names (`col0…`, `col1`) are pairwise distinct;
the names of a dict are its keys as given, so they are distinct exactly when the keys are (the translator does
not reject a repeated key, hence an equivalence and not a fact). Full statement "the columns are pairwise distinct" is
false for `{"a": …, "a": …}` written as an AST. -/
theorem final_names_distinct_partial (S : Sig) (q : Query) (cols : List (String × CTy)) (h : finalColumns S q = .ok cols) :
    ∃ row, rowType S q = .ok row ∧
      ((∀ fs, row ≠ .dict fs) → (cols.map (·.1)).Nodup) ∧
      (∀ fs, row = .dict fs → ((cols.map (·.1)).Nodup ↔ (fieldNames fs).Nodup)) := by
  obtain ⟨row, hr, h1, _, hd, _, ho⟩ := final_names_order S q cols h
  refine ⟨row, hr, fun hnd => ?_, fun fs hfs => by rw [hd fs hfs]⟩
  by_cases ht : ∃ fs, row = .tup fs
  · obtain ⟨fs, rfl⟩ := ht
    rw [h1]; exact defaultNames_nodup _ _
  · rw [ho hnd fun fs h => ht ⟨fs, h⟩]; simp

theorem final_names_distinct_dict (S : Sig) (s : Query) (x : String) (keys : List String) (es : List Query)
    (cols : List (String × CTy)) (h : finalColumns S (.select s x (.dict keys es)) = .ok cols) :
    (cols.map (·.1)).Nodup ↔ keys.Nodup := by
  rw [final_names_dict S s x keys es cols h]

example : (finalColumns exSig exQueryT).toOption.isSome = true := by decide +kernel

/-- **C03.width** — as many columns as the final expression has entries (dict / tuple / list), one for a single value. -/
theorem width (S : Sig) (s : Query) (x : String) (keys : List String) (es : List Query) (cols : List (String × CTy)) :
    (finalColumns S (.select s x (.dict keys es)) = .ok cols → cols.length = es.length ∧ cols.length = keys.length) ∧
    (finalColumns S (.select s x (.tuple es)) = .ok cols → cols.length = es.length) ∧
    (∀ q row, finalColumns S q = .ok cols → rowType S q = .ok row → (∀ fs, row ≠ .dict fs) → (∀ fs, row ≠ .tup fs) → cols.length = 1) := by
  refine ⟨fun h => ?_, fun h => ?_, fun q row h hr hd ht => ?_⟩
  · have := congrArg List.length (final_names_dict S s x keys es cols h)
    obtain ⟨row, hr, _⟩ := (finalColumns_iff_exists cols).mp h
    obtain ⟨ts, _, hk, hl⟩ := rowType_select_dict hr
    simp only [List.length_map] at this
    omega
  · have := congrArg List.length (final_names_tuple S s x es cols h)
    simpa [defaultNames_length] using this
  · obtain ⟨row', hr', _, _, _, _, h1⟩ := final_names_order S q cols h
    rw [hr] at hr'; cases hr'
    have := congrArg List.length (h1 hd ht)
    simpa using this

/-- **C03.label_mismatch_refused** — explicit labels: a number of labels different from the number of columns is an
error; when accepted, the columns carry exactly the labels, in order, with the types of the default naming. -/
theorem label_mismatch_refused (S : Sig) (q : Query) (labels : List String) (row : CTy) (hr : rowType S q = .ok row) :
    (labels.length ≠ (rowFields row).2.length → (finalColumnsLabeled S q labels).toOption = none) ∧
    (∀ cols, finalColumnsLabeled S q labels = .ok cols →
      labels.length = (rowFields row).2.length ∧ cols.map (·.1) = labels ∧ cols.map (·.2) = (rowFields row).2) := by
  refine ⟨fun hne => ?_, fun cols h => ?_⟩
  · cases hc : finalColumnsLabeled S q labels with
    | error _ => rfl
    | ok cols => exact absurd ((finalColumnsLabeled_iff hr labels cols).mp hc).2.1 hne
  · have hcols := ((finalColumnsLabeled_iff hr labels cols).mp h).2
    exact ⟨hcols.1, hcols.names, hcols.types⟩

example : (finalColumnsLabeled exSig exQueryT ["a", "b", "c"]).toOption = none := by decide +kernel
example : (finalColumnsLabeled exSig exQueryT ["a"]).toOption = none := by decide +kernel
example : ((finalColumnsLabeled exSig exQueryT ["a", "b"]).toOption.map fun cs => cs.map fun c => (c.1, cppName c.2)) =
    some [("a", "int"), ("b", "std::vector<double>")] := by decide +kernel

/-- **C03.column_shapes** — every column is a scalar, a vector or a vector of vectors of `int`/`float`/`double`/`bool`
(or another declared arithmetic type, `prim`). -/
theorem column_shapes (S : Sig) (q : Query) (cols : List (String × CTy)) (h : finalColumns S q = .ok cols) :
    ∀ c ∈ cols, c.2.isScalar = true ∨ (∃ t, c.2 = .vec t ∧ t.isScalar = true) ∨ (∃ t, c.2 = .vec (.vec t) ∧ t.isScalar = true) := by
  obtain ⟨row, _, _, hs, rfl⟩ := (finalColumns_iff_exists cols).mp h
  intro c hc
  have hm : c.2 ∈ (rowFields row).2 := (List.of_mem_zip hc).2
  have hcs := allShapes_iff.mp hs _ hm
  generalize c.2 = t at hcs ⊢
  unfold colShape at hcs
  split at hcs
  · exact .inr (.inr ⟨_, rfl, hcs⟩)
  · exact .inr (.inl ⟨_, rfl, hcs⟩)
  · exact .inl hcs

end FaxVerif.C03
