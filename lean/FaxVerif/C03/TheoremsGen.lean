/-
C03 — the schema of the output tree, for EVERY query of the three translator-model fragments (`Gen.compile` one-loop,
`Gen.compileL` lazy `and`/`or`/conditional, `Gen.compileN` nested iteration): `SchemaOk`, the very predicate the check
evaluates on the real translator's parsed output, holds of what the models emit; the column types are the ones the
INDEPENDENT typing model `Linq.finalColumns` assigns to the embedded user-level query, hence (with `type_soundness`)
every value the query can evaluate to fits the C++ type booked for its column.

Where the two typings genuinely differ the theorem carries the explicit decidable hypothesis that excludes the
difference and a `_counterexample` shows it is needed:
  * a vector / `First()` column over a chain that ends in OBJECTS: the model books `std::vector<double>` / `double`
    (`getD .double`), the typing model assigns no column type (`FQ.scalarElems`);
  * `and` / `or` with non-boolean operands: the model books `bool` (it casts each operand), the typing model
    assigns no type (`FQL.boolOps`).
-/
import FaxVerif.Gen.SchemaCorrectTypingLazy
import FaxVerif.Gen.SchemaCorrectTypingNested
import FaxVerif.C03.TheoremsTyping
import FaxVerif.C01.Instances
namespace FaxVerif.C03
open FaxVerif.Cpp FaxVerif.Linq FaxVerif.Gen
variable {D : Type}

def exChain : Chain := ⟨"As", "ba", []⟩

/-- `ds.Select(e -> {"n": e.As("ba").Count(), "half": e.As("ba").Select(x -> x.i() / 2),
"f": e.As("ba").Where(x -> x.b()).Select(x -> x.f()).First(), "s": e.As("ba").Select(x -> x.i()).Sum()})` -/
def exFQ : FQ := .eventRows [
  ("n", .scalar (.count exChain)),
  ("half", .seq ⟨"As", "ba", [.sel (.bin .div (.meth "i" .int) (.int 2))]⟩),
  ("f", .first ⟨"As", "ba", [.whr (.meth "b" .bool), .sel (.meth "f" .float)]⟩),
  ("s", .scalar (.sum ⟨"As", "ba", [.sel (.meth "i" .int)]⟩))]

/-- `ds.SelectMany(e -> e.As("ba").Where(x -> x.i() > 1)).Select(r -> {"a": r.i() + 2, "b": r.d() < 1.5, "c": r.i() / 2})` -/
def exFQ2 : FQ := .elemRows ⟨"As", "ba", [.whr (.cmp .gt (.meth "i" .int) (.int 1))]⟩ [
  ("a", .bin .add (.meth "i" .int) (.int 2)),
  ("b", .cmp .lt (.meth "d" .double) (.dbl 15 (-1))),
  ("c", .bin .div (.meth "i" .int) (.int 2))]

/-- `ds.SelectMany(e -> e.As("ba").Where(x -> x.b() or x.i() > 1)).Select(r -> {"a": r.d() if r.b() else 0.0,
"b": r.b() and not r.b() and True})` -/
def exFQL : FQL := .elemRows ⟨"As", "ba", [.whr (.bop .or (.meth "b" .bool) [.cmp .gt (.meth "i" .int) (.int 1)])]⟩ [
  ("a", .ite (.meth "b" .bool) (.meth "d" .double) (.dbl 0 0)),
  ("b", .bop .and (.meth "b" .bool) [.not (.meth "b" .bool), .bool true])]

def exVs : IChain := ⟨"vs", some .double, []⟩
def exKids : IChain := ⟨"kids", none, [.whr (.cmp .gt (.meth "i" .int) (.int 0))]⟩

/-- `ds.Select(e -> {"n": e.As("ba").Select(y -> y.kids().Where(x -> x.i() > 0).Count()),
"s": e.As("ba").Select(y -> y.vs().Sum()), "v": e.As("ba").Select(y -> y.vs()),
"w": e.As("ba").Select(y -> y.vs().Select(x -> x * 2)), "k": e.As("ba").Select(y -> y.kids().Select(x -> x.i()))})` -/
def exNQ : NQ := .eventRows [
  ("n", .agg exChain (.icount exKids)),
  ("s", .agg exChain (.isum exVs)),
  ("v", .twoD exChain exVs),
  ("w", .twoD exChain ⟨"vs", some .double, [.sel (.bin .mul .it (.int 2))]⟩),
  ("k", .twoD exChain ⟨"kids", none, [.sel (.meth "i" .int)]⟩)]

/-- `ds.SelectMany(e -> e.As("ba")).Select(r -> {"n": r.kids().….Count(), "m": r.vs().Sum() / r.vs().Count(), "i": r.i()})` -/
def exNQ2 : NQ := .elemRows exChain [
  ("n", .icount exKids),
  ("m", .bin .div (.isum exVs) (.icount exVs)),
  ("i", .pure (.meth "i" .int))]

/-- **C03.schema_ok_compile** — for EVERY query of the one-loop fragment (event-level rows of scalars, vectors and
`First()`; element-level rows): the package the translator model emits satisfies `SchemaOk` with the query's own
names (the dict keys, in order), the model's column types (`tyEE` for a scalar, `std::vector<elem>` for a vector
column, the element type for `First()`, `tyPE` for element-level rows) and the backend's fill argument for ITS tree
name. That is all eight conjuncts of the oracle at once:
the booked branches are the names in order; each is bound to its own class-level variable; each such variable is
declared (exactly once) with the column's type; the per-event code writes every booked variable (scalar
assignment after the loops, `push_back` + `clear` for vectors, the guarded capture of `First()` INSIDE the loop,
the per-row assignments inside the loop); it writes no other class-level variable except token handles; there is
at least one fill and every fill names the booked tree. -/
theorem schema_ok_compile (B : Backend) (nm cn : Nat → String)
    (hcinj : ∀ i j, cn i = cn j → i = j) (hdisj : ∀ j k, nm j ≠ cn k) (fq : FQ) :
    SchemaOk (compile B nm cn fq) (FQ.names fq) (FQ.types fq) (B.fillTree B.treeName) = true := by
  cases fq with
  | eventRows cols => exact schemaOk_compile_eventRows B nm cn hcinj hdisj cols
  | elemRows c cols => exact schemaOk_compile_elemRows B nm cn hcinj hdisj c cols

-- non-vacuity: the supplies of C01 satisfy the hypotheses
example : SchemaOk (compile C01.atlasB C01.exNm C01.exCn exFQ) ["n", "half", "f", "s"]
    ["int", "std::vector<double>", "float", "int"] "atlas_xaod_tree" = true :=
  schema_ok_compile C01.atlasB C01.exNm C01.exCn C01.exCn_inj C01.exNm_ne_exCn exFQ
example : SchemaOk (compile C01.cmsMiniAodB C01.exNm C01.exCn exFQ2) ["a", "b", "c"] ["int", "bool", "double"] "" = true :=
  schema_ok_compile C01.cmsMiniAodB C01.exNm C01.exCn C01.exCn_inj C01.exNm_ne_exCn exFQ2
-- the predicate is not trivially true: another type, another order, another tree are refused
example : SchemaOk (compile C01.atlasB C01.exNm C01.exCn exFQ) ["n", "half", "f", "s"]
    ["int", "std::vector<double>", "double", "int"] "atlas_xaod_tree" = false := by decide +kernel
example : SchemaOk (compile C01.atlasB C01.exNm C01.exCn exFQ) ["half", "n", "f", "s"]
    ["int", "std::vector<double>", "float", "int"] "atlas_xaod_tree" = false := by decide +kernel
example : SchemaOk (compile C01.atlasB C01.exNm C01.exCn exFQ) ["n", "half", "f", "s"]
    ["int", "std::vector<double>", "float", "int"] "other_tree" = false := by decide +kernel

/-- **C03.schema_ok_compileL** — the same for EVERY query of the lazy fragment (element-level rows whose columns
and `Where`s contain `and` / `or` / conditionals): the statements the lazy operators are lowered to write only
their own result variables (generated locals) and never fill; the row continuation assigns every branch variable
and fills the booked tree once per kept element. Column types: `tyLE` (`bool` for `and`/`or`, `double` for a
conditional). -/
theorem schema_ok_compileL (B : Backend) (nm cn : Nat → String)
    (hcinj : ∀ i j, cn i = cn j → i = j) (hdisj : ∀ j k, nm j ≠ cn k) (fq : FQL) :
    SchemaOk (compileL B nm cn fq) (FQL.names fq) (FQL.types fq) (B.fillTree B.treeName) = true :=
  schemaOk_compileL B nm cn hcinj hdisj fq

example : SchemaOk (compileL C01.cmsAodB C01.exNm C01.exCn exFQL) ["a", "b"] ["double", "bool"] "" = true :=
  schema_ok_compileL C01.cmsAodB C01.exNm C01.exCn C01.exCn_inj C01.exNm_ne_exCn exFQL
example : SchemaOk (compileL C01.cmsAodB C01.exNm C01.exCn exFQL) ["a", "b"] ["double", "int"] "" = false := by decide +kernel

/-- **C03.schema_ok_compileN** — the same for EVERY query of the nested fragment: event-level columns of inner
aggregates (`std::vector<int>` / `std::vector<double>` …), 2-D columns (`std::vector<std::vector<T>>`), and
element-level rows over inner aggregates. Accumulators, inner loop variables and the per-element storage vectors
are generated locals; a column vector is pushed to inside its loop and cleared after the single fill. -/
theorem schema_ok_compileN (B : Backend) (nm cn : Nat → String)
    (hcinj : ∀ i j, cn i = cn j → i = j) (hdisj : ∀ j k, nm j ≠ cn k) (nq : NQ) :
    SchemaOk (compileN B nm cn nq) (NQ.names nq) (NQ.types nq) (B.fillTree B.treeName) = true := by
  cases nq with
  | eventRows cols => exact schemaOk_compileN_eventRows B nm cn hcinj hdisj cols
  | elemRows c cols => exact schemaOk_compileN_elemRows B nm cn hcinj hdisj c cols

/-- an event-level vector column is not only cleared: it is pushed to inside its loop -/
theorem nested_column_pushed (B : Backend) (nm cn : Nat → String) (idx : Nat) (col : NCol) (n : Nat) :
    cn idx ∈ writesL (compNCol B nm cn idx col n).stmts := by
  rw [compNCol_stmts]
  apply compChain_writes
  cases col with
  | agg c e => simp [NCol.kn, aggK, writesL_append, writesL, writes]
  | twoD c ic =>
    simp only [NCol.kn, twoDK]
    split <;> simp [writesL_append, writesL, writes]

example : SchemaOk (compileN C01.atlasB C01.exNm C01.exCn exNQ) ["n", "s", "v", "w", "k"]
    ["std::vector<int>", "std::vector<double>", "std::vector<std::vector<double>>", "std::vector<std::vector<double>>",
     "std::vector<std::vector<int>>"] "atlas_xaod_tree" = true :=
  schema_ok_compileN C01.atlasB C01.exNm C01.exCn C01.exCn_inj C01.exNm_ne_exCn exNQ
example : SchemaOk (compileN C01.cmsMiniAodB C01.exNm C01.exCn exNQ2) ["n", "m", "i"] ["int", "double", "int"] "" = true :=
  schema_ok_compileN C01.cmsMiniAodB C01.exNm C01.exCn C01.exCn_inj C01.exNm_ne_exCn exNQ2

theorem zip_cols {names : List String} {ctys : List CTy} (h : ctys.length = names.length) :
    (names.zip ctys).map (·.1) = names ∧ (names.zip ctys).map (·.2) = ctys ∧
    (names.zip ctys).map (fun c => cppName c.2) = ctys.map cppName := by
  have h2 : (names.zip ctys).map (·.2) = ctys := List.map_snd_zip (by omega)
  refine ⟨List.map_fst_zip (by omega), h2, ?_⟩
  have h3 : (names.zip ctys).map (fun c => cppName c.2) = ((names.zip ctys).map (·.2)).map cppName := by
    rw [List.map_map]; rfl
  rw [h3, h2]

/-- **C03.types_agree_with_typing** — for EVERY query of the one-loop fragment that is well typed in the sense of
the translator model (`FQ.wt`: `wtEE` / `wtSteps` / `wtPE`), every data-model table `S` that declares the
accessors the query uses as the query's own `meth name ty` annotations say (`FQ.sigOk`), and provided every
vector / `First()` column ranges over a chain that ends in scalars (`FQ.scalarElems`, see the counterexample):
the independent typing model assigns columns to the embedded user-level query, their names are the query's names
in order, and their C++ types are exactly the types the translator model declares (integers stay `int`, `/` is
`double`, comparisons `bool`, `Count` `int`, `Sum` the element type, `std::vector<elem>` for sequences, the
element type for `First()`). -/
theorem types_agree_with_typing (S : Sig) (fq : FQ) (hwt : fq.wt = true) (hsig : fq.sigOk S = true)
    (hsc : fq.scalarElems = true) :
    ∃ cols, finalColumns S (FQ.toQuery fq) = .ok cols ∧ cols.map (·.1) = FQ.names fq ∧
      cols.map (fun c => cppName c.2) = FQ.types fq := by
  obtain ⟨h1, _, h3⟩ := zip_cols (FQ.ctys_length fq)
  exact ⟨_, finalColumns_FQ S fq hwt hsc hsig, h1, by rw [h3, FQ.ctys_cppName]⟩

example : exFQ.wt = true ∧ exFQ.sigOk exSig = true ∧ exFQ.scalarElems = true := by decide +kernel
example : exFQ2.wt = true ∧ exFQ2.sigOk exSig = true ∧ exFQ2.scalarElems = true := by decide +kernel
example : FQ.types exFQ = ["int", "std::vector<double>", "float", "int"] ∧ FQ.types exFQ2 = ["int", "bool", "double"] := by decide +kernel

/-- the hypothesis `FQ.scalarElems` is needed: `ds.Select(e -> {"a": e.As("ba")})` (a column that is a bare
collection of OBJECTS) is well typed for the translator model, which books `std::vector<double>` for it
(`(chainTy …).getD .double`); the typing model assigns it no column type ("a column is not a scalar, a vector or a
vector of vectors of scalars"). Likewise `….First()` of objects (`double` in the model). (The real translator
refuses the first form — AssertionError "Do not know how to loop over …" — and books a raw `xAOD::Jet*` for the
second: the model's totalisation is outside the tied fragment.) -/
theorem types_agree_with_typing_counterexample :
    (FQ.eventRows [("a", .seq exChain)]).wt = true ∧ (FQ.eventRows [("a", .seq exChain)]).sigOk exSig = true ∧
    (FQ.eventRows [("a", .seq exChain)]).scalarElems = false ∧
    FQ.types (.eventRows [("a", .seq exChain)]) = ["std::vector<double>"] ∧
    (finalColumns exSig (FQ.toQuery (.eventRows [("a", .seq exChain)]))).toOption = none ∧
    (FQ.eventRows [("a", .first exChain)]).wt = true ∧ FQ.types (.eventRows [("a", .first exChain)]) = ["double"] ∧
    (finalColumns exSig (FQ.toQuery (.eventRows [("a", .first exChain)]))).toOption = none := by decide +kernel

/-- **C03.types_agree_with_typingL** — the same for EVERY well-typed query of the lazy fragment whose `and` / `or`
operands are all boolean (`FQL.boolOps`, columns and `Where`s; see the counterexample): conditionals are `double`,
`and` / `or` are `bool`, in the model and in the typing model alike. -/
theorem types_agree_with_typingL (S : Sig) (fq : FQL) (hwt : fq.wt = true) (hsig : fq.sigOk S = true)
    (hbo : fq.boolOps = true) :
    ∃ cols, finalColumns S (FQL.toQuery fq) = .ok cols ∧ cols.map (·.1) = FQL.names fq ∧
      cols.map (fun c => cppName c.2) = FQL.types fq := by
  obtain ⟨h1, _, h3⟩ := zip_cols (FQL.ctys_length fq)
  exact ⟨_, finalColumns_FQL S fq hwt hbo hsig, h1, by rw [h3, FQL.ctys_cppName]⟩

example : exFQL.wt = true ∧ exFQL.sigOk exSig = true ∧ exFQL.boolOps = true := by decide +kernel
example : FQL.types exFQL = ["double", "bool"] := by decide +kernel

/-- the hypothesis `FQL.boolOps` is needed: `….Select(r -> {"a": 1 and 2})` is well typed for the translator
model (each operand is cast: `bool_op = static_cast<bool>(1); if (bool_op) bool_op = static_cast<bool>(2);`), which
books a `bool` column; the typing model assigns NO type to `and` / `or` of non-booleans (Python's value of
`1 and 2` is the integer `2`, not a boolean). -/
theorem types_agree_with_typingL_counterexample :
    (FQL.elemRows ⟨"As", "ba", []⟩ [("a", .bop .and (.int 1) [.int 2])]).wt = true ∧
    (FQL.elemRows ⟨"As", "ba", []⟩ [("a", .bop .and (.int 1) [.int 2])]).sigOk exSig = true ∧
    (FQL.elemRows ⟨"As", "ba", []⟩ [("a", .bop .and (.int 1) [.int 2])]).boolOps = false ∧
    FQL.types (.elemRows ⟨"As", "ba", []⟩ [("a", .bop .and (.int 1) [.int 2])]) = ["bool"] ∧
    (finalColumns exSig (FQL.toQuery (.elemRows ⟨"As", "ba", []⟩ [("a", .bop .and (.int 1) [.int 2])]))).toOption = none := by
  decide +kernel

/-- **C03.types_agree_with_typingN** — the same for EVERY well-typed query of the nested fragment (`NQ.wt`:
`wtNCol` / `wtOuter` / `wtNE`) and every table declaring the outer accessors and the collection-returning methods
as annotated (`NQ.sigOk`): inner `Count` columns are `std::vector<int>`, inner `Sum` columns `std::vector<T>` of the
element type, 2-D columns `std::vector<std::vector<T>>`, element-level rows of aggregates scalars. No exclusion. -/
theorem types_agree_with_typingN (S : Sig) (nq : NQ) (hwt : nq.wt = true) (hsig : nq.sigOk S = true) :
    ∃ cols, finalColumns S (NQ.toQuery nq) = .ok cols ∧ cols.map (·.1) = NQ.names nq ∧
      cols.map (fun c => cppName c.2) = NQ.types nq := by
  obtain ⟨h1, _, h3⟩ := zip_cols (NQ.ctys_length nq)
  exact ⟨_, finalColumns_NQ S nq hwt hsig, h1, by rw [h3, NQ.ctys_cppName]⟩

example : exNQ.wt = true ∧ exNQ.sigOk exSig = true ∧ exNQ2.wt = true ∧ exNQ2.sigOk exSig = true := by decide +kernel
example : NQ.types exNQ = ["std::vector<int>", "std::vector<double>", "std::vector<std::vector<double>>",
    "std::vector<std::vector<double>>", "std::vector<std::vector<int>>"] ∧ NQ.types exNQ2 = ["int", "double", "int"] := by decide +kernel

theorem fits_of_columns (S : Sig) (C : QCtx D) (hev : eventOk S C = true) (q : Query) (names : List String) (ctys : List CTy)
    (hlen : ctys.length = names.length) (hc : finalColumns S q = .ok (names.zip ctys)) (rows : List (List (Val D)))
    (hr : denoteRows C q = .ok rows) : ∀ r ∈ rows, rowFits S r ctys = true := by
  have h := columns_sound S C hev q _ rows hc hr
  rwa [(zip_cols hlen).2.1] at h

/-- **C03.column_values_fit** — with `type_soundness`: for every query of the one-loop fragment (hypotheses of
`types_agree_with_typing`), every event whose banks hold what the data model declares and every list of rows the
query evaluates to on it: there are column types whose C++ names are exactly the types the translator model books
(`Gen.FQ.types`, proved by `schema_ok_compile` to be the declared types of the branch variables) such that every
cell of every row fits its column's type (an integer an `int`/`float`/`double` column, a floating value a
`float`/`double` column, a boolean a `bool` column, every element of a sequence the element type). -/
theorem column_values_fit (S : Sig) (fq : FQ) (hwt : fq.wt = true) (hsig : fq.sigOk S = true) (hsc : fq.scalarElems = true)
    (C : QCtx D) (hev : eventOk S C = true) (rows : List (List (Val D))) (hr : denoteRows C (FQ.toQuery fq) = .ok rows) :
    ∃ ctys : List CTy, ctys.map cppName = FQ.types fq ∧ ∀ r ∈ rows, rowFits S r ctys = true :=
  ⟨FQ.ctys fq, FQ.ctys_cppName fq,
    fits_of_columns S C hev _ _ _ (FQ.ctys_length fq) (finalColumns_FQ S fq hwt hsc hsig) rows hr⟩

-- non-vacuity: the example queries evaluate to rows on the example event
example : eventOk exSig exCtx = true ∧
    ((denoteRows exCtx (FQ.toQuery exFQ)).toOption.map List.length) = some 1 ∧
    ((denoteRows exCtx (FQ.toQuery exFQ2)).toOption.map List.length) = some 2 := by decide +kernel

/-- **C03.column_values_fitL** — the same for the lazy fragment (boolean `and`/`or` operands). -/
theorem column_values_fitL (S : Sig) (fq : FQL) (hwt : fq.wt = true) (hsig : fq.sigOk S = true) (hbo : fq.boolOps = true)
    (C : QCtx D) (hev : eventOk S C = true) (rows : List (List (Val D))) (hr : denoteRows C (FQL.toQuery fq) = .ok rows) :
    ∃ ctys : List CTy, ctys.map cppName = FQL.types fq ∧ ∀ r ∈ rows, rowFits S r ctys = true :=
  ⟨FQL.ctys fq, FQL.ctys_cppName fq,
    fits_of_columns S C hev _ _ _ (FQL.ctys_length fq) (finalColumns_FQL S fq hwt hbo hsig) rows hr⟩

example : ((denoteRows exCtx (FQL.toQuery exFQL)).toOption.map List.length) = some 2 := by decide +kernel

/-- **C03.column_values_fitN** — the same for the nested fragment: every inner count fits `std::vector<int>`, every
row of a 2-D column `std::vector<std::vector<T>>`. -/
theorem column_values_fitN (S : Sig) (nq : NQ) (hwt : nq.wt = true) (hsig : nq.sigOk S = true)
    (C : QCtx D) (hev : eventOk S C = true) (rows : List (List (Val D))) (hr : denoteRows C (NQ.toQuery nq) = .ok rows) :
    ∃ ctys : List CTy, ctys.map cppName = NQ.types nq ∧ ∀ r ∈ rows, rowFits S r ctys = true :=
  ⟨NQ.ctys nq, NQ.ctys_cppName nq,
    fits_of_columns S C hev _ _ _ (NQ.ctys_length nq) (finalColumns_NQ S nq hwt hsig) rows hr⟩

example : ((denoteRows exCtx (NQ.toQuery exNQ)).toOption.map List.length) = some 1 ∧
    ((denoteRows exCtx (NQ.toQuery exNQ2)).toOption.map List.length) = some 2 := by decide +kernel

/-- **C03.schema_ok_against_typing** — what the check does with the real translator's output — evaluate `SchemaOk`
against the names and C++ types the typing model `finalColumns` computes for the query — succeeds on the
translator model's output, for every query of the one-loop fragment (hypotheses of `types_agree_with_typing`). -/
theorem schema_ok_against_typing (B : Backend) (nm cn : Nat → String)
    (hcinj : ∀ i j, cn i = cn j → i = j) (hdisj : ∀ j k, nm j ≠ cn k) (S : Sig) (fq : FQ)
    (hwt : fq.wt = true) (hsig : fq.sigOk S = true) (hsc : fq.scalarElems = true)
    (cols : List (String × CTy)) (hc : finalColumns S (FQ.toQuery fq) = .ok cols) :
    SchemaOk (compile B nm cn fq) (cols.map (·.1)) (cols.map fun c => cppName c.2) (B.fillTree B.treeName) = true := by
  obtain ⟨cols', hc', h1, h2⟩ := types_agree_with_typing S fq hwt hsig hsc
  rw [hc] at hc'; cases hc'
  rw [h1, h2]; exact schema_ok_compile B nm cn hcinj hdisj fq

theorem schema_ok_against_typingL (B : Backend) (nm cn : Nat → String)
    (hcinj : ∀ i j, cn i = cn j → i = j) (hdisj : ∀ j k, nm j ≠ cn k) (S : Sig) (fq : FQL)
    (hwt : fq.wt = true) (hsig : fq.sigOk S = true) (hbo : fq.boolOps = true)
    (cols : List (String × CTy)) (hc : finalColumns S (FQL.toQuery fq) = .ok cols) :
    SchemaOk (compileL B nm cn fq) (cols.map (·.1)) (cols.map fun c => cppName c.2) (B.fillTree B.treeName) = true := by
  obtain ⟨cols', hc', h1, h2⟩ := types_agree_with_typingL S fq hwt hsig hbo
  rw [hc] at hc'; cases hc'
  rw [h1, h2]; exact schema_ok_compileL B nm cn hcinj hdisj fq

theorem schema_ok_against_typingN (B : Backend) (nm cn : Nat → String)
    (hcinj : ∀ i j, cn i = cn j → i = j) (hdisj : ∀ j k, nm j ≠ cn k) (S : Sig) (nq : NQ)
    (hwt : nq.wt = true) (hsig : nq.sigOk S = true)
    (cols : List (String × CTy)) (hc : finalColumns S (NQ.toQuery nq) = .ok cols) :
    SchemaOk (compileN B nm cn nq) (cols.map (·.1)) (cols.map fun c => cppName c.2) (B.fillTree B.treeName) = true := by
  obtain ⟨cols', hc', h1, h2⟩ := types_agree_with_typingN S nq hwt hsig
  rw [hc] at hc'; cases hc'
  rw [h1, h2]; exact schema_ok_compileN B nm cn hcinj hdisj nq

example : (finalColumns exSig (FQ.toQuery exFQ)).toOption.isSome = true ∧
    (finalColumns exSig (FQL.toQuery exFQL)).toOption.isSome = true ∧
    (finalColumns exSig (NQ.toQuery exNQ)).toOption.isSome = true := by decide +kernel

end FaxVerif.C03
