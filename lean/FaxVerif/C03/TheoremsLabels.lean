/-
C03 — which (terminal form, label argument) pairs are accepted, what is booked, and the returned descriptor:
theorems about the terminal model `C03/Labels.lean` (`callResultTTree`, `implicitCall`, `book`), for every query of
the typing model's language, every label argument and every tree / file name.
-/
import FaxVerif.C03.Labels
import FaxVerif.C03.TheoremsTyping
namespace FaxVerif.C03
open FaxVerif.Cpp FaxVerif.Linq

/-- **C03.labels_accepted_iff** — `call_ResultTTree` accepts a (row, label argument) pair EXACTLY when the argument
denotes labels (a bare string: one label; a list: its entries; a literal without a length: none), their number is the
number of values of the row (fields of a tuple / list, else one) and every value has a tree type; what is booked is then
the labels zipped with the values' types, in order. -/
theorem labels_accepted_iff (row : CTy) (arg : LabelArg) (cols : List (String × CTy)) :
    callResultTTree row arg = .ok cols ↔
      ∃ labels, arg.names = some labels ∧ labels.length = (seqValues row).length ∧
        allShapes (seqValues row) = true ∧ cols = labels.zip (seqValues row) := by
  unfold callResultTTree
  cases hn : arg.names with
  | none => simp
  | some labels =>
    simp only [Option.some.injEq, exists_eq_left']
    by_cases hl : (seqValues row).length = labels.length
    · by_cases hs : allShapes (seqValues row) = true
      · simp [hl, hs, eq_comm]
      · simp [hl, hs]
    · have : ¬ labels.length = (seqValues row).length := fun h => hl h.symm
      simp [hl, this]

theorem callResultTTree_iff (row : CTy) (arg : LabelArg) (cols : List (String × CTy)) :
    callResultTTree row arg = .ok cols ↔ ∃ labels, arg.names = some labels ∧ Columns labels (seqValues row) cols :=
  labels_accepted_iff row arg cols

theorem isSome_toOption_iff {α : Type} {x : Except String α} : x.toOption.isSome = true ↔ ∃ a, x = .ok a := by
  cases x <;> simp [Except.toOption]

/-- **C03.accepted_iff_Accepts** — the same as a decidable criterion per form of the argument (`Accepts`): a bare
string is accepted iff the row has exactly ONE value (with a tree type) — the string's length plays no role —, a list
iff it has as many entries as the row has values, a literal without a length never. -/
theorem accepted_iff_Accepts (row : CTy) (arg : LabelArg) :
    (callResultTTree row arg).toOption.isSome = Accepts row arg := by
  rw [Bool.eq_iff_iff, isSome_toOption_iff]
  simp only [callResultTTree_iff, Columns]
  cases arg with
  | scalar => simp [LabelArg.names, Accepts]
  | bare s => simp [LabelArg.names, Accepts, eq_comm (a := 1)]
  | list ls => simp [LabelArg.names, Accepts]

/-- **C03.bare_label_accepted_iff** — ONE bare string labels a query iff its row is a single value (or a 1-tuple)
that has a tree type. -/
theorem bare_label_accepted_iff (row : CTy) (s : String) :
    (∃ cols, callResultTTree row (.bare s) = .ok cols) ↔ ∃ t, seqValues row = [t] ∧ colShape t = true := by
  constructor
  · rintro ⟨cols, h⟩
    obtain ⟨labels, hn, hl, hs, _⟩ := (labels_accepted_iff row _ cols).mp h
    simp only [LabelArg.names, Option.some.injEq] at hn
    subst hn
    match hv : seqValues row, hl, hs with
    | [t], _, hs => exact ⟨t, rfl, by simpa [allShapes] using hs⟩
  · rintro ⟨t, ht, hc⟩
    exact ⟨[(s, t)], (labels_accepted_iff row _ _).mpr ⟨[s], rfl, by simp [ht], by simp [ht, allShapes, hc], by simp [ht]⟩⟩

/-- **C03.bare_label_books_one_column** — an accepted bare string books exactly one column, named by the WHOLE string
(never one column per character). -/
theorem bare_label_books_one_column (row : CTy) (s : String) (cols : List (String × CTy))
    (h : callResultTTree row (.bare s) = .ok cols) : ∃ t, cols = [(s, t)] ∧ seqValues row = [t] := by
  obtain ⟨labels, hn, hl, _, hc⟩ := (labels_accepted_iff row _ cols).mp h
  simp only [LabelArg.names, Option.some.injEq] at hn
  subst hn
  match hv : seqValues row, hl with
  | [t], _ => exact ⟨t, by simp [hc, hv], rfl⟩

/-- **C03.bare_label_on_tuple_refused** — a tuple / list of two or more columns is refused with a bare string label,
whatever the string — also when it has as many CHARACTERS as there are columns. -/
theorem bare_label_on_tuple_refused (fs : CTy) (s : String) (h : 2 ≤ (fieldTypes fs).length) :
    (callResultTTree (.tup fs) (.bare s)).toOption = none := by
  have : ¬ (fieldTypes fs).length = 1 := by omega
  simp [callResultTTree, LabelArg.names, seqValues, this, Except.toOption]

/-- non-vacuity: `'pt'` (two characters) on a row of two columns is refused; `['n', 'pt']` books both; `'pt'` on a
single vector books the one column `pt` -/
def exRow2 : CTy := .tup (mkFields ["0", "1"] [.int, .vec .double])
example : (callResultTTree exRow2 (.bare "pt")).toOption = none := by decide +kernel
example : (callResultTTree exRow2 (.list ["n", "pt"])).toOption = some [("n", .int), ("pt", .vec .double)] := by decide +kernel
example : (callResultTTree (.vec .double) (.bare "pt")).toOption = some [("pt", .vec .double)] := by decide +kernel
example : (callResultTTree (.vec .double) (.bare "")).toOption = some [("", .vec .double)] := by decide +kernel
example : (callResultTTree (.vec .double) (.list [])).toOption = none := by decide +kernel
example : (callResultTTree exRow2 .scalar).toOption = none := by decide +kernel
example : Accepts exRow2 (.bare "pt") = false ∧ Accepts exRow2 (.list ["n", "pt"]) = true := by decide +kernel
/-- a sequence of dictionaries takes no labels: the dict itself would be the one value, and it has no tree type -/
example : (callResultTTree (.dict (mkFields ["a"] [.int])) (.bare "a")).toOption = none := by decide +kernel
example : (callResultTTree (.dict (mkFields ["a"] [.int])) (.list ["a"])).toOption = none := by decide +kernel

theorem seqValues_eq_rowFields {row : CTy} (h : row.isDict = false) : seqValues row = (rowFields row).2 := by
  cases row <;> first | rfl | cases h

theorem allShapes_dict_singleton (fs : CTy) : allShapes [CTy.dict fs] = false := by
  simp [allShapes, colShape, CTy.isScalar]

theorem callResultTTree_labeled_iff {S : Sig} {q : Query} {row : CTy} (hr : rowType S q = .ok row)
    {arg : LabelArg} {labels : List String} (hn : arg.names = some labels) (cols : List (String × CTy)) :
    callResultTTree row arg = .ok cols ↔ finalColumnsLabeled S q labels = .ok cols := by
  rw [callResultTTree_iff, finalColumnsLabeled_iff hr, hn]
  simp only [Option.some.injEq, exists_eq_left']
  cases hd : row.isDict
  · rw [seqValues_eq_rowFields hd]; simp
  · -- a dict is the one value, and has no tree type
    obtain ⟨fs, rfl⟩ : ∃ fs, row = .dict fs := by cases row <;> first | exact ⟨_, rfl⟩ | cases hd
    simp [Columns, seqValues, allShapes_dict_singleton]

/-- **C03.explicit_agrees_with_labeled** — for every query, the explicit terminal with a label argument is accepted
exactly when `finalColumnsLabeled` (the oracle of the label streams) accepts the labels the argument DENOTES, with
the same columns. -/
theorem explicit_agrees_with_labeled (S : Sig) (q : Query) (row : CTy) (hr : rowType S q = .ok row)
    (arg : LabelArg) (labels : List String) (hn : arg.names = some labels) :
    (callResultTTree row arg).toOption = (finalColumnsLabeled S q labels).toOption :=
  toOption_congr (callResultTTree_labeled_iff hr hn)

theorem implicitCall_eq (row : CTy) :
    (implicitCall row).2.names = some (rowFields row).1 ∧ seqValues (implicitCall row).1 = (rowFields row).2 := by
  cases row <;> exact ⟨rfl, rfl⟩

theorem callResultTTree_implicit_iff {S : Sig} {q : Query} {row : CTy} (hr : rowType S q = .ok row) (cols : List (String × CTy)) :
    callResultTTree (implicitCall row).1 (implicitCall row).2 = .ok cols ↔ finalColumns S q = .ok cols := by
  rw [callResultTTree_iff, finalColumns_iff hr, (implicitCall_eq row).1, (implicitCall_eq row).2]
  simp

/-- **C03.implicit_is_explicit** — the implicit terminal is the explicit one `get_as_ROOT` builds (dict: its keys as
a list; tuple: the list `col0…`; single value: the BARE STRING `col1` — four characters labelling one column): it is
accepted exactly when `finalColumns` has columns, and books those. -/
theorem implicit_is_explicit (S : Sig) (q : Query) (row : CTy) (hr : rowType S q = .ok row) :
    (callResultTTree (implicitCall row).1 (implicitCall row).2).toOption = (finalColumns S q).toOption :=
  toOption_congr (callResultTTree_implicit_iff hr)

def Terminal.treeName (pfx : String) : Terminal → String
  | .implicit => pfx ++ "_tree"
  | .explicit _ tree _ => tree

theorem book_ok_inv {S : Sig} {pfx : String} {q : Query} {t : Terminal} {b : Booking} {d : Descriptor}
    (h : book S pfx q t = .ok (b, d)) :
    ∃ row, rowType S q = .ok row ∧
      callResultTTree (terminalCall pfx row t).1 (terminalCall pfx row t).2.1 = .ok b.columns ∧
      b.tree = t.treeName pfx ∧ b.fill = t.treeName pfx ∧ d = ⟨t.treeName pfx, outputFile⟩ := by
  unfold book at h
  inv_at h; cases h
  refine ⟨_, by assumption, by assumption, ?_, ?_, ?_⟩ <;> cases t <;> rfl

/-- **C03.descriptor_matches_booking** — for EVERY query, terminal (implicit, or explicit with any label argument, tree
name and file argument) and backend prefix: when the query is accepted, the descriptor returned to the caller names
the tree the job books AND fills, the file is the one the job writes (`ANALYSIS.root`, whatever the file argument
says), the tree is the terminal's (`<prefix>_tree` / the third argument), and the booked column names are the final
expression's names: the default naming for the implicit terminal, the labels the argument denotes for the explicit one —
in that order, with the types of the default naming. -/
theorem descriptor_matches_booking (S : Sig) (pfx : String) (q : Query) (t : Terminal) (b : Booking) (d : Descriptor)
    (h : book S pfx q t = .ok (b, d)) :
    d.treename = b.tree ∧ b.fill = b.tree ∧ d.filename = outputFile ∧ b.tree = t.treeName pfx ∧
    (match t with
     | .implicit => finalColumns S q = .ok b.columns
     | .explicit arg _ _ => ∃ labels, arg.names = some labels ∧ finalColumnsLabeled S q labels = .ok b.columns ∧
         b.columns.map (·.1) = labels) := by
  obtain ⟨row, hr, hc, ht, hf, rfl⟩ := book_ok_inv h
  refine ⟨ht.symm, hf.trans ht.symm, rfl, ht, ?_⟩
  cases t with
  | implicit => exact (callResultTTree_implicit_iff hr _).mp hc
  | explicit arg tree file =>
    obtain ⟨labels, hn, hcols⟩ := (callResultTTree_iff row arg _).mp hc
    exact ⟨labels, hn, (callResultTTree_labeled_iff hr hn _).mp hc, hcols.names⟩

/-- **C03.descriptor_ignores_file_argument** — the fourth argument of `ResultTTree` changes neither the booking nor the
descriptor (the job's output file is fixed by the templates). -/
theorem descriptor_ignores_file_argument (S : Sig) (pfx : String) (q : Query) (arg : LabelArg) (tree f1 f2 : String) :
    book S pfx q (.explicit arg tree f1) = book S pfx q (.explicit arg tree f2) := by
  simp [book, terminalCall]

/-- **C03.book_refused_iff** — a query with a terminal is refused exactly when it has no row type or the (row, label
argument) pair of its ResultTTree call is not `Accepts`-ed: in particular every column / label count mismatch. -/
theorem book_refused_iff (S : Sig) (pfx : String) (q : Query) (t : Terminal) :
    (book S pfx q t).toOption = none ↔
      ∀ row, rowType S q = .ok row → Accepts (terminalCall pfx row t).1 (terminalCall pfx row t).2.1 = false := by
  unfold book
  cases hr : rowType S q with
  | error e => simp [Except.toOption]
  | ok row =>
    simp only [Except.ok.injEq, forall_eq']
    rw [← accepted_iff_Accepts]
    cases hc : callResultTTree (terminalCall pfx row t).1 (terminalCall pfx row t).2.1 <;> simp [Except.toOption]

/-- **C03.count_mismatch_refused** — explicit labels whose NUMBER differs from the number of columns: refused, for
every query, tree and file (a bare string counts as one label). -/
theorem count_mismatch_refused (S : Sig) (pfx : String) (q : Query) (row : CTy) (hr : rowType S q = .ok row)
    (arg : LabelArg) (tree file : String)
    (hne : ∀ labels, arg.names = some labels → labels.length ≠ (seqValues row).length) :
    (book S pfx q (.explicit arg tree file)).toOption = none := by
  rw [book_refused_iff]
  intro row' hr'
  rw [hr] at hr'; cases hr'
  cases arg with
  | scalar => rfl
  | bare s =>
    have := hne [s] rfl
    simp only [List.length_cons, List.length_nil] at this
    have h1 : ¬ (seqValues row).length = 1 := fun h => this (by omega)
    simp [terminalCall, Accepts, h1]
  | list ls =>
    have := hne ls rfl
    simp [terminalCall, Accepts, this]

/-- non-vacuity on a real query (`exQueryT`: an event-level row `(Count, vector)`): implicit → `col0, col1` on
`atlas_xaod_tree`; explicit labels on tree `t`; the bare string `'pt'` refused; the descriptor's file is
`ANALYSIS.root` although the argument says `out.root`. -/
example : ((book exSig "atlas_xaod" exQueryT .implicit).toOption.map fun bd =>
    (bd.1.tree, bd.1.columns.map (·.1), bd.1.fill, bd.2)) =
    some ("atlas_xaod_tree", ["col0", "col1"], "atlas_xaod_tree", ⟨"atlas_xaod_tree", "ANALYSIS.root"⟩) := by decide +kernel
example : ((book exSig "cms_aod" exQueryT (.explicit (.list ["n", "pt"]) "t" "out.root")).toOption.map fun bd =>
    (bd.1.tree, bd.1.columns.map fun c => (c.1, cppName c.2), bd.2)) =
    some ("t", [("n", "int"), ("pt", "std::vector<double>")], ⟨"t", "ANALYSIS.root"⟩) := by decide +kernel
example : (book exSig "cms_aod" exQueryT (.explicit (.bare "pt") "t" "out.root")).toOption.isNone = true := by decide +kernel
/-- a sequence of dicts takes no labels at all -/
example : (book exSig "cms_aod" exQuery (.explicit (.list ["a", "b", "c"]) "t" "out.root")).toOption.isNone = true := by decide +kernel
/-- `ds.Select(e -> e.As("ba").Select(j -> j.d()))`: a single vector column -/
def exQuery1 : Query := .select .ds "e" (.select (.coll (.var "e") "As" "ba") "j" (.meth (.var "j") "d"))
example : ((book exSig "cms_aod" exQuery1 (.explicit (.bare "pt") "t" "out.root")).toOption.map fun bd =>
    (bd.1.columns.map fun c => (c.1, cppName c.2), bd.2)) = some ([("pt", "std::vector<double>")], ⟨"t", "ANALYSIS.root"⟩) := by decide +kernel
example : ((book exSig "cms_miniaod" exQuery1 .implicit).toOption.map fun bd => (bd.1.columns.map (·.1), bd.2.treename)) =
    some (["col1"], "cms_miniaod_tree") := by decide +kernel

end FaxVerif.C03
