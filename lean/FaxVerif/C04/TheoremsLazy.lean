/-
C04 — faults are equivalent and evaluation is exactly as lazy as the query: element-level
expressions with Python's lazy operators, as the translator lowers them to statements
(`Gen.compLE`, lean/FaxVerif/Gen/Lazy.lean; tied to the real translator by tools/gentie_lazy.py).

`runFrag C F s` = run the fragment's statements from `s`, then evaluate its value expression.
`ElemFault v f` = `f` is the fault of some member call on the element `v` (in the event data model
a method call on the element may return a fault: a null element, a missing accessor).

The emitted code faults exactly when the query expression faults — never spurious, never swallowed — and with the SAME
fault when the element has only one way to fault (a null element). Which of SEVERAL different member faults is
reported may differ: the translator emits an operand's statements before the enclosing expression, so in
`j.f() + (x if j.g() else y)` the fault of `g` is met before the fault of `f`, Python meets `f` first.
-/
import FaxVerif.Gen.LazyElemRowsCorrect
namespace FaxVerif.C04
open FaxVerif.Cpp FaxVerif.Linq FaxVerif.Gen
variable {D : Type}

/-- **C04.lazy_expr_faults_equal** — for every well-typed lazy expression, in every state in which the
fragment's declarations are done and the current value is `v`:
(1) the emitted code raises a fault iff the query expression does (no spurious fault: in particular
no fault of a skipped operand / untaken arm; no swallowed fault);
(2) a fault of the query and (3) a fault of the code are member faults of the element;
(4) if all member faults of the element are one and the same fault, the code raises exactly the
query's fault. -/
theorem lazy_expr_faults_equal (C : Ctx D) (QC : QCtx D) (hN : QC.N = C.N) (nm : Nat → String)
    (hinj : ∀ i j, nm i = nm j → i = j) (ptr : Bool) (cur : CExpr) (curTy : Option Ty) (v : Val D)
    (x : String) (ρ : LEnv D) (hty : ∀ t, curTy = some t → HasTy v t)
    (le : LE) (k : Nat) (hwt : wtLE curTy le = true) (hmt : MethTyped v (methsLE le))
    (hfr : ∀ y ∈ vars cur, ∀ j, k ≤ j → y ≠ nm j)
    (σ : Env D) (rows : List (List (Val D))) (hcur : evalE C.N σ cur = .ok v)
    (hdecl : Declared σ (compLE nm ptr cur (curT curTy) le k).decls) :
    ((∃ f', runFrag C (compLE nm ptr cur (curT curTy) le k) ⟨σ, rows⟩ = .error f') ↔
      (∃ f, denote QC ((x, v) :: ρ) (leQ x le) = .error f)) ∧
    (∀ f, denote QC ((x, v) :: ρ) (leQ x le) = .error f → ElemFault v f) ∧
    (∀ f', runFrag C (compLE nm ptr cur (curT curTy) le k) ⟨σ, rows⟩ = .error f' → ElemFault v f') ∧
    ((∀ f1 f2, ElemFault v f1 → ElemFault v f2 → f1 = f2) →
      ∀ f, runFrag C (compLE nm ptr cur (curT curTy) le k) ⟨σ, rows⟩ = .error f ↔
        denote QC ((x, v) :: ρ) (leQ x le) = .error f) := by
  have hm := ((le_sound C QC hN nm hinj ptr cur curTy v x ρ hty le k hwt hmt hfr).1 σ rows hcur hdecl).runFrag
  have hq := leQ_fault QC curTy v x ρ hty le hwt hmt
  exact ⟨hm.faults_iff, hq, fun _ => hm.fault_mem, hm.error_iff hq⟩

/-- **C04.lazy_expr_faults_equal_null** — on a null element (every member call dereferences null) the
emitted code raises exactly the query's fault, and only where the query raises it. -/
theorem lazy_expr_faults_equal_null (C : Ctx D) (QC : QCtx D) (hN : QC.N = C.N) (nm : Nat → String)
    (hinj : ∀ i j, nm i = nm j → i = j) (ptr : Bool) (cur : CExpr) (x : String) (ρ : LEnv D)
    (le : LE) (k : Nat) (hwt : wtLE none le = true)
    (hfr : ∀ y ∈ vars cur, ∀ j, k ≤ j → y ≠ nm j)
    (σ : Env D) (rows : List (List (Val D))) (hcur : evalE C.N σ cur = .ok .null)
    (hdecl : Declared σ (compLE nm ptr cur (curT none) le k).decls) (f : Fault) :
    runFrag C (compLE nm ptr cur (curT none) le k) ⟨σ, rows⟩ = .error f ↔
      denote QC ((x, .null) :: ρ) (leQ x le) = .error f := by
  exact (lazy_expr_faults_equal C QC hN nm hinj ptr cur none .null x ρ (by simp) le k hwt (methTyped_null _) hfr σ rows hcur hdecl).2.2.2
    (fun _ _ h1 h2 => (elemFault_null h1).trans (elemFault_null h2).symm) f

theorem bop_guard_protects (C : Ctx D) (QC : QCtx D) (hN : QC.N = C.N) (nm : Nat → String)
    (hinj : ∀ i j, nm i = nm j → i = j) (ptr : Bool) (cur : CExpr) (curTy : Option Ty) (v : Val D)
    (x : String) (ρ : LEnv D) (hty : ∀ t, curTy = some t → HasTy v t)
    (op : LOp) (a b : LE) (rest : List LE) (k : Nat) (hwt : wtLE curTy (.bop op a (b :: rest)) = true)
    (hmt : MethTyped v (methsLE (.bop op a (b :: rest))))
    (hfr : ∀ y ∈ vars cur, ∀ j, k ≤ j → y ≠ nm j)
    (σ : Env D) (rows : List (List (Val D))) (hcur : evalE C.N σ cur = .ok v)
    (hdecl : Declared σ (compLE nm ptr cur (curT curTy) (.bop op a (b :: rest)) k).decls)
    (va : Val D) (acc : Bool) (ha : denote QC ((x, v) :: ρ) (leQ x a) = .ok va) (hacc : asBool QC.N va = some acc)
    (hruns : op.runs acc = false) :
    ∃ σ', execs C (compLE nm ptr cur (curT curTy) (.bop op a (b :: rest)) k).stmts ⟨σ, rows⟩ = .ok ⟨σ', rows⟩ ∧
      evalE C.N σ' (compLE nm ptr cur (curT curTy) (.bop op a (b :: rest)) k).val = .ok (.bool acc) ∧
      (∀ y, ¬ InRange nm k (compLE nm ptr cur (curT curTy) (.bop op a (b :: rest)) k).next y → σ' y = σ y) := by
  have hden := bop_decided QC ((x, v) :: ρ) x op a b rest va acc ha hacc hruns
  obtain ⟨σ', h1, h2, h3, _⟩ := le_correct C QC hN nm hinj ptr cur curTy v x ρ hty _ k hwt hmt hfr σ rows hcur hdecl _ hden
  exact ⟨σ', h1, h2, h3⟩

/-- **C04.and_guard_protects** — in `a and b and …` with `a` false, NO fault of `b` (or of any later
operand) is raised: for arbitrary operand expressions — whose compiled forms may be statements,
nested lowerings, faulting member calls — the emitted code terminates normally with the result
variable holding `false`, touching only its own fresh names. Nothing is assumed about what `b …`
denote: they may fault. (`j.ok() and j.link().pt() > 5` is safe on elements whose link is null.) -/
theorem and_guard_protects (C : Ctx D) (QC : QCtx D) (hN : QC.N = C.N) (nm : Nat → String)
    (hinj : ∀ i j, nm i = nm j → i = j) (ptr : Bool) (cur : CExpr) (curTy : Option Ty) (v : Val D)
    (x : String) (ρ : LEnv D) (hty : ∀ t, curTy = some t → HasTy v t)
    (a b : LE) (rest : List LE) (k : Nat) (hwt : wtLE curTy (.bop .and a (b :: rest)) = true)
    (hmt : MethTyped v (methsLE (.bop .and a (b :: rest))))
    (hfr : ∀ y ∈ vars cur, ∀ j, k ≤ j → y ≠ nm j)
    (σ : Env D) (rows : List (List (Val D))) (hcur : evalE C.N σ cur = .ok v)
    (hdecl : Declared σ (compLE nm ptr cur (curT curTy) (.bop .and a (b :: rest)) k).decls)
    (va : Val D) (ha : denote QC ((x, v) :: ρ) (leQ x a) = .ok va) (hfalse : asBool QC.N va = some false) :
    ∃ σ', execs C (compLE nm ptr cur (curT curTy) (.bop .and a (b :: rest)) k).stmts ⟨σ, rows⟩ = .ok ⟨σ', rows⟩ ∧
      evalE C.N σ' (compLE nm ptr cur (curT curTy) (.bop .and a (b :: rest)) k).val = .ok (.bool false) ∧
      (∀ y, ¬ InRange nm k (compLE nm ptr cur (curT curTy) (.bop .and a (b :: rest)) k).next y → σ' y = σ y) :=
  bop_guard_protects C QC hN nm hinj ptr cur curTy v x ρ hty .and a b rest k hwt hmt hfr σ rows hcur hdecl va false ha hfalse rfl

/-- **C04.or_guard_protects** — the dual: in `a or b or …` with `a` true no later operand is executed. -/
theorem or_guard_protects (C : Ctx D) (QC : QCtx D) (hN : QC.N = C.N) (nm : Nat → String)
    (hinj : ∀ i j, nm i = nm j → i = j) (ptr : Bool) (cur : CExpr) (curTy : Option Ty) (v : Val D)
    (x : String) (ρ : LEnv D) (hty : ∀ t, curTy = some t → HasTy v t)
    (a b : LE) (rest : List LE) (k : Nat) (hwt : wtLE curTy (.bop .or a (b :: rest)) = true)
    (hmt : MethTyped v (methsLE (.bop .or a (b :: rest))))
    (hfr : ∀ y ∈ vars cur, ∀ j, k ≤ j → y ≠ nm j)
    (σ : Env D) (rows : List (List (Val D))) (hcur : evalE C.N σ cur = .ok v)
    (hdecl : Declared σ (compLE nm ptr cur (curT curTy) (.bop .or a (b :: rest)) k).decls)
    (va : Val D) (ha : denote QC ((x, v) :: ρ) (leQ x a) = .ok va) (htrue : asBool QC.N va = some true) :
    ∃ σ', execs C (compLE nm ptr cur (curT curTy) (.bop .or a (b :: rest)) k).stmts ⟨σ, rows⟩ = .ok ⟨σ', rows⟩ ∧
      evalE C.N σ' (compLE nm ptr cur (curT curTy) (.bop .or a (b :: rest)) k).val = .ok (.bool true) ∧
      (∀ y, ¬ InRange nm k (compLE nm ptr cur (curT curTy) (.bop .or a (b :: rest)) k).next y → σ' y = σ y) :=
  bop_guard_protects C QC hN nm hinj ptr cur curTy v x ρ hty .or a b rest k hwt hmt hfr σ rows hcur hdecl va true ha htrue rfl

/-- **C04.untaken_arm_protected** — `p if c else q`: with `c` true the result is `p`'s value whatever
`q` would do, with `c` false it is `q`'s whatever `p` would do: the untaken arm's statements are not
executed. -/
theorem untaken_arm_protected (C : Ctx D) (QC : QCtx D) (hN : QC.N = C.N) (nm : Nat → String)
    (hinj : ∀ i j, nm i = nm j → i = j) (ptr : Bool) (cur : CExpr) (curTy : Option Ty) (v : Val D)
    (x : String) (ρ : LEnv D) (hty : ∀ t, curTy = some t → HasTy v t)
    (c p q : LE) (k : Nat) (hwt : wtLE curTy (.ite c p q) = true) (hmt : MethTyped v (methsLE (.ite c p q)))
    (hfr : ∀ y ∈ vars cur, ∀ j, k ≤ j → y ≠ nm j)
    (σ : Env D) (rows : List (List (Val D))) (hcur : evalE C.N σ cur = .ok v)
    (hdecl : Declared σ (compLE nm ptr cur (curT curTy) (.ite c p q) k).decls)
    (vc : Val D) (bc : Bool) (hc : denote QC ((x, v) :: ρ) (leQ x c) = .ok vc) (hbc : asBool QC.N vc = some bc)
    (w : Val D) (harm : denote QC ((x, v) :: ρ) (leQ x (if bc then p else q)) = .ok w) :
    ∃ σ', execs C (compLE nm ptr cur (curT curTy) (.ite c p q) k).stmts ⟨σ, rows⟩ = .ok ⟨σ', rows⟩ ∧
      evalE C.N σ' (compLE nm ptr cur (curT curTy) (.ite c p q) k).val = .ok w ∧
      (∀ y, ¬ InRange nm k (compLE nm ptr cur (curT curTy) (.ite c p q) k).next y → σ' y = σ y) := by
  have hden : denote QC ((x, v) :: ρ) (leQ x (.ite c p q)) = .ok w := by
    simp only [leQ]
    rw [denote_ite, hc]
    cases bc <;> simpa [iteRes, hbc] using harm
  obtain ⟨σ', h1, h2, h3, _⟩ := le_correct C QC hN nm hinj ptr cur curTy v x ρ hty _ k hwt hmt hfr σ rows hcur hdecl _ hden
  exact ⟨σ', h1, h2, h3⟩

/-- **C04.fused_where_lazy** — consecutive `Where`s with lazy conditions (func_adl fuses them into
nested `and`s; `Gen.andLowerL`): given that the conditions, in order, evaluate lazily to `b`
(`CondsEvalR`: a condition is required to be defined only if all earlier ones were true), the lowered
code is sound for a value of truth value `b` — a later condition's statements run only behind the
earlier ones' guards. -/
theorem fused_where_lazy (C : Ctx D) (nm : Nat → String) (EF : Fault → Prop) (Pre : Env D → Prop) (n0 : Nat)
    (hst : Stable nm n0 Pre) (rc : List CondL) (n : Nat) (b : Bool) (hn : n0 ≤ n)
    (h : CondsEvalR (CondOK C nm EF Pre n0) C.N rc b) :
    ∃ w, asBool C.N w = some b ∧ HasTy w (andLowerL nm rc n).2 ∧ Sound C nm EF Pre n (andLowerL nm rc n).1 (.ok w) :=
  andLowerL_correct C nm EF Pre n0 hst rc n b hn h


/-- an element on which `g()` faults (the accessor is missing) and `b()` is false -/
def exElem : Val D := .obj "Aa" [("b", .bool false), ("i", .int 3)]

/-- `j.b() and j.g() > 1`: the second operand faults on `exElem` … -/
example (QC : QCtx D) : ∃ f, denote QC [("x", exElem)] (leQ "x" (.cmp .gt (.meth "g" .double) (.int 1))) = .error f := by
  simp [leQ, denote, LEnv.get, exElem, member, lookupAttr]

/-- … and the conjunction is nevertheless defined (false): the hypotheses of `and_guard_protects` are satisfiable
with a FAULTING second operand -/
example (QC : QCtx D) :
    denote QC [("x", (exElem : Val D))] (leQ "x" (.meth "b" .bool)) = .ok (.bool false) ∧
    wtLE none (.bop .and (.meth "b" .bool) [.cmp .gt (.meth "g" .double) (.int 1)]) = true ∧
    denote QC [("x", (exElem : Val D))] (leQ "x" (.bop .and (.meth "b" .bool) [.cmp .gt (.meth "g" .double) (.int 1)])) = .ok (.bool false) := by
  refine ⟨by simp [leQ, denote, LEnv.get, exElem, member, lookupAttr], by decide, ?_⟩
  simp [leQ, bopQ, LOp.q, denote, LEnv.get, exElem, member, lookupAttr, asBool]

example : wtLE none (.bin .mul (.ite (.bop .or (.meth "b" .bool) [.bop .and (.cmp .gt (.meth "i" .int) (.int 0)) [.meth "b" .bool, .not (.meth "b" .bool)]])
    (.meth "d" .double) (.neg (.meth "f" .float))) (.int 2)) = true := by decide

/-- the uniform-fault hypothesis of `lazy_expr_faults_equal` (4) holds for a null element -/
example (f1 f2 : Fault) (h1 : ElemFault (D := D) .null f1) (h2 : ElemFault (D := D) .null f2) : f1 = f2 :=
  (elemFault_null h1).trans (elemFault_null h2).symm

end FaxVerif.C04
