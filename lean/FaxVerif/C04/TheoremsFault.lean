/-
C04 — "the generated job fails loudly on an event EXACTLY WHEN the query itself is undefined there …
and never substitutes a default or stale value or silently drops the row", at PACKAGE level, for the
whole fragment of the translator model (`Gen.compile`; tied to the real translator by the text tie of
C01), on all three backends (`BackendBase`; the token table is the one `compile` emits). The success
direction is C01; here the FAULT direction and the equivalences.

What is `_partial` and why. (1) WHICH member fault is reported may differ inside one chain: the query
(eager lists) applies a step to all elements before the next step, the loop takes the elements one by
one; the theorems give the class, and equality under the uniformity hypothesis. (2) The emitted code
is LAZIER than the eager query in two places, so "undefined ⇒ fails" needs the decidable hypothesis
`strictSteps`: the body of a `Select` is inlined into what follows and is evaluated only where a later
`Where` condition or the consumer mentions the value — `Count` never does, `First` only for the first
kept element. Without it the statement is false: `count_unforced_select_counterexample`,
`first_later_fault_counterexample` (the package returns a row where the eager query is undefined; it
never returns a wrong, default or stale value).
-/
import FaxVerif.Gen.FaultCorrectJob
import FaxVerif.C01.Instances
namespace FaxVerif.C04
open FaxVerif.Cpp FaxVerif.Linq FaxVerif.Gen
variable {D : Type}

/- Full statement aimed at (false as it stands, see `count_unforced_select_counterexample` and (1) above):
   `denoteRows QC q = .error f ↔ runEvent (compile …) … = .error f`, for every fragment query. -/

/-- **C04.elemRows_fault_partial** — element-level rows `ds.SelectMany(e → chain).Select(x → {…})`,
every chain and column list of the fragment, every event, every admissible class state, all three
backends. If the query is UNDEFINED on the event with fault `f` — inside the typed fragment that is:
the bank is missing, or a member call faults on some element (in a `Where` condition, the `Select`
body, a column) — then the per-event method of the emitted package ends in a fault `f'`: it does not
return rows for that event (in particular not the rows of the elements before the faulting one, and
no row with a default value for the faulting one). `f'` is of the same class as `f`
(`ChainFaultRelM`): both `retrieveFailed` of the missing bank, or both faults of calls of the
query's own methods on elements of the bank.
Partial: `hst` (`strictSteps`: the `Select` body is forced by a later `Where` or by a column that
mentions the value) and the fault identity only up to this class (see the file header). -/
theorem elemRows_fault_partial (B : Backend) (hB : BackendBase B) (nm cn : Nat → String)
    (hinj : ∀ i j, nm i = nm j → i = j) (hcinj : ∀ i j, cn i = cn j → i = j)
    (hres : ∀ j, nm j ≠ "result") (hcres : ∀ k, cn k ≠ "result") (hdisj : ∀ j k, nm j ≠ cn k)
    (QC : QCtx D) (hcollT : ∀ name, B.collType name = QC.collType name)
    (c : Chain) (cols : List (String × PE))
    (hwt : wtSteps none c.steps = true)
    (hwtc : ∀ p ∈ cols, wtPE (chainTy none c.steps) p.2 = true)
    (hmt : ∀ cty l, QC.ev.find c.bank = some (cty, .vec l) →
        ∀ v ∈ l, MethTyped v (methsSteps c.steps) ∧ ∀ p ∈ cols, MethTyped v (methsPE p.2))
    (hbt : BankTyped QC c)
    (hst : strictSteps (cols.any (fun p => usesIt p.2)) c.steps = true)
    (σc : Env D) (hσ : ∀ k, k < cols.length → (σc (cn k)).isSome = true) (f : Fault)
    (hden : denoteRows QC (FQ.toQuery (.elemRows c cols)) = .error f) :
    ∃ f', runEvent (compile B nm cn (.elemRows c cols)) QC.N σc QC.ev = .error f' ∧
      ChainFaultRelM QC c (methsSteps c.steps ++ methsCols cols) f f' :=
  elemRows_fault B hB nm cn ⟨hinj, hcinj, hres, hcres, hdisj⟩ QC hcollT c cols hwt hwtc hmt hbt hst σc hσ f hden

/-- **C04.elemRows_faults_equal_partial** — … and when all faults the query's methods can raise on the
bank's elements coincide (`huni`; e.g. the bank holds good objects and null links: the only fault is
`nullDeref`), the emitted package raises EXACTLY the query's fault. (A missing bank needs no such
hypothesis: both sides are `retrieveFailed` of that bank.) -/
theorem elemRows_faults_equal_partial (B : Backend) (hB : BackendBase B) (nm cn : Nat → String)
    (hinj : ∀ i j, nm i = nm j → i = j) (hcinj : ∀ i j, cn i = cn j → i = j)
    (hres : ∀ j, nm j ≠ "result") (hcres : ∀ k, cn k ≠ "result") (hdisj : ∀ j k, nm j ≠ cn k)
    (QC : QCtx D) (hcollT : ∀ name, B.collType name = QC.collType name)
    (c : Chain) (cols : List (String × PE))
    (hwt : wtSteps none c.steps = true)
    (hwtc : ∀ p ∈ cols, wtPE (chainTy none c.steps) p.2 = true)
    (hmt : ∀ cty l, QC.ev.find c.bank = some (cty, .vec l) →
        ∀ v ∈ l, MethTyped v (methsSteps c.steps) ∧ ∀ p ∈ cols, MethTyped v (methsPE p.2))
    (hbt : BankTyped QC c)
    (hst : strictSteps (cols.any (fun p => usesIt p.2)) c.steps = true)
    (huni : ∀ cty l, QC.ev.find c.bank = some (cty, .vec l) → ∀ f1 f2,
        ListFault l (methsSteps c.steps ++ methsCols cols) f1 → ListFault l (methsSteps c.steps ++ methsCols cols) f2 → f1 = f2)
    (σc : Env D) (hσ : ∀ k, k < cols.length → (σc (cn k)).isSome = true) (f : Fault)
    (hden : denoteRows QC (FQ.toQuery (.elemRows c cols)) = .error f) :
    runEvent (compile B nm cn (.elemRows c cols)) QC.N σc QC.ev = .error f := by
  obtain ⟨f', hrun, hrel⟩ := elemRows_fault B hB nm cn ⟨hinj, hcinj, hres, hcres, hdisj⟩ QC hcollT c cols hwt hwtc hmt hbt hst σc hσ f hden
  rw [hrun, hrel.eq_of_uniform huni]

/-- **C04.elemRows_defined_iff** — the per-event method of the emitted package returns (rows and a
class state) on EXACTLY the events on which the query is defined: it neither fails where the query
has a value (never spurious — C01) nor returns anything where the query is undefined (never a
default, a stale value, a silently dropped element). -/
theorem elemRows_defined_iff (B : Backend) (hB : BackendBase B) (nm cn : Nat → String)
    (hinj : ∀ i j, nm i = nm j → i = j) (hcinj : ∀ i j, cn i = cn j → i = j)
    (hres : ∀ j, nm j ≠ "result") (hcres : ∀ k, cn k ≠ "result") (hdisj : ∀ j k, nm j ≠ cn k)
    (QC : QCtx D) (hcollT : ∀ name, B.collType name = QC.collType name)
    (c : Chain) (cols : List (String × PE))
    (hwt : wtSteps none c.steps = true)
    (hwtc : ∀ p ∈ cols, wtPE (chainTy none c.steps) p.2 = true)
    (hmt : ∀ cty l, QC.ev.find c.bank = some (cty, .vec l) →
        ∀ v ∈ l, MethTyped v (methsSteps c.steps) ∧ ∀ p ∈ cols, MethTyped v (methsPE p.2))
    (hbt : BankTyped QC c)
    (hst : strictSteps (cols.any (fun p => usesIt p.2)) c.steps = true)
    (σc : Env D) (hσ : ∀ k, k < cols.length → (σc (cn k)).isSome = true) :
    (∃ rows σ', runEvent (compile B nm cn (.elemRows c cols)) QC.N σc QC.ev = .ok (rows, σ')) ↔
      (∃ rows, denoteRows QC (FQ.toQuery (.elemRows c cols)) = .ok rows) :=
  fragEvent_defined_iff B hB nm cn ⟨hinj, hcinj, hres, hcres, hdisj⟩ QC hcollT (.elemRows c cols) ⟨hwt, hwtc, hmt⟩ ⟨hbt, hst⟩ σc hσ

/-- **C04.eventRows_fault_partial** — event-level rows `ds.Select(e → {name: col, …})`, columns =
scalars from `Count` / `Sum` / arithmetic, vector columns, `First()` of a chain; every event, every
admissible class state, all three backends. If the query is UNDEFINED on the event with fault `f`,
the per-event method ends in a fault `f'` — no row is written — and `f'` belongs to the FIRST
undefined column `col` (the columns `pre` before it are defined, `col` is where the query's own fault
`f` arises): `f`, `f'` are related by `ColFaultRel`: both from the same chain of that column —
`retrieveFailed` of its missing bank, or faults of the chain's own methods on elements of its bank —
or the column is a `First()` over a sequence that is empty after its filters and both are LOUD
("First of an empty sequence" / the emitted `runtime_error` text).
Which column's fault is REPORTED could in principle differ between the two sides (Python evaluates
the dict in order; the C++ runs all loops in column order, then the scalar assignments, then `Fill`);
it does not: the assignments are arithmetic on numbers and cannot fault, so both sides stop in the
same column, at the same chain.
Partial: `ColFaultHyp` (typed banks; every chain `strictSteps` for its consumer — `Sum`, vector
column: `true`; `Count`, `First`: `false`) and, within one chain, the fault only up to its class. -/
theorem eventRows_fault_partial (B : Backend) (hB : BackendBase B) (nm cn : Nat → String)
    (hinj : ∀ i j, nm i = nm j → i = j) (hcinj : ∀ i j, cn i = cn j → i = j)
    (hres : ∀ j, nm j ≠ "result") (hcres : ∀ k, cn k ≠ "result") (hdisj : ∀ j k, nm j ≠ cn k)
    (QC : QCtx D) (hcollT : ∀ name, B.collType name = QC.collType name)
    (cols : List (String × Col)) (hhyp : ∀ p ∈ cols, ColHyp QC p.2) (hfh : ∀ p ∈ cols, ColFaultHyp QC p.2)
    (σc : Env D) (hσ : ColsPre cn (cols.map (·.2)) 0 σc) (f : Fault)
    (hden : denoteRows QC (FQ.toQuery (.eventRows cols)) = .error f) :
    ∃ f', runEvent (compile B nm cn (.eventRows cols)) QC.N σc QC.ev = .error f' ∧
      ∃ pre col post vs, cols.map (·.2) = pre ++ col :: post ∧
        denotes QC [("e", evtVal)] (pre.map (colQ "e")) = .ok vs ∧
        denote QC [("e", evtVal)] (colQ "e" col) = .error f ∧ ColFaultRel QC col f f' :=
  eventRows_fault B hB nm cn ⟨hinj, hcinj, hres, hcres, hdisj⟩ QC hcollT cols hhyp hfh σc hσ f hden

/-- **C04.eventRows_faults_equal_partial** — with uniform member faults on every bank the query
reads, the package raises exactly the query's fault — or both are the loud `First()` fault. -/
theorem eventRows_faults_equal_partial (B : Backend) (hB : BackendBase B) (nm cn : Nat → String)
    (hinj : ∀ i j, nm i = nm j → i = j) (hcinj : ∀ i j, cn i = cn j → i = j)
    (hres : ∀ j, nm j ≠ "result") (hcres : ∀ k, cn k ≠ "result") (hdisj : ∀ j k, nm j ≠ cn k)
    (QC : QCtx D) (hcollT : ∀ name, B.collType name = QC.collType name)
    (cols : List (String × Col)) (hhyp : ∀ p ∈ cols, ColHyp QC p.2) (hfh : ∀ p ∈ cols, ColFaultHyp QC p.2)
    (huni : ∀ p ∈ cols, ∀ c ∈ chainsCol p.2, ∀ cty l, QC.ev.find c.bank = some (cty, .vec l) → ∀ f1 f2,
        ListFault l (methsSteps c.steps) f1 → ListFault l (methsSteps c.steps) f2 → f1 = f2)
    (σc : Env D) (hσ : ColsPre cn (cols.map (·.2)) 0 σc) (f : Fault)
    (hden : denoteRows QC (FQ.toQuery (.eventRows cols)) = .error f) :
    runEvent (compile B nm cn (.eventRows cols)) QC.N σc QC.ev = .error f ∨
    (f = .loud "First of an empty sequence" ∧
      runEvent (compile B nm cn (.eventRows cols)) QC.N σc QC.ev = .error (.loud firstMsg)) := by
  obtain ⟨f', hrun, p, hp, hrel⟩ := eventRows_fault_mem B hB nm cn ⟨hinj, hcinj, hres, hcres, hdisj⟩ QC hcollT cols hhyp hfh σc hσ f hden
  rcases colFaultRel_eq_of_uniform hrel (huni p hp) with h | ⟨h1, h2⟩
  · left; rw [hrun, h]
  · right; exact ⟨h1, by rw [hrun, h2]⟩

/-- **C04.eventRows_defined_iff** — the per-event method returns a row on EXACTLY the events on which
the query is defined. -/
theorem eventRows_defined_iff (B : Backend) (hB : BackendBase B) (nm cn : Nat → String)
    (hinj : ∀ i j, nm i = nm j → i = j) (hcinj : ∀ i j, cn i = cn j → i = j)
    (hres : ∀ j, nm j ≠ "result") (hcres : ∀ k, cn k ≠ "result") (hdisj : ∀ j k, nm j ≠ cn k)
    (QC : QCtx D) (hcollT : ∀ name, B.collType name = QC.collType name)
    (cols : List (String × Col)) (hhyp : ∀ p ∈ cols, ColHyp QC p.2) (hfh : ∀ p ∈ cols, ColFaultHyp QC p.2)
    (σc : Env D) (hσ : ColsPre cn (cols.map (·.2)) 0 σc) :
    (∃ rows σ', runEvent (compile B nm cn (.eventRows cols)) QC.N σc QC.ev = .ok (rows, σ')) ↔
      (∃ rows, denoteRows QC (FQ.toQuery (.eventRows cols)) = .ok rows) :=
  fragEvent_defined_iff B hB nm cn ⟨hinj, hcinj, hres, hcres, hdisj⟩ QC hcollT (.eventRows cols) hhyp hfh σc hσ

/-- **C04.event_first_empty_loud_all_backends** — `event_first_empty_loud` for EVERY backend satisfying
`BackendBase` (ATLAS, CMS AOD and CMS miniAOD): on an event where the columns before it are defined
and the chain of a `First()` column keeps no element, the query is undefined (loud) and the whole
emitted package fails LOUDLY; nothing after the failing column runs and no row is written. On the
token idiom the token table is the one `compile` emits (`tokCols_eventRows`). -/
theorem event_first_empty_loud_all_backends (B : Backend) (hB : BackendBase B) (nm cn : Nat → String)
    (hinj : ∀ i j, nm i = nm j → i = j) (hcinj : ∀ i j, cn i = cn j → i = j)
    (hres : ∀ j, nm j ≠ "result") (hcres : ∀ k, cn k ≠ "result") (hdisj : ∀ j k, nm j ≠ cn k)
    (QC : QCtx D) (hcollT : ∀ name, B.collType name = QC.collType name)
    (pre : List (String × Col)) (name : String) (c : Chain) (post : List (String × Col))
    (hhyp : ∀ p ∈ pre, ColHyp QC p.2) (hc : ColHyp QC (.first c))
    (σc : Env D) (hσ : ColsPre cn ((pre ++ (name, .first c) :: post).map (·.2)) 0 σc)
    (vs : List (Val D))
    (hpre : denotes QC [("e", evtVal)] ((pre.map (·.2)).map (colQ "e")) = .ok vs)
    (hempty : denote QC [("e", evtVal)] (chainQ "e" c) = .ok (.vec [])) :
    runEvent (compile B nm cn (.eventRows (pre ++ (name, .first c) :: post))) QC.N σc QC.ev = .error (.loud firstMsg) ∧
    ∃ m, denote QC [("e", evtVal)] (colQ "e" (.first c)) = .error (.loud m) :=
  eventRows_first_empty_loud_tok B hB nm cn ⟨hinj, hcinj, hres, hcres, hdisj⟩ QC hcollT pre name c post hhyp hc σc hσ vs hpre hempty


/-- **C04.no_stale_row** — either query shape. In the fault case the rows component is not
observable: the per-event method returns an error, not a pair. And whenever it does return rows,
they are exactly the rows the query denotes on that event — so a default value, a value left from an
earlier event, or the rows minus a silently dropped one are never what the job writes. -/
theorem no_stale_row (B : Backend) (hB : BackendBase B) (nm cn : Nat → String)
    (hinj : ∀ i j, nm i = nm j → i = j) (hcinj : ∀ i j, cn i = cn j → i = j)
    (hres : ∀ j, nm j ≠ "result") (hcres : ∀ k, cn k ≠ "result") (hdisj : ∀ j k, nm j ≠ cn k)
    (QC : QCtx D) (hcollT : ∀ name, B.collType name = QC.collType name)
    (fq : FQ) (hhyp : FragHyp QC fq) (hfh : FragFaultHyp QC fq) (σc : Env D) (hσ : FragPre cn fq σc) :
    (∀ f, denoteRows QC fq.toQuery = .error f →
        ∃ f', runEvent (compile B nm cn fq) QC.N σc QC.ev = .error f' ∧ FragFaultRel QC fq f f') ∧
    (∀ rows, (∃ σ', runEvent (compile B nm cn fq) QC.N σc QC.ev = .ok (rows, σ')) ↔ denoteRows QC fq.toQuery = .ok rows) :=
  ⟨fun f hden => fragEvent_fault B hB nm cn ⟨hinj, hcinj, hres, hcres, hdisj⟩ QC hcollT fq hhyp hfh σc hσ f hden,
   fun rows => fragEvent_rows_iff B hB nm cn ⟨hinj, hcinj, hres, hcres, hdisj⟩ QC hcollT fq hhyp hfh σc hσ rows⟩

/-- **C04.job_stops_at_first_undefined_event** — JOB level (`Cpp.runJob`: events in order, class
state threaded through, from the initial class state). For an event list `pre ++ ev :: post` where
the query is defined on every event of `pre` and undefined on `ev` (fault `f`): the job is an ERROR
(`f'`, of the class of `f`), and the partial run (`runJobPartial`) shows that when it ended exactly
the rows of the events of `pre` had been written — the query's rows, in order — nothing for `ev`,
nothing for `post`. A faulting event is never skipped with the job carrying on. -/
theorem job_stops_at_first_undefined_event (B : Backend) (hB : BackendBase B) (nm cn : Nat → String)
    (hinj : ∀ i j, nm i = nm j → i = j) (hcinj : ∀ i j, cn i = cn j → i = j)
    (hres : ∀ j, nm j ≠ "result") (hcres : ∀ k, cn k ≠ "result") (hdisj : ∀ j k, nm j ≠ cn k)
    (QC : QCtx D) (hcollT : ∀ name, B.collType name = QC.collType name)
    (fq : FQ) (pre : List (Event D)) (ev : Event D) (post : List (Event D))
    (hhyp : ∀ e ∈ pre, FragHyp (QC.withEvent e) fq)
    (hdef : ∀ e ∈ pre, ∃ rows, denoteRows (QC.withEvent e) fq.toQuery = .ok rows)
    (hhypE : FragHyp (QC.withEvent ev) fq) (hfhE : FragFaultHyp (QC.withEvent ev) fq)
    (f : Fault) (hundef : denoteRows (QC.withEvent ev) fq.toQuery = .error f) :
    ∃ f', runJob (compile B nm cn fq) QC.N (pre ++ ev :: post) = .error f' ∧
      runJobPartial (compile B nm cn fq) QC.N (classInit (compile B nm cn fq).classVars) (pre ++ ev :: post) =
        ((pre.map (rowsOf QC fq.toQuery)).flatten, some f') ∧
      FragFaultRel (QC.withEvent ev) fq f f' :=
  (fragJobOK B hB nm cn ⟨hinj, hcinj, hres, hcres, hdisj⟩ QC hcollT fq).stops ev post
    (fun σ hσ => fragEvent_fault B hB nm cn ⟨hinj, hcinj, hres, hcres, hdisj⟩ (QC.withEvent ev) hcollT fq hhypE hfhE σ hσ f hundef)
    pre hhyp hdef

open FaxVerif.C01

def fNum : Num Int :=
  { ofInt := id, ofDec := fun m _ => m, add := (· + ·), sub := (· - ·), mul := (· * ·), div := Int.tdiv, neg := (- ·),
    lt := fun a b => decide (a < b), le := fun a b => decide (a ≤ b), eq := fun a b => decide (a = b), toInt := id,
    fn := fun _ _ => none }

def fGood (d i : Int) : Val Int := .obj "A" [("d", .dbl d), ("i", .int i)]

/-- an event whose bank holds a good object followed by a NULL link: every member call on the second
element faults (`nullDeref`) -/
def evNull (ty : String) : Event Int := ⟨[("ba", ty, .vec [fGood 2 3, .null])]⟩
def evGood (ty : String) : Event Int := ⟨[("ba", ty, .vec [fGood 2 3, fGood 5 7])]⟩
def evMissing : Event Int := ⟨[]⟩

def atlasTy : String := "xAOD::AaContainer"
def miniTy : String := "std::vector<pat::Aa>"
def qcOf (ty : String) (ev : Event Int) : QCtx Int := { N := fNum, ev := ev, collTypes := [("As", ty)] }

theorem collT_atlas (ev : Event Int) : ∀ name, atlasB.collType name = (qcOf atlasTy ev).collType name :=
  fun name => (collType_single rfl name).symm

theorem collT_mini (ev : Event Int) : ∀ name, cmsMiniAodB.collType name = (qcOf miniTy ev).collType name :=
  fun name => (collType_single rfl name).symm

theorem find_ba (ty : String) (l : List (Val Int)) (cty : String) (content : Val Int)
    (hf : (⟨[("ba", ty, .vec l)]⟩ : Event Int).find "ba" = some (cty, content)) : cty = ty ∧ content = .vec l := by
  simp [Event.find, Event.find.go] at hf
  exact ⟨hf.1.symm, hf.2.symm⟩

theorem methTyped_good (d i : Int) (ms : List (String × Ty)) (hms : ∀ p ∈ ms, p = ("d", .double) ∨ p = ("i", .int)) :
    MethTyped (fGood d i) ms := by
  intro p hp w hw
  rcases hms p hp with rfl | rfl <;> simp [fGood, member, lookupAttr] at hw <;> subst hw <;> simp [HasTy]

theorem listFault_good_null (l : List (Val Int)) (hl : ∀ v ∈ l, v = .null ∨ ∃ d i, v = fGood d i)
    (ms : List (String × Ty)) (hms : ∀ p ∈ ms, p = ("d", .double) ∨ p = ("i", .int)) (f : Fault)
    (h : ListFault l ms f) : f = .nullDeref := by
  obtain ⟨v, hv, p, hp, hf⟩ := h
  rcases hl v hv with rfl | ⟨d, i, rfl⟩
  · exact elemFault_null ⟨_, hf⟩
  · rcases hms p hp with rfl | rfl <;> simp [fGood, member, lookupAttr] at hf

/-- `e.As("ba").Where(a → a.d() > 1)` -/
def chW : Chain := ⟨"As", "ba", [.whr (.cmp .gt (.meth "d" .double) (.int 1))]⟩
/-- `ds.SelectMany(e → e.As("ba").Where(a → a.d() > 1)).Select(r → {i: r.i()})` -/
def qElem : FQ := .elemRows chW [("i", .meth "i" .int)]

theorem qElem_meths : ∀ p ∈ methsSteps chW.steps ++ methsCols [("i", PE.meth "i" .int)], p = ("d", Ty.double) ∨ p = ("i", Ty.int) := by
  intro p hp
  simp [chW, methsSteps, methsPE, methsCols] at hp
  rcases hp with rfl | rfl <;> simp

theorem qElem_hmt (ty : String) (l : List (Val Int)) (hl : ∀ v ∈ l, v = .null ∨ ∃ d i, v = fGood d i) :
    ∀ cty l', (qcOf ty ⟨[("ba", ty, .vec l)]⟩).ev.find chW.bank = some (cty, .vec l') →
      ∀ v ∈ l', MethTyped v (methsSteps chW.steps) ∧ ∀ p ∈ [("i", PE.meth "i" .int)], MethTyped v (methsPE p.2) := by
  intro cty l' hf v hv
  obtain ⟨_, h2⟩ := find_ba ty l cty _ hf
  simp only [Val.vec.injEq] at h2; subst h2
  rcases hl v hv with rfl | ⟨d, i, rfl⟩
  · exact ⟨methTyped_null _, fun p _ => methTyped_null _⟩
  · refine ⟨methTyped_good d i _ (by intro p hp; simp [chW, methsSteps, methsPE] at hp; exact Or.inl hp), ?_⟩
    intro p hp
    simp only [List.mem_singleton] at hp; subst hp
    exact methTyped_good d i _ (by intro p hp; simp [methsPE] at hp; exact Or.inr hp)

theorem bankTyped_ba (ty : String) (l : List (Val Int)) (c : Chain) (hc : c.coll = "As") (hb : c.bank = "ba") :
    BankTyped (qcOf ty ⟨[("ba", ty, .vec l)]⟩) c := by
  intro have_ content hf
  rw [hb] at hf
  obtain ⟨h1, h2⟩ := find_ba ty l have_ content hf
  subst h1; subst h2
  exact ⟨by simp [QCtx.collType, qcOf, QCtx.collType.go, hc], l, rfl⟩

theorem good_null_shape : ∀ v ∈ [fGood 2 3, (.null : Val Int)], v = .null ∨ ∃ d i, v = fGood d i := by
  intro v hv; simp at hv; rcases hv with rfl | rfl
  · exact Or.inr ⟨2, 3, rfl⟩
  · exact Or.inl rfl

theorem good_good_shape : ∀ v ∈ [fGood 2 3, fGood 5 7], v = .null ∨ ∃ d i, v = fGood d i := by
  intro v hv; simp at hv; rcases hv with rfl | rfl
  · exact Or.inr ⟨2, 3, rfl⟩
  · exact Or.inr ⟨5, 7, rfl⟩

theorem qElem_undefined : denoteRows (qcOf atlasTy (evNull atlasTy)) qElem.toQuery = .error .nullDeref := rfl

/-- `elemRows_faults_equal_partial` with all hypotheses discharged (ATLAS), on the event with the null link (the `Where`
condition dereferences it): the package fails with exactly the query's fault; the row `[3]` of the good first element is
NOT returned -/
example : runEvent (compile atlasB exNm exCn qElem) fNum (classInit (compile atlasB exNm exCn qElem).classVars) (evNull atlasTy) =
    .error .nullDeref :=
  elemRows_faults_equal_partial atlasB backendBase_atlas exNm exCn exNm_inj exCn_inj exNm_ne_result exCn_ne_result exNm_ne_exCn
    (qcOf atlasTy (evNull atlasTy)) (collT_atlas _) chW [("i", .meth "i" .int)] (by decide) (by decide)
    (qElem_hmt atlasTy _ good_null_shape) (bankTyped_ba atlasTy _ chW rfl rfl) (by decide)
    (by
      intro cty l hf f1 f2 h1 h2
      obtain ⟨_, hl⟩ := find_ba atlasTy _ cty _ hf
      simp only [Val.vec.injEq] at hl; subst hl
      rw [listFault_good_null _ good_null_shape _ qElem_meths f1 h1, listFault_good_null _ good_null_shape _ qElem_meths f2 h2])
    _ (fragPre_classInit atlasB exNm exCn exCn_inj exNm_ne_exCn qElem) _ qElem_undefined

/-- a missing bank on CMS miniAOD (retrieval through the token table `compile` emits): the query is
`retrieveFailed "ba"` and so is the package -/
example : runEvent (compile cmsMiniAodB exNm exCn qElem) fNum (classInit (compile cmsMiniAodB exNm exCn qElem).classVars) evMissing =
    .error (.retrieveFailed "ba") :=
  elemRows_faults_equal_partial cmsMiniAodB backendOK_cmsMiniAod exNm exCn exNm_inj exCn_inj exNm_ne_result exCn_ne_result exNm_ne_exCn
    (qcOf miniTy evMissing) (collT_mini _) chW [("i", .meth "i" .int)] (by decide) (by decide)
    (by intro cty l hf; simp [qcOf, evMissing, Event.find, Event.find.go] at hf)
    (by intro h c hf; simp [qcOf, evMissing, Event.find, Event.find.go] at hf) (by decide)
    (by intro cty l hf; simp [qcOf, evMissing, Event.find, Event.find.go] at hf)
    _ (fragPre_classInit cmsMiniAodB exNm exCn exCn_inj exNm_ne_exCn qElem) _ rfl

example : ¬ ∃ rows σ', runEvent (compile atlasB exNm exCn qElem) fNum (classInit (compile atlasB exNm exCn qElem).classVars) (evNull atlasTy) =
    .ok (rows, σ') := by
  intro h
  obtain ⟨rows, hd⟩ := (elemRows_defined_iff atlasB backendBase_atlas exNm exCn exNm_inj exCn_inj exNm_ne_result exCn_ne_result exNm_ne_exCn
    (qcOf atlasTy (evNull atlasTy)) (collT_atlas _) chW [("i", .meth "i" .int)] (by decide) (by decide)
    (qElem_hmt atlasTy _ good_null_shape) (bankTyped_ba atlasTy _ chW rfl rfl) (by decide)
    _ (fragPre_classInit atlasB exNm exCn exCn_inj exNm_ne_exCn qElem)).1 h
  rw [show denoteRows (qcOf atlasTy (evNull atlasTy)) (FQ.toQuery (.elemRows chW [("i", .meth "i" .int)])) = .error .nullDeref from
    qElem_undefined] at hd
  simp at hd


/-- `e.As("ba").Select(a → a.i())` -/
def chS : Chain := ⟨"As", "ba", [.sel (.meth "i" .int)]⟩
/-- `ds.Select(e → {s: e.As("ba").Select(a → a.i()).Sum()})` — `Sum` adds every value: `strictSteps true` holds -/
def qSum : FQ := .eventRows [("s", .scalar (.sum chS))]

theorem chS_typed (ty : String) (l : List (Val Int)) (hl : ∀ v ∈ l, v = .null ∨ ∃ d i, v = fGood d i) :
    ChainTyped (qcOf ty ⟨[("ba", ty, .vec l)]⟩) chS := by
  intro cty l' hf v hv
  obtain ⟨_, h2⟩ := find_ba ty l cty _ hf
  simp only [Val.vec.injEq] at h2; subst h2
  rcases hl v hv with rfl | ⟨d, i, rfl⟩
  · exact methTyped_null _
  · exact methTyped_good d i _ (by intro p hp; simp [chS, methsSteps, methsPE] at hp; exact Or.inr hp)

theorem qSum_colHyp (ty : String) (l : List (Val Int)) (hl : ∀ v ∈ l, v = .null ∨ ∃ d i, v = fGood d i) :
    ∀ p ∈ [("s", Col.scalar (.sum chS))], ColHyp (qcOf ty ⟨[("ba", ty, .vec l)]⟩) p.2 := by
  intro p hp
  simp only [List.mem_singleton] at hp; subst hp
  refine ⟨by decide, ?_, ?_⟩
  · intro c hc; simp only [chainsEE, List.mem_singleton] at hc; subst hc; exact chS_typed ty l hl
  · intro c hc; simp only [sumChainsEE, List.mem_singleton] at hc; subst hc
    intro t ht hfl
    have : t = .int := by simpa [chS, chainTy, tyPE] using ht.symm
    subst this; simp [Ty.isFloating] at hfl

theorem qSum_faultHyp (ty : String) (l : List (Val Int)) :
    ∀ p ∈ [("s", Col.scalar (.sum chS))], ColFaultHyp (qcOf ty ⟨[("ba", ty, .vec l)]⟩) p.2 := by
  intro p hp
  simp only [List.mem_singleton] at hp; subst hp
  refine ⟨by decide, ?_⟩
  intro c hc; simp only [chainsEE, List.mem_singleton] at hc; subst hc
  exact bankTyped_ba ty l chS rfl rfl

theorem qSum_undefined : denoteRows (qcOf miniTy (evNull miniTy)) qSum.toQuery = .error .nullDeref := rfl

/-- `eventRows_faults_equal_partial` with all hypotheses discharged, CMS miniAOD: the `Select` body
faults on the null link, the query is undefined, the package fails with `nullDeref` — it does not
write the partial sum `3` -/
example : runEvent (compile cmsMiniAodB exNm exCn qSum) fNum (classInit (compile cmsMiniAodB exNm exCn qSum).classVars) (evNull miniTy) =
    .error .nullDeref := by
  have h := eventRows_faults_equal_partial cmsMiniAodB backendOK_cmsMiniAod exNm exCn exNm_inj exCn_inj exNm_ne_result exCn_ne_result
    exNm_ne_exCn (qcOf miniTy (evNull miniTy)) (collT_mini _) [("s", .scalar (.sum chS))]
    (qSum_colHyp miniTy _ good_null_shape) (qSum_faultHyp miniTy _)
    (by
      intro p hp c hc cty l hf f1 f2 h1 h2
      simp only [List.mem_singleton] at hp; subst hp
      simp only [chainsCol, chainsEE, List.mem_singleton] at hc; subst hc
      obtain ⟨_, hl⟩ := find_ba miniTy _ cty _ hf
      simp only [Val.vec.injEq] at hl; subst hl
      have hms : ∀ p ∈ methsSteps chS.steps, p = ("d", Ty.double) ∨ p = ("i", Ty.int) := by
        intro p hp; simp [chS, methsSteps, methsPE] at hp; exact Or.inr hp
      rw [listFault_good_null _ good_null_shape _ hms f1 h1, listFault_good_null _ good_null_shape _ hms f2 h2])
    _ (fragPre_classInit cmsMiniAodB exNm exCn exCn_inj exNm_ne_exCn qSum) _ qSum_undefined
  rcases h with h | ⟨h, _⟩
  · exact h
  · simp at h


/-- `e.As("ba").Where(a → a.d() > 100).Select(a → a.d())` keeps nothing on `evGood` -/
def chEmpty : Chain := ⟨"As", "ba", [.whr (.cmp .gt (.meth "d" .double) (.int 100)), .sel (.meth "d" .double)]⟩

example : runEvent (compile cmsMiniAodB exNm exCn (.eventRows [("x", .first chEmpty)])) fNum
    (classInit (compile cmsMiniAodB exNm exCn (.eventRows [("x", .first chEmpty)])).classVars) (evGood miniTy) = .error (.loud firstMsg) :=
  (event_first_empty_loud_all_backends cmsMiniAodB backendOK_cmsMiniAod exNm exCn exNm_inj exCn_inj exNm_ne_result exCn_ne_result
    exNm_ne_exCn (qcOf miniTy (evGood miniTy)) (collT_mini _) [] "x" chEmpty [] (by intro p hp; simp at hp)
    ⟨by decide, by
      intro cty l hf v hv
      obtain ⟨_, h2⟩ := find_ba miniTy _ cty _ hf
      simp only [Val.vec.injEq] at h2; subst h2
      rcases good_good_shape v hv with rfl | ⟨d, i, rfl⟩
      · exact methTyped_null _
      · exact methTyped_good d i _ (by intro p hp; simp [chEmpty, methsSteps, methsPE] at hp; exact Or.inl hp),
     by intro cty content hf; obtain ⟨_, h2⟩ := find_ba miniTy _ cty content hf; exact ⟨_, h2⟩⟩
    _ (fragPre_classInit cmsMiniAodB exNm exCn exCn_inj exNm_ne_exCn (.eventRows [("x", .first chEmpty)])) [] rfl rfl).1

theorem qElem_fragHyp (ty : String) (l : List (Val Int)) (hl : ∀ v ∈ l, v = .null ∨ ∃ d i, v = fGood d i) :
    FragHyp (qcOf ty ⟨[("ba", ty, .vec l)]⟩) qElem :=
  ⟨by decide, by decide, qElem_hmt ty l hl⟩

/-- three events: good, null link, good. The job ends with the second event's fault; when it ended,
exactly the two rows of the FIRST event had been written — nothing of the second or third. -/
example : ∃ f', runJob (compile atlasB exNm exCn qElem) fNum [evGood atlasTy, evNull atlasTy, evGood atlasTy] = .error f' ∧
    runJobPartial (compile atlasB exNm exCn qElem) fNum (classInit (compile atlasB exNm exCn qElem).classVars)
      [evGood atlasTy, evNull atlasTy, evGood atlasTy] = ([[.int 3], [.int 7]], some f') := by
  obtain ⟨f', h1, h2, _⟩ := job_stops_at_first_undefined_event atlasB backendBase_atlas exNm exCn exNm_inj exCn_inj exNm_ne_result
    exCn_ne_result exNm_ne_exCn (qcOf atlasTy (evGood atlasTy)) (collT_atlas _) qElem [evGood atlasTy] (evNull atlasTy) [evGood atlasTy]
    (by intro e he; simp only [List.mem_singleton] at he; subst he; exact qElem_fragHyp atlasTy _ good_good_shape)
    (by intro e he; simp only [List.mem_singleton] at he; subst he; exact ⟨[[.int 3], [.int 7]], rfl⟩)
    (qElem_fragHyp atlasTy _ good_null_shape) ⟨bankTyped_ba atlasTy _ chW rfl rfl, by decide⟩ .nullDeref rfl
  exact ⟨f', h1, h2⟩


/-- `e.As("ba").Select(a → a.d())` -/
def chD : Chain := ⟨"As", "ba", [.sel (.meth "d" .double)]⟩

/-- **C04.count_unforced_select_counterexample** — `ds.Select(e → {n: e.As("ba").Select(a → a.d()).Count()})`
on the event with a null link: the (eager) query is undefined — `Select` calls `d()` on every element —
but the emitted loop only counts: the `Select` body is inlined into what follows it, and `Count` does
not mention the value, so `d()` is never called and the package writes the row `[2]`. All other
hypotheses of `eventRows_fault_partial` hold (`ColHyp`, `BankTyped`); `eeStrict` is false. The
value written is not a default or a stale one: it is the count of the sequence. -/
theorem count_unforced_select_counterexample :
    denoteRows (qcOf atlasTy (evNull atlasTy)) (FQ.toQuery (.eventRows [("n", .scalar (.count chD))])) = .error .nullDeref ∧
    (∃ σ', runEvent (compile atlasB exNm exCn (.eventRows [("n", .scalar (.count chD))])) fNum
      (classInit (compile atlasB exNm exCn (.eventRows [("n", .scalar (.count chD))])).classVars) (evNull atlasTy) = .ok ([[.int 2]], σ')) ∧
    eeStrict (.count chD) = false ∧ wtEE (.count chD) = true ∧ BankTyped (qcOf atlasTy (evNull atlasTy)) chD :=
  ⟨rfl, ⟨_, rfl⟩, rfl, rfl, bankTyped_ba atlasTy _ chD rfl rfl⟩

/-- **C04.first_later_fault_counterexample** — `ds.Select(e → {x: e.As("ba").Select(a → a.d()).First()})`
on the same event: the eager query maps `d()` over ALL elements and is undefined; the emitted idiom
captures the value of the FIRST kept element only (`if (is_first) { is_first = false; x = i->d(); }`),
so the null link behind it is never dereferenced and the package writes the first element's value —
`First()` as lazy as LINQ's. `strictSteps false` is false for this chain. -/
theorem first_later_fault_counterexample :
    denoteRows (qcOf atlasTy (evNull atlasTy)) (FQ.toQuery (.eventRows [("x", .first chD)])) = .error .nullDeref ∧
    (∃ σ', runEvent (compile atlasB exNm exCn (.eventRows [("x", .first chD)])) fNum
      (classInit (compile atlasB exNm exCn (.eventRows [("x", .first chD)])).classVars) (evNull atlasTy) = .ok ([[.dbl 2]], σ')) ∧
    strictSteps false chD.steps = false :=
  ⟨rfl, ⟨_, rfl⟩, rfl⟩

/-- … while with the null link FIRST the same package fails, as the query does (the capture of the
first kept element evaluates `d()`): the idiom never substitutes a default for it -/
example : ∃ f, runEvent (compile atlasB exNm exCn (.eventRows [("x", .first chD)])) fNum
    (classInit (compile atlasB exNm exCn (.eventRows [("x", .first chD)])).classVars)
    ⟨[("ba", atlasTy, .vec [.null, fGood 2 3])]⟩ = .error f := ⟨.nullDeref, rfl⟩

end FaxVerif.C04
