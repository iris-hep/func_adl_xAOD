/-
C04 — `First()` over a projection whose VALUE needs statements of its own
(`coll.{Select(pure) | Where(lazy)}*.Select(x -> lazy value).First()`; translator model
`Gen.compFirstL`, lean/FaxVerif/Gen/FirstLazy.lean, tied to the real translator's text by
tools/props/c04.py `first_lazy_tie`).

The value of a conditional expression / an and-or chain lives in a C++ variable the translator
declares inside the loop body; its statements run for every kept element. `First()` must take ITS
value inside the `if (is_first)` guard: a capture that escapes the guard is overwritten by every later
element and First() returns the LAST element's value (and a value instead of a loud failure is
never written: the throw-if-still-first follows the loop).
-/
import FaxVerif.Gen.FirstLazyCorrect
namespace FaxVerif.C04
open FaxVerif.Cpp FaxVerif.Linq FaxVerif.Gen
variable {D : Type}

/-- **C04.first_of_lazy_select_is_first** — for every chain `c` (pure `Select`s and `Where`s with lazy
conditions), every lazy value expression `v` (and / or / if-else nested without bound), every event,
every number model, on all three backends (`BackendBase`; on the token idiom the chain's token is bound):
if the query `c.Select(x -> v).First()` is defined on the event with value `w`, then
  (1) `w` is the value of `v` on the FIRST element the chain keeps (`u`), and
  (2) the emitted statements (`bool fl (true);` outside the loop; the statements of `v`, then
      `if (fl) { fl = false; col = value; }` inside; `if (fl) throw` after) terminate without a fault,
      leave exactly `w` in the column variable — not a later element's value — and write no row. -/
theorem first_of_lazy_select_is_first (C : Ctx D) (QC : QCtx D) (hN : QC.N = C.N) (hev : QC.ev = C.ev)
    (B : Backend) (hB : BackendBase B) (hcollT : ∀ name, B.collType name = QC.collType name)
    (nm : Nat → String) (hinj : ∀ i j, nm i = nm j → i = j) (hres : ∀ j, nm j ≠ "result")
    (c : ChainL) (v : LE) (n : Nat) (htok : TokChain B nm C c.header n)
    (fl col msg : String)
    (hflT : ¬ Touch nm n (firstLNext B nm c v n) fl) (hcolT : ¬ Touch nm n (firstLNext B nm c v n) col)
    (hne : col ≠ fl)
    (hwt : wtFirstL c v = true)
    (hmt : ∀ cty l, C.ev.find c.bank = some (cty, .vec l) →
        ∀ u ∈ l, MethTyped u (methsStepsL c.steps) ∧ MethTyped u (methsLE v))
    (ρ : LEnv D) (ev : String) (w : Val D) (hden : denote QC ρ (firstLQ ev c v) = .ok w)
    (s : St D) (hx : (s.env (nm n)).isSome = true)
    (hfl : s.env fl = some (.val (.bool true))) (hcd : (s.env col).isSome = true) :
    (∃ u us, denote QC ρ (chainQL ev c) = .ok (.vec (u :: us)) ∧ leSem QC u v = .ok w) ∧
    ∃ s', execs C (compFirstL B nm c v fl col msg n).stmts s = .ok s' ∧ s'.env col = some (.val w) ∧ s'.rows = s.rows := by
  obtain ⟨u, us, rest, hchain, hu, hvals⟩ := firstLQ_ok QC ρ ev c v w hden
  exact ⟨⟨u, us, hchain, hu⟩, (first_lazy_idiom_tok C QC hN hev B hB hcollT nm hinj hres c v n htok fl col msg hflT hcolT hne
    hwt hmt ρ ev _ _ hchain hvals s hx hfl hcd).2 w rest rfl⟩

/-- **C04.first_of_lazy_select_empty_loud** — if the chain keeps no element on the event (the query
`c.Select(x -> v).First()` is undefined there: First of an empty sequence), the emitted statements fail
LOUDLY with First's message; no default or stale value is left to be written. -/
theorem first_of_lazy_select_empty_loud (C : Ctx D) (QC : QCtx D) (hN : QC.N = C.N) (hev : QC.ev = C.ev)
    (B : Backend) (hB : BackendBase B) (hcollT : ∀ name, B.collType name = QC.collType name)
    (nm : Nat → String) (hinj : ∀ i j, nm i = nm j → i = j) (hres : ∀ j, nm j ≠ "result")
    (c : ChainL) (v : LE) (n : Nat) (htok : TokChain B nm C c.header n)
    (fl col msg : String)
    (hflT : ¬ Touch nm n (firstLNext B nm c v n) fl) (hcolT : ¬ Touch nm n (firstLNext B nm c v n) col)
    (hne : col ≠ fl)
    (hwt : wtFirstL c v = true)
    (hmt : ∀ cty l, C.ev.find c.bank = some (cty, .vec l) →
        ∀ u ∈ l, MethTyped u (methsStepsL c.steps) ∧ MethTyped u (methsLE v))
    (ρ : LEnv D) (ev : String) (hchain : denote QC ρ (chainQL ev c) = .ok (.vec []))
    (s : St D) (hx : (s.env (nm n)).isSome = true)
    (hfl : s.env fl = some (.val (.bool true))) (hcd : (s.env col).isSome = true) :
    denote QC ρ (firstLQ ev c v) = .error (.loud "First of an empty sequence") ∧
    execs C (compFirstL B nm c v fl col msg n).stmts s = .error (.loud msg) := by
  exact ⟨by simp [firstLQ, denote, hchain, mapE],
    (first_lazy_idiom_tok C QC hN hev B hB hcollT nm hinj hres c v n htok fl col msg hflT hcolT hne
      hwt hmt ρ ev [] [] hchain rfl s hx hfl hcd).1 rfl⟩

example : wtFirstL ⟨"As", "ba", [.whr (.bop .or (.meth "b" .bool) [.cmp .gt (.meth "i" .int) (.int 0)])]⟩
    (.ite (.meth "b" .bool) (.meth "d" .double) (.meth "g" .double)) = true := by decide

example : wtFirstL ⟨"As", "ba", [.sel (.meth "d" .double)]⟩
    (.bop .and (.cmp .gt .it (.int 1)) [.cmp .lt .it (.int 5), .not (.cmp .eq .it (.int 2))]) = true := by decide

/-- the shape: the value's statements, then the guarded capture (the capture is INSIDE the guard) -/
example : (firstLK (fun _ => "r") false "fl" "col" (.ite (.meth "b" .bool) (.meth "d" .double) (.int 1)) (.var "i") none 7).1 =
    [.decl "double" "r" none,
     .ite (.mem (.var "i") false "b" []) [.set "r" (.mem (.var "i") false "d" [])] [.set "r" (.cast "double" (.int 1))],
     .ite (.var "fl") [.set "fl" (.bool false), .set "col" (.var "r")] []] := rfl

end FaxVerif.C04
