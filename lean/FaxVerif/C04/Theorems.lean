/-
C04 — faults are equivalent: loud on empty First / bad index, never spurious; evaluation is as
lazy as the query (and/or, conditional arms, anything behind a rejecting Where).

Most theorems here are about the statement shapes the translator emits for these constructs (the
translator model `Gen` produces them; the text tie of C01 checks on every run that the real
translator emits the same shapes), for ALL condition lists / element lists / states. Two are about
whole packages of the model: `event_first_empty_loud` (`Gen.compile`) and `guarded_package_correct`
(`Gen.compileGuarded`, whose statements `guarded_first_safe` is about: `Gen.guardedFirst`).
-/
import FaxVerif.Gen.FirstCorrect
import FaxVerif.Gen.FirstFault
import FaxVerif.Gen.GuardedFirst
import FaxVerif.C04.Shapes
namespace FaxVerif.C04
open FaxVerif.Cpp FaxVerif.Linq FaxVerif.Gen
variable {D : Type}

/-- **C04.and_lazy** — a conjunction of conditions (the fused `Where`s, i.e. Python `and`) is
lowered to `bool r; r = c₁; if (r) { r = c₂; } …`: after running the lowered statements the result
expression holds the lazy conjunction — `condsR` evaluates cᵢ₊₁ only when c₁ … cᵢ were all true, so
a faulting later operand is NOT executed when an earlier one is false (`Count() > 0 and First()…`
protects what follows it) — and nothing but the fresh result variables is touched. -/
theorem and_lazy (C : Ctx D) (nm : Nat → String) (hinj : ∀ i j, nm i = nm j → i = j)
    (rc : List CExpr) (n : Nat) (σ : Env D) (rows : List (List (Val D))) (r : Bool)
    (hfresh : ∀ c ∈ rc, ∀ x ∈ vars c, ∀ j, n ≤ j → x ≠ nm j)
    (h : condsR C.N σ rc = .ok r) :
    ∃ σ', execs C ((andLower nm rc n).decls ++ (andLower nm rc n).stmts) ⟨σ, rows⟩ = .ok ⟨σ', rows⟩ ∧
      evalB C.N σ' (andLower nm rc n).val = .ok r ∧
      (∀ y, ¬ InRange nm n (andLower nm rc n).next y → σ' y = σ y) :=
  andLower_correct C nm hinj rc n σ rows r hfresh h

/-- **C04.lazy_skips_fault** — the laziness made explicit: if an earlier condition is false, the
conjunction is false whatever the later condition would do (including faulting). -/
theorem lazy_skips_fault (N : Num D) (σ : Env D) (c : CExpr) (rest : List CExpr)
    (h : condsR N σ rest = .ok false) : condsR N σ (c :: rest) = .ok false := by
  simp [condsR, h]

/-- **C04.where_shields** — for an element the query's `Where`s drop, the loop body terminates
normally having touched only its own names, whatever the downstream code `K` is: `K` (which might
fault on that element) is not executed (`chainBody_correct`, case `none`). -/
theorem where_shields (C : Ctx D) (QC : QCtx D) (hN : QC.N = C.N) (nm : Nat → String)
    (hinj : ∀ i j, nm i = nm j → i = j) (ptr : Bool) (i : String) (steps : List Step) (n : Nat)
    (hi : ∀ j, n ≤ j → i ≠ nm j) (K : CExpr → Option Ty → List Stmt)
    (s : St D) (v : Val D)
    (hiv : s.env i = some (.val v)) (hwt : wtSteps none steps = true)
    (hm : MethTyped v (methsSteps steps)) (hs : elemSem QC steps v = .ok none) :
    ∃ s1 : St D, s1.rows = s.rows ∧
      (∀ y, ¬ InRange nm n (chainBody nm ptr (.var i) steps n K).2 y → s1.env y = s.env y) ∧
      execs C (chainBody nm ptr (.var i) steps n K).1 s = .ok s1 := by
  obtain ⟨s1, h1, h2, h3, _⟩ := chainBody_correct C QC hN nm hinj ptr i steps n hi K s v none hiv hwt hm hs
  exact ⟨s1, h1, h2, h3 rfl⟩

/-- **C04.pure_faults_equal** — a pure expression faults in the generated code exactly when (and
as) the query faults: `evalE (compPE …) = denote …` is an equality in `Except Fault`. -/
theorem pure_faults_equal (C : QCtx D) (σ : Env D) (cur : CExpr) (curTy : Option Ty) (ptr : Bool)
    (v : Val D) (x : String) (ρ : LEnv D)
    (hcur : evalE C.N σ cur = .ok v) (hty : ∀ t, curTy = some t → HasTy v t)
    (pe : PE) (hw : wtPE curTy pe = true) (hm : MethTyped v (methsPE pe)) (f : Fault) :
    evalE C.N σ (compPE ptr cur (curT curTy) pe) = .error f ↔ denote C ((x, v) :: ρ) (peQ x pe) = .error f := by
  rw [(pe_correct C σ cur curTy ptr v x ρ hcur hty pe hw hm).1]

/-- **C04.first_idiom** — the code emitted for `First()` of a chain
(`bool is_first (true);` outside the loop, `if (is_first) { is_first = false; col = value; }` inside,
`if (is_first) throw …;` after the loop):
  * if the query keeps at least one element, the column variable ends up holding the FIRST kept
    element's value — never a later or a stale one — and nothing is thrown;
  * if the sequence is empty after its filters, the code fails loudly (`Fault.loud`), it never
    continues with a default or previous value. -/
theorem first_idiom (C : Ctx D) (QC : QCtx D) (hN : QC.N = C.N)
    (B : Backend) (hB : BackendOK B) (nm : Nat → String)
    (hinj : ∀ i j, nm i = nm j → i = j) (hres : ∀ j, nm j ≠ "result")
    (c : Chain) (n : Nat) (col : String) (hcol : ∀ j, col ≠ nm j) (hcolr : col ≠ "result") (msg : String)
    (cty : String) (l ws : List (Val D))
    (hcoll : B.collType c.coll = some cty) (hfind : C.ev.find c.bank = some (cty, .vec l))
    (hwt : wtSteps none c.steps = true) (hmt : ∀ v ∈ l, MethTyped v (methsSteps c.steps))
    (hel : elemsSem QC c.steps l = .ok ws)
    (s : St D) (hx : (s.env (nm (n + 1))).isSome = true)
    (hfl : s.env (nm n) = some (.val (.bool true))) (hcd : (s.env col).isSome = true) :
    let K : CExpr → Option Ty → List Stmt := fun cur _ => [.ite (.var (nm n)) [.set (nm n) (.bool false), .set col cur] []]
    let prog := (compChain B nm c (n + 1) K).stmts ++ [.ite (.var (nm n)) [.throw msg] []]
    (ws = [] → execs C prog s = .error (.loud msg)) ∧
    (∀ w rest, ws = w :: rest → ∃ s', execs C prog s = .ok s' ∧ s'.env col = some (.val w) ∧ s'.rows = s.rows ∧
        (∀ y, y ≠ col → ¬ Touch nm n (compChain B nm c (n + 1) K).next y → s'.env y = s.env y)) :=
  FaxVerif.Gen.first_idiom C QC hN B hB nm hinj hres c n col hcol hcolr msg cty l ws hcoll hfind hwt hmt hel s hx hfl hcd

theorem guarded_second (C : Ctx D) (r : String) (preA body : List Stmt) (a g : CExpr)
    (s s1 : St D) (va : Val D) (run : Bool)
    (hA : execs C preA s = .ok s1) (hr : (s1.env r).isSome = true)
    (ha : evalE C.N s1.env a = .ok va)
    (hg : ∃ vg, evalE C.N (s1.env.set r va) g = .ok vg ∧ asBool C.N vg = some run) :
    execs C (preA ++ [.set r a, .ite g body []]) s =
      (if run then execs C body { s1 with env := s1.env.set r va }
       else .ok { s1 with env := s1.env.set r va }) := by
  obtain ⟨vg, hg1, hg2⟩ := hg
  rw [execs_append, hA]
  simp only [execs]
  rw [exec_set_ok C s1 r a va hr ha]
  simp only []
  rw [exec_ite_of C { s1 with env := s1.env.set r va } g _ _ vg run hg1 hg2]
  cases run
  · simp [execs]
  · simp only [if_true]
    cases execs C body { s1 with env := s1.env.set r va } <;> rfl

/-- **C04.or_lazy** — `a or b` inside an expression is lowered to `preA; r = a; if (!r) { body }`
(`orShape`; `body` computes the second operand and assigns it to `r` — the assignment may sit
inside a `First()` guard followed by its emptiness check). For ANY `body`: if the first operand is
true it is not executed at all and `r` keeps the first operand; if it is false the outcome is
exactly the outcome of running `body`, faults included.
(`Count() == 0 or First() > c` never throws on an empty sequence.) -/
theorem or_lazy (C : Ctx D) (r : String) (preA body : List Stmt) (a : CExpr)
    (s s1 : St D) (va : Val D) (ba : Bool)
    (hA : execs C preA s = .ok s1) (hr : (s1.env r).isSome = true)
    (ha : evalE C.N s1.env a = .ok va) (hba : asBool C.N va = some ba) :
    execs C (orShape r preA a body) s =
      (if ba then .ok { s1 with env := s1.env.set r va }
       else execs C body { s1 with env := s1.env.set r va }) := by
  have hg : ∃ vg, evalE C.N (s1.env.set r va) (.un "!" (.var r)) = .ok vg ∧ asBool C.N vg = some (!ba) :=
    ⟨.bool (!ba), by simp [evalE, Env.set_eq, unop_not C.N va ba hba], by simp [asBool]⟩
  have := guarded_second C r preA body a (.un "!" (.var r)) s s1 va (!ba) hA hr ha hg
  unfold orShape
  rw [this]
  cases ba <;> simp

/-- **C04.and_lazy2** — the same for `a and b` inside an expression (`andShape`): the second
operand's statements run only when the first operand is true. (`Count() > 0 and First() > c`.) -/
theorem and_lazy2 (C : Ctx D) (r : String) (preA body : List Stmt) (a : CExpr)
    (s s1 : St D) (va : Val D) (ba : Bool)
    (hA : execs C preA s = .ok s1) (hr : (s1.env r).isSome = true)
    (ha : evalE C.N s1.env a = .ok va) (hba : asBool C.N va = some ba) :
    execs C (andShape r preA a body) s =
      (if ba then execs C body { s1 with env := s1.env.set r va }
       else .ok { s1 with env := s1.env.set r va }) := by
  have hg : ∃ vg, evalE C.N (s1.env.set r va) (.var r) = .ok vg ∧ asBool C.N vg = some ba :=
    ⟨va, by simp [evalE, Env.set_eq], hba⟩
  unfold andShape
  exact guarded_second C r preA body a (.var r) s s1 va ba hA hr ha hg

/-- **C04.or_step / and_step** — one more operand of an n-ary chain (`a or b or c` is lowered to
`r = a; if (!r) {…r = b…} if (!r) {…r = c…}`): the operand's statements run exactly when the
chain is still undecided. -/
theorem or_step (C : Ctx D) (r : String) (body : List Stmt) (s : St D) (va : Val D) (ba : Bool)
    (hr : s.env r = some (.val va)) (hba : asBool C.N va = some ba) :
    exec C (.ite (.un "!" (.var r)) body []) s = (if ba then .ok s else execs C body s) := by
  rw [exec_ite_of C s (.un "!" (.var r)) body [] (.bool (!ba)) (!ba)
    (by simp [evalE, hr, unop_not C.N va ba hba]) (by simp [asBool])]
  cases ba <;> simp [execs]

theorem and_step (C : Ctx D) (r : String) (body : List Stmt) (s : St D) (va : Val D) (ba : Bool)
    (hr : s.env r = some (.val va)) (hba : asBool C.N va = some ba) :
    exec C (.ite (.var r) body []) s = (if ba then execs C body s else .ok s) := by
  rw [exec_ite_of C s (.var r) body [] va ba (by simp [evalE, hr]) hba]
  cases ba <;> simp [execs]

/-- the first operand's fault is the fault of the whole lowering (nothing is swallowed) -/
theorem first_operand_fault (C : Ctx D) (preA rest : List Stmt) (s : St D) (f : Fault)
    (hA : execs C preA s = .error f) : execs C (preA ++ rest) s = .error f := by
  rw [execs_append, hA]

/-- **C04.ite_lazy** — `x if c else y` is lowered to `preC; if (c) { thn } else { els }`
(`iteShape`; each arm computes its value and assigns the result variable): exactly one arm is
executed — the one Python evaluates — whatever the other arm contains
(`First().pt() if Count() > 0 else -1` never throws on an empty sequence). -/
theorem ite_lazy (C : Ctx D) (preC thn els : List Stmt) (c : CExpr)
    (s s1 : St D) (vc : Val D) (bc : Bool)
    (hC : execs C preC s = .ok s1)
    (hc : evalE C.N s1.env c = .ok vc) (hbc : asBool C.N vc = some bc) :
    execs C (iteShape preC c thn els) s = execs C (if bc then thn else els) s1 := by
  unfold iteShape
  rw [execs_append, hC]
  simp only [execs]
  rw [exec_ite_of C s1 c _ _ vc bc hc hbc]
  cases execs C (if bc then thn else els) s1 <;> rfl

theorem arm_pure (C : Ctx D) (r : String) (e : CExpr) (s : St D) (v : Val D)
    (hr : (s.env r).isSome = true) (he : evalE C.N s.env e = .ok v) :
    execs C (thenSet [] r e) s = .ok { s with env := s.env.set r v } := by
  simp only [thenSet, List.nil_append, execs, exec_set_ok C s r e v hr he]

/-- non-vacuity: a throwing second operand behind a true first operand of `or` is not executed -/
example (C : Ctx D) (s : St D) (hr : (s.env "r").isSome = true) :
    execs C (orShape "r" [] (.bool true) (thenSet [.throw "First() called on an empty sequence"] "r" (.bool false))) s =
      .ok { s with env := s.env.set "r" (.bool true) } := by
  have := or_lazy C "r" [] (thenSet [.throw "First() called on an empty sequence"] "r" (.bool false)) (.bool true) s s (.bool true) true
    (by simp [execs]) hr (by simp [evalE]) (by simp [asBool])
  simpa using this

/-- the recogniser finds the shapes it is meant to find (a three-operand chain counts twice) -/
example : countShapesL [] (orShape "r" [] (.bool true) (thenSet [] "r" (.bool false)) ++ [.ite (.un "!" (.var "r")) (thenSet [] "r" (.bool true)) []]) = ⟨0, 2, 0⟩ := by decide
example : countShapesL [] (orShape "r" [] (.bool true) (thenSet [] "r" (.bool false))) = ⟨0, 1, 0⟩ := by decide
example : countShapesL [] (andShape "r" [] (.bool true) [.ite (.var "f") [.set "f" (.bool false), .set "r" (.var "x")] []]) = ⟨1, 0, 0⟩ := by decide
example : countShapesL [] (iteShape [] (.var "c") (thenSet [] "r" (.int 1)) (thenSet [] "r" (.int 2))) = ⟨0, 0, 1⟩ := by decide

/-- **C04.event_first_empty_loud** — END TO END, fault direction, for the translator model on
event-level rows `{…pre…, name: chain.First(), …post…}`: on an event where the columns before it
are defined and the chain keeps no element, the query is undefined (loud fault) and the whole
emitted package — declarations, the loops of the earlier columns, the `First()` idiom — fails
loudly, from any admissible class state; nothing after the failing column runs and no row is
written. For every backend satisfying `BackendOK`, all column lists, chains, events, number
models. (The success direction is `C01.eventRows_correct_partial`.) -/
theorem event_first_empty_loud (B : Backend) (hB : BackendOK B) (nm cn : Nat → String)
    (hinj : ∀ i j, nm i = nm j → i = j) (hcinj : ∀ i j, cn i = cn j → i = j)
    (hres : ∀ j, nm j ≠ "result") (hcres : ∀ k, cn k ≠ "result") (hdisj : ∀ j k, nm j ≠ cn k)
    (QC : QCtx D) (hcollT : ∀ name, B.collType name = QC.collType name)
    (pre : List (String × Col)) (name : String) (c : Chain) (post : List (String × Col))
    (hhyp : ∀ p ∈ pre, ColHyp QC p.2) (hc : ColHyp QC (.first c))
    (σc : Env D) (hσ : ColsPre cn ((pre ++ (name, .first c) :: post).map (·.2)) 0 σc)
    (vs : List (Val D))
    (hpre : denotes QC [("e", evtVal)] ((pre.map (·.2)).map (colQ "e")) = .ok vs)
    (hempty : denote QC [("e", evtVal)] (chainQ "e" c) = .ok (.vec [])) :
    runEvent (compile B nm cn (.eventRows (pre ++ (name, .first c) :: post))) QC.N σc QC.ev = .error (.loud firstMsg) ∧
    ∃ m, denote QC [("e", evtVal)] (colQ "e" (.first c)) = .error (.loud m) :=
  eventRows_first_empty_loud_tok B hB.base nm cn ⟨hinj, hcinj, hres, hcres, hdisj⟩ QC hcollT pre name c post hhyp hc σc hσ vs hpre hempty

/-- **C04.guarded_first_safe** — the guard idiom `d if c.Count() == 0 else c.First()`, as the
translator lowers it (`Gen.guardedFirst`: Count loop, `if (acc == 0) { r = d; } else { First idiom }`),
NEVER throws: from any state, for every well-typed chain that is defined on the event (on a backend that
is `BackendOK`, with a default that evaluates to one value) and every number model, it terminates normally with
`r` holding the default when the chain keeps no element and the first kept element otherwise, and
touches nothing but its own generated names. (Never spurious: the `throw` of the First idiom is
unreachable behind the guard.) -/
theorem guarded_first_safe (C : Ctx D) (QC : QCtx D) (hN : QC.N = C.N) (hev : QC.ev = C.ev)
    (B : Backend) (hB : BackendOK B) (nm : Nat → String)
    (hinj : ∀ i j, nm i = nm j → i = j) (hres : ∀ j, nm j ≠ "result")
    (hcollT : ∀ name, B.collType name = QC.collType name)
    (c : Chain) (d : CExpr) (vd : Val D) (hd : ∀ σ : Env D, evalE C.N σ d = .ok vd)
    (r : String) (hr : ∀ j, nm j ≠ r) (hrr : r ≠ "result") (n : Nat)
    (hwt : wtSteps none c.steps = true) (hct : ChainTyped QC c) (hbv : BankIsVec QC c)
    (ws : List (Val D)) (hchain : denote QC [("e", evtVal)] (chainQ "e" c) = .ok (.vec ws))
    (s0 : St D) :
    ∃ s', execs C (guardedFirst B nm c d r n) s0 = .ok s' ∧ s'.rows = s0.rows ∧
      (ws = [] → s'.env r = some (.val vd)) ∧
      (∀ w rest, ws = w :: rest → s'.env r = some (.val w)) ∧
      (∀ y, y ≠ r → (∀ j, y ≠ nm j) → y ≠ "result" → s'.env y = s0.env y) :=
  guardedFirst_safe C QC hN hev B hB nm hinj hres hcollT c d vd hd r hr hrr n hwt hct hbv ws hchain s0

/-- **C04.guarded_package_correct** — the whole package for
`ds.Select(e -> {name: d if c.Count() == 0 else c.First()})` writes exactly one row for an event on which the chain is defined —
the first kept element, or the default on an empty sequence — and does not fail there. The model's text
is compared with the real translator's on every run (`guarded-tie` stream). -/
theorem guarded_package_correct (B : Backend) (hB : BackendOK B) (nm cn : Nat → String)
    (hinj : ∀ i j, nm i = nm j → i = j) (hcinj : ∀ i j, cn i = cn j → i = j)
    (hres : ∀ j, nm j ≠ "result") (hcres : ∀ k, cn k ≠ "result") (hdisj : ∀ j k, nm j ≠ cn k)
    (QC : QCtx D) (hcollT : ∀ name, B.collType name = QC.collType name)
    (name : String) (c : Chain) (d : CExpr) (vd : Val D) (hd : ∀ σ : Env D, evalE QC.N σ d = .ok vd)
    (hwt : wtSteps none c.steps = true) (hct : ChainTyped QC c) (hbv : BankIsVec QC c)
    (ws : List (Val D)) (hchain : denote QC [("e", evtVal)] (chainQ "e" c) = .ok (.vec ws))
    (σc : Env D) (hσ : (σc (cn 0)).isSome = true) :
    ∃ σ', runEvent (compileGuarded B nm cn name c d) QC.N σc QC.ev = .ok ([[ws.head?.getD vd]], σ') :=
  compileGuarded_correct B hB nm cn ⟨hinj, hcinj, hres, hcres, hdisj⟩ QC hcollT name c d vd hd hwt hct hbv ws hchain σc hσ

/-- steps `if (g) { bodyᵢ }` whose guard evaluates to false run none of their bodies -/
theorem guarded_steps_skipped (C : Ctx D) (g : CExpr) (s : St D) (vg : Val D)
    (hg : evalE C.N s.env g = .ok vg) (hb : asBool C.N vg = some false) :
    ∀ bodies : List (List Stmt), execs C (bodies.map fun b => .ite g b []) s = .ok s
  | [] => rfl
  | b :: rest => by
    simp only [List.map_cons, execs, exec_ite_of C s g b [] vg false hg hb, Bool.false_eq_true, if_false]
    exact guarded_steps_skipped C g s vg hg hb rest

/-- the guarded steps of an n-ary `or` chain after its first operand:
`if (!r) { body₁ } if (!r) { body₂ } …` -/
def orSteps (r : String) (bodies : List (List Stmt)) : List Stmt :=
  bodies.map fun b => .ite (.un "!" (.var r)) b []

def andSteps (r : String) (bodies : List (List Stmt)) : List Stmt :=
  bodies.map fun b => .ite (.var r) b []

/-- **C04.or_chain_decided** — once an `or` chain is decided (its result variable holds a true
value) NONE of the remaining operands' statements is executed, however many there are and whatever
they contain: the rest of the chain leaves the state untouched. -/
theorem or_chain_decided (C : Ctx D) (r : String) (s : St D) (va : Val D)
    (hr : s.env r = some (.val va)) (hba : asBool C.N va = some true) :
    ∀ bodies : List (List Stmt), execs C (orSteps r bodies) s = .ok s :=
  guarded_steps_skipped C (.un "!" (.var r)) s (.bool false) (by simp [evalE, hr, unop_not C.N va true hba]) (by simp [asBool])

/-- **C04.and_chain_decided** — the dual for `and`: once the result variable holds a false value
the remaining operands are skipped. -/
theorem and_chain_decided (C : Ctx D) (r : String) (s : St D) (va : Val D)
    (hr : s.env r = some (.val va)) (hba : asBool C.N va = some false) :
    ∀ bodies : List (List Stmt), execs C (andSteps r bodies) s = .ok s :=
  guarded_steps_skipped C (.var r) s va (by simp [evalE, hr]) hba

theorem or_chain_next (C : Ctx D) (r : String) (s : St D) (va : Val D) (b : List Stmt) (rest : List (List Stmt))
    (hr : s.env r = some (.val va)) (hba : asBool C.N va = some false) :
    execs C (orSteps r (b :: rest)) s = (match execs C b s with
      | .ok s' => execs C (orSteps r rest) s'
      | .error f => .error f) := by
  have h1 := or_step C r b s va false hr hba
  simp only [Bool.false_eq_true, if_false] at h1
  simp only [orSteps, List.map_cons, execs, h1]
  cases execs C b s <;> rfl

end FaxVerif.C04
