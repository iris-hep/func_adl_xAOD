/-
C10 — the model's functions characterised. The statement the typing proofs turn on is `typeOf_access_eq`: the
access synthesised for total indirection `k` consumes the receiver's pointer levels first and the rest as
`operator*` levels (total indirection = pointer depth + `operator*` level). Beside it: `parse_type` on decorated
strings and on its own output, the access text in closed form, `determine_type_mf`, `process_metadata`, enum
definition and path resolution.
-/
import FaxVerif.C10.ExtModel
import FaxVerif.Common.Runs
import FaxVerif.Common.AddNew
namespace FaxVerif.C10

theorem star_not_ws : isPyWs '*' = false := by decide

def blankOrStar (c : Char) : Bool := isPyWs c || c == '*'

theorem stripStars_eq (s : List Char) (k : Nat) :
    stripStars s k = (s.dropWhile blankOrStar, k + (s.takeWhile blankOrStar).count '*') := by
  induction s generalizing k with
  | nil => rfl
  | cons c r ih =>
    rw [stripStars]
    by_cases hw : isPyWs c = true
    · have : c ≠ '*' := fun h => by rw [h, star_not_ws] at hw; cases hw
      simp [hw, ih, blankOrStar, this]
    · by_cases hs : c = '*'
      · simp [hs, star_not_ws, ih, blankOrStar, Nat.add_assoc, Nat.add_comm 1]
      · simp [hw, hs, blankOrStar]

theorem blankOrStar_of_ws {w : List Char} (hw : allWs w = true) : ∀ c ∈ w, blankOrStar c = true := by
  intro c hc
  rw [blankOrStar, List.all_eq_true.1 hw c hc]; rfl

theorem count_star_ws {w : List Char} (hw : allWs w = true) : w.count '*' = 0 :=
  List.count_eq_zero.2 fun h => by have := List.all_eq_true.1 hw _ h; rw [star_not_ws] at this; cases this

theorem count_star_gaps (gaps : List (List Char)) (hg : ∀ g ∈ gaps, allWs g = true) :
    (gaps.flatMap (· ++ ['*'])).count '*' = gaps.length := by
  induction gaps with
  | nil => rfl
  | cons g gs ih =>
    rw [List.flatMap_cons, List.count_append, List.count_append, count_star_ws (hg g (by simp)),
      ih fun g' h => hg g' (by simp [h])]
    simp; omega

theorem stripStars_decorate (isConst : Bool) (base pre post : List Char) (gaps : List (List Char))
    (hb : EndsClean base) (hpost : allWs post = true) (hg : ∀ g ∈ gaps, allWs g = true) :
    stripStars (decorate isConst base pre gaps post).reverse 0 =
      ((pre ++ (if isConst then constPrefix else []) ++ base).reverse, gaps.length) := by
  obtain ⟨c, hc, hws, hstar⟩ := hb
  obtain ⟨u, rfl⟩ := List.getLast?_eq_some_iff.1 hc
  have hskip : ∀ a ∈ (gaps.flatMap (· ++ ['*']) ++ post).reverse, blankOrStar a = true := by
    intro a ha
    simp only [List.mem_reverse, List.mem_append, List.mem_flatMap, List.mem_singleton] at ha
    rcases ha with ⟨g, hg', ha | rfl⟩ | ha
    · exact blankOrStar_of_ws (hg g hg') a ha
    · rfl
    · exact blankOrStar_of_ws hpost a ha
  have hstop : blankOrStar c = false := by simp [blankOrStar, hws, hstar]
  rw [decorate, List.append_assoc _ _ post, List.reverse_append, stripStars_eq,
    List.dropWhile_append_of_pos hskip, List.takeWhile_append_of_pos hskip]
  simp [hstop, count_star_gaps gaps hg, count_star_ws hpost]

/-- `parse_type` on a decorated string: a `const` name may begin with anything. -/
theorem parse_decorate_gen (isConst : Bool) (base pre post : List Char) (gaps : List (List Char))
    (hb : EndsClean base) (hs : isConst = false → StartsClean base)
    (hpre : allWs pre = true) (hpost : allWs post = true) (hg : ∀ g ∈ gaps, allWs g = true) :
    parseType (decorate isConst base pre gaps post) = ⟨base, gaps.length, isConst⟩ := by
  unfold parseType
  rw [stripStars_decorate isConst base pre post gaps hb hpost hg]
  simp only [List.reverse_reverse, List.append_assoc]
  rw [List.dropWhile_append_of_pos (List.all_eq_true.1 hpre)]
  cases isConst with
  | true =>
    simp only [if_true]
    have h1 : (constPrefix ++ base).dropWhile isPyWs = constPrefix ++ base := by
      apply Runs.dropWhile_of_headFails; intro c hc; simp [constPrefix] at hc; subst hc; decide
    rw [h1, show constPrefix.isPrefixOf (constPrefix ++ base) = true by simp [constPrefix, List.isPrefixOf]]
    simp [constPrefix]
  | false =>
    obtain ⟨h1, h2⟩ := hs rfl
    simp only [Bool.false_eq_true, if_false, List.nil_append]
    rw [Runs.dropWhile_of_headFails h1, h2]
    simp

theorem stars_eq_flatMap (k : Nat) : stars k = (List.replicate k ([] : List Char)).flatMap (· ++ ['*']) := by
  induction k with
  | zero => rfl
  | succ k ih => simp [stars, List.replicate_succ] at ih ⊢; exact ih

theorem stripStars_result (s : List Char) (k : Nat) :
    (stripStars s k).1 = [] ∨ ∃ c r, (stripStars s k).1 = c :: r ∧ isPyWs c = false ∧ c ≠ '*' := by
  rw [stripStars_eq]
  have := List.head?_dropWhile_not blankOrStar s
  cases h : s.dropWhile blankOrStar with
  | nil => exact .inl rfl
  | cons c r => rw [h] at this; exact .inr ⟨c, r, rfl, by simpa [blankOrStar] using this⟩

theorem stripStars_stars (k j : Nat) : stripStars (stars k) j = ([], j + k) := by
  simp [stripStars_eq, stars, blankOrStar]

theorem stars_reverse (k : Nat) : (stars k).reverse = stars k := by simp [stars]

theorem isPrefixOf_append_of_length {a b c : List Char} (h : a.isPrefixOf b = true) : a.isPrefixOf (b ++ c) = true := by
  rw [List.isPrefixOf_iff_prefix] at h ⊢
  exact List.IsPrefix.trans h (List.prefix_append b c)

theorem full_eq_decorate (name : List Char) (k : Nat) (c : Bool) :
    (⟨name, k, c⟩ : Parsed).full = decorate c name [] (List.replicate k []) [] := by
  simp [Parsed.full, decorate, stars_eq_flatMap]

theorem parse_full (name : List Char) (k : Nat) (c : Bool) (he : EndsClean name) (hs : c = false → StartsClean name) :
    parseType (⟨name, k, c⟩ : Parsed).full = ⟨name, k, c⟩ := by
  rw [full_eq_decorate]
  simpa using parse_decorate_gen c name [] [] (List.replicate k []) he hs rfl rfl
    (by intro g hg; rw [List.eq_of_mem_replicate hg]; rfl)

theorem endsClean_of_append (u : List Char) (c : Char) (h1 : isPyWs c = false) (h2 : c ≠ '*') :
    EndsClean (u ++ [c]) := ⟨c, by simp, h1, h2⟩

/-- what `parse_type` has after the star loop and `strip()`: no blank in front; empty, or no blank or star at the end -/
theorem stripped_shape (s t : List Char) (ht : t = (stripStars s.reverse 0).1.reverse.dropWhile isPyWs) :
    (∀ c, t.head? = some c → isPyWs c = false) ∧ (t = [] ∨ EndsClean t) := by
  subst ht
  refine ⟨fun c hc => ?_, ?_⟩
  · have := List.head?_dropWhile_not isPyWs (stripStars s.reverse 0).1.reverse
    rw [hc] at this; exact this
  · rcases stripStars_result s.reverse 0 with h | ⟨c, r, h, h1, h2⟩
    · left; rw [h]; rfl
    · right
      have : (r.reverse ++ [c]).dropWhile isPyWs = r.reverse.dropWhile isPyWs ++ [c] := by
        rw [List.dropWhile_append]; split <;> simp_all
      rw [h, List.reverse_cons, this]
      exact endsClean_of_append _ c h1 h2

theorem endsClean_drop_const {t : List Char} (h : constPrefix.isPrefixOf t = true) (he : EndsClean t) :
    EndsClean (t.drop 6) := by
  obtain ⟨u, rfl⟩ := List.isPrefixOf_iff_prefix.1 h
  obtain ⟨c, hc, h1, h2⟩ := he
  show EndsClean u
  rcases List.eq_nil_or_concat u with h | ⟨u', a, h⟩
  · subst h; simp [constPrefix] at hc; subst hc; simp [isPyWs] at h1
  · subst h
    rw [List.concat_eq_append, ← List.append_assoc, List.getLast?_concat] at hc
    cases hc
    rw [List.concat_eq_append]
    exact endsClean_of_append u' c h1 h2

/-- the name `parse_type` returns is one `parse_full` applies to — or empty (a string of blanks and stars) -/
theorem parseType_clean (s : List Char) :
    ((parseType s).name = [] ∧ (parseType s).isConst = false) ∨
    (EndsClean (parseType s).name ∧ ((parseType s).isConst = false → StartsClean (parseType s).name)) := by
  unfold parseType
  simp only
  generalize ht : (stripStars s.reverse 0).1.reverse.dropWhile isPyWs = t
  obtain ⟨hhead, hlast⟩ := stripped_shape s t ht.symm
  by_cases hc : constPrefix.isPrefixOf t = true
  · rw [if_pos hc]
    have he : EndsClean t := hlast.resolve_left fun h => by subst h; simp [constPrefix] at hc
    exact .inr ⟨endsClean_drop_const hc he, fun h => nomatch h⟩
  · rw [if_neg hc]
    exact hlast.imp (fun h => ⟨h, rfl⟩) fun he => ⟨he, fun _ => ⟨hhead, eq_false_of_ne_true hc⟩⟩

theorem rep_succ' (k : Nat) (s : String) : rep (k + 1) s = rep k s ++ s := by
  induction k with
  | zero => simp [rep]
  | succ k ih =>
    show s ++ rep (k + 1) s = (s ++ rep k s) ++ s
    rw [ih, String.append_assoc]

theorem wrapN_closed : ∀ (k : Nat) (x : String), wrapN k x = rep k "(*" ++ x ++ rep k ")"
  | 0, x => by simp [wrapN, rep]
  | k + 1, x => by
    rw [wrapN, wrapN_closed k, wrapDeref, rep_succ' k "(*"]
    show _ = _ ++ x ++ (")" ++ rep k ")")
    simp only [String.append_assoc]

theorem accessText_closed (x : String) (k : Nat) : accessText x k = accessClosed x k := by
  unfold accessText accessClosed
  by_cases h : k = 0
  · simp [h]
  · simp only [h, if_false]; rw [wrapN_closed]

theorem rep_length (k : Nat) (s : String) : (rep k s).length = k * s.length := by
  induction k with
  | zero => simp [rep]
  | succ k ih => simp [rep, String.length_append, ih, Nat.succ_mul]; omega

theorem accessClosed_length (x : String) (k : Nat) :
    (accessClosed x k).length = x.length + (if k = 0 then 1 else 3 * (k - 1) + 2) := by
  unfold accessClosed
  have h0 : (".": String).length = 1 := by decide
  have h1 : ("(*" : String).length = 2 := by decide
  have h2 : (")" : String).length = 1 := by decide
  have h3 : ("->" : String).length = 2 := by decide
  by_cases h : k = 0
  · simp [h, String.length_append, h0]
  · simp only [h, if_false, String.length_append, rep_length]
    rw [h1, h2, h3]; omega

/-- the length `accessClosed` adds to the receiver determines the total indirection -/
theorem accessLen_inj {k k' : Nat}
    (h : (if k = 0 then 1 else 3 * (k - 1) + 2) = (if k' = 0 then 1 else 3 * (k' - 1) + 2)) : k = k' := by
  split at h <;> split at h <;> omega

theorem render_wrapE : ∀ (k : Nat) (e : CExpr), render (wrapE k e) = wrapN k (render e)
  | 0, e => rfl
  | k + 1, e => by
    rw [wrapE, render_wrapE k, wrapN]
    congr 1

theorem find_mem {reg : Registry} {t m : String} {i : Info} (h : reg.find t m = some i) :
    ((t, m), i) ∈ reg := by
  induction reg with
  | nil => simp [Registry.find] at h
  | cons x rest ih =>
    obtain ⟨⟨t', m'⟩, i'⟩ := x
    unfold Registry.find at h
    by_cases hx : t' = t ∧ m' = m
    · simp only [hx, and_self, if_true, Option.some.injEq] at h
      obtain ⟨rfl, rfl⟩ := hx; subst h; simp
    · simp only [hx, if_false] at h
      exact List.mem_cons_of_mem _ (ih h)

theorem hasStar_of_find {D : Decls} {t m : String} {i : Info} (h : D.reg.find t m = some i)
    (l : Nat) (hl : l < i.deref) : D.hasStar t l = true := by
  unfold Decls.hasStar
  rw [List.any_eq_true]
  exact ⟨_, find_mem h, by simp [hl]⟩

theorem methodOf_of_find {D : Decls} {c m : String} {i : Info} (h : D.reg.find c m = some i) (l : Nat) :
    D.methodOf c l m = if i.deref = l then some (ctOf i.rty.term) else none := by
  simp only [Decls.methodOf, h]

theorem methodOf_declared {D : Decls} {t m : String} {i : Info} (h : D.reg.find t m = some i) :
    D.methodOf t i.deref m = some (ctOf i.rty.term) := by
  rw [methodOf_of_find h, if_pos rfl]

/-- a method at `operator*` level `n` exists only when the class has all the stars below `n`: the
declaration that gives the method its level is the witness -/
theorem hasStar_of_methodOf {D : Decls} {c m : String} {n : Nat} {r : CT} (h : D.methodOf c n m = some r)
    {l : Nat} (hl : l < n) : D.hasStar c l = true := by
  unfold Decls.methodOf at h
  cases hf : D.reg.find c m with
  | some i =>
    rw [hf] at h
    by_cases hi : i.deref = n
    · exact hasStar_of_find hf l (hi ▸ hl)
    · simp [hi] at h
  | none => rw [hf] at h; simp [show n ≠ 0 by omega] at h

theorem methodOf_fallback (D : Decls) (c m : String) (hf : D.reg.find c m = none) (hw : (c, m) ∈ D.warned)
    (hb : c ∉ specBaseTypes) (hat : m ≠ "at") : D.methodOf c 0 m = some fallbackCT := by
  simp [Decls.methodOf, hf, hw, hb, hat]

theorem methodOf_at (D : Decls) (c : String) (E : CT) (hf : D.reg.find c "at" = none) (hi : D.iterOf c = some E) :
    D.methodOf c 0 "at" = some E := by
  simp [Decls.methodOf, hf, hi]

theorem typeOf_deref_ptr {D : Decls} {Γ : List (String × CT)} {e : CExpr} {t : CT} {d : Nat}
    (h : typeOf D Γ e = some t) (hd : t.depth = d + 1) :
    typeOf D Γ (.deref e) = some { cls := t.cls, lvl := t.lvl, depth := d } := by
  simp only [typeOf, h, hd]

theorem typeOf_deref_obj {D : Decls} {Γ : List (String × CT)} {e : CExpr} {t : CT}
    (h : typeOf D Γ e = some t) (hd : t.depth = 0) :
    typeOf D Γ (.deref e) =
      if D.hasStar t.cls t.lvl then some { cls := t.cls, lvl := t.lvl + 1, depth := 0 } else none := by
  simp only [typeOf, h, hd]

theorem typeOf_accessE (D : Decls) (Γ : List (String × CT)) (e : CExpr) (k : Nat) (m : String) (arg : Option Nat) :
    typeOf D Γ (accessE e k m (arg.map CExpr.lit)) =
      (typeOf D Γ (wrapE (k - 1) e)).bind fun t => D.select t (decide (0 < k)) m := by
  cases arg <;> simp only [accessE, typeOf, Option.map] <;> cases typeOf D Γ (wrapE (k - 1) e) <;> rfl

/-- member selection consumes one indirection with `->` and none with `.`: a pointer level if
there is one, else an `operator*` level -/
theorem select_eq (D : Decls) (t : CT) (arrow : Bool) (m : String) :
    D.select t arrow m =
      if t.depth ≤ arrow.toNat then D.methodOf t.cls (t.lvl + arrow.toNat - t.depth) m else none := by
  unfold Decls.select
  obtain ⟨c, l, d, tr⟩ := t
  cases arrow <;> match d with
    | 0 => simp
    | 1 => simp
    | d + 2 => simp

/-- `e->m` under `j` more `(*·)`: a receiver of type `t` is asked for its method at level
`t.lvl + (j + 1 - t.depth)`, and has to have at most `j + 1` pointer levels -/
theorem select_wrapE (D : Decls) (Γ : List (String × CT)) (m : String) : ∀ (j : Nat) (e : CExpr),
    (typeOf D Γ (wrapE j e)).bind (fun t => D.select t true m) =
      (typeOf D Γ e).bind fun t => if t.depth ≤ j + 1 then D.methodOf t.cls (t.lvl + (j + 1 - t.depth)) m else none
  | 0, e => by
    rw [wrapE]
    cases typeOf D Γ e with
    | none => rfl
    | some t =>
      simp only [Option.bind_some, select_eq, Bool.toNat_true]
      split
      · congr 1; omega
      · rfl
  | j + 1, e => by
    rw [wrapE, select_wrapE D Γ m j, show typeOf D Γ (.paren (.deref e)) = typeOf D Γ (.deref e) by simp only [typeOf]]
    cases he : typeOf D Γ e with
    | none => simp only [typeOf, he]; rfl
    | some t =>
      cases hd : t.depth with
      | succ d =>
        rw [typeOf_deref_ptr he hd]
        simp only [Option.bind_some, hd, Nat.add_le_add_iff_right, Nat.add_sub_add_right]
      | zero =>
        rw [typeOf_deref_obj he hd]
        simp only [Option.bind_some, hd, Nat.zero_le, if_true, Nat.sub_zero]
        by_cases hs : D.hasStar t.cls t.lvl = true
        · simp only [hs, if_true, Option.bind_some, Nat.zero_le, Nat.sub_zero]
          congr 1; omega
        -- no `operator*` at this level: `*e` has no type, and the right side finds no `m` either, since a method
        -- declared at a higher level would itself witness the star (`hasStar_of_methodOf`)
        · rw [if_neg hs]
          cases hm : D.methodOf t.cls (t.lvl + (j + 1 + 1)) m with
          | none => rfl
          | some r => exact absurd (hasStar_of_methodOf hm (by omega)) hs

/-- The C++ type of the access the translator synthesises for total indirection `k` on a receiver
of type `t`: the method of `t`'s class at `operator*` level `t.lvl + (k - t.depth)` — pointer
levels are consumed first, `operator*` levels after — and none when `t` has more than `k` pointer
levels. -/
theorem typeOf_access_eq (D : Decls) (Γ : List (String × CT)) (e : CExpr) (k : Nat) (m : String) (arg : Option Nat) :
    typeOf D Γ (accessE e k m (arg.map CExpr.lit)) =
      (typeOf D Γ e).bind fun t => if t.depth ≤ k then D.methodOf t.cls (t.lvl + (k - t.depth)) m else none := by
  rw [typeOf_accessE]
  cases k with
  | zero =>
    show (typeOf D Γ e).bind _ = _
    cases typeOf D Γ e with
    | none => rfl
    | some t => by_cases h : t.depth = 0 <;> simp [select_eq, h]
  | succ j => simpa using select_wrapE D Γ m j e

theorem typeOf_access (D : Decls) (Γ : List (String × CT)) (e : CExpr) (T : Term) (n : Nat) (m : String)
    (arg : Option Nat) (r : CT) (he : typeOf D Γ e = some (ctOf T)) (hm : D.methodOf T.name n m = some r) :
    typeOf D Γ (accessE e (T.depth + n) m (arg.map CExpr.lit)) = some r := by
  rw [typeOf_access_eq, he]
  simp only [Option.bind_some, ctOf]
  rw [if_pos (Nat.le_add_right _ _), Nat.zero_add, Nat.add_sub_cancel_left, hm]

theorem isDeclared_accessE (e : CExpr) (k : Nat) (m : String) (arg : Option CExpr) :
    isDeclaredValue (accessE e k m arg) = true := by
  cases arg <;> rfl

/-- the refusal list of the source is the property's (fails to build when the source changes it) -/
theorem generated_baseTypes : Generated.C10.baseTypes = specBaseTypes := by decide

/-- … and so is the type assumed for an undeclared method -/
theorem fallbackInfo_eq : fallbackInfo = ⟨.value { name := "double", depth := 0 }, 0⟩ := rfl

/-- `determine_type_mf` in the property's own constants -/
theorem determineTypeMf_eq (reg : Registry) (parent : Term) (m : String) :
    determineTypeMf reg parent m =
      match reg.find parent.name m with
      | some i => .ok (i, false)
      | none => if parent.name ∈ specBaseTypes then .error .cannotCall
                else .ok (⟨.value { name := "double", depth := 0 }, 0⟩, true) := by
  rw [determineTypeMf, generated_baseTypes, fallbackInfo_eq]; rfl

/-- a declaration is refused exactly when it has neither `return_type` nor `return_type_element`;
the refusal is a `KeyError` -/
def MethodMd.keyless (md : MethodMd) : Prop := md.returnType = none ∧ md.elemType = none

instance (md : MethodMd) : Decidable md.keyless := by unfold MethodMd.keyless; exact inferInstance

theorem mdInfo_eq (md : MethodMd) :
    mdInfo md = if md.keyless then .error .keyError else .ok (entryD md).2 := by
  obtain ⟨ts, m, rt, et, ct, dc, tt⟩ := md
  cases rt <;> cases et <;> simp [mdInfo, entryD, MethodMd.keyless]

/-- `process_metadata` on method declarations is all or nothing, and what it builds is the list of
per-declaration entries, last declaration first, on top of the old registry. -/
theorem processMds_eq : ∀ (mds : List MethodMd) (reg : Registry),
    processMds mds reg =
      if ∃ md ∈ mds, md.keyless then .error .keyError else .ok ((mds.map entryD).reverse ++ reg)
  | [], reg => by simp [processMds]
  | md :: rest, reg => by
    rw [processMds, mdInfo_eq]
    by_cases hk : md.keyless
    · simp [hk]
    · simp [hk, processMds_eq rest, Registry.add, entryD, mdKey]

theorem processMds_ok {mds : List MethodMd} {reg reg' : Registry} (h : processMds mds reg = .ok reg') :
    (∀ md ∈ mds, ¬ md.keyless) ∧ reg' = (mds.map entryD).reverse ++ reg := by
  rw [processMds_eq] at h
  split at h
  · cases h
  · next hk => cases h; exact ⟨fun md hm hmd => hk ⟨md, hm, hmd⟩, rfl⟩

/-- looking a method up among entries `entryD` made from declarations: the first declaration of it counts -/
theorem find_entries (t m : String) (reg : Registry) : ∀ (l : List MethodMd),
    Registry.find (l.map entryD ++ reg) t m =
      match l.find? (fun md => md.typeString = t ∧ md.method = m) with
      | some md => some (entryD md).2
      | none => reg.find t m
  | [] => rfl
  | md :: l => by
    rw [List.map_cons, List.cons_append, List.find?_cons]
    by_cases hk : md.typeString = t ∧ md.method = m
    · simp [Registry.find, entryD, mdKey, hk]
    · simp only [Registry.find, entryD, mdKey, hk, if_false, decide_false]
      exact find_entries t m reg l

/-- **C10.md_registry** — after `process_metadata`, looking a method up returns the *last*
declaration made for it in the list (what `determine_type_mf` will use), or what was registered
before when the list does not mention it. -/
theorem md_registry : ∀ (mds : List MethodMd) (reg reg' : Registry) (t m : String),
    processMds mds reg = .ok reg' →
    reg'.find t m =
      (match mds.reverse.find? (fun md => md.typeString = t ∧ md.method = m) with
       | some md => (mdInfo md).toOption
       | none => reg.find t m) := by
  intro mds reg reg' t m h
  obtain ⟨hk, rfl⟩ := processMds_ok h
  rw [← List.map_reverse, find_entries]
  cases hf : mds.reverse.find? (fun md => md.typeString = t ∧ md.method = m) with
  | none => rfl
  | some md =>
    show some (entryD md).2 = (mdInfo md).toOption
    rw [mdInfo_eq, if_neg (hk md (List.mem_reverse.1 (List.mem_of_find?_eq_some hf)))]; rfl

theorem splitDotsAux_spec : ∀ (s : List Char) (cur : Seg), '.' ∉ cur →
    splitDotsAux s cur ≠ [] ∧ ∀ seg ∈ splitDotsAux s cur, '.' ∉ seg := by
  intro s
  induction s with
  | nil => intro cur h; simp [splitDotsAux, h]
  | cons c r ih =>
    intro cur h
    unfold splitDotsAux
    by_cases hc : c = '.'
    · simp only [hc, if_true]
      refine ⟨by simp, ?_⟩
      intro seg hseg
      simp only [List.mem_cons] at hseg
      rcases hseg with rfl | hseg
      · simpa using h
      · exact (ih [] (by simp)).2 seg hseg
    · simp only [hc, if_false]
      exact ih (c :: cur) (by simp [h, Ne.symm hc])

theorem splitDots_ne_nil (s : List Char) : splitDots s ≠ [] := (splitDotsAux_spec s [] (by simp)).1
theorem splitDots_no_dot (s : List Char) : ∀ seg ∈ splitDots s, '.' ∉ seg := (splitDotsAux_spec s [] (by simp)).2

theorem mem_prefixes : ∀ (path a : List Seg), a ∈ prefixes path ↔ a ≠ [] ∧ a <+: path
  | [], a => by simp [prefixes]
  | x :: xs, a => by
    simp only [prefixes, List.mem_cons, List.mem_map, mem_prefixes xs]
    cases a with
    | nil => simp
    | cons y ys =>
      simp only [List.cons_prefix_cons, ne_eq, reduceCtorEq, not_false_eq_true, true_and, List.cons.injEq]
      constructor
      · rintro (⟨rfl, rfl⟩ | ⟨b, ⟨_, hb⟩, rfl, rfl⟩)
        · exact ⟨rfl, List.nil_prefix⟩
        · exact ⟨rfl, hb⟩
      · rintro ⟨rfl, h⟩
        cases ys with
        | nil => exact .inl ⟨rfl, rfl⟩
        | cons z zs => exact .inr ⟨_, ⟨by simp, h⟩, rfl, rfl⟩

theorem resolveFrom_walk (st : NsState) : ∀ (q p : List Seg) (tail : List Seg),
    (∀ a, a ≠ [] → a <+: q → p ++ a ∈ st.nss) →
    resolveFrom st (.ns p) (q ++ tail) = resolveFrom st (.ns (p ++ q)) tail
  | [], p, tail, _ => by simp
  | x :: q, p, tail, h => by
    have h1 : p ++ [x] ∈ st.nss := h [x] (by simp) (List.cons_prefix_cons.2 ⟨rfl, List.nil_prefix⟩)
    simp only [List.cons_append, resolveFrom, resolveStep, h1, if_true]
    rw [resolveFrom_walk st q (p ++ [x]) tail fun a ha hq => by
      simpa using h (x :: a) (by simp) (List.cons_prefix_cons.2 ⟨rfl, hq⟩)]
    simp

theorem replaceDots_append (a b : List Char) : replaceDots (a ++ b) = replaceDots a ++ replaceDots b := by
  induction a with
  | nil => rfl
  | cons c a ih =>
    simp only [List.cons_append, replaceDots]
    by_cases h : c = '.' <;> simp [h, ih]

theorem replaceDots_id (a : List Char) (h : '.' ∉ a) : replaceDots a = a := by
  induction a with
  | nil => rfl
  | cons c a ih =>
    simp only [List.mem_cons, not_or] at h
    simp [replaceDots, Ne.symm h.1, ih h.2]

theorem replaceDots_dotted : ∀ (ns : List Seg), (∀ seg ∈ ns, '.' ∉ seg) →
    replaceDots (dotted ns) = joinWith [':', ':'] ns := by
  intro ns
  induction ns with
  | nil => intro _; rfl
  | cons x xs ih =>
    intro h
    cases xs with
    | nil => simp [dotted, joinWith, replaceDots_id x (h x (by simp))]
    | cons y ys =>
      have hx := replaceDots_id x (h x (by simp))
      have := ih (fun seg hs => h seg (by simp [hs]))
      simp only [dotted, joinWith] at this ⊢
      rw [replaceDots_append, hx]
      simp only [replaceDots, if_true]
      rw [this]
      simp

theorem joinWith_snoc (sep : List Char) : ∀ (ns : List Seg) (v : Seg), ns ≠ [] →
    joinWith sep (ns ++ [v]) = joinWith sep ns ++ sep ++ v := by
  intro ns
  induction ns with
  | nil => intro v h; exact absurd rfl h
  | cons x xs ih =>
    intro v _
    cases xs with
    | nil => simp [joinWith]
    | cons y ys =>
      have := ih v (by simp)
      simp only [List.cons_append, joinWith] at this ⊢
      rw [this]
      simp

theorem valueAsCpp_qualified (e : EnumInfo) (v : Seg) (hne : e.ns ≠ []) (hns : ∀ seg ∈ e.ns, '.' ∉ seg)
    (hv : '.' ∉ v) : valueAsCpp e v = qualified e.ns v := by
  unfold valueAsCpp qualified
  rw [replaceDots_append, replaceDots_append, replaceDots_dotted e.ns hns, replaceDots_id v hv,
    joinWith_snoc _ _ _ hne]
  rfl

theorem findEnum_spec {st : NsState} {ns : List Seg} {name : Seg} {e : EnumInfo}
    (h : st.findEnum ns name = some e) : e.ns = ns ∧ e.name = name ∧ e ∈ st.enums := by
  unfold NsState.findEnum at h
  have h1 := List.find?_some h
  have h2 := List.mem_of_find?_eq_some h
  simp only [decide_eq_true_eq] at h1
  exact ⟨h1.1, h1.2, h2⟩

theorem findEnum_defineEnum (st : NsState) (ns : List Char) (name : Seg) (vs : List Seg) (p : List Seg) (n : Seg) :
    (defineEnum st ns name vs).findEnum p n =
      (st.findEnum p n).or (if splitDots ns = p ∧ name = n then some ⟨splitDots ns, name, vs⟩ else none) := by
  unfold defineEnum
  simp only
  cases hf : (defineNs st (splitDots ns)).findEnum (splitDots ns) name with
  | some e0 =>
    show st.findEnum p n = _
    by_cases h : splitDots ns = p ∧ name = n
    · obtain ⟨rfl, rfl⟩ := h
      rw [show st.findEnum (splitDots ns) name = some e0 from hf]; rfl
    · rw [if_neg h, Option.or_none]
  | none =>
    show List.find? _ (st.enums ++ [_]) = _
    rw [List.find?_append]
    congr 1
    by_cases h : splitDots ns = p ∧ name = n <;> simp [h]

theorem findEnum_defineEnum_self (st : NsState) (nsName : List Char) (name : Seg) (values : List Seg) :
    ∃ e, (defineEnum st nsName name values).findEnum (splitDots nsName) name = some e ∧
      (st.findEnum (splitDots nsName) name = none → e = ⟨splitDots nsName, name, values⟩) := by
  rw [findEnum_defineEnum, if_pos ⟨rfl, rfl⟩]
  cases st.findEnum (splitDots nsName) name with
  | some e => exact ⟨e, rfl, fun h => by cases h⟩
  | none => exact ⟨_, rfl, fun _ => rfl⟩

theorem defineEnum_nss (st : NsState) (nsName : List Char) (name : Seg) (values : List Seg) :
    (defineEnum st nsName name values).nss = (defineNs st (splitDots nsName)).nss := by
  unfold defineEnum
  simp only
  cases (defineNs st (splitDots nsName)).findEnum (splitDots nsName) name <;> rfl

theorem defineNs_of_mem (st : NsState) (path : List Seg) (h : ∀ a ∈ prefixes path, a ∈ st.nss) :
    defineNs st path = st :=
  congrArg (fun n => { st with nss := n }) (AddNew.foldl_id (prefixes path) st.nss h)

theorem mem_defineNs (st : NsState) (path : List Seg) (a : List Seg) :
    a ∈ (defineNs st path).nss ↔ a ∈ st.nss ∨ a ∈ prefixes path :=
  AddNew.mem_foldl (prefixes path) st.nss a

theorem defineNs_idem (st : NsState) (path : List Seg) : defineNs (defineNs st path) path = defineNs st path :=
  defineNs_of_mem _ _ fun _ ha => (mem_defineNs ..).2 (Or.inr ha)

theorem defineEnum_eq_of_find (st : NsState) (nsName : List Char) (name : Seg) (values : List Seg) (e : EnumInfo)
    (h : (defineNs st (splitDots nsName)).findEnum (splitDots nsName) name = some e) :
    defineEnum st nsName name values = defineNs st (splitDots nsName) := by
  unfold defineEnum
  simp only [h]

theorem defineEnum_nss_mem (st : NsState) (ns : List Char) (name : Seg) (vs : List Seg) (a : List Seg) :
    a ∈ (defineEnum st ns name vs).nss ↔ a ∈ st.nss ∨ a ∈ prefixes (splitDots ns) := by
  rw [defineEnum_nss, mem_defineNs]

theorem defineAll_nss_mem : ∀ (defs : List EnumDecl) (st : NsState) (a : List Seg),
    a ∈ (defineAll st defs).nss ↔ a ∈ st.nss ∨ ∃ d ∈ defs, a ∈ prefixes (splitDots d.ns) := by
  intro defs
  induction defs with
  | nil => intro st a; simp [defineAll]
  | cons d rest ih =>
    intro st a
    simp only [defineAll, ih, defineEnum_nss_mem, List.mem_cons, exists_eq_or_imp]
    constructor
    · rintro ((h | h) | h); exact Or.inl h; exact Or.inr (Or.inl h); exact Or.inr (Or.inr h)
    · rintro (h | h | h); exact Or.inl (Or.inl h); exact Or.inl (Or.inr h); exact Or.inr h

theorem firstDecl_spec {defs : List EnumDecl} {p : List Seg} {name : Seg} {d : EnumDecl}
    (h : firstDecl defs p name = some d) : splitDots d.ns = p ∧ d.name = name ∧ d ∈ defs := by
  unfold firstDecl at h
  have h1 := List.find?_some h
  simp only [decide_eq_true_eq] at h1
  exact ⟨h1.1, h1.2, List.mem_of_find?_eq_some h⟩

theorem findEnum_defineAll : ∀ (defs : List EnumDecl) (st : NsState) (p : List Seg) (n : Seg),
    (defineAll st defs).findEnum p n =
      (st.findEnum p n).or ((firstDecl defs p n).map fun d => ⟨p, n, d.values⟩) := by
  intro defs
  induction defs with
  | nil => intro st p n; simp [defineAll, firstDecl]
  | cons d rest ih =>
    intro st p n
    rw [defineAll, ih, findEnum_defineEnum]
    simp only [firstDecl, List.find?_cons]
    by_cases hk : splitDots d.ns = p ∧ d.name = n
    · obtain ⟨rfl, rfl⟩ := hk
      simp
    · simp [hk]

theorem resolve_enum_value (st : NsState) (p : List Seg) (name v : Seg) (e : EnumInfo)
    (hne : p ≠ []) (hpre : ∀ a, a ≠ [] → a <+: p → a ∈ st.nss)
    (hshadow : p ++ [name] ∉ st.nss) (hfind : st.findEnum p name = some e) (hv : v ∈ e.values) :
    resolvePath st (p ++ [name, v]) = .ok (.value (valueAsCpp e v) e.fullName) := by
  cases p with
  | nil => exact absurd rfl hne
  | cons x rest =>
    have hx : [x] ∈ st.nss := hpre [x] (by simp) (List.cons_prefix_cons.2 ⟨rfl, List.nil_prefix⟩)
    simp only [List.cons_append, resolvePath, hx, if_true]
    rw [resolveFrom_walk _ rest [x] [name, v] fun a _ ha => hpre (x :: a) (by simp) (List.cons_prefix_cons.2 ⟨rfl, ha⟩)]
    simp only [List.cons_append, List.nil_append] at hshadow hfind ⊢
    simp [resolveFrom, resolveStep, hshadow, hfind, hv]

theorem resolve_enum_qualified (st : NsState) (p : List Seg) (name v : Seg) (e : EnumInfo)
    (hne : p ≠ []) (hp : ∀ seg ∈ p, '.' ∉ seg) (hpre : ∀ a, a ≠ [] → a <+: p → a ∈ st.nss)
    (hshadow : p ++ [name] ∉ st.nss) (hfind : st.findEnum p name = some e) (hv : v ∈ e.values) (hdot : '.' ∉ v) :
    resolvePath st (p ++ [name, v]) = .ok (.value (qualified p v) e.fullName) := by
  obtain ⟨hens, _, _⟩ := findEnum_spec hfind
  rw [resolve_enum_value st p name v e hne hpre hshadow hfind hv,
    valueAsCpp_qualified e v (by rw [hens]; exact hne) (by rw [hens]; exact hp) hdot, hens]

end FaxVerif.C10
