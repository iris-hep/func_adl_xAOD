/-
C10 — extension theorems: member access for ANY total indirection (`ExtModel.lean` §B), enum constants through
EVERY depth of namespace nesting (§C), `process_metadata` as a fold that reads each declaration
on its own keys only (§D).
-/
import FaxVerif.C10.Proofs
namespace FaxVerif.C10

theorem rep_toList : ∀ (k : Nat) (s : String), (rep k s).toList = (List.replicate k s.toList).flatten
  | 0, s => by simp [rep]
  | k + 1, s => by
    show (s ++ rep k s).toList = _
    rw [String.toList_append, rep_toList k s, List.replicate_succ, List.flatten_cons]

theorem accessText_chars (x : String) (n : Nat) : (accessText x n).toList = accessChars x.toList n := by
  rw [accessText_closed]
  unfold accessClosed accessChars
  by_cases h0 : n = 0 <;> simp [h0, String.toList_append, rep_toList]

/-- **C10.access_any_depth** — for EVERY pointer depth `d` and `deref_count` `k` with total
indirection `d + k = n` (no bound on `n`): the access text is `x` under exactly `n - 1` explicit
dereferences `(*·)` followed by the one `->` when `n ≥ 1`, and `x.` when `n = 0`. Counted on the
characters: beyond what the receiver text holds there are `n - 1` stars, `n - 1` opening and
`n - 1` closing brackets, nothing else but the final `->` / `.`; and the counting predicate the
harness evaluates on the implementation's output (`shapeOk`) holds of it. -/
theorem access_any_depth (x : String) (d k n : Nat) (h : d + k = n) :
    (accessText x (d + k)).toList = accessChars x.toList n ∧
    (accessChars x.toList n).count '*' = x.toList.count '*' + (n - 1) ∧
    (n = 0 → accessChars x.toList n = x.toList ++ ['.']) ∧
    (0 < n → accessChars x.toList n =
      (List.replicate (n - 1) ['(', '*']).flatten ++ x.toList ++ List.replicate (n - 1) ')' ++ ['-', '>']) ∧
    shapeOk x.toList n (accessChars x.toList n) = true := by
  rw [h]
  refine ⟨accessText_chars x n, ?_, ?_, ?_, ?_⟩
  · unfold accessChars
    by_cases h0 : n = 0
    · simp [h0]
    · simp [h0, List.count_flatten, List.count_replicate]; omega
  · intro h0; simp [accessChars, h0]
  · intro h0; have : n ≠ 0 := by omega
    unfold accessChars; rw [if_neg this]
  · unfold shapeOk accessChars
    by_cases h0 : n = 0
    · simp [h0]
    · simp [h0, List.count_flatten, List.count_replicate]
      exact ⟨⟨⟨by omega, by omega⟩, by omega⟩,
        ((List.suffix_append _ _).trans (List.suffix_append _ _)).trans (List.suffix_append _ _)⟩

/-- the counting predicate pins the total down: two totals whose texts over the same receiver
both satisfy it on one observed text are equal (so a text with a star too few is refused). -/
theorem shape_exact (x obs : List Char) (n n' : Nat) (h : shapeOk x n obs = true) (h' : shapeOk x n' obs = true) :
    n = n' := by
  unfold shapeOk at h h'
  simp only [Bool.and_eq_true, beq_iff_eq] at h h'
  obtain ⟨⟨⟨⟨_, _⟩, _⟩, hl⟩, _⟩ := h
  obtain ⟨⟨⟨⟨_, _⟩, _⟩, hl'⟩, _⟩ := h'
  rw [hl] at hl'
  exact accessLen_inj (Nat.add_left_cancel hl')

example : accessChars "x".toList 0 = "x.".toList := by (repeat rw [String.toList_ofList]); decide +kernel
example : accessChars "x".toList 1 = "x->".toList := by (repeat rw [String.toList_ofList]); decide +kernel
example : accessChars "x".toList 6 = "(*(*(*(*(*x)))))->".toList := by (repeat rw [String.toList_ofList]); decide +kernel
-- what the seeded changes C10-1 / C10-e1 / C10-f2 emit for total 3 is refused
example : shapeOk "x".toList 3 "(*x)->".toList = false := by (repeat rw [String.toList_ofList]); decide +kernel
example : shapeOk "x".toList 3 "(*(*x))->".toList = true := by (repeat rw [String.toList_ofList]); decide +kernel

theorem nsObjFrom_fullName : ∀ (rest : List Seg) (v : NsObj),
    (nsObjFrom v rest).fullName = v.fullName ++ rest.flatMap ('.' :: ·)
  | [], v => by simp [nsObjFrom]
  | p :: rest, v => by
    rw [nsObjFrom, nsObjFrom_fullName rest]
    simp [NsObj.fullName, List.append_assoc]

theorem nsObjFrom_depth : ∀ (rest : List Seg) (v : NsObj), (nsObjFrom v rest).depth = v.depth + rest.length
  | [], v => by simp [nsObjFrom]
  | p :: rest, v => by rw [nsObjFrom, nsObjFrom_depth rest]; simp [NsObj.depth]; omega

theorem dotted_cons (x : Seg) (rest : List Seg) : dotted (x :: rest) = x ++ rest.flatMap ('.' :: ·) := by
  induction rest generalizing x with
  | nil => simp [dotted]
  | cons y rest ih =>
    show x ++ '.' :: dotted (y :: rest) = _
    rw [ih y]; simp

/-- `full_name` of the object `define_ns` returns is the dotted path — the recursion through
`parent_ns` reaches the top-level name whatever the depth. -/
theorem nsObj_fullName_dotted (path : List Seg) (obj : NsObj) (h : nsObjOf path = some obj) :
    obj.fullName = dotted path ∧ obj.depth = path.length := by
  cases path with
  | nil => simp [nsObjOf] at h
  | cons x rest =>
    simp only [nsObjOf, Option.some.injEq] at h
    subst h
    rw [nsObjFrom_fullName, nsObjFrom_depth, dotted_cons]
    simp [NsObj.fullName, NsObj.depth]; omega

/-- **C10.enum_qualified_any_depth** — for a namespace path of ANY length `n ≥ 1` (segments and
value name free of dots), the namespace object `define_ns` builds by `n - 1` nestings has depth
`n`, and `ENumInfo.value_as_cpp` — `full_name` computed by recursion through all `n - 1` parents,
then `.` ↦ `::` — is the fully qualified `p₁::p₂::…::pₙ::Value`: every level of the nesting
appears, in order. It is also what the flat table of `Model.lean` (`valueAsCpp`) holds, so
`enum_qualified` / `enum_world_resolves` speak about this object. -/
theorem enum_qualified_any_depth (path : List Seg) (v : Seg) (obj : NsObj)
    (hobj : nsObjOf path = some obj) (hns : ∀ seg ∈ path, '.' ∉ seg) (hv : '.' ∉ v) :
    obj.depth = path.length ∧ EnumOk path v (valueAsCppObj obj v) ∧
    ∀ (name : Seg) (values : List Seg), valueAsCpp ⟨path, name, values⟩ v = valueAsCppObj obj v := by
  obtain ⟨hfull, hdepth⟩ := nsObj_fullName_dotted path obj hobj
  have hne : path ≠ [] := by intro h; subst h; simp [nsObjOf] at hobj
  have hflat : ∀ (name : Seg) (values : List Seg), valueAsCpp ⟨path, name, values⟩ v = valueAsCppObj obj v := by
    intro name values; simp [valueAsCpp, valueAsCppObj, hfull]
  refine ⟨hdepth, ?_, hflat⟩
  unfold EnumOk
  rw [← hflat [] []]
  exact valueAsCpp_qualified ⟨path, [], []⟩ v hne hns hv

theorem nsObjOf_isSome (path : List Seg) (h : path ≠ []) : (nsObjOf path).isSome = true := by
  cases path with
  | nil => exact absurd rfl h
  | cons x rest => rfl

-- six levels of nesting; and the literal of seeded C10-e3 (`NS.Sub.Deep`)
example : (nsObjOf ["a".toList, "b".toList, "c".toList, "d".toList, "e".toList, "f".toList]).map
    (fun o => (o.depth, valueAsCppObj o "V".toList)) = some (6, "a::b::c::d::e::f::V".toList) := by (repeat rw [String.toList_ofList]); decide +kernel
example : (nsObjOf ["NS".toList, "Sub".toList, "Deep".toList]).map (fun o => valueAsCppObj o "Square".toList) =
    some "NS::Sub::Deep::Square".toList := by (repeat rw [String.toList_ofList]); decide +kernel

theorem processFold_error (mds : List MethodMd) (e : Err) : mds.foldl stepMd (.error e) = .error e := by
  induction mds with
  | nil => rfl
  | cons md rest ih => simpa [List.foldl, stepMd] using ih

/-- **C10.process_is_fold** — the method branch of `process_metadata` is a left fold of a
one-declaration step over the list; the only thing one iteration hands to the next is the registry. -/
theorem process_is_fold : ∀ (mds : List MethodMd) (reg : Registry), processMds mds reg = processFold mds reg
  | [], reg => rfl
  | md :: rest, reg => by
    unfold processMds processFold
    simp only [List.foldl, stepMd]
    cases hi : mdInfo md with
    | error e => simp [processFold_error]
    | ok i => simpa [processFold] using process_is_fold rest (reg.add md.typeString md.method i)

theorem addAll_append : ∀ (es : List ((String × String) × Info)) (reg : Registry), addAll es reg = es.reverse ++ reg
  | [], reg => rfl
  | e :: rest, reg => by rw [addAll, addAll_append rest]; simp

/-- the registry is the list of per-declaration entries: `entryD` sees one declaration -/
theorem process_eq_entries (mds : List MethodMd) (reg reg' : Registry) (h : processMds mds reg = .ok reg') :
    reg' = addAll (mds.map entryD) reg ∧ ∀ md ∈ mds, ∃ i, mdInfo md = .ok i := by
  obtain ⟨hk, rfl⟩ := processMds_ok h
  exact ⟨(addAll_append _ _).symm, fun md hm => ⟨_, by rw [mdInfo_eq, if_neg (hk md hm)]⟩⟩

/-- a list is accepted exactly when every declaration is, each judged on its own -/
theorem process_ok_iff (mds : List MethodMd) (reg : Registry) :
    (∃ reg', processMds mds reg = .ok reg') ↔ ∀ md ∈ mds, ∃ i, mdInfo md = .ok i := by
  refine ⟨fun ⟨reg', h⟩ => (process_eq_entries mds reg reg' h).2, fun h => ?_⟩
  rw [processMds_eq, if_neg]
  · exact ⟨_, rfl⟩
  · rintro ⟨md, hm, hmd⟩
    obtain ⟨i, hi⟩ := h md hm
    rw [mdInfo_eq, if_pos hmd] at hi; cases hi

/-- the defaults of a declaration are its own: `deref_count` is the declared one or 0, the
`tree_type` the declared one or none — nothing is inherited from an earlier item -/
theorem md_defaults_own (md : MethodMd) (i : Info) (h : mdInfo md = .ok i) :
    i.deref = md.derefCount.getD 0 ∧
    (∀ rt, md.returnType = some rt → ∃ t, i.rty = .value t ∧ t.tree = md.treeType) := by
  unfold mdInfo at h
  cases hr : md.returnType with
  | some rt =>
    simp only [hr, Except.ok.injEq] at h
    subst h
    exact ⟨rfl, fun rt' _ => ⟨_, rfl, rfl⟩⟩
  | none =>
    simp only [hr] at h
    cases he : md.elemType with
    | none => simp [he] at h
    | some et =>
      simp only [he, Except.ok.injEq] at h
      subst h
      exact ⟨rfl, fun rt' h' => by cases h'⟩

/-- **C10.declaration_local** — for EVERY two lists of declarations (any lengths, any contents,
on top of any registries) that both hold the declaration `md` with no later declaration of the
same (class, method): what is registered for `md` is the same in both, is `mdInfo md` — a function
of `md`'s own keys — and carries `md`'s own `deref_count` (0 when absent). No key of any other
declaration of the list has an influence. -/
theorem declaration_local (pre post pre' post' : List MethodMd) (md : MethodMd) (reg reg' r1 r2 : Registry)
    (h1 : processMds (pre ++ md :: post) reg = .ok r1) (h2 : processMds (pre' ++ md :: post') reg' = .ok r2)
    (hp : ∀ x ∈ post, mdKey x ≠ mdKey md) (hp' : ∀ x ∈ post', mdKey x ≠ mdKey md) :
    r1.find md.typeString md.method = r2.find md.typeString md.method ∧
    ∃ i, mdInfo md = .ok i ∧ r1.find md.typeString md.method = some i ∧ i.deref = md.derefCount.getD 0 := by
  have key : ∀ (pre post : List MethodMd) (reg r : Registry), processMds (pre ++ md :: post) reg = .ok r →
      (∀ x ∈ post, mdKey x ≠ mdKey md) → r.find md.typeString md.method = (mdInfo md).toOption := by
    intro pre post reg r h hpost
    rw [md_registry _ _ _ md.typeString md.method h]
    have hnone : post.reverse.find? (fun x => x.typeString = md.typeString ∧ x.method = md.method) = none := by
      rw [List.find?_eq_none]
      intro x hx
      have := hpost x (List.mem_reverse.1 hx)
      simp only [mdKey, ne_eq, Prod.mk.injEq] at this
      simpa using this
    have hnone' := hnone
    simp only [Bool.decide_and] at hnone'
    simp [List.find?_append, hnone']
  obtain ⟨i, hi⟩ := (process_eq_entries _ _ _ h1).2 md (by simp)
  have e1 := key pre post reg r1 h1 hp
  have e2 := key pre' post' reg' r2 h2 hp'
  refine ⟨by rw [e1, e2], i, hi, by rw [e1, hi]; rfl, (md_defaults_own md i hi).1⟩

theorem find?_perm {α} {p : α → Bool} {l l' : List α} (h : l.Perm l')
    (hu : l.Pairwise fun a b => ¬(p a = true ∧ p b = true)) : l.find? p = l'.find? p := by
  induction h with
  | nil => rfl
  | cons x _ ih => rw [List.find?_cons, List.find?_cons, ih (List.pairwise_cons.1 hu).2]
  | swap x y l =>
    -- `x` and `y` do not both satisfy `p`: whichever does is found first in either order
    have := (List.pairwise_cons.1 hu).1 x (by simp)
    simp only [List.find?_cons]
    cases hx : p x <;> cases hy : p y <;> simp_all
  | trans p1 _ ih1 ih2 =>
    exact (ih1 hu).trans (ih2 ((p1.pairwise_iff fun {a b} (hab : ¬(p a = true ∧ p b = true)) => fun h => hab h.symm).1 hu))

/-- **C10.declaration_order_free** — declarations of pairwise different (class, method) may be
processed in ANY order: every permutation of the list is accepted as well and gives a registry
that answers every lookup alike — in particular each method keeps its own `deref_count`. -/
theorem declaration_order_free (mds mds' : List MethodMd) (reg r1 : Registry) (hperm : mds.Perm mds')
    (hk : mds.Pairwise (fun a b => mdKey a ≠ mdKey b)) (h1 : processMds mds reg = .ok r1) :
    ∃ r2, processMds mds' reg = .ok r2 ∧ ∀ t m, r1.find t m = r2.find t m := by
  obtain ⟨hno, rfl⟩ := processMds_ok h1
  rw [processMds_eq, if_neg fun ⟨md, hm, hmd⟩ => hno md (hperm.mem_iff.2 hm) hmd]
  refine ⟨_, rfl, fun t m => ?_⟩
  -- a lookup finds the one declaration of (t, m), wherever it stands
  rw [← List.map_reverse, ← List.map_reverse, find_entries, find_entries,
    find?_perm ((List.reverse_perm mds).trans (hperm.trans (List.reverse_perm mds').symm))]
  exact List.pairwise_reverse.2 (hk.imp fun {a b} h ⟨ha, hb⟩ => h (by
    simp only [decide_eq_true_eq] at ha hb; simp only [mdKey, ha.1, ha.2, hb.1, hb.2]))

-- non-vacuity: the literal of seeded C10-f1 (`m` with deref_count 1, then `v` without), both orders
def exMds : List MethodMd :=
  [{ typeString := "T0", method := "m", returnType := some "T1", derefCount := some 1 },
   { typeString := "T1", method := "v", returnType := some "double" }]
example : ((processMds exMds []).toOption.bind (·.find "T1" "v")).map (·.deref) = some 0 := by decide +kernel
example : ((processMds exMds.reverse []).toOption.bind (·.find "T1" "v")).map (·.deref) = some 0 := by decide +kernel
example : ((processMds exMds []).toOption.bind (·.find "T0" "m")).map (·.deref) = some 1 := by decide +kernel
example : exMds.Pairwise (fun a b => mdKey a ≠ mdKey b) := by decide +kernel

end FaxVerif.C10
