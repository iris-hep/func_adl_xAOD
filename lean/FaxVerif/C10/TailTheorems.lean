/-
C10 — extension theorems, columns that end in a tail: `value op literal` (`+ - *`), `value / literal`,
`value cmp literal`, `value cmp enum-constant` over a chain of declared calls. What C++ type the
column is declared with, which `static_cast` is emitted, and that declaration and assignment are
well typed under the judgement of Spec.lean (the one evaluated on the implementation's text).
-/
import FaxVerif.C10.Theorems
namespace FaxVerif.C10

/-
Full statement (FALSE of the judgement as it stands for `float / literal`, see the docstring of
`tailDomain`; and outside the property for a pointer-valued or non-arithmetic operand, which the
translator passes on to the C++ compiler):
  every column `chain tail` the translator accepts is declared with the type of the tail's value
  and its assignment is well typed.
-/
/-- **C10.column_tail_typed_partial** — for every state a chain of
declared calls ends in, holding a non-pointer, non-const value of declared type `t`, and every
tail inside `tailDomain` (decidable): the column is declared with
  * `+ - *` literal: the declared `tree_type` of the METHOD when there is one, else `t` — the
    arithmetic keeps the method's terminal — fed through `static_cast<tree_type>` exactly when the
    names differ;
  * `/` literal: `double`, no cast of the column (an `int` numerator is cast inside);
  * comparison with a literal or with an enum constant: `bool`, no cast;
wrapped in `std::vector<…>` under a loop; and declaration, cast and assignment / `push_back` are
well typed (`colOk`). -/
theorem column_tail_typed_partial (D : Decls) (Γ0 : List (String × CT)) (s : ChainSt) (out : ColOut) (tl : Tail)
    (hinv : ChainInv D Γ0 s) (hfin : finishTail s tl = .ok out)
    (hconst : s.ty.term.isConst = false) (hdepth : s.ty.term.depth = 0)
    (hdom : tailDomain D s.ty.term tl = true) :
    colOk D s.gamma out.decl out.isSeq out.rhs = true ∧
    out.decl = seqWrap out.isSeq (tailDeclName s.ty.term tl) ∧
    (stripCast out.rhs).2 = tailCast s.ty.term tl :=
  column_tail_typed D Γ0 s out tl hinv hfin (fun _ _ _ => hconst) hdepth hdom

/-- **C10.col_tail_typed_partial** — end to end for one column with a tail: for every consistent
set of declarations, every element type of the event collection, every chain of calls / indexings
/ loops (any length) the translator accepts and every tail in `tailDomain`: the loops type check
from the event-collection element outwards, and the column is declared with `tailDeclName`, fed
through `tailCast`, and well typed. Hypotheses on the chain as in `chain_typed_partial`. -/
theorem col_tail_typed_partial (D : Decls) (rootElem : Term) (steps : List Step) (tl : Tail) (s : ChainSt) (out : ColOut)
    (hc : D.consistent = true) (hch : runChain D.reg steps (initSt rootElem) = .ok s)
    (hfin : finishTail s tl = .ok out)
    (hwarn : ∀ w ∈ s.warns, w ∈ D.warned) (hnoat : ∀ w ∈ D.warned, w.2 ≠ "at")
    (hshallow : ∀ d ∈ s.iterDepths, d ≤ 1)
    (hconst : s.ty.term.isConst = false) (hdepth : s.ty.term.depth = 0)
    (hdom : tailDomain D s.ty.term tl = true) :
    runColT D.reg rootElem steps tl = .ok out ∧
    ∃ Γ, loopsOk D [(loopVar 0, ctOf rootElem)] out.loops = some Γ ∧
      colOk D Γ out.decl out.isSeq out.rhs = true ∧
      out.decl = seqWrap out.isSeq (tailDeclName s.ty.term tl) ∧
      (stripCast out.rhs).2 = tailCast s.ty.term tl := by
  have hinv := runChain_inv D [(loopVar 0, ctOf rootElem)] hc hnoat steps _ s hch (initial_inv D rootElem) hwarn hshallow
  have hcol := column_tail_typed_partial D _ s out tl hinv hfin hconst hdepth hdom
  obtain ⟨_, _, _, _, _, hout⟩ := finishTail_ok hfin
  refine ⟨by simp only [runColT, hch, hfin], s.gamma, ?_, hcol⟩
  rw [hout]; exact hinv.loops

-- non-vacuity: `T1::v` is a double stored as float; `T0::m1` leads to it through a deref count and a double pointer
def exSt : Except Err ChainSt := runChain exReg [.call "m1" none, .call "v" none] (initSt { name := "T0", depth := 1 })
example : (exSt.toOption.map fun s => tailDomain exD s.ty.term (.arith .mul 2)) = some true := by decide +kernel
example : (runColT exReg { name := "T0", depth := 1 } [.call "m1" none, .call "v" none] (.arith .mul 2)).toOption.map
    (fun o => (o.decl, render o.rhs)) = some ("float", "static_cast<float>(((*(*v0)->m1())->v()*2))") := by decide +kernel
example : (runColT exReg { name := "T0", depth := 1 } [.call "m1" none, .call "v" none] (.div 2)).toOption.map
    (fun o => (o.decl, render o.rhs)) = some ("double", "((*(*v0)->m1())->v()/2)") := by decide +kernel
example : (runColT exReg { name := "T0", depth := 1 } [.call "m1" none, .call "c" none, .each, .call "v" none] (.cmp .gt 3)).toOption.map
    (fun o => (o.decl, render o.rhs)) = some ("std::vector<bool>", "(v1->v()>3)") := by decide +kernel

end FaxVerif.C10
