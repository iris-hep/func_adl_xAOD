/-
C10 — the property as decidable predicates.

* `DecorOk`      what `parse_type` must return on a decorated type string (base, `k` stars, blanks anywhere)
* `AccessOk`     the closed form of a member access for total indirection `k`
* `typeOf`       a C++ typing judgement for the emitted expression subset (`.`, `->`, unary `*`,
                 `at`, comparison, `+`, `static_cast`) against the classes *the metadata declares*:
                 class `T` has, at `operator*` level `n`, exactly the methods declared with
                 `deref_count = n`; a collection class is iterable and has `at` with its element type
* `fragOk`       the per-event code of a query is well typed and every column carries the declared
                 (tree) type — evaluated on the IMPLEMENTATION's text through `parseExpr`
* `EnumOk`       an enum constant renders as `ns::…::Value`

The same `typeOf` is the statement of `access_typed` / `chain_typed_partial` about the model and the oracle
run on the implementation's output.
-/
import FaxVerif.C10.Model
namespace FaxVerif.C10

/-! ### parse_type on decorated strings -/

/-- `pre [const ] base (gap *)… post` with `pre`, `post` and every `gap` blank -/
def decorate (isConst : Bool) (base : List Char) (pre : List Char) (gaps : List (List Char)) (post : List Char) : List Char :=
  pre ++ (if isConst then constPrefix else []) ++ base ++ gaps.flatMap (· ++ ['*']) ++ post

def allWs (l : List Char) : Bool := l.all isPyWs

/-- the name is not empty and does not end with a blank or a star -/
def EndsClean (base : List Char) : Prop :=
  ∃ c, base.getLast? = some c ∧ isPyWs c = false ∧ c ≠ '*'

/-- the name does not begin with a blank nor with the word `const ` -/
def StartsClean (base : List Char) : Prop :=
  (∀ c, base.head? = some c → isPyWs c = false) ∧ constPrefix.isPrefixOf base = false

/-- a base type name the decoration cannot be confused with (anything may happen in between:
`std::vector<int *>`, `unsigned  long`) -/
def Clean (base : List Char) : Prop := EndsClean base ∧ StartsClean base

instance (b : List Char) : Decidable (EndsClean b) := by
  unfold EndsClean
  cases h : b.getLast? with
  | none => exact isFalse (by simp)
  | some c =>
    by_cases hc : isPyWs c = false ∧ c ≠ '*'
    · exact isTrue ⟨c, rfl, hc⟩
    · exact isFalse (by rintro ⟨c', h', h''⟩; cases h'; exact hc h'')
instance (b : List Char) : Decidable (StartsClean b) := by
  unfold StartsClean
  cases h : b.head? with
  | none => exact (if h2 : constPrefix.isPrefixOf b = false then isTrue ⟨by simp, h2⟩ else isFalse (fun x => h2 x.2))
  | some c =>
    exact (if h2 : isPyWs c = false ∧ constPrefix.isPrefixOf b = false then isTrue ⟨by intro c' hc'; cases hc'; exact h2.1, h2.2⟩
      else isFalse (fun x => h2 ⟨x.1 c rfl, x.2⟩))
instance (b : List Char) : Decidable (Clean b) := by unfold Clean; exact inferInstance

def DecorOk (isConst : Bool) (base : List Char) (gaps : List (List Char)) (observed : Parsed) : Prop :=
  observed = ⟨base, gaps.length, isConst⟩

instance (c : Bool) (b : List Char) (g : List (List Char)) (o : Parsed) : Decidable (DecorOk c b g o) := by
  unfold DecorOk; exact inferInstance

/-! ### member access, closed form -/

def rep : Nat → String → String
  | 0, _ => ""
  | k + 1, s => s ++ rep k s

/-- `x.` for indirection 0, `x->` for 1, `(*…(*x)…)->` with `k-1` stars otherwise -/
def accessClosed (x : String) (k : Nat) : String :=
  if k = 0 then x ++ "." else rep (k - 1) "(*" ++ x ++ rep (k - 1) ")" ++ "->"

def AccessOk (x : String) (d n : Nat) (observed : String) : Prop := observed = accessClosed x (d + n)

instance (x : String) (d n : Nat) (o : String) : Decidable (AccessOk x d n o) := by
  unfold AccessOk; exact inferInstance

/-! ### the classes the metadata declares -/

structure Decls where
  reg : Registry
  rootColl : String := ""          -- class of the event collection
  rootElem : CT := default         -- its element type
  enums : List (String × String) := []    -- C++ text of a constant ↦ C++ name of its enum type
  warned : List (String × String) := []   -- (type, method): fallbacks the translator warned about

/-- the element type of the first declared collection whose array class is `c` -/
def findColl : Registry → String → Option CT
  | [], _ => none
  | (_, ⟨.coll arr elem, _⟩) :: rest, c => if arr.name = c then some (ctOf elem) else findColl rest c
  | (_, ⟨.value _, _⟩) :: rest, c => findColl rest c

def Decls.iterOf (D : Decls) (c : String) : Option CT :=
  if c = D.rootColl then some D.rootElem else findColl D.reg c

/-- class `c` has an `operator*` at level `l`: some method of `c` is declared with a larger deref count -/
def Decls.hasStar (D : Decls) (c : String) (l : Nat) : Bool :=
  D.reg.any fun x => x.1.1 = c ∧ l < x.2.deref

/-- the property's own constants (not the generated ones): an undeclared method is a `double` -/
def fallbackCT : CT := { cls := "double", lvl := 0, depth := 0 }

/-- … unless the receiver is one of these, on which a method call is refused -/
def specBaseTypes : List String := ["double", "float", "int"]

/-- the method `m` of class `c` at `operator*` level `l` -/
def Decls.methodOf (D : Decls) (c : String) (l : Nat) (m : String) : Option CT :=
  match D.reg.find c m with
  | some i => if i.deref = l then some (ctOf i.rty.term) else none
  | none =>
    if l ≠ 0 then none
    else
      let fb : Option CT :=
        if (c, m) ∈ D.warned ∧ c ∉ specBaseTypes then some fallbackCT else none
      if m = "at" then (match D.iterOf c with | some E => some E | none => fb) else fb

def arithAll : List String := ["double", "float", "int", "bool", "long", "short", "char", "unsigned", "unsigned int", "long long", "size_t"]

def cmpOps : List String := ["==", "!=", "<", "<=", ">", ">="]
def arithOps : List String := ["+", "-", "*", "/"]

def Decls.isEnum (D : Decls) (c : String) : Bool := D.enums.any (·.2 = c)

def promote (a b : String) : String :=
  if a = "double" ∨ b = "double" then "double" else if a = "float" ∨ b = "float" then "float" else "int"

/-- member selection on a receiver of type `t` -/
def Decls.select (D : Decls) (t : CT) (arrow : Bool) (m : String) : Option CT :=
  match t.depth with
  | 0 => if arrow then D.methodOf t.cls (t.lvl + 1) m else D.methodOf t.cls t.lvl m
  | 1 => if arrow then D.methodOf t.cls t.lvl m else none
  | _ => none

/-- The typing judgement, as a function (`none` = ill typed). -/
def typeOf (D : Decls) (Γ : List (String × CT)) : CExpr → Option CT
  | .var x => Γ.lookup x
  | .lit _ => some { cls := "int", lvl := 0, depth := 0 }
  | .qual t => (D.enums.lookup t).map fun c => { cls := c, lvl := 0, depth := 0 }
  | .paren e => typeOf D Γ e
  | .deref e =>
    match typeOf D Γ e with
    | none => none
    | some t =>
      match t.depth with
      | d + 1 => some { cls := t.cls, lvl := t.lvl, depth := d }
      | 0 => if D.hasStar t.cls t.lvl then some { cls := t.cls, lvl := t.lvl + 1, depth := 0 } else none
  | .mem0 e arrow m =>
    match typeOf D Γ e with
    | none => none
    | some t => D.select t arrow m
  | .mem1 e arrow m a =>
    match typeOf D Γ e, typeOf D Γ a with
    | some t, some _ => D.select t arrow m
    | _, _ => none
  | .bin op a b =>
    match typeOf D Γ a, typeOf D Γ b with
    | some ta, some tb =>
      if ta.depth = 0 ∧ tb.depth = 0 ∧ ta.lvl = 0 ∧ tb.lvl = 0 then
        if op ∈ cmpOps then
          if (ta.cls ∈ arithAll ∧ tb.cls ∈ arithAll) ∨ (ta.cls = tb.cls ∧ D.isEnum ta.cls) then
            some { cls := "bool", lvl := 0, depth := 0 } else none
        else if op ∈ arithOps then
          if ta.cls ∈ arithAll ∧ tb.cls ∈ arithAll then some { cls := promote ta.cls tb.cls, lvl := 0, depth := 0 } else none
        else none
      else none
    | _, _ => none
  | .cast ty e =>
    match typeOf D Γ e with
    | none => none
    | some t =>
      if t.depth = 0 ∧ t.lvl = 0 ∧ (t.cls ∈ arithAll ∨ D.isEnum t.cls) ∧ ty ∈ arithAll then
        some { cls := ty, lvl := 0, depth := 0 } else none

/-- a declared collection type is consistent with the class table: its array class has that
element type -/
def tyOk (D : Decls) : RTy → Bool
  | .value _ => true
  | .coll arr elem => D.iterOf arr.name = some (ctOf elem)

/-- The declarations describe one set of C++ classes: every collection class has one element
type (also the event collection), and `at` is not declared as an ordinary method. -/
def Decls.consistent (D : Decls) : Bool :=
  D.reg.all fun x => tyOk D x.2.rty && x.1.2 != "at"

/-- what a range-`for` over an expression of type `t` binds its variable to -/
def Decls.iterOfTy (D : Decls) (t : CT) : Option CT :=
  if t.depth = 0 ∧ t.lvl = 0 then D.iterOf t.cls else none

/-- type the loops outermost first, extending the environment -/
def loopsOk (D : Decls) : List (String × CT) → List (String × CExpr) → Option (List (String × CT))
  | Γ, [] => some Γ
  | Γ, (v, c) :: rest =>
    match typeOf D Γ c with
    | none => none
    | some t =>
      match D.iterOfTy t with
      | none => none
      | some E => loopsOk D ((v, E) :: Γ) rest

def stripCast : CExpr → CExpr × Option String
  | .cast ty e => (e, some ty)
  | e => (e, none)

/-- is the value a declared method's result (or a collection element) as such? -/
def isDeclaredValue : CExpr → Bool
  | .mem0 .. => true
  | .mem1 .. => true
  | .var _ => true
  | _ => false

/-- A column `decl name; name = rhs;` (or `name.push_back(rhs)`): `rhs` is well typed, the class
variable carries the declared tree type (or the declared type) with the value's pointer depth,
and a `static_cast` to it is present exactly when the two names differ. -/
def colOk (D : Decls) (Γ : List (String × CT)) (decl : String) (isSeq : Bool) (rhs : CExpr) : Bool :=
  let (inner, castTy) := stripCast rhs
  match typeOf D Γ inner, typeOf D Γ rhs with
  | some t, some _ =>
    let tn := castTy.getD t.cls
    let nameOk :=
      if isDeclaredValue inner then tn = t.tree.getD t.cls
      else tn ∈ arithAll
    let castOk := match castTy with | some c => c ≠ t.cls | none => true
    let s := tn ++ starsS t.depth
    nameOk && castOk && decl = (if isSeq then "std::vector<" ++ s ++ ">" else s)
  | _, _ => false

/-! ### a parser for the emitted expression text (used on the implementation's output) -/

def isIdStart (c : Char) : Bool := c.isAlpha || c = '_'
def isIdChar (c : Char) : Bool := c.isAlphanum || c = '_'

def takeWhileL (p : Char → Bool) : List Char → List Char × List Char
  | [] => ([], [])
  | c :: r => if p c then let (a, b) := takeWhileL p r; (c :: a, b) else ([], c :: r)

/-- `ident(::ident)*` -/
def takeQualId : Nat → List Char → List Char × List Char
  | 0, s => ([], s)
  | f + 1, s =>
    let (a, r) := takeWhileL isIdChar s
    match r with
    | ':' :: ':' :: c :: r' =>
      if isIdStart c then let (b, r'') := takeQualId f (c :: r'); (a ++ ':' :: ':' :: b, r'') else (a, r)
    | _ => (a, r)

/-- text up to the `>` matching an already consumed `<` -/
def takeAngle : Nat → List Char → Option (List Char × List Char)
  | _, [] => none
  | n, c :: r =>
    if c = '>' then (match n with | 0 => some ([], r) | n + 1 => (takeAngle n r).map fun (a, b) => (c :: a, b))
    else if c = '<' then (takeAngle (n + 1) r).map fun (a, b) => (c :: a, b)
    else (takeAngle n r).map fun (a, b) => (c :: a, b)

def binOps : List (List Char) := ["==", "!=", "<=", ">=", "<", ">", "+", "-", "*", "/"].map String.toList

def takeOp (s : List Char) : Option (String × List Char) :=
  (binOps.find? (·.isPrefixOf s)).map fun op => (String.ofList op, s.drop op.length)

def castKw : List Char := "static_cast<".toList

mutual
  /-- `*`-prefixed postfix expression -/
  def parseU : Nat → List Char → Option (CExpr × List Char)
    | 0, _ => none
    | f + 1, '*' :: r => (parseU f r).map fun (e, r') => (.deref e, r')
    | f + 1, s => match parseA f s with
      | none => none
      | some (a, r) => parseSuffix f a r
  /-- atom: `(B)`, `static_cast<T>(B)`, number, (qualified) identifier -/
  def parseA : Nat → List Char → Option (CExpr × List Char)
    | 0, _ => none
    | f + 1, '(' :: r =>
      match parseB f r with
      | some (e, ')' :: r') => some (.paren e, r')
      | _ => none
    | f + 1, s =>
      if castKw.isPrefixOf s then
        match takeAngle 0 (s.drop castKw.length) with
        | some (ty, '(' :: r) =>
          match parseB f r with
          | some (e, ')' :: r') => some (.cast (String.ofList ty) e, r')
          | _ => none
        | _ => none
      else match s with
        | [] => none
        | c :: _ =>
          if c.isDigit then
            let (ds, r) := takeWhileL Char.isDigit s
            some (.lit (String.ofList ds).toNat!, r)
          else if isIdStart c then
            let (q, r) := takeQualId s.length s
            if q.contains ':' then some (.qual (String.ofList q), r) else some (.var (String.ofList q), r)
          else none
  /-- `.m(…)` / `->m(…)` suffixes -/
  def parseSuffix : Nat → CExpr → List Char → Option (CExpr × List Char)
    | 0, _, _ => none
    | f + 1, e, s =>
      let go (arrow : Bool) (r : List Char) : Option (CExpr × List Char) :=
        let (m, r1) := takeWhileL isIdChar r
        if m.isEmpty then none else
        match r1 with
        | '(' :: ')' :: r2 => parseSuffix f (.mem0 e arrow (String.ofList m)) r2
        | '(' :: r2 =>
          match parseB f r2 with
          | some (a, ')' :: r3) => parseSuffix f (.mem1 e arrow (String.ofList m) a) r3
          | _ => none
        | _ => none
      match s with
      | '.' :: r => go false r
      | '-' :: '>' :: r => go true r
      | _ => some (e, s)
  /-- one optional binary operator between two `U`s -/
  def parseB : Nat → List Char → Option (CExpr × List Char)
    | 0, _ => none
    | f + 1, s =>
      match parseU f s with
      | none => none
      | some (a, r) =>
        match takeOp r with
        | none => some (a, r)
        | some (op, r') =>
          match parseU f r' with
          | none => none
          | some (b, r'') => some (.bin op a b, r'')
end

def parseExpr (s : String) : Option CExpr :=
  let l := s.toList
  match parseB (8 * l.length + 16) l with
  | some (e, []) => some e
  | _ => none

/-! ### the whole per-event fragment, as observed in the implementation's text -/

structure ColObs where
  name : String
  decl : String
  isSeq : Bool
  rhs : String

structure FragObs where
  root : String                     -- the variable holding the event collection
  loops : List (String × String)    -- (`for` variable, collection text), in text order
  cols : List ColObs

def parseLoops : List (String × String) → Option (List (String × CExpr))
  | [] => some []
  | (v, c) :: rest =>
    match parseExpr c, parseLoops rest with
    | some e, some l => some ((v, e) :: l)
    | _, _ => none

/-- `.ok ()` or the first reason why the fragment is not type correct against `D` -/
def fragOk (D : Decls) (f : FragObs) : Except String Unit := do
  for w in D.warned do
    if (D.reg.find w.1 w.2).isSome then
      throw s!"a fallback warning was logged for {w.1}::{w.2} although it is declared"
  let some loops := parseLoops f.loops
    | throw "a loop collection expression is outside the emitted expression language"
  let Γ0 : List (String × CT) := [(f.root, { cls := D.rootColl, lvl := 0, depth := 1 })]
  let some Γ := loopsOk D Γ0 loops
    | throw "a range-for iterates over an expression that is not a (dereferenced) collection of the declared classes"
  for c in f.cols do
    let some e := parseExpr c.rhs
      | throw s!"column {c.name}: `{c.rhs}` is outside the emitted expression language"
    if (typeOf D Γ (stripCast e).1).isNone then
      throw s!"column {c.name}: `{c.rhs}` is ill typed against the declared classes (wrong ./->/* for the total indirection, or a method that is neither declared nor warned about)"
    if !colOk D Γ c.decl c.isSeq e then
      throw s!"column {c.name}: declared as `{c.decl}`, which is not the declared (tree) type of `{c.rhs}`, or the static_cast is wrong"
  return ()

/-! ### which queries the property obliges the translator to accept -/

/-- the type a step leads to; `none` = the property lets the translator refuse (method call on
`double`/`float`/`int`, index or loop on something that is not a collection) -/
def specStepTy (reg : Registry) (ty : RTy) : Step → Option RTy
  | .call m _ =>
    match reg.find ty.term.name m with
    | some i => some i.rty
    | none => if ty.term.name ∈ specBaseTypes then none else some (.value { name := "double", depth := 0 })
  | .index _ => match ty with | .coll _ e => some (.value e) | .value _ => none
  | .each => match ty with | .coll _ e => some (.value e) | .value _ => none

def specRunTy (reg : Registry) : RTy → List Step → Option RTy
  | ty, [] => some ty
  | ty, st :: rest => match specStepTy reg ty st with
    | none => none
    | some ty' => specRunTy reg ty' rest

/-- a column must be accepted when its chain runs through and ends in a value (for `+ 1`: an
`int`/`float`/`double`) -/
def specAccepts (reg : Registry) (rootElem : Term) (steps : List Step) (fin : ColFin) : Bool :=
  match specRunTy reg (.value rootElem) steps with
  | none => false
  | some (.coll _ _) => false
  | some (.value t) => match fin with
    | .addOne => t.name ∈ arithNames
    | _ => true

/-! ### enums -/

def joinWith (sep : List Char) : List Seg → List Char
  | [] => []
  | [x] => x
  | x :: xs => x ++ sep ++ joinWith sep xs

/-- `ns1::ns2::Value` -/
def qualified (ns : List Seg) (v : Seg) : List Char := joinWith [':', ':'] (ns ++ [v])

def EnumOk (ns : List Seg) (v : Seg) (observed : List Char) : Prop := observed = qualified ns v

instance (ns : List Seg) (v : Seg) (o : List Char) : Decidable (EnumOk ns v o) := by
  unfold EnumOk; exact inferInstance

/-- the declaration that counts for enum `name` in namespace path `p`: the first one processed -/
def firstDecl (defs : List EnumDecl) (p : List Seg) (name : Seg) : Option EnumDecl :=
  defs.find? fun d => splitDots d.ns = p ∧ d.name = name

/-- no declared namespace has the enum's own path as a prefix (C++ could not have both either) -/
def notShadowed (defs : List EnumDecl) (p : List Seg) (name : Seg) : Bool :=
  defs.all fun d => !(p ++ [name]).isPrefixOf (splitDots d.ns)

/-- What the python expression `p₁.….pₖ.name.v` must render as in a query whose metadata makes the
declarations `defs` (any number of enums, in any namespaces, in this processing order): stated
on the declarations alone, not on the model's namespace table. `none` = the property does not
oblige the translator to resolve it. -/
def expectedEnum (defs : List EnumDecl) (p : List Seg) (name v : Seg) : Option (List Char) :=
  match firstDecl defs p name with
  | some d => if v ∈ d.values ∧ '.' ∉ v ∧ notShadowed defs p name then some (qualified p v) else none
  | none => none

end FaxVerif.C10
