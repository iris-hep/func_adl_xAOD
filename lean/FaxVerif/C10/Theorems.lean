/-
C10 — property theorems. But for the `_counterexample`s and the facts about the generated table
(`fallback_logs_warning`, `md_keys`), every statement is universally quantified: over all base names, pointer
depths and interleavings of blanks, all indirection totals, all registries, receivers and deref
counts, all metadata lists, all chains of calls, all namespace states.
-/
import FaxVerif.C10.Columns
namespace FaxVerif.C10

/-- **C10.parse_type** — for every base name that does not itself begin with a blank or `const `
and does not end with a blank or a star, every pointer depth `k = gaps.length`, every choice of
blank runs before the name, before each star and after the last star, and with or without a
leading `const `: `parse_type` returns exactly (base, k, const?). -/
theorem parse_type (isConst : Bool) (base pre post : List Char) (gaps : List (List Char))
    (hb : Clean base) (hpre : allWs pre = true) (hpost : allWs post = true)
    (hg : ∀ g ∈ gaps, allWs g = true) :
    DecorOk isConst base gaps (parseType (decorate isConst base pre gaps post)) :=
  parse_decorate_gen isConst base pre post gaps hb.1 (fun _ => hb.2) hpre hpost hg

/-- The same for a `const` type whose name may begin with anything (the Python does not strip
after removing `const `): only the end of the name matters. -/
theorem parse_type_const (base pre post : List Char) (gaps : List (List Char))
    (hb : EndsClean base) (hpre : allWs pre = true) (hpost : allWs post = true)
    (hg : ∀ g ∈ gaps, allWs g = true) :
    DecorOk true base gaps (parseType (decorate true base pre gaps post)) :=
  parse_decorate_gen true base pre post gaps hb (by intro h; cases h) hpre hpost hg

/-- **C10.parse_print_idem** — printing a parsed type the way `terminal.__str__` does and parsing
it again gives the same parsed type, for *every* input string (also ill-formed ones). -/
theorem parse_print_idem (s : List Char) : parseType (parseType s).full = parseType s := by
  have := parseType_clean s
  generalize parseType s = p at this
  obtain ⟨name, k, c⟩ := p
  rcases this with ⟨rfl, rfl⟩ | ⟨he, hs⟩
  · simp only [Parsed.full, Bool.false_eq_true, if_false, List.nil_append]
    unfold parseType
    rw [stars_reverse, stripStars_stars]
    simp [constPrefix]
  · exact parse_full name k c he hs

theorem print_parse_idem (s : List Char) :
    (parseType (parseType s).full).full = (parseType s).full := by rw [parse_print_idem]

-- non-vacuity / literals the repo's own tests use. A string literal is `String.ofList` of its
-- characters: `String.toList_ofList` reads `"…".toList` off, where evaluation would have the kernel
-- decode UTF-8 at many times the cost of everything else in these statements.
example : parseType "const  std::vector<int *> * *  ".toList = ⟨" std::vector<int *>".toList, 2, true⟩ := by (repeat rw [String.toList_ofList]); decide +kernel
example : Clean "std::vector<int *>".toList := by (repeat rw [String.toList_ofList]); decide +kernel
example : Clean "unsigned  long".toList := by (repeat rw [String.toList_ofList]); decide +kernel
example : ¬ Clean "int*".toList := by (repeat rw [String.toList_ofList]); decide +kernel
example : parseType "float".toList = ⟨"float".toList, 0, false⟩ := by (repeat rw [String.toList_ofList]); decide +kernel
example : parseType "int**".toList = ⟨"int".toList, 2, false⟩ := by (repeat rw [String.toList_ofList]); decide +kernel
/-- `CPPParsedTypeInfo.__str__` loses `const`: the default collection type of a `const T*`
element is `std::vector<T*>` -/
example : (parseType "const T *".toList).str = "T*".toList := by (repeat rw [String.toList_ofList]); decide +kernel

/-- **C10.access_depth** — for every pointer depth `d` and extra dereference count `n`,
`base_type_member_access` returns `x.` when `d + n = 0` and otherwise `x` under exactly
`d + n - 1` applications of `(*·)` followed by `->`: the text consumes `d + n` indirections. -/
theorem access_depth (x : String) (d n : Nat) : AccessOk x d n (accessText x (d + n)) :=
  accessText_closed x (d + n)

/-- **C10.access_injective** — different totals give different texts: the number of indirections
an access consumes can be read off the text. -/
theorem access_injective (x : String) (k k' : Nat) (h : accessText x k = accessText x k') : k = k' := by
  rw [accessText_closed, accessText_closed] at h
  have := congrArg String.length h
  rw [accessClosed_length, accessClosed_length] at this
  exact accessLen_inj (Nat.add_left_cancel this)

theorem access_render (e : CExpr) (k : Nat) (m : String) :
    render (accessE e k m none) = accessText (render e) k ++ m ++ "()" := by
  unfold accessE accessText
  by_cases h : k = 0
  · subst h; simp [render, wrapE, String.append_assoc]
  · have hk : 0 < k := Nat.pos_of_ne_zero h
    simp [render, render_wrapE, h, hk, String.append_assoc]

example : accessText "x" 0 = "x." := by decide +kernel
example : accessText "x" 1 = "x->" := by decide +kernel
example : accessText "x" 2 = "(*x)->" := by decide +kernel
example : accessText "x" 4 = "(*(*(*x)))->" := by decide +kernel

/-- **C10.access_typed** — the C++ typing rules for `.`, `->` and unary `*`: if `e` has type `T`
behind `d` pointers and the metadata declares method `m` of `T` with deref count `n` and return
type `ρ`, then the synthesised access `(*…(*e))->m()` / `e->m()` / `e.m()` for total indirection
`d + n` is well typed and has type `ρ` — for every `d` and `n`. -/
theorem access_typed (D : Decls) (Γ : List (String × CT)) (e : CExpr) (T : Term) (m : String) (i : Info)
    (he : typeOf D Γ e = some (ctOf T)) (hdecl : D.reg.find T.name m = some i) :
    typeOf D Γ (accessE e (T.depth + i.deref) m none) = some (ctOf i.rty.term) :=
  typeOf_access D Γ e T i.deref m none _ he (methodOf_declared hdecl)

/-- **C10.access_exact** — and only for that total: an access built for any other number of
indirections (a dropped `deref_count`, `.` for `->`, one star too many or too few) is ill typed. -/
theorem access_exact (D : Decls) (Γ : List (String × CT)) (e : CExpr) (T : Term) (m : String) (i : Info)
    (k : Nat) (he : typeOf D Γ e = some (ctOf T)) (hdecl : D.reg.find T.name m = some i) :
    (typeOf D Γ (accessE e k m none)).isSome ↔ k = T.depth + i.deref := by
  rw [show accessE e k m none = accessE e k m ((none : Option Nat).map CExpr.lit) from rfl, typeOf_access_eq, he,
    Option.bind_some, show (ctOf T).depth = T.depth from rfl, show (ctOf T).lvl = 0 from rfl,
    show (ctOf T).cls = T.name from rfl, methodOf_of_find hdecl]
  by_cases hk : T.depth ≤ k
  · by_cases hl : i.deref = 0 + (k - T.depth)
    · rw [if_pos hk, if_pos hl]; exact ⟨fun _ => by omega, fun _ => rfl⟩
    · rw [if_pos hk, if_neg hl]; exact ⟨(nomatch ·), fun h => absurd (by omega) hl⟩
  · rw [if_neg hk]; exact ⟨(nomatch ·), fun h => absurd (by omega) hk⟩

-- a small class table: `T0::m1` returns `T1**` and needs one `operator*`; `T1::v` returns double
def exReg : Registry :=
  [(("T1", "v"), ⟨.value { name := "double", depth := 0, tree := some "float" }, 0⟩),
   (("T0", "m1"), ⟨.value { name := "T1", depth := 2 }, 1⟩),
   (("T1", "c"), ⟨.coll { name := "MyVec", depth := 1 } { name := "T1", depth := 1 }, 0⟩),
   (("T1", "cc"), ⟨.coll { name := "MyVec", depth := 2 } { name := "T1", depth := 1 }, 0⟩),
   (("T1", "p"), ⟨.value { name := "double", depth := 1, tree := some "float" }, 0⟩)]
def exD : Decls := { reg := exReg, rootColl := "TC", rootElem := { cls := "T0", lvl := 0, depth := 1 } }
def exΓ : List (String × CT) := [("v0", { cls := "T0", lvl := 0, depth := 1 })]

example : render (accessE (.var "v0") 2 "m1" none) = "(*v0)->m1()" := by decide +kernel
example : typeOf exD exΓ (accessE (.var "v0") 2 "m1" none) = some { cls := "T1", lvl := 0, depth := 2 } := by decide +kernel
example : typeOf exD exΓ (accessE (.var "v0") 1 "m1" none) = none := by decide +kernel   -- deref_count ignored
example : typeOf exD exΓ (accessE (.var "v0") 3 "m1" none) = none := by decide +kernel   -- one star too many
example : exD.consistent = true := by decide +kernel

/-- **C10.element_pointer_honoured** — the elements of an event collection declared through
metadata are accessed with `->` on ATLAS and on a CMS collection declared with
`element_pointer: True`, and with `.` on a CMS collection otherwise (key absent or `False`) —
whatever the deref count `n` of the method adds on top. -/
theorem element_pointer_honoured (x : String) (ep : Option Bool) :
    accessText x (rootElemDepth .atlas ep + 0) = x ++ "->" ∧
    accessText x (rootElemDepth .cmsAod (some true) + 0) = x ++ "->" ∧
    accessText x (rootElemDepth .cmsMiniaod (some true) + 0) = x ++ "->" ∧
    (ep ≠ some true → accessText x (rootElemDepth .cmsAod ep + 0) = x ++ "." ∧
                      accessText x (rootElemDepth .cmsMiniaod ep + 0) = x ++ ".") := by
  refine ⟨by simp [rootElemDepth, accessText, wrapN], by simp [rootElemDepth, accessText, wrapN],
    by simp [rootElemDepth, accessText, wrapN], ?_⟩
  intro h
  cases ep with
  | none => simp [rootElemDepth, accessText]
  | some b => cases b with
    | true => exact absurd rfl h
    | false => simp [rootElemDepth, accessText]

/-- **C10.declared_type_used** — a declared method is typed with exactly what was declared
(return type, deref count), silently. -/
theorem declared_type_used (reg : Registry) (parent : Term) (m : String) (i : Info)
    (h : reg.find parent.name m = some i) : determineTypeMf reg parent m = .ok (i, false) := by
  rw [determineTypeMf_eq, h]

/-- **C10.fallback_double_warns** — a method with no declaration, on a receiver that is not
`double`/`float`/`int`, is assumed to return a plain `double` (pointer depth 0, no extra
dereference) and the warning flag is raised; on `double`/`float`/`int` the call is refused.
(The three constants are regenerated from `determine_type_mf` on every run.) -/
theorem fallback_double_warns (reg : Registry) (parent : Term) (m : String)
    (h : reg.find parent.name m = none) :
    (parent.name ∉ ["double", "float", "int"] →
      determineTypeMf reg parent m = .ok (⟨.value { name := "double", depth := 0 }, 0⟩, true)) ∧
    (parent.name ∈ ["double", "float", "int"] → determineTypeMf reg parent m = .error .cannotCall) := by
  rw [determineTypeMf_eq, h]
  exact ⟨fun hb => if_neg hb, fun hb => if_pos hb⟩

/-- the fallback branch logs at level `warning` (generated from the source) -/
theorem fallback_logs_warning : Generated.C10.fallbackLogs = "warning" := by decide

/-- the warning flag is raised *only* by the fallback -/
theorem warns_iff_undeclared (reg : Registry) (parent : Term) (m : String) (i : Info) :
    determineTypeMf reg parent m = .ok (i, true) → reg.find parent.name m = none := by
  rw [determineTypeMf_eq]
  cases reg.find parent.name m with
  | none => exact fun _ => rfl
  | some j => exact fun h => nomatch h

/-- **C10.undeclared_call_warns** — *every* call of an undeclared method, wherever it stands in
a chain and whatever follows, is typed `double` and leaves its (class, method) in the warnings of
the translation it belongs to. -/
theorem undeclared_call_warns (reg : Registry) (s s' sEnd : ChainSt) (m : String) (arg : Option Nat)
    (rest : List Step) (h : step reg s (.call m arg) = .ok s') (hu : reg.find s.ty.term.name m = none)
    (hrun : runChain reg rest s' = .ok sEnd) :
    (s.ty.term.name, m) ∈ sEnd.warns ∧ s'.ty = .value { name := "double", depth := 0 } := by
  obtain ⟨info, warned, hdet, rfl⟩ := step_call_ok h
  obtain ⟨hfb, hrefuse⟩ := fallback_double_warns reg s.ty.term m hu
  by_cases hb : s.ty.term.name ∈ specBaseTypes
  · cases (hrefuse hb).symm.trans hdet
  · cases (hfb hb).symm.trans hdet
    exact ⟨(runChain_mono reg rest _ sEnd hrun).1 _ (by simp), rfl⟩

/-- **C10.translation_history_free** — in a process that translates several queries one after
the other, the outcome of each translation — code, column type and the warnings it logs — is the
one it has alone: an earlier translation that assumed `double` for a method does not silence the
warning of a later one. -/
theorem translation_history_free (defaults : Registry) (pre post : List QueryCol) (q : QueryCol) :
    (translateAll defaults (pre ++ q :: post))[pre.length]? = some (translateOne defaults q) := by
  simp [translateAll]

/-- **C10.md_keys** — the method branch of `process_metadata` reads exactly these keys (the list
is regenerated from the source on every run): the ones `mdInfo` models, no other. -/
theorem md_keys : Generated.C10.methodMdKeys =
    ["deref_count", "method_name", "return_type", "return_type_collection", "return_type_element",
     "tree_type", "type_string"] := by decide +kernel

/-- **C10.md_value_type** — a single-value declaration whose `return_type` is any decoration of a
clean base name with `k` stars registers a terminal (base, depth k) carrying the declared
`tree_type`, and the declared `deref_count` (0 when absent). -/
theorem md_value_type (md : MethodMd) (rt : String) (isConst : Bool) (base pre post : List Char)
    (gaps : List (List Char)) (hrt : md.returnType = some rt)
    (hs : rt.toList = decorate isConst base pre gaps post)
    (hb : Clean base) (hpre : allWs pre = true) (hpost : allWs post = true) (hg : ∀ g ∈ gaps, allWs g = true) :
    mdInfo md = .ok ⟨.value { name := String.ofList base, depth := gaps.length, isConst := false, tree := md.treeType },
      md.derefCount.getD 0⟩ := by
  have hp := parse_type isConst base pre post gaps hb hpre hpost hg
  unfold DecorOk at hp
  simp [mdInfo, hrt, hs, hp]

/-- **C10.md_collection_type** — a collection declaration registers a collection whose element
is the parsed `return_type_element` (depth = number of stars) and whose array type is the parsed
`return_type_collection` (by value or by pointer of any depth). -/
theorem md_collection_type (md : MethodMd) (et ct : String) (ce cc : Bool) (be bc pre1 post1 pre2 post2 : List Char)
    (g1 g2 : List (List Char)) (hnone : md.returnType = none) (het : md.elemType = some et) (hct : md.collType = some ct)
    (hs1 : et.toList = decorate ce be pre1 g1 post1) (hs2 : ct.toList = decorate cc bc pre2 g2 post2)
    (hb1 : Clean be) (hb2 : Clean bc) (hpre1 : allWs pre1 = true) (hpost1 : allWs post1 = true)
    (hpre2 : allWs pre2 = true) (hpost2 : allWs post2 = true)
    (hg1 : ∀ g ∈ g1, allWs g = true) (hg2 : ∀ g ∈ g2, allWs g = true) :
    mdInfo md = .ok ⟨.coll { name := String.ofList bc, depth := g2.length, isConst := cc }
                          { name := String.ofList be, depth := g1.length, isConst := ce },
                     md.derefCount.getD 0⟩ := by
  have hp1 := parse_type ce be pre1 post1 g1 hb1 hpre1 hpost1 hg1
  have hp2 := parse_type cc bc pre2 post2 g2 hb2 hpre2 hpost2 hg2
  unfold DecorOk at hp1 hp2
  simp [mdInfo, hnone, het, hct, hs1, hs2, hp1, hp2, mkCollection, Term.ofParsed]

/-- without `return_type_collection` the array type is `std::vector<element>` by value -/
theorem md_collection_default (md : MethodMd) (et : String) (hnone : md.returnType = none)
    (het : md.elemType = some et) (hct : md.collType = none) :
    ∃ arr elem, mdInfo md = .ok ⟨.coll arr elem, md.derefCount.getD 0⟩ ∧ arr.depth = 0 ∧
      elem = Term.ofParsed (parseType et.toList) ∧
      arr.name = String.ofList ("std::vector<".toList ++ (parseType et.toList).str ++ ">".toList) := by
  refine ⟨Term.ofParsed ⟨"std::vector<".toList ++ (parseType et.toList).str ++ ">".toList, 0, false⟩,
    Term.ofParsed (parseType et.toList), ?_, rfl, rfl, rfl⟩
  simp only [mdInfo, hnone, het, hct, mkCollection]

/-- a declaration list is refused only because some entry has neither `return_type` nor
`return_type_element` -/
theorem md_error_justified : ∀ (mds : List MethodMd) (reg : Registry) (e : Err),
    processMds mds reg = .error e → e = .keyError ∧ ∃ md ∈ mds, md.returnType = none ∧ md.elemType = none := by
  intro mds reg e h
  rw [processMds_eq] at h
  split at h
  · cases h; exact ⟨rfl, ‹_›⟩
  · cases h

/-
Full statement (FALSE of the code, see `collection_deep_pointer_counterexample`):
  for every consistent set of declarations and every chain of calls / indexings / iterations the
  translator accepts, every emitted expression and loop is well typed with the declared types.
-/
/-- **C10.chain_typed_partial** — for every consistent set of declarations, every start state and
every chain (any length) of method calls with or without an argument, indexings and iterations
that the translator accepts: the final value expression has in C++ exactly the type the
translator holds for it (so every use downstream is made "accordingly"), every loop opened on
the way iterates over a collection of the declared classes and binds its variable to the declared
element type (that an undeclared call is typed `double` under a logged warning is `undeclared_call_warns`).
Hypotheses: the classes are consistent (`Decls.consistent`, decidable); the warnings the
judgement may rely on are the ones the chain raised; no undeclared method is called `at`; and —
the defect exclusion — every collection a loop is opened on is reached through at most one pointer
(`iterDepths`, computed by the model). -/
theorem chain_typed_partial (D : Decls) (Γ0 : List (String × CT)) (steps : List Step) (s s' : ChainSt)
    (hc : D.consistent = true) (hrun : runChain D.reg steps s = .ok s') (hinv : ChainInv D Γ0 s)
    (hwarn : ∀ w ∈ s'.warns, w ∈ D.warned) (hnoat : ∀ w ∈ D.warned, w.2 ≠ "at")
    (hshallow : ∀ d ∈ s'.iterDepths, d ≤ 1) :
    typeOf D s'.gamma s'.e = some (ctOf s'.ty.term) ∧ loopsOk D Γ0 s'.loops = some s'.gamma ∧
    tyOk D s'.ty = true := by
  have := runChain_inv D Γ0 hc hnoat steps s s' hrun hinv hwarn hshallow
  exact ⟨this.typed, this.loops, this.tyok⟩

/-- **C10.collection_deep_pointer_counterexample** — the full statement above
`chain_typed_partial` is false of the code: a collection returned through a pointer of depth 2 is
dereferenced once only, so the range-`for` iterates over a pointer. -/
theorem collection_deep_pointer_counterexample :
    ∃ (steps : List Step) (out : ColOut), runCol exReg { name := "T0", depth := 1 } steps .plain = .ok out ∧
      out.iterDepths = [2] ∧
      loopsOk exD [("v0", { cls := "T0", lvl := 0, depth := 1 })] out.loops = none :=
  ⟨[.call "m1" none, .call "cc" none, .each, .call "v" none], _, rfl, by decide +kernel, by decide +kernel⟩

/-
Full statement (FALSE of the code, see `tree_type_pointer_counterexample`):
  every column variable carries the declared (tree) type of its value and the assignment is well typed.
-/
/-- **C10.column_typed_partial** (`tree_type`) — the class variable of a column is declared with
the declared `tree_type` when there is one and with the declared type otherwise (wrapped in
`std::vector<…>` for a sequence), at the value's pointer depth; and the assignment / `push_back`, with
the `static_cast` the translator has put in, is well typed.
Hypotheses: the value's type is not `const`; (defect exclusion) when a cast is needed the value is not a
pointer and both types are arithmetic or enum. -/
theorem column_typed_partial (D : Decls) (Γ0 : List (String × CT)) (s : ChainSt) (out : ColOut)
    (hinv : ChainInv D Γ0 s) (hfin : finishCol s .plain = .ok out)
    (hconst : s.ty.term.isConst = false)
    (hcast : ∀ tt, s.ty.term.tree = some tt → tt ≠ s.ty.term.name →
      s.ty.term.depth = 0 ∧ (s.ty.term.name ∈ arithAll ∨ D.isEnum s.ty.term.name = true) ∧ tt ∈ arithAll) :
    colOk D s.gamma out.decl out.isSeq out.rhs = true ∧
    out.decl = (if out.isSeq then "std::vector<" ++ s.ty.term.treeType.name ++ starsS s.ty.term.depth ++ ">"
                else s.ty.term.treeType.name ++ starsS s.ty.term.depth) := by
  rw [← finishTail_ofFin] at hfin
  obtain ⟨t, e', t', hty, hv, rfl⟩ := finishTail_ok hfin
  cases hv
  have htyped := hinv.typed
  rw [hty] at htyped hconst hcast ⊢
  refine ⟨colOk_finish _ htyped rfl rfl (stripCast_of_declared hinv.declared) hconst (by rw [hinv.declared]; rfl)
    (fun tt h1 h2 => let ⟨a, b, c⟩ := hcast tt h1 h2; ⟨a, rfl, b, c⟩), ?_⟩
  simp only [RTy.term, seqWrap, Term.treeType_str (t := t) hconst, String.append_assoc]

/-- **C10.col_typed_partial** — end to end for one column: for every consistent set of
declarations, every element type of the event collection and every chain of calls / indexings /
loops the translator accepts, the loops type check from the event-collection element outwards
and the column (declaration, cast, assignment or `push_back`) is well typed (that its declaration is
the declared (tree) type is `column_typed_partial`). Hypotheses as in `chain_typed_partial` and
`column_typed_partial`. -/
theorem col_typed_partial (D : Decls) (rootElem : Term) (steps : List Step) (out : ColOut)
    (hc : D.consistent = true) (hrun : runCol D.reg rootElem steps .plain = .ok out)
    (hwarn : ∀ w ∈ out.warns, w ∈ D.warned) (hnoat : ∀ w ∈ D.warned, w.2 ≠ "at")
    (hshallow : ∀ d ∈ out.iterDepths, d ≤ 1) (hconst : out.valTy.isConst = false)
    (hcast : ∀ tt, out.valTy.tree = some tt → tt ≠ out.valTy.name →
      out.valTy.depth = 0 ∧ (out.valTy.name ∈ arithAll ∨ D.isEnum out.valTy.name = true) ∧ tt ∈ arithAll) :
    ∃ Γ, loopsOk D [(loopVar 0, ctOf rootElem)] out.loops = some Γ ∧
      colOk D Γ out.decl out.isSeq out.rhs = true := by
  rw [← runColT_ofFin, runColT] at hrun
  cases hch : runChain D.reg steps (initSt rootElem) with
  | error e => rw [hch] at hrun; cases hrun
  | ok s =>
    simp only [hch] at hrun
    have hfin := hrun
    rw [finishTail_ofFin] at hfin
    obtain ⟨t, e', t', hty, hv, rfl⟩ := finishTail_ok hrun
    cases hv
    have hinv := runChain_inv D _ hc hnoat steps _ s hch (initial_inv D rootElem) hwarn hshallow
    have hterm : s.ty.term = t := by rw [hty]; rfl
    exact ⟨s.gamma, hinv.loops,
      (column_typed_partial D _ s _ hinv hfin (by rw [hterm]; exact hconst) (by rw [hterm]; exact hcast)).1⟩

/-- **C10.column_addOne_typed** (beyond plain columns) — `value + 1` on a declared arithmetic
value keeps the value's type, its declared tree type and the cast. -/
theorem column_addOne_typed (D : Decls) (Γ0 : List (String × CT)) (s : ChainSt) (out : ColOut)
    (hinv : ChainInv D Γ0 s) (hfin : finishCol s .addOne = .ok out)
    (hconst : s.ty.term.isConst = false) (hdepth : s.ty.term.depth = 0)
    (htree : ∀ tt, s.ty.term.tree = some tt → tt ∈ arithAll) :
    colOk D s.gamma out.decl out.isSeq out.rhs = true := by
  rw [← finishTail_ofFin] at hfin
  refine (column_tail_typed D Γ0 s out _ hinv hfin (fun _ _ _ => hconst) hdepth ?_).1
  obtain ⟨t, e', t', hty, hv, _⟩ := finishTail_ok hfin
  rw [hty] at htree ⊢
  have har : t.name ∈ arithNames := by
    by_cases har : t.name ∈ arithNames
    · exact har
    · simp only [Tail.ofFin, tailValue, har, if_false] at hv; cases hv
  simp only [Tail.ofFin, tailDomain, RTy.term, har, decide_true, Bool.true_and]
  cases htr : t.tree with
  | none => rfl
  | some tt => exact decide_eq_true (htree tt htr)

/-- **C10.column_eqConst_typed** — comparing a declared enum-typed value with a constant of that
enum is well typed and gives a `bool` column. -/
theorem column_eqConst_typed (D : Decls) (Γ0 : List (String × CT)) (s : ChainSt) (out : ColOut) (c : String)
    (hinv : ChainInv D Γ0 s) (hfin : finishCol s (.eqConst c) = .ok out)
    (hdepth : s.ty.term.depth = 0) (hen : D.enums.lookup c = some s.ty.term.name)
    (hisen : D.isEnum s.ty.term.name = true) :
    colOk D s.gamma out.decl out.isSeq out.rhs = true ∧
    out.decl = (if out.isSeq then "std::vector<bool>" else "bool") := by
  rw [← finishTail_ofFin] at hfin
  have hdom : tailDomain D s.ty.term (.cmpConst .eq c) = true := by
    simp only [tailDomain, hen, hisen, beq_self_eq_true, Bool.and_self]
  obtain ⟨h1, h2, _⟩ := column_tail_typed D Γ0 s out _ hinv hfin (fun _ _ h => by cases h) hdepth hdom
  exact ⟨h1, h2⟩

/-- **C10.deref_var_typed** — `dereference_var` leaves a non-pointer alone and otherwise prefixes one
`*`, which in C++ has the type with one pointer level less (exactly one, whatever the depth). -/
theorem deref_var_typed (D : Decls) (Γ : List (String × CT)) (e : CExpr) (t : Term)
    (he : typeOf D Γ e = some (ctOf t)) :
    (t.depth = 0 → derefVarText (render e) t = (render e, t)) ∧
    (0 < t.depth → (derefVarText (render e) t).1 = render (.deref e) ∧
      (derefVarText (render e) t).2 = { t with depth := t.depth - 1 } ∧
      typeOf D Γ (.deref e) = some { cls := t.name, lvl := 0, depth := t.depth - 1 }) := by
  constructor
  · intro h; simp [derefVarText, h]
  · intro h
    have hne : t.depth ≠ 0 := by omega
    exact ⟨by simp [derefVarText, hne, render], by simp [derefVarText, hne],
      typeOf_deref_ptr he (show (ctOf t).depth = t.depth - 1 + 1 by simp only [ctOf]; omega)⟩

/-- **C10.accepts_iff** — the translator (model) refuses a column exactly when the property lets
it: a method call on `double`/`float`/`int`, an index or a loop on something that is not a
collection, a bare collection as a column, `+ 1` on a non-arithmetic value. Every other chain
over declared (or undeclared, then `double`) methods is translated. -/
theorem accepts_iff (reg : Registry) (rootElem : Term) (steps : List Step) (fin : ColFin) :
    (runCol reg rootElem steps fin).toOption.isSome = specAccepts reg rootElem steps fin := by
  rw [← runColT_ofFin, accepts_iff_tail, specAcceptsT_ofFin]

/-- **C10.tree_type_pointer_counterexample** — a pointer-valued method with a `tree_type`
(`double*` stored as `float`): the column is declared `float*` but the value is pushed through
`static_cast<float>(…)`, which is ill typed. -/
theorem tree_type_pointer_counterexample :
    ∃ (steps : List Step) (out : ColOut), runCol exReg { name := "T0", depth := 1 } steps .plain = .ok out ∧
      out.decl = "float*" ∧ render out.rhs = "static_cast<float>((*(*v0)->m1())->p())" ∧
      colOk exD [("v0", { cls := "T0", lvl := 0, depth := 1 })] out.decl out.isSeq out.rhs = false :=
  ⟨[.call "m1" none, .call "p" none], _, rfl, by decide +kernel, by decide +kernel, by decide +kernel⟩

-- non-vacuity: a chain through deref-count, double pointer, collection by pointer, loop, tree_type
example :
    (runCol exReg { name := "T0", depth := 1 } [.call "m1" none, .call "c" none, .each, .call "v" none] .plain).toOption.map
      (fun o => (o.loops.map (fun x => (x.1, render x.2)), o.decl, render o.rhs)) =
    some ([("v1", "*(*(*v0)->m1())->c()")], "std::vector<float>", "static_cast<float>(v1->v())") := by decide +kernel
example :
    (runCol exReg { name := "T0", depth := 1 } [.call "m1" none, .call "c" none, .index 0, .call "v" none] .plain).toOption.map
      (fun o => (o.decl, render o.rhs)) =
    some ("float", "static_cast<float>((*(*v0)->m1())->c()->at(0)->v())") := by decide +kernel

/-- **C10.enum_qualified** — in every namespace state, after `define_enum(ns, name, values)` the
python expression `ns.….name.v` resolves, for every value `v` of the enum registered under that
name (the given values unless an enum of that name was defined before — first definition wins),
to a value whose C++ text is the qualified name `ns::…::v`; its type is the enum's full name.
Hypotheses: no namespace of the same name shadows the enum (`get_ns` is consulted first) and the
value name contains no dot. -/
theorem enum_qualified (st : NsState) (nsName : List Char) (name : Seg) (values : List Seg) :
    ∃ e, (defineEnum st nsName name values).findEnum (splitDots nsName) name = some e ∧
      (st.findEnum (splitDots nsName) name = none → e.values = values) ∧
      ∀ v ∈ e.values, '.' ∉ v → splitDots nsName ++ [name] ∉ (defineEnum st nsName name values).nss →
        ∃ cpp, resolvePath (defineEnum st nsName name values) (splitDots nsName ++ [name, v]) = .ok (.value cpp e.fullName) ∧
          EnumOk (splitDots nsName) v cpp := by
  obtain ⟨e, he, hnew⟩ := findEnum_defineEnum_self st nsName name values
  refine ⟨e, he, fun h => by rw [hnew h], ?_⟩
  intro v hv hdot hshadow
  refine ⟨_, resolve_enum_qualified _ _ name v e (splitDots_ne_nil nsName) (splitDots_no_dot nsName) ?_
    hshadow he hv hdot, rfl⟩
  exact fun a ha hp => (defineEnum_nss_mem ..).2 (Or.inr ((mem_prefixes _ _).2 ⟨ha, hp⟩))

/-- **C10.enum_world_resolves** — for every list of enum declarations (any number of enums, several
in the same nested namespace, in sibling or deeper namespaces, in any processing order, on top of
any earlier state without that enum), every value `v` of the declaration that counts for
(`p`, `name`) — the first one processed — resolves from the python expression `p.name.v` to the
qualified C++ name `p₁::…::pₖ::v`: later declarations, in the same or in other namespaces, never
take an already declared enum away. `expectedEnum` is the Spec evaluated on the implementation. -/
theorem enum_world_resolves (defs : List EnumDecl) (p : List Seg) (name v : Seg) (cpp : List Char)
    (h : expectedEnum defs p name v = some cpp) :
    ∃ ty, resolvePath (defineAll NsState.empty defs) (p ++ [name, v]) = .ok (.value cpp ty) ∧
      EnumOk p v cpp := by
  unfold expectedEnum at h
  cases hf : firstDecl defs p name with
  | none => simp [hf] at h
  | some d =>
    simp only [hf] at h
    split at h
    · rename_i hc
      obtain ⟨hv, hdot, hsh⟩ := hc
      cases h
      obtain ⟨hdp, _, hd⟩ := firstDecl_spec hf
      refine ⟨_, resolve_enum_qualified (defineAll NsState.empty defs) p name v ⟨p, name, d.values⟩
        (hdp ▸ splitDots_ne_nil d.ns) (hdp ▸ splitDots_no_dot d.ns) ?_ ?_ ?_ hv hdot, rfl⟩
      · exact fun a ha hp => (defineAll_nss_mem ..).2 (Or.inr ⟨d, hd, (mem_prefixes _ _).2 ⟨ha, hdp ▸ hp⟩⟩)
      · -- a namespace `p.name` would come from a declaration whose path it begins
        rw [defineAll_nss_mem]
        rintro (h0 | ⟨d', hd', hmem⟩)
        · cases h0
        · have := List.all_eq_true.1 hsh d' hd'
          rw [List.isPrefixOf_iff_prefix.2 ((mem_prefixes _ _).1 hmem).2] at this
          cases this
      · rw [findEnum_defineAll, hf]; rfl
    · cases h

-- two different enums in one nested namespace, a sibling and a deeper one, both orders
def exDefs : List EnumDecl :=
  [⟨"xAOD.Jet".toList, "Color".toList, ["Red".toList, "Blue".toList]⟩,
   ⟨"xAOD.Jet".toList, "Shape".toList, ["Round".toList]⟩,
   ⟨"xAOD.Jet.Deep".toList, "Kind".toList, ["K1".toList]⟩,
   ⟨"xAOD.Other".toList, "Kind".toList, ["K2".toList]⟩]
example : expectedEnum exDefs ["xAOD".toList, "Jet".toList] "Color".toList "Red".toList = some "xAOD::Jet::Red".toList := by unfold exDefs; (repeat rw [String.toList_ofList]); decide +kernel
example : expectedEnum exDefs.reverse ["xAOD".toList, "Jet".toList] "Shape".toList "Round".toList = some "xAOD::Jet::Round".toList := by unfold exDefs; (repeat rw [String.toList_ofList]); decide +kernel
example : expectedEnum exDefs ["xAOD".toList, "Jet".toList, "Deep".toList] "Kind".toList "K1".toList = some "xAOD::Jet::Deep::K1".toList := by unfold exDefs; (repeat rw [String.toList_ofList]); decide +kernel

/-- **C10.enum_first_definition_wins** — defining an enum of the same name in the same namespace
again changes nothing (the values of the first definition stay). -/
theorem enum_first_definition_wins (st : NsState) (nsName : List Char) (name : Seg) (v1 v2 : List Seg) :
    defineEnum (defineEnum st nsName name v1) nsName name v2 = defineEnum st nsName name v1 := by
  obtain ⟨e, he, _⟩ := findEnum_defineEnum_self st nsName name v1
  have hsame : defineNs (defineEnum st nsName name v1) (splitDots nsName) = defineEnum st nsName name v1 :=
    defineNs_of_mem _ _ fun a ha => (defineEnum_nss_mem st nsName name v1 a).2 (Or.inr ha)
  rw [defineEnum_eq_of_find _ nsName name v2 e he, hsame]

/-- an enum value has no members: `.x` on it is refused (ValueError) -/
theorem enum_dot_refused (st : NsState) (cpp ty : List Char) (a : Seg) :
    resolveStep st (.value cpp ty) a = .error .enumDot := rfl

theorem unknown_namespace_refused (st : NsState) (x : Seg) (rest : List Seg) (h : [x] ∉ st.nss) :
    resolvePath st (x :: rest) = .error .noRep := by simp [resolvePath, h]

-- non-vacuity (the literal of tests/atlas/xaod/test_enums.py)
example :
    (resolvePath (defineEnum NsState.empty "xAOD.Jet".toList "Color".toList ["Red".toList, "Blue".toList])
      ["xAOD".toList, "Jet".toList, "Color".toList, "Red".toList]).toOption =
    some (.value "xAOD::Jet::Red".toList "xAOD.Jet.Color".toList) := by (repeat rw [String.toList_ofList]); decide +kernel

end FaxVerif.C10
