/-
C10 — chains of calls, indexings and loops: what one `step` does to the translator's state, the invariant
`ChainInv` (the state's value has, in C++, the type the translator holds for it), that every accepted step keeps it
under the hypotheses of `step_inv` (consistent declarations, the warnings accounted for, no undeclared `at`, loops opened
through at most one pointer), and the type a chain ends with as the Spec computes it.
-/
import FaxVerif.C10.Proofs
namespace FaxVerif.C10

/-- what is known of the translator's state on a chain: the value expression has, in C++, exactly
the type the translator holds for it; collection types agree with the class table; the loops
opened so far type check and bind the variables in scope. -/
structure ChainInv (D : Decls) (Γ0 : List (String × CT)) (s : ChainSt) : Prop where
  typed : typeOf D s.gamma s.e = some (ctOf s.ty.term)
  tyok : tyOk D s.ty = true
  loops : loopsOk D Γ0 s.loops = some s.gamma
  declared : isDeclaredValue s.e = true

theorem consistent_find {D : Decls} (hc : D.consistent = true) {t m : String} {i : Info}
    (h : D.reg.find t m = some i) : tyOk D i.rty = true ∧ m ≠ "at" := by
  unfold Decls.consistent at hc
  rw [List.all_eq_true] at hc
  have := hc _ (find_mem h)
  simpa using this

theorem consistent_no_at {D : Decls} (hc : D.consistent = true) (t : String) : D.reg.find t "at" = none := by
  cases h : D.reg.find t "at" with
  | none => rfl
  | some i => exact absurd rfl (consistent_find hc h).2

theorem loopsOk_append (D : Decls) : ∀ (ls ls' : List (String × CExpr)) (Γ0 : List (String × CT)),
    loopsOk D Γ0 (ls ++ ls') = (loopsOk D Γ0 ls).bind fun Γ => loopsOk D Γ ls'
  | [], _, _ => rfl
  | (v, c) :: ls, ls', Γ0 => by
    simp only [List.cons_append, loopsOk]
    cases typeOf D Γ0 c with
    | none => rfl
    | some t =>
      simp only
      cases D.iterOfTy t with
      | none => rfl
      | some E => exact loopsOk_append D ls ls' _

theorem step_call_ok {reg : Registry} {s s' : ChainSt} {m : String} {arg : Option Nat}
    (h : step reg s (.call m arg) = .ok s') :
    ∃ info warned, determineTypeMf reg s.ty.term m = .ok (info, warned) ∧
      s' = { s with e := accessE s.e (s.ty.term.depth + info.deref) m (arg.map CExpr.lit), ty := info.rty,
                    warns := if warned then s.warns ++ [(s.ty.term.name, m)] else s.warns } := by
  simp only [step] at h
  cases hd : determineTypeMf reg s.ty.term m with
  | error e => simp only [hd] at h; cases h
  | ok r => simp only [hd] at h; exact ⟨r.1, r.2, rfl, (Except.ok.inj h).symm⟩

theorem step_index_ok {reg : Registry} {s s' : ChainSt} {i : Nat} (h : step reg s (.index i) = .ok s') :
    ∃ arr elem, s.ty = .coll arr elem ∧
      s' = { s with e := accessE s.e arr.depth "at" (some (.lit i)), ty := .value elem } := by
  simp only [step] at h
  cases hty : s.ty with
  | value t => simp only [hty] at h; cases h
  | coll arr elem => simp only [hty] at h; exact ⟨arr, elem, rfl, (Except.ok.inj h).symm⟩

theorem step_each_ok {reg : Registry} {s s' : ChainSt} (h : step reg s .each = .ok s') :
    ∃ arr elem, s.ty = .coll arr elem ∧
      s' = { s with gamma := (loopVar s.nvar, ctOf elem) :: s.gamma,
                    loops := s.loops ++ [(loopVar s.nvar, if arr.depth = 0 then s.e else .deref s.e)],
                    nvar := s.nvar + 1, e := .var (loopVar s.nvar), ty := .value elem,
                    iterDepths := s.iterDepths ++ [arr.depth] } := by
  simp only [step] at h
  cases hty : s.ty with
  | value t => simp only [hty] at h; cases h
  | coll arr elem => simp only [hty] at h; exact ⟨arr, elem, rfl, (Except.ok.inj h).symm⟩

theorem step_mono (reg : Registry) (s s' : ChainSt) (st : Step) (h : step reg s st = .ok s') :
    (∀ w ∈ s.warns, w ∈ s'.warns) ∧ (∀ d ∈ s.iterDepths, d ∈ s'.iterDepths) := by
  cases st with
  | call m arg =>
    obtain ⟨info, warned, _, rfl⟩ := step_call_ok h
    exact ⟨fun w hw => by cases warned <;> simp [hw], fun _ h => h⟩
  | index i => obtain ⟨arr, elem, _, rfl⟩ := step_index_ok h; exact ⟨fun _ h => h, fun _ h => h⟩
  | each => obtain ⟨arr, elem, _, rfl⟩ := step_each_ok h; exact ⟨fun _ h => h, fun d h => by simp [h]⟩

theorem runChain_cons_ok {reg : Registry} {st : Step} {rest : List Step} {s s' : ChainSt}
    (h : runChain reg (st :: rest) s = .ok s') : ∃ s1, step reg s st = .ok s1 ∧ runChain reg rest s1 = .ok s' := by
  rw [runChain] at h
  cases h1 : step reg s st with
  | error e => rw [h1] at h; cases h
  | ok s1 => rw [h1] at h; exact ⟨s1, rfl, h⟩

theorem runChain_mono (reg : Registry) : ∀ (steps : List Step) (s s' : ChainSt), runChain reg steps s = .ok s' →
    (∀ w ∈ s.warns, w ∈ s'.warns) ∧ (∀ d ∈ s.iterDepths, d ∈ s'.iterDepths) := by
  intro steps
  induction steps with
  | nil => intro s s' h; cases h; exact ⟨fun _ h => h, fun _ h => h⟩
  | cons st rest ih =>
    intro s s' h
    obtain ⟨s1, h1, h2⟩ := runChain_cons_ok h
    obtain ⟨a, b⟩ := step_mono reg s s1 st h1
    obtain ⟨c, d⟩ := ih s1 s' h2
    exact ⟨fun w hw => c w (a w hw), fun x hx => d x (b x hx)⟩

def tyOfResult : Except Err ChainSt → Option RTy
  | .ok s => some s.ty
  | .error _ => none

theorem step_ty (reg : Registry) (s : ChainSt) (st : Step) :
    tyOfResult (step reg s st) = specStepTy reg s.ty st := by
  cases st with
  | call m arg =>
    rw [step, specStepTy, determineTypeMf_eq]
    cases reg.find s.ty.term.name m with
    | some i => rfl
    | none => by_cases hb : s.ty.term.name ∈ specBaseTypes <;> simp [hb, tyOfResult]
  | index i =>
    unfold step specStepTy
    cases s.ty <;> simp [tyOfResult]
  | each =>
    unfold step specStepTy
    cases s.ty <;> simp [tyOfResult]

theorem runChain_ty (reg : Registry) : ∀ (steps : List Step) (s : ChainSt),
    tyOfResult (runChain reg steps s) = specRunTy reg s.ty steps := by
  intro steps
  induction steps with
  | nil => intro s; rfl
  | cons st rest ih =>
    intro s
    unfold runChain specRunTy
    have h := step_ty reg s st
    cases hs : step reg s st with
    | error e => rw [hs] at h; simp only [tyOfResult] at h; simp [← h, tyOfResult]
    | ok s' => rw [hs] at h; simp only [tyOfResult] at h; simp only [← h]; exact ih s'

theorem initial_inv (D : Decls) (rootElem : Term) : ChainInv D [(loopVar 0, ctOf rootElem)] (initSt rootElem) :=
  ⟨by simp [initSt, typeOf, RTy.term], rfl, rfl, rfl⟩

/-- **C10.collection_loop_typed** — a collection `coll(arr, elem)` held by value or through one
pointer is iterated with the *element* type: the range expression `e` / `*e` is iterable and the
loop variable is bound to `elem`; and indexing through *any* pointer depth returns `elem`. -/
theorem collection_loop_typed (D : Decls) (Γ : List (String × CT)) (e : CExpr) (arr elem : Term)
    (hc : D.consistent = true) (he : typeOf D Γ e = some (ctOf arr)) (hok : tyOk D (.coll arr elem) = true) :
    (arr.depth ≤ 1 →
      ∃ t, typeOf D Γ (if arr.depth = 0 then e else .deref e) = some t ∧ D.iterOfTy t = some (ctOf elem)) ∧
    (∀ i, typeOf D Γ (accessE e arr.depth "at" (some (.lit i))) = some (ctOf elem)) := by
  simp only [tyOk, decide_eq_true_eq] at hok
  constructor
  · intro hd
    by_cases h0 : arr.depth = 0
    · exact ⟨ctOf arr, by simp [h0, he], by simp [Decls.iterOfTy, ctOf, h0, hok]⟩
    · rw [if_neg h0]
      exact ⟨_, typeOf_deref_ptr he (show (ctOf arr).depth = 0 + 1 by simp only [ctOf]; omega),
        by simp [Decls.iterOfTy, ctOf, hok]⟩
  · intro i
    exact typeOf_access D Γ e arr 0 "at" (some i) _ he (methodOf_at D _ _ (consistent_no_at hc _) hok)

/-- whatever `determine_type_mf` answers for `T.m`, the class table has: that method, at the level of the answer's
deref count, with the answer's type (a guessed `double` under its warning) -/
theorem determineTypeMf_sound {D : Decls} (hc : D.consistent = true) (hnoat : ∀ w ∈ D.warned, w.2 ≠ "at")
    {T : Term} {m : String} {info : Info} {warned : Bool} (h : determineTypeMf D.reg T m = .ok (info, warned))
    (hw : warned = true → (T.name, m) ∈ D.warned) :
    D.methodOf T.name info.deref m = some (ctOf info.rty.term) ∧ tyOk D info.rty = true := by
  rw [determineTypeMf_eq] at h
  cases hf : D.reg.find T.name m with
  | some i => simp only [hf] at h; cases h; exact ⟨methodOf_declared hf, (consistent_find hc hf).1⟩
  | none =>
    simp only [hf] at h
    split at h
    · cases h
    · next hb => cases h; exact ⟨methodOf_fallback D _ _ hf (hw rfl) hb (hnoat _ (hw rfl)), rfl⟩

theorem step_inv (D : Decls) (Γ0 : List (String × CT)) (hc : D.consistent = true)
    (hnoat : ∀ w ∈ D.warned, w.2 ≠ "at") (s s' : ChainSt) (st : Step)
    (h : step D.reg s st = .ok s') (hinv : ChainInv D Γ0 s)
    (hw : ∀ w ∈ s'.warns, w ∈ D.warned) (hd : ∀ d ∈ s'.iterDepths, d ≤ 1) : ChainInv D Γ0 s' := by
  cases st with
  | call m arg =>
    obtain ⟨info, warned, hdet, rfl⟩ := step_call_ok h
    obtain ⟨hm, hty⟩ := determineTypeMf_sound hc hnoat hdet fun hwd => hw _ (by simp [hwd])
    exact ⟨typeOf_access D _ _ _ info.deref m arg _ hinv.typed hm, hty, hinv.loops, isDeclared_accessE _ _ _ _⟩
  | index i =>
    obtain ⟨arr, elem, hty, rfl⟩ := step_index_ok h
    have htyok := hinv.tyok
    have htyped := hinv.typed
    rw [hty] at htyok htyped
    exact ⟨(collection_loop_typed D _ _ arr elem hc htyped htyok).2 i, rfl, hinv.loops, rfl⟩
  | each =>
    obtain ⟨arr, elem, hty, rfl⟩ := step_each_ok h
    have htyok := hinv.tyok
    have htyped := hinv.typed
    rw [hty] at htyok htyped
    obtain ⟨t, ht, hE⟩ := (collection_loop_typed D _ _ arr elem hc htyped htyok).1 (hd arr.depth (by simp))
    exact ⟨by simp [typeOf, RTy.term], rfl, by simp only [loopsOk_append, hinv.loops, Option.bind_some, loopsOk, ht, hE], rfl⟩

theorem runChain_inv (D : Decls) (Γ0 : List (String × CT)) (hc : D.consistent = true)
    (hnoat : ∀ w ∈ D.warned, w.2 ≠ "at") :
    ∀ (steps : List Step) (s s' : ChainSt), runChain D.reg steps s = .ok s' → ChainInv D Γ0 s →
      (∀ w ∈ s'.warns, w ∈ D.warned) → (∀ d ∈ s'.iterDepths, d ≤ 1) → ChainInv D Γ0 s' := by
  intro steps
  induction steps with
  | nil => intro s s' h hinv _ _; cases h; exact hinv
  | cons st rest ih =>
    intro s s' h hinv hw hd
    obtain ⟨s1, h1, h2⟩ := runChain_cons_ok h
    obtain ⟨a, b⟩ := runChain_mono D.reg rest s1 s' h2
    exact ih s1 s' h2 (step_inv D Γ0 hc hnoat s s1 st h1 hinv (fun w hw' => hw w (a w hw')) (fun d hd' => hd d (b d hd'))) hw hd

end FaxVerif.C10
