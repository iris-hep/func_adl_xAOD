/-
C10 — how a value at the end of a chain becomes a column: the one statement (`colOk_finish`) that
the finishing step shared by `finishCol` and `finishTail` produces a well-typed column, which
columns that step accepts (`accepts_iff_tail`), and `column_tail_typed`, of which the column theorems
are instances. `finishCol` is `finishTail` on the tails `Tail.ofFin`.
-/
import FaxVerif.C10.Chain
namespace FaxVerif.C10

theorem Term.treeType_name (t : Term) : t.treeType.name = t.tree.getD t.name := by
  unfold Term.treeType; cases t.tree <;> rfl

theorem Term.treeType_str {t : Term} (h : t.isConst = false) :
    t.treeType.str = t.treeType.name ++ starsS t.depth := by
  unfold Term.treeType Term.str
  cases t.tree <;> simp only [h, Bool.false_eq_true, if_false, String.empty_append]

theorem typeOf_cast {D : Decls} {Γ : List (String × CT)} {e : CExpr} {c : CT} {ty : String}
    (h : typeOf D Γ e = some c) (hd : c.depth = 0) (hl : c.lvl = 0)
    (hc : c.cls ∈ arithAll ∨ D.isEnum c.cls = true) (hty : ty ∈ arithAll) :
    typeOf D Γ (.cast ty e) = some { cls := ty, lvl := 0, depth := 0 } := by
  simp only [typeOf, h]
  rw [if_pos ⟨hd, hl, hc, hty⟩]

theorem typeOf_arith {D : Decls} {Γ : List (String × CT)} {a b : CExpr} {ta tb : CT} {op : String}
    (ha : typeOf D Γ a = some ta) (hb : typeOf D Γ b = some tb)
    (h0 : ta.depth = 0 ∧ tb.depth = 0 ∧ ta.lvl = 0 ∧ tb.lvl = 0)
    (hop : op ∉ cmpOps ∧ op ∈ arithOps) (hcls : ta.cls ∈ arithAll ∧ tb.cls ∈ arithAll) :
    typeOf D Γ (.bin op a b) = some { cls := promote ta.cls tb.cls, lvl := 0, depth := 0 } := by
  simp only [typeOf, ha, hb]
  rw [if_pos h0, if_neg hop.1, if_pos hop.2, if_pos hcls]

theorem typeOf_cmp {D : Decls} {Γ : List (String × CT)} {a b : CExpr} {ta tb : CT} {op : String}
    (ha : typeOf D Γ a = some ta) (hb : typeOf D Γ b = some tb)
    (h0 : ta.depth = 0 ∧ tb.depth = 0 ∧ ta.lvl = 0 ∧ tb.lvl = 0) (hop : op ∈ cmpOps)
    (hcls : (ta.cls ∈ arithAll ∧ tb.cls ∈ arithAll) ∨ (ta.cls = tb.cls ∧ D.isEnum ta.cls = true)) :
    typeOf D Γ (.bin op a b) = some { cls := "bool", lvl := 0, depth := 0 } := by
  simp only [typeOf, ha, hb]
  rw [if_pos h0, if_pos hop, if_pos hcls]

theorem colOk_plain {D : Decls} {Γ : List (String × CT)} {e : CExpr} {c : CT} (isSeq : Bool)
    (hsc : stripCast e = (e, none)) (hty : typeOf D Γ e = some c)
    (hname : if isDeclaredValue e then c.cls = c.tree.getD c.cls else c.cls ∈ arithAll) :
    colOk D Γ (seqWrap isSeq (c.cls ++ starsS c.depth)) isSeq e = true := by
  unfold colOk
  rw [hsc]
  simp only [hty, Option.getD_none, seqWrap, decide_true, Bool.and_true]
  rw [decide_eq_true_eq]; exact hname

theorem colOk_cast {D : Decls} {Γ : List (String × CT)} {e : CExpr} {c c' : CT} (isSeq : Bool) (ty : String)
    (hty : typeOf D Γ e = some c) (hty' : typeOf D Γ (.cast ty e) = some c')
    (hname : if isDeclaredValue e then ty = c.tree.getD c.cls else ty ∈ arithAll) (hne : ty ≠ c.cls) :
    colOk D Γ (seqWrap isSeq (ty ++ starsS c.depth)) isSeq (.cast ty e) = true := by
  unfold colOk
  rw [show stripCast (.cast ty e) = (e, some ty) from rfl]
  simp only [hty, hty', Option.getD_some, seqWrap, decide_true, Bool.and_true, hne, ne_eq,
    not_false_eq_true]
  rw [decide_eq_true_eq]; exact hname

/-- The finishing step of `finishCol` / `finishTail` on a value `e` that C++ types `c` and the
translator types `t` (same class, same pointer depth): declare the column with the tree type of
`t`, cast to it when the names differ. A value that is a declared method's result as such must
carry `t`'s tree type; a computed one must be arithmetic; and a cast needs a non-pointer of
arithmetic or enum type on both sides. -/
theorem colOk_finish {D : Decls} {Γ : List (String × CT)} {e : CExpr} {c : CT} {t : Term} (isSeq : Bool)
    (hty : typeOf D Γ e = some c) (hcls : c.cls = t.name) (hdep : c.depth = t.depth)
    (hsc : stripCast e = (e, none)) (hconst : t.isConst = false)
    (hname : if isDeclaredValue e then c.tree = t.tree else t.name ∈ arithAll)
    (hcast : ∀ tt, t.tree = some tt → tt ≠ t.name →
      c.depth = 0 ∧ c.lvl = 0 ∧ (t.name ∈ arithAll ∨ D.isEnum t.name = true) ∧ tt ∈ arithAll) :
    colOk D Γ (seqWrap isSeq t.treeType.str) isSeq
      (if t.treeType.name = t.name then e else .cast t.treeType.name e) = true := by
  rw [Term.treeType_str hconst, ← hdep, Term.treeType_name]
  by_cases hn : t.tree.getD t.name = t.name
  · rw [if_pos hn, hn, ← hcls]
    apply colOk_plain isSeq hsc hty
    by_cases hd : isDeclaredValue e = true
    · rw [if_pos hd] at hname ⊢; rw [hname, hcls, hn]
    · rw [if_neg hd] at hname ⊢; rw [hcls]; exact hname
  · rw [if_neg hn]
    cases htr : t.tree with
    | none => rw [htr] at hn; exact absurd rfl hn
    | some tt =>
      rw [htr] at hn hname
      obtain ⟨h0, hl, hc, ha⟩ := hcast tt htr hn
      apply colOk_cast isSeq tt hty (typeOf_cast hty h0 hl (by rw [hcls]; exact hc) ha)
      · by_cases hd : isDeclaredValue e = true
        · rw [if_pos hd] at hname ⊢; rw [hname]; rfl
        · rw [if_neg hd]; exact ha
      · rw [hcls]; exact hn

theorem stripCast_of_declared {e : CExpr} (h : isDeclaredValue e = true) : stripCast e = (e, none) := by
  cases e <;> first | rfl | cases h

theorem arithNames_sub {n : String} (h : n ∈ arithNames) : n ∈ arithAll := by
  simp only [arithNames, List.mem_cons, List.mem_nil_iff, or_false] at h
  rcases h with rfl | rfl | rfl <;> decide

theorem promote_int {n : String} (h : n ∈ arithNames) : promote n "int" = n := by
  simp only [arithNames, List.mem_cons, List.mem_nil_iff, or_false] at h
  rcases h with rfl | rfl | rfl <;> decide

theorem aop_facts (op : AOp) : op.text ∉ cmpOps ∧ op.text ∈ arithOps := by cases op <;> decide
theorem cop_facts (op : COp) : op.text ∈ cmpOps := by cases op <;> decide

theorem finishTail_ofFin (s : ChainSt) (fin : ColFin) : finishTail s (Tail.ofFin fin) = finishCol s fin := by
  unfold finishTail finishCol
  cases s.ty with
  | coll a b => rfl
  | value t =>
    cases fin with
    | plain => rfl
    | addOne =>
      simp only [Tail.ofFin, tailValue, AOp.text]
      by_cases har : t.name ∈ arithNames <;> simp only [har, if_true, if_false]
    | eqConst c => rfl

theorem runColT_ofFin (reg : Registry) (rootElem : Term) (steps : List Step) (fin : ColFin) :
    runColT reg rootElem steps (Tail.ofFin fin) = runCol reg rootElem steps fin := by
  unfold runColT runCol initSt
  simp only
  cases runChain reg steps _ with
  | error e => rfl
  | ok s => exact finishTail_ofFin s fin

theorem specAcceptsT_ofFin (reg : Registry) (rootElem : Term) (steps : List Step) (fin : ColFin) :
    specAcceptsT reg rootElem steps (Tail.ofFin fin) = specAccepts reg rootElem steps fin := by
  unfold specAcceptsT specAccepts
  cases specRunTy reg (.value rootElem) steps with
  | none => rfl
  | some ty => cases ty <;> cases fin <;> rfl

/-- **C10.accepts_iff_tail** — with a general tail too, the translator (model) refuses a column
exactly when the property lets it (`specAcceptsT`: beside the refusals of `accepts_iff`,
arithmetic / division on a value that is not int/float/double). -/
theorem accepts_iff_tail (reg : Registry) (rootElem : Term) (steps : List Step) (tl : Tail) :
    (runColT reg rootElem steps tl).toOption.isSome = specAcceptsT reg rootElem steps tl := by
  unfold runColT specAcceptsT
  rw [show specRunTy reg (.value rootElem) steps = tyOfResult (runChain reg steps (initSt rootElem)) from
    (runChain_ty reg steps (initSt rootElem)).symm]
  cases runChain reg steps (initSt rootElem) with
  | error e => rfl
  | ok s =>
    simp only [tyOfResult]
    unfold finishTail
    cases s.ty with
    | coll a b => rfl
    | value t =>
      cases tl with
      | plain => rfl
      | cmp op n => rfl
      | cmpConst op c => rfl
      | arith op n => by_cases har : t.name ∈ arithNames <;> simp [tailValue, har, Except.toOption]
      | div n => by_cases har : t.name ∈ arithNames <;> simp [tailValue, har, Except.toOption]

theorem finishTail_ok {s : ChainSt} {tl : Tail} {out : ColOut} (h : finishTail s tl = .ok out) :
    ∃ t e' t', s.ty = .value t ∧ tailValue s.e t tl = .ok (e', t') ∧
      out = { loops := s.loops, decl := seqWrap (!s.loops.isEmpty) t'.treeType.str, isSeq := !s.loops.isEmpty,
              rhs := if t'.treeType.name = t'.name then e' else .cast t'.treeType.name e',
              valTy := t', warns := s.warns, iterDepths := s.iterDepths } := by
  unfold finishTail at h
  cases hty : s.ty with
  | coll a b => simp only [hty] at h; cases h
  | value t =>
    simp only [hty] at h
    cases hv : tailValue s.e t tl with
    | error e => simp only [hv] at h; cases h
    | ok p =>
      obtain ⟨e', t'⟩ := p
      simp only [hv] at h
      exact ⟨t, e', t', rfl, hv, (Except.ok.inj h).symm⟩

theorem tailValue_typed {D : Decls} {Γ : List (String × CT)} {e e' : CExpr} {t t' : Term} {tl : Tail}
    (he : typeOf D Γ e = some (ctOf t)) (hd : t.depth = 0) (hdom : tailDomain D t tl = true)
    (hconst : ∀ op n, tl = .arith op n → t.isConst = false)
    (hv : tailValue e t tl = .ok (e', t')) :
    typeOf D Γ e' = some { cls := t'.name, lvl := 0, depth := 0 } ∧ isDeclaredValue e' = false ∧
    stripCast e' = (e', none) ∧ t'.depth = 0 ∧ t'.isConst = false ∧ t'.name ∈ arithAll ∧
    (∀ tt, t'.tree = some tt → tt ∈ arithAll) ∧
    t'.treeType.name = tailDeclName t tl ∧
    (if t'.treeType.name = t'.name then none else some t'.treeType.name) = tailCast t tl := by
  have hint : ("int" : String) ∈ arithAll := by decide
  have h0 : ∀ {tb : CT}, tb.depth = 0 → tb.lvl = 0 → (ctOf t).depth = 0 ∧ tb.depth = 0 ∧ (ctOf t).lvl = 0 ∧ tb.lvl = 0 :=
    fun h1 h2 => ⟨hd, h1, rfl, h2⟩
  cases tl with
  | plain => cases hdom
  | arith op n =>
    simp only [tailDomain, Bool.and_eq_true, decide_eq_true_eq] at hdom
    obtain ⟨har, htr⟩ := hdom
    simp only [tailValue, har, if_true, Except.ok.injEq, Prod.mk.injEq] at hv
    obtain ⟨rfl, rfl⟩ := hv
    have hall := arithNames_sub har
    refine ⟨?_, rfl, rfl, hd, hconst op n rfl, hall, ?_, rfl, rfl⟩
    · have := typeOf_arith (op := op.text) he (rfl : typeOf D Γ (.lit n) = _) (h0 rfl rfl) (aop_facts op) ⟨hall, hint⟩
      rw [show (ctOf t).cls = t.name from rfl, promote_int har] at this
      exact this
    · intro tt htt; rw [htt] at htr; exact of_decide_eq_true htr
  | div n =>
    simp only [tailDomain, Bool.or_eq_true, beq_iff_eq] at hdom
    have har : t.name ∈ arithNames := by rcases hdom with h | h <;> rw [h] <;> decide
    simp only [tailValue, har, if_true, Except.ok.injEq, Prod.mk.injEq] at hv
    obtain ⟨rfl, rfl⟩ := hv
    have hdbl : ("double" : String) ∈ arithAll := by decide
    have hq : ("/" : String) ∉ cmpOps ∧ ("/" : String) ∈ arithOps := by decide
    refine ⟨?_, rfl, rfl, rfl, rfl, hdbl, (by intro tt h; cases h), rfl, rfl⟩
    rcases hdom with h | h
    · rw [if_pos h]
      exact typeOf_arith (typeOf_cast he hd rfl (Or.inl (arithNames_sub har)) hdbl) rfl ⟨rfl, rfl, rfl, rfl⟩ hq ⟨hdbl, hint⟩
    · rw [if_neg (by rw [h]; decide)]
      have := typeOf_arith he (rfl : typeOf D Γ (.lit n) = _) (h0 rfl rfl) hq ⟨arithNames_sub har, hint⟩
      rw [show (ctOf t).cls = t.name from rfl, h] at this
      exact this
  | cmp op n =>
    simp only [tailDomain, decide_eq_true_eq] at hdom
    simp only [tailValue, Except.ok.injEq, Prod.mk.injEq] at hv
    obtain ⟨rfl, rfl⟩ := hv
    exact ⟨typeOf_cmp he (rfl : typeOf D Γ (.lit n) = _) (h0 rfl rfl) (cop_facts op) (Or.inl ⟨arithNames_sub hdom, hint⟩),
      rfl, rfl, rfl, rfl, by decide, (by intro tt h; cases h), rfl, rfl⟩
  | cmpConst op c =>
    simp only [tailDomain, Bool.and_eq_true, beq_iff_eq] at hdom
    obtain ⟨hen, hisen⟩ := hdom
    simp only [tailValue, Except.ok.injEq, Prod.mk.injEq] at hv
    obtain ⟨rfl, rfl⟩ := hv
    have hq : typeOf D Γ (.qual c) = some { cls := t.name, lvl := 0, depth := 0 } := by
      simp only [typeOf, hen, Option.map_some]
    exact ⟨typeOf_cmp he hq (h0 rfl rfl) (cop_facts op) (Or.inr ⟨rfl, hisen⟩),
      rfl, rfl, rfl, rfl, by decide, (by intro tt h; cases h), rfl, rfl⟩

theorem column_tail_typed (D : Decls) (Γ0 : List (String × CT)) (s : ChainSt) (out : ColOut) (tl : Tail)
    (hinv : ChainInv D Γ0 s) (hfin : finishTail s tl = .ok out)
    (hconst : ∀ op n, tl = .arith op n → s.ty.term.isConst = false) (hdepth : s.ty.term.depth = 0)
    (hdom : tailDomain D s.ty.term tl = true) :
    colOk D s.gamma out.decl out.isSeq out.rhs = true ∧
    out.decl = seqWrap out.isSeq (tailDeclName s.ty.term tl) ∧
    (stripCast out.rhs).2 = tailCast s.ty.term tl := by
  obtain ⟨t, e', t', hty, hv, rfl⟩ := finishTail_ok hfin
  have htyped := hinv.typed
  rw [hty] at htyped hconst hdepth hdom ⊢
  obtain ⟨htyped', hcomputed, hnocast, hdepth', hconst', harith, htree, hdecl, hcast⟩ :=
    tailValue_typed htyped hdepth hdom hconst hv
  refine ⟨?_, ?_, ?_⟩
  · apply colOk_finish _ htyped' rfl hdepth'.symm hnocast hconst'
    · rw [hcomputed]; exact harith
    · exact fun tt htr _ => ⟨rfl, rfl, Or.inl harith, htree tt htr⟩
  · show seqWrap _ _ = _
    rw [Term.treeType_str hconst', hdepth', hdecl, show starsS 0 = "" from rfl, String.append_empty]
  · rw [← hcast]
    show (stripCast (if _ then _ else _)).2 = _
    split
    · rw [hnocast]
    · rfl

end FaxVerif.C10
