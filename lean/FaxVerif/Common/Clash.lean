/-
Two members of a list that may not stand together (one name, different content). What one more element adds.
-/
namespace FaxVerif
variable {α : Type} {R : α → α → Prop}

/-- two members of `l` are related by `R` -/
def Clash (R : α → α → Prop) (l : List α) : Prop := ∃ a ∈ l, ∃ b ∈ l, R a b

theorem Clash.mono {l l' : List α} (h : ∀ a ∈ l, a ∈ l') : Clash R l → Clash R l'
  | ⟨a, ha, b, hb, hr⟩ => ⟨a, h a ha, b, h b hb, hr⟩

/-- a new clash in `l ++ [b]` has `b` on one side; by symmetry, on the right -/
theorem clash_snoc (hs : ∀ a b, R a b → R b a) (hi : ∀ a, ¬ R a a) (l : List α) (b : α) :
    Clash R (l ++ [b]) ↔ Clash R l ∨ ∃ a ∈ l, R a b := by
  constructor
  · rintro ⟨x, hx, y, hy, hr⟩
    rw [List.mem_append, List.mem_singleton] at hx hy
    rcases hx with hx | rfl <;> rcases hy with hy | rfl
    · exact .inl ⟨x, hx, y, hy, hr⟩
    · exact .inr ⟨x, hx, hr⟩
    · exact .inr ⟨y, hy, hs _ _ hr⟩
    · exact absurd hr (hi _)
  · rintro (h | ⟨a, ha, hr⟩)
    · exact h.mono fun _ => List.mem_append_left _
    · exact ⟨a, List.mem_append_left _ ha, b, List.mem_append_right _ List.mem_cons_self, hr⟩

end FaxVerif
