/-
Maximal runs at the head of a list (a word at the head of a line, the digits of a literal, the digits at the end of a name
read backwards): what a list starts with (`HeadIs`), where a run stops (`HeadFails`), what `takeWhile` / `dropWhile` read
of it, and that it is determined.
-/
namespace FaxVerif.Runs
variable {α : Type} {P : α → Bool}

/-- `rest` is empty or starts with an element of which `Q` holds: the form of a condition on what may follow a run, a token,
a printed expression -/
def HeadIs (Q : α → Prop) (rest : List α) : Prop := ∀ c, rest.head? = some c → Q c

section
variable {Q Q' : α → Prop}

theorem headIs_nil : HeadIs Q [] := fun _ e => nomatch e

theorem headIs_cons {c : α} (r : List α) (hc : Q c) : HeadIs Q (c :: r) :=
  fun _ e => Option.some.inj e ▸ hc

theorem HeadIs.mono {rest : List α} (h : HeadIs Q rest) (hq : ∀ c, Q c → Q' c) : HeadIs Q' rest :=
  fun c e => hq c (h c e)

/-- the same said of the decomposition of `rest` -/
theorem headIs_iff {rest : List α} : HeadIs Q rest ↔ ∀ d r, rest = d :: r → Q d :=
  ⟨fun h d r e => h d (by rw [e]; rfl), fun h c hc => by
    cases rest with
    | nil => cases hc
    | cons d r => cases hc; exact h _ r rfl⟩

theorem headIs_append {a : List α} {d : α} (ha : a.head? = some d) (hd : Q d) (b : List α) : HeadIs Q (a ++ b) := by
  cases a with
  | nil => cases ha
  | cons x y => cases ha; exact headIs_cons _ hd

end

/-- `rest` is empty or starts with an element that fails `P`: a run of `P`-elements ends in front of it;
`HeadIs (P · = false) rest` -/
def HeadFails (P : α → Bool) (rest : List α) : Prop := ∀ c, rest.head? = some c → P c = false

theorem headFails_cons {c : α} (r : List α) (hc : P c = false) : HeadFails P (c :: r) := headIs_cons r hc

theorem takeWhile_of_headFails {rest : List α} (h : HeadFails P rest) : rest.takeWhile P = [] := by
  cases rest with
  | nil => rfl
  | cons d r => simp [h d rfl]

theorem dropWhile_of_headFails {rest : List α} (h : HeadFails P rest) : rest.dropWhile P = rest := by
  cases rest with
  | nil => rfl
  | cons d r => simp [h d rfl]

/-- a run followed by a stop is read off exactly -/
theorem takeWhile_run {w rest : List α} (hw : ∀ a ∈ w, P a = true) (h : HeadFails P rest) :
    (w ++ rest).takeWhile P = w := by
  rw [List.takeWhile_append_of_pos hw, takeWhile_of_headFails h, List.append_nil]

theorem dropWhile_run {w rest : List α} (hw : ∀ a ∈ w, P a = true) (h : HeadFails P rest) :
    (w ++ rest).dropWhile P = rest := by
  rw [List.dropWhile_append_of_pos hw, dropWhile_of_headFails h]

/-- … and whatever `w` is, what comes after a stop does not change what is read of `w` -/
theorem takeWhile_append_stop (w : List α) {rest : List α} (h : HeadFails P rest) :
    (w ++ rest).takeWhile P = w.takeWhile P := by
  induction w with
  | nil => exact takeWhile_of_headFails h
  | cons c w ih => by_cases hc : P c = true <;> simp [hc, ih]

theorem dropWhile_append_stop (w : List α) {rest : List α} (h : HeadFails P rest) :
    (w ++ rest).dropWhile P = w.dropWhile P ++ rest := by
  induction w with
  | nil => exact dropWhile_of_headFails h
  | cons c w ih => by_cases hc : P c = true <;> simp [hc, ih]

/-- … and a run that stops inside `pre` is read the same whatever follows `pre` -/
theorem takeWhile_prefix {pre w : List α} (x : List α) (h : pre.takeWhile P = w) (hlt : w.length < pre.length) :
    (pre ++ x).takeWhile P = w := by
  subst h
  induction pre with
  | nil => simp at hlt
  | cons c q ih =>
    by_cases hc : P c = true
    · simp only [List.takeWhile_cons, hc, if_true, List.length_cons, Nat.add_lt_add_iff_right, List.cons_append] at hlt ⊢
      rw [ih hlt]
    · simp [hc]

/-- If `x ++ r = y ++ s`, `x` and `y` consist of `P`-characters and neither `r` nor `s` goes on with one, the two
splits are the same. -/
theorem run_prefix_unique {x y r s : List α} (h : x ++ r = y ++ s)
    (hx : ∀ c ∈ x, P c = true) (hy : ∀ c ∈ y, P c = true) (hr : HeadFails P r) (hs : HeadFails P s) :
    x = y ∧ r = s := by
  -- the longer run would go on into the other side's rest with a `P`-character
  have key : ∀ {x y r s : List α}, (∀ c ∈ y, P c = true) → (∀ c, r.head? = some c → P c = false) →
      ∀ z, y = x ++ z → r = z ++ s → z = [] := by
    intro x y r s hy hr z h1 h2
    cases z with
    | nil => rfl
    | cons c z =>
      have t := hy c (by rw [h1]; exact List.mem_append_right _ List.mem_cons_self)
      rw [hr c (by rw [h2]; rfl)] at t; cases t
  rcases List.append_eq_append_iff.1 h with ⟨z, h1, h2⟩ | ⟨z, h1, h2⟩
  · cases key hy hr z h1 h2; exact ⟨by simpa using h1.symm, by simpa using h2⟩
  · cases key hx hs z h1 h2; exact ⟨by simpa using h1, by simpa using h2.symm⟩

end FaxVerif.Runs
