/-
Core's `List.eraseDups` is "the first occurrences, in order", which several models spell in their own way. Core has
`eraseDups_cons`, `eraseDups_append`, `mem_eraseDups`; here, in core's namespace `List`: no repetition, a sublist, one
more element, that it commutes with `filter` (`eraseDups_filter`) and hence the recursion with the filter outside
(`eraseDups_cons_filter`), over which inductions are structural, and that the first occurrences stand in the order of
their first positions (`pairwise_idxOf_eraseDups`). Core's `eraseDups_cons` recurses on a filtered tail, so the
inductions up to `eraseDups_cons_filter` are on the length.
-/
namespace List
variable {α : Type} [BEq α]

theorem eraseDups_sublist : ∀ l : List α, l.eraseDups.Sublist l
  | [] => by simp
  | a :: as => by
    rw [eraseDups_cons]
    exact ((eraseDups_sublist _).trans filter_sublist).cons_cons a
termination_by l => l.length
decreasing_by exact Nat.lt_succ_of_le (length_filter_le _ _)

variable [LawfulBEq α]

theorem nodup_eraseDups : ∀ l : List α, l.eraseDups.Nodup
  | [] => by simp
  | a :: as => by
    rw [eraseDups_cons, nodup_cons]
    exact ⟨by simp [mem_eraseDups], nodup_eraseDups _⟩
termination_by l => l.length
decreasing_by exact Nat.lt_succ_of_le (length_filter_le _ _)

theorem eraseDups_snoc (l : List α) (a : α) :
    (l ++ [a]).eraseDups = if a ∈ l then l.eraseDups else l.eraseDups ++ [a] := by
  rw [eraseDups_append]
  by_cases h : a ∈ l <;> simp [removeAll, h, eraseDups_cons]

theorem eraseDups_filter (p : α → Bool) : ∀ l : List α, (l.filter p).eraseDups = l.eraseDups.filter p
  | [] => by simp
  | a :: l => by
    have ih := eraseDups_filter p (l.filter fun b => !b == a)
    rw [eraseDups_cons, filter_cons, filter_cons, ← ih, filter_filter]
    split
    · rw [eraseDups_cons, filter_filter]; simp only [Bool.and_comm]
    · rename_i ha
      exact congrArg _ (filter_congr fun b _ => by by_cases hb : b = a <;> simp [hb, ha])
termination_by l => l.length
decreasing_by exact Nat.lt_succ_of_le (length_filter_le _ _)

theorem eraseDups_cons_filter (a : α) (l : List α) : (a :: l).eraseDups = a :: l.eraseDups.filter (· != a) := by
  rw [eraseDups_cons, eraseDups_filter]; rfl

/-- The first occurrences stand in the order of their first positions. -/
theorem pairwise_idxOf_eraseDups : ∀ l : List α, (l.eraseDups.map l.idxOf).Pairwise (· < ·)
  | [] => by simp
  | a :: l => by
    have hm : (l.eraseDups.filter (· != a)).map (a :: l).idxOf = (l.eraseDups.filter (· != a)).map (l.idxOf · + 1) :=
      map_congr_left fun b hb => by
        rw [idxOf_cons, beq_false_of_ne (Ne.symm (bne_iff_ne.1 (mem_filter.1 hb).2))]; rfl
    rw [eraseDups_cons_filter, map_cons, idxOf_cons_self, hm, pairwise_cons]
    exact ⟨fun n hn => by obtain ⟨b, _, rfl⟩ := mem_map.1 hn; exact Nat.succ_pos _,
      (pairwise_map.2 ((pairwise_map.1 (pairwise_idxOf_eraseDups l)).imp Nat.succ_lt_succ)).sublist (filter_sublist.map _)⟩

end List
