/-
Dictionaries as the models write them: a list of records searched by a key. `firstBy`: the first record with the
key counts (`dict.setdefault`, a scope searched from the inside); `lastBy`: the last one (a dict filled by
assignments in order). A model keeps its own lookup and, where its proofs need these lemmas, shows it equal to one of these; the models that
keep a dict as its list of items (C07's registries, C11's bindings and table of callbacks) share `get` / `set` /
`update` at the end.
-/
namespace FaxVerif.Dict
variable {α β κ : Type} [DecidableEq κ] (key : α → κ)

def firstBy (l : List α) (k : κ) : Option α := l.find? fun a => decide (key a = k)
def lastBy (l : List α) (k : κ) : Option α := firstBy key l.reverse k

theorem firstBy_cons (a : α) (l : List α) (k : κ) :
    firstBy key (a :: l) k = if key a = k then some a else firstBy key l k := by
  simp only [firstBy, List.find?_cons]; split <;> simp_all

theorem firstBy_append (l m : List α) (k : κ) : firstBy key (l ++ m) k = (firstBy key l k).or (firstBy key m k) := by
  simp [firstBy, List.find?_append]

theorem firstBy_some {l : List α} {k : κ} {a : α} (h : firstBy key l k = some a) : a ∈ l ∧ key a = k :=
  ⟨List.mem_of_find?_eq_some h, by simpa using List.find?_some h⟩

theorem firstBy_eq_none {l : List α} {k : κ} : firstBy key l k = none ↔ k ∉ l.map key := by
  simp only [firstBy, List.find?_eq_none, List.mem_map, not_exists, not_and, decide_eq_true_eq]

/-- in a list without repeated keys no record before `b` has the key of `b` -/
theorem firstBy_none_of_nodup {l m : List α} {b : α} (h : ((l ++ b :: m).map key).Nodup) : firstBy key l (key b) = none := by
  rw [List.map_append, List.map_cons] at h
  exact (firstBy_eq_none key).2 fun hk => (List.nodup_append.1 h).2.2 _ hk _ List.mem_cons_self rfl

theorem firstBy_of_nodup : ∀ {l : List α}, (l.map key).Nodup → ∀ {a : α}, a ∈ l → firstBy key l (key a) = some a
  | b :: l, hnd, a, ha => by
    rw [List.map_cons, List.nodup_cons] at hnd
    rw [firstBy_cons]
    rcases List.mem_cons.1 ha with rfl | ha
    · simp
    · have : key b ≠ key a := fun e => hnd.1 (e ▸ List.mem_map_of_mem ha)
      simp [this, firstBy_of_nodup hnd.2 ha]

theorem firstBy_map (f : α → β) (key' : β → κ) (h : ∀ a, key' (f a) = key a) (l : List α) (k : κ) :
    firstBy key' (l.map f) k = (firstBy key l k).map f := by
  simp [firstBy, List.find?_map, Function.comp_def, h]

/-- the recursion the models write for "the last assignment wins" -/
theorem lastBy_cons (a : α) (l : List α) (k : κ) :
    lastBy key (a :: l) k = match lastBy key l k with
      | some b => some b
      | none => if key a = k then some a else none := by
  simp only [lastBy, List.reverse_cons, firstBy_append, firstBy_cons]
  cases firstBy key l.reverse k <;> simp [firstBy]

theorem lastBy_append (l m : List α) (k : κ) : lastBy key (l ++ m) k = (lastBy key m k).or (lastBy key l k) := by
  simp [lastBy, firstBy_append]

theorem lastBy_some {l : List α} {k : κ} {a : α} (h : lastBy key l k = some a) : a ∈ l ∧ key a = k :=
  ⟨List.mem_reverse.1 (firstBy_some key h).1, (firstBy_some key h).2⟩

theorem lastBy_eq_none {l : List α} {k : κ} : lastBy key l k = none ↔ k ∉ l.map key := by
  simp [lastBy, firstBy_eq_none]

theorem lastBy_of_nodup {l : List α} (hnd : (l.map key).Nodup) {a : α} (ha : a ∈ l) : lastBy key l (key a) = some a :=
  firstBy_of_nodup key (by rw [List.map_reverse]; exact (List.reverse_perm _).nodup_iff.2 hnd) (List.mem_reverse.2 ha)

theorem lastBy_map (f : α → β) (key' : β → κ) (h : ∀ a, key' (f a) = key a) (l : List α) (k : κ) :
    lastBy key' (l.map f) k = (lastBy key l k).map f := by
  rw [lastBy, ← List.map_reverse, firstBy_map key f key' h, lastBy]

/-! A Python dict as the list of its items `(key, value)` in insertion order: `get` is `firstBy` on the first components. -/
section Items
variable {ν : Type}

def get (l : List (κ × ν)) (k : κ) : Option ν := (firstBy (·.1) l k).map (·.2)

/-- `d[k] = v`: an existing key keeps its place, a new one goes to the end -/
def set : List (κ × ν) → κ → ν → List (κ × ν)
  | [], k, v => [(k, v)]
  | (k', v') :: t, k, v => if k' = k then (k, v) :: t else (k', v') :: set t k v

/-- `d.update(o)` -/
def update (d : List (κ × ν)) : List (κ × ν) → List (κ × ν)
  | [] => d
  | (k, v) :: o => update (set d k v) o

theorem get_cons (k' : κ) (v : ν) (l : List (κ × ν)) (k : κ) :
    get ((k', v) :: l) k = if k' = k then some v else get l k := by
  rw [get, firstBy_cons]; split <;> rfl

theorem get_append (l m : List (κ × ν)) (k : κ) : get (l ++ m) k = (get l k).or (get m k) := by
  rw [get, firstBy_append]; cases h : firstBy (·.1) l k <;> simp [get, h]

theorem get_eq_none {l : List (κ × ν)} {k : κ} : get l k = none ↔ k ∉ l.map (·.1) := by
  rw [get, Option.map_eq_none_iff]; exact firstBy_eq_none _

theorem get_set (l : List (κ × ν)) (k : κ) (v : ν) (k' : κ) :
    get (set l k v) k' = if k = k' then some v else get l k' := by
  induction l with
  | nil => rw [set, get_cons]
  | cons a l ih =>
    obtain ⟨k₀, v₀⟩ := a
    rw [set]
    by_cases h : k₀ = k
    · subst h; rw [if_pos rfl, get_cons, get_cons]; split <;> rfl
    · rw [if_neg h, get_cons, get_cons, ih]
      by_cases h' : k₀ = k'
      · subst h'; rw [if_pos rfl, if_neg (Ne.symm h), if_pos rfl]
      · rw [if_neg h', if_neg h']

theorem keys_set (l : List (κ × ν)) (k : κ) (v : ν) :
    (set l k v).map (·.1) = if k ∈ l.map (·.1) then l.map (·.1) else l.map (·.1) ++ [k] := by
  induction l with
  | nil => rfl
  | cons a l ih =>
    obtain ⟨k₀, v₀⟩ := a
    rw [set, List.map_cons]
    by_cases h : k₀ = k
    · rw [if_pos h, if_pos (h ▸ List.mem_cons_self), h]; rfl
    · rw [if_neg h, List.map_cons, ih]
      by_cases hm : k ∈ l.map (·.1)
      · rw [if_pos hm, if_pos (List.mem_cons_of_mem _ hm)]
      · rw [if_neg hm, if_neg fun e => (List.mem_cons.1 e).elim (fun e => h e.symm) hm]; rfl

theorem nodup_set (l : List (κ × ν)) (k : κ) (v : ν) (hn : (l.map (·.1)).Nodup) : ((set l k v).map (·.1)).Nodup := by
  rw [keys_set]
  split
  · exact hn
  · next hm => exact List.nodup_append.2 ⟨hn, by simp, fun a ha b hb => by
      rw [List.mem_singleton.1 hb]; exact fun e => hm (e ▸ ha)⟩

theorem get_update_of_not_mem (d o : List (κ × ν)) (k : κ) (h : k ∉ o.map (·.1)) : get (update d o) k = get d k := by
  induction o generalizing d with
  | nil => rfl
  | cons a o ih =>
    obtain ⟨k₀, v₀⟩ := a
    rw [update, ih _ (List.not_mem_of_not_mem_cons h), get_set, if_neg (Ne.symm (List.ne_of_not_mem_cons h))]

theorem get_update_congr (d d' o : List (κ × ν)) (k : κ) (h : k ∉ o.map (·.1) → get d k = get d' k) :
    get (update d o) k = get (update d' o) k := by
  induction o generalizing d d' with
  | nil => exact h List.not_mem_nil
  | cons a o ih =>
    obtain ⟨k₀, v₀⟩ := a
    refine ih _ _ fun ht => ?_
    rw [get_set, get_set]
    split
    · rfl
    · next hne => exact h fun hm => (List.mem_cons.1 hm).elim (fun e => hne e.symm) ht

theorem get_update (d o : List (κ × ν)) (hn : (o.map (·.1)).Nodup) (k : κ) :
    get (update d o) k = (get o k).or (get d k) := by
  induction o generalizing d with
  | nil => rfl
  | cons a o ih =>
    obtain ⟨k₀, v₀⟩ := a
    rw [List.map_cons, List.nodup_cons] at hn
    rw [update, ih _ hn.2, get_set, get_cons]
    split
    · next e => rw [← e, get_eq_none.2 hn.1]; rfl
    · rfl

end Items

end FaxVerif.Dict
