/-
"Append unless present", folded over a list: `add_include` for every header of a row (`C12.mergeIncs`), `define_ns`
for every prefix of a path (`C10.addNew`). Each model writes the step in its own way and it is this `fun`, by
unfolding: what the fold holds in the end, when it changes nothing, and that it is core's `List.eraseDups` (the
first occurrences, in order), which `C02.dedupFirst` and `C06.DedupSpec` describe.
-/
import FaxVerif.Common.EraseDups
namespace FaxVerif.AddNew
section
variable {α : Type} [DecidableEq α]

theorem mem_foldl (xs : List α) : ∀ (l : List α) (b : α),
    b ∈ xs.foldl (fun acc a => if a ∈ acc then acc else acc ++ [a]) l ↔ b ∈ l ∨ b ∈ xs := by
  induction xs with
  | nil => intro l b; simp
  | cons x xs ih =>
    intro l b
    rw [List.foldl_cons, ih, List.mem_cons]
    by_cases hx : x ∈ l
    · rw [if_pos hx]
      exact ⟨Or.imp_right Or.inr, fun h => h.elim Or.inl fun h => h.elim (fun e => Or.inl (e ▸ hx)) Or.inr⟩
    · rw [if_neg hx, List.mem_append, List.mem_singleton, or_assoc]

theorem foldl_id (xs l : List α) (h : ∀ a ∈ xs, a ∈ l) :
    xs.foldl (fun acc a => if a ∈ acc then acc else acc ++ [a]) l = l := by
  induction xs with
  | nil => rfl
  | cons x xs ih =>
    rw [List.foldl_cons, if_pos (h x List.mem_cons_self)]
    exact ih fun a ha => h a (List.mem_cons_of_mem _ ha)

end

-- `eraseDups` compares by `BEq`; over it `String` and `List Char` unify with the instance their models' `∈` found.
variable {α : Type} [BEq α] [LawfulBEq α]

theorem foldl_eraseDups (xs : List α) : ∀ l : List α,
    xs.foldl (fun acc a => if a ∈ acc then acc else acc ++ [a]) l.eraseDups = (l ++ xs).eraseDups := by
  induction xs with
  | nil => intro l; rw [List.append_nil]; rfl
  | cons x xs ih =>
    intro l
    have := ih (l ++ [x])
    rw [List.eraseDups_snoc, List.append_assoc] at this
    simp only [List.foldl_cons, List.mem_eraseDups]
    exact this

theorem foldl_nil (xs : List α) : xs.foldl (fun acc a => if a ∈ acc then acc else acc ++ [a]) [] = xs.eraseDups :=
  foldl_eraseDups xs []

end FaxVerif.AddNew
