/-
Names drawn from a counter (`cpp_vars.unique_name`: a prefix with the decimal index glued on), as C06 and C11
both model them.
-/
import FaxVerif.Common.Runs
namespace FaxVerif.CounterNames

/-- `p` does not end in a decimal digit (the empty prefix included) -/
def NoDigitTail (p : List Char) : Prop := ∀ c, p.getLast? = some c → c.isDigit = false

theorem toDigits_inj {a b : Nat} (h : Nat.toDigits 10 a = Nat.toDigits 10 b) : a = b := by
  have := congrArg (fun l => Nat.ofDigitChars 10 l 0) h
  simpa [Nat.ofDigitChars_ten_toDigits] using this

/-- A prefix that does not end in a digit can be told from the index: read from the back, the name starts with the
run of digits, and a maximal run is determined (`run_prefix_unique`). -/
theorem append_toDigits_inj {p q : List Char} {a b : Nat} (hp : NoDigitTail p) (hq : NoDigitTail q)
    (h : p ++ Nat.toDigits 10 a = q ++ Nat.toDigits 10 b) : p = q ∧ a = b := by
  have h' := congrArg List.reverse h
  rw [List.reverse_append, List.reverse_append] at h'
  have dig : ∀ n, ∀ c ∈ (Nat.toDigits 10 n).reverse, c.isDigit = true := fun n c hc =>
    Nat.isDigit_of_mem_toDigits (by decide) (by decide) (List.mem_reverse.1 hc)
  have tail : ∀ {p}, NoDigitTail p → ∀ c, p.reverse.head? = some c → c.isDigit = false := fun hp c hc =>
    hp c (by rw [List.getLast?_eq_head?_reverse]; exact hc)
  obtain ⟨e1, e2⟩ := Runs.run_prefix_unique (P := Char.isDigit) h' (dig a) (dig b) (tail hp) (tail hq)
  exact ⟨List.reverse_inj.1 e2, toDigits_inj (List.reverse_inj.1 e1)⟩

end FaxVerif.CounterNames
