/-
C18 — a numeric constant on its way through conditional expressions into a column: the conversions
keep a storable constant (`kept_own`, `kept_doubles`), and every step of a path is a `double`
(`paths_shape`). Helper lemmas for `Theorems.lean`.
-/
import FaxVerif.C18.Spec
namespace FaxVerif.C18

theorem convChain_doubles (b : Nat) : ∀ chain : List CTy, (∀ t ∈ chain, t = .double) →
    convChain chain (.dbl b) = some (.dbl b) := by
  intro chain
  induction chain with
  | nil => intro _; rfl
  | cons t ts ih =>
    intro h
    have ht : t = .double := h t (by simp)
    subst ht
    have := ih (fun t' ht' => h t' (by simp [ht']))
    simp [convChain, convTo, this]

@[elab_as_elim]
theorem storable_cases {P : PyConst → Prop} (int : ∀ n, InInt32 n → P (.int n)) (bool : ∀ b, P (.bool b))
    (float : ∀ neg ip fp ex bits, WFRepr (.finite neg ip fp ex) → ReprFaithful (.finite neg ip fp ex) bits →
      P (.float (.finite neg ip fp ex) bits)) (c : PyConst) (h : StorableConst c) : P c :=
  match c, h with
  | .int n, h => int n h
  | .bool b, _ => bool b
  | .float (.finite neg ip fp ex) bits, h => float neg ip fp ex bits h.1 h.2
  | .float (.inf _) _, h | .float .nan _, h | .str _, h | .other _, h => False.elim h

theorem conv_double_storable (c : PyConst) (h : StorableConst c) :
    ∃ v x, valOf c = some v ∧ convTo .double v = some (.dbl x) ∧ sameNum v (.dbl x) = true := by
  refine storable_cases ?_ ?_ ?_ c h
  · intro n ⟨h1, h2⟩
    -- an int of the 32-bit range is below 2^53
    have hb : ∃ b, intToDbl n = some b := by
      unfold intToDbl
      by_cases h0 : n.natAbs = 0
      · exact ⟨0, by simp [h0]⟩
      · have hlt : n.natAbs < 2 ^ 53 := by omega
        simp only [h0, hlt, if_true, if_false]
        exact ⟨_, rfl⟩
    obtain ⟨b, hb⟩ := hb
    exact ⟨.int n, b, rfl, by simp [convTo, hb], by simp [sameNum, convTo, hb]⟩
  · intro b
    exact ⟨.bool b, (if b then 4607182418800017408 else 0), rfl, by simp [convTo], by simp [sameNum, convTo]⟩
  · intro neg ip fp ex bits _ _
    exact ⟨.dbl bits, bits, rfl, by simp [convTo], by simp [sameNum, convTo]⟩

theorem keptThrough_of_valOf {c : PyConst} {v : NVal} (h : valOf c = some v) (chain : List CTy) :
    keptThrough c chain = keptVal v chain := by
  cases c with
  | str s => cases h
  | _ => simp only [keptThrough, h]

theorem kept_doubles (c : PyConst) (h : StorableConst c) (chain : List CTy) (hne : chain ≠ [])
    (hd : ∀ t ∈ chain, t = .double) : keptThrough c chain = true := by
  obtain ⟨v, x, hv, hc, hs⟩ := conv_double_storable c h
  cases chain with
  | nil => exact absurd rfl hne
  | cons t ts =>
    obtain rfl : t = .double := hd t (by simp)
    have hts := convChain_doubles x ts (fun t' ht' => hd t' (by simp [ht']))
    rw [keptThrough_of_valOf hv]
    simp [keptVal, convChain, hc, hts, hs]

theorem kept_own (c : PyConst) (h : StorableConst c) : keptThrough c [litTy c] = true := by
  refine storable_cases ?_ ?_ ?_ c h
  · intro n hn
    have hf : fitsTy .int n = true := decide_eq_true hn
    simp [keptThrough, keptVal, valOf, litTy, convChain, convTo, isIntTy, hf, sameNum]
  · intro b
    simp [keptThrough, keptVal, valOf, litTy, convChain, convTo, sameNum]
  · intro neg ip fp ex bits _ _
    simp [keptThrough, keptVal, valOf, litTy, convChain, convTo, sameNum]

theorem setVarSteps_doubles (src : CTy) : ∀ t ∈ setVarSteps .double src, t = .double := by
  unfold setVarSteps
  by_cases h : src = .double <;> simp [h]

/-- shape of the paths: the constants are the carrier's, and every step before the column is a
`double` (the result variable of each enclosing conditional and the cast `set_var` writes) -/
theorem paths_shape : ∀ k : Carrier, ∀ p ∈ k.paths, p.1 ∈ k.consts ∧ ∀ t ∈ p.2, t = .double := by
  intro k
  induction k with
  | const c =>
    intro p hp
    simp [Carrier.paths] at hp
    subst hp
    simp [Carrier.consts]
  | ite a b iha ihb =>
    intro p hp
    simp only [Carrier.paths, List.mem_append, List.mem_map] at hp
    rcases hp with ⟨q, hq, rfl⟩ | ⟨q, hq, rfl⟩
    · obtain ⟨h1, h2⟩ := iha q hq
      exact ⟨by simp [Carrier.consts, h1], List.forall_mem_append.mpr ⟨h2, setVarSteps_doubles a.ty⟩⟩
    · obtain ⟨h1, h2⟩ := ihb q hq
      exact ⟨by simp [Carrier.consts, h1], List.forall_mem_append.mpr ⟨h2, setVarSteps_doubles b.ty⟩⟩

/-- under an accepted conditional no constant is a string (a bare string constant is fine) -/
theorem accepted_nostr : ∀ k : Carrier, k.accepted = true → (∀ s, k ≠ .const (.str s)) →
    ∀ c ∈ k.consts, ∀ s, c ≠ .str s := by
  intro k
  induction k with
  | const c =>
    intro _ hk c' hc' s hs
    simp [Carrier.consts] at hc'
    subst hc'; subst hs
    exact hk s rfl
  | ite a b iha ihb =>
    intro hacc _ c hc s
    simp only [Carrier.accepted, Bool.and_eq_true, bne_iff_ne, ne_eq] at hacc
    obtain ⟨⟨⟨hta, htb⟩, haa⟩, hab⟩ := hacc
    simp only [Carrier.consts, List.mem_append] at hc
    rcases hc with hc | hc
    · exact iha haa (fun s' h' => hta (by simp [h', Carrier.ty, litTy])) c hc s
    · exact ihb hab (fun s' h' => htb (by simp [h', Carrier.ty, litTy])) c hc s

end FaxVerif.C18
