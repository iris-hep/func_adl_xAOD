/-
C18 — how many decimal digits a `double` literal needs.

`visit_Constant` writes a float as `str(value)` = CPython's shortest round-trip `repr`. The
alternative a maintainer might choose is a FIXED precision (`f"{value:.15g}"`, "a double holds
DBL_DIG = 15 digits" — the seeded changes C12-e2 / C18-e2). What precision is enough?

* ABSTRACT GRID MODEL (all of binary64, subnormals included; pure integer arithmetic, every quantity
  scaled by one common positive factor so that it is a natural number): a positive double is
  `X = m·U` with `U` its unit in the last place and `m < 2^53`; its neighbours are `X ± U` (below a
  power of two the lower neighbour is at `U/2`). A decimal with 17 significant digits is `A = D·T`
  with `D ≥ 10^16` and `T` its unit in the last decimal place; it is a correctly rounded 17-digit
  decimal of `X` (or closer) when `2·|A − X| ≤ T`. Then `A` lies strictly inside the rounding
  interval of `X`, because `2^53 < 10^16`; with 15 digits it need not, because `10^14 < 2^53`.
* ON THE REAL ORACLE (`roundsTo` of Spec.lean, the exact-arithmetic rounding test the harness
  evaluates on the implementation's literals): kernel-decided witnesses, and the general link
  `roundsTo_of_grid_all` — the two strict comparisons of `roundsTo` ARE the grid inequalities
  `(2m−1)·H < A < (2m+1)·H` in the scaling `S = 2^(-min k (e-1))·5^(-min k 0)`; at a binade-boundary
  double (`m = 2^52`, `e > -1074`) `roundsTo` makes its lower comparison against `(4m−1)·2^(e-2)`,
  which in the same scaling is `(4m−1)·H < 2·A` (`cmpScaled_gt_quarter`), the conclusion of
  `seventeen_digits_round_trip_at_binade_boundary`. So `seventeen_digits_roundsTo_all` holds of every
  finite non-zero double; `roundsTo_of_grid` and `seventeen_digits_roundsTo`, which exclude the
  boundaries, are its instances.
  Not proved: that CPython's `repr` (or `%.17g`) produces a decimal within half a unit of its
  last place — that is `ReprFaithful`, checked per sampled float.
-/
import FaxVerif.C18.Spec
namespace FaxVerif.C18

/-- **17 significant digits always round-trip.** `X = m·U` a positive double (`m < 2^53`: normal or
subnormal), `A = D·T` a decimal with at least 17 significant digits (`D ≥ 10^16`) within half a unit
of its last place of `X`. Then `A` is strictly nearer to `X` than to the midpoints `X ± U/2`: a
correctly rounding conversion of `A` yields `X`. -/
theorem seventeen_digits_round_trip (X U T A D : Nat)
    (hX : X < 9007199254740992 * U)                    -- m < 2^53
    (hA : A = D * T) (hD : 10000000000000000 ≤ D)       -- 17 significant digits
    (hup : 2 * (A - X) ≤ T) (hdn : 2 * (X - A) ≤ T) :   -- |A − X| ≤ T/2
    2 * A < 2 * X + U ∧ 2 * X < 2 * A + U := by
  have hT : 10000000000000000 * T ≤ A := by
    rw [hA]; exact Nat.mul_le_mul_right T hD
  omega

/-- … and at a binade boundary (`X = 2^52·U`, a power of two: the double below it is at distance
`U/2`, the rounding interval reaches only `U/4` down): `A` is still strictly inside. -/
theorem seventeen_digits_round_trip_at_binade_boundary (X U T A D : Nat)
    (hU : 0 < U) (hX : X = 4503599627370496 * U)
    (hA : A = D * T) (hD : 10000000000000000 ≤ D)
    (hup : 2 * (A - X) ≤ T) (hdn : 2 * (X - A) ≤ T) :
    2 * A < 2 * X + U ∧ 4 * X < 4 * A + U := by
  have hT : 10000000000000000 * T ≤ A := by
    rw [hA]; exact Nat.mul_le_mul_right T hD
  omega

/-- the arithmetic fact behind it, and why 15 (or 16) digits are not enough -/
theorem digits_vs_bits : 2 ^ 53 < 10 ^ 16 ∧ 10 ^ 15 < 2 ^ 53 ∧ 10 ^ 14 < 2 ^ 53 := by decide

/-- **15 significant digits do not**: on the same grid, with `D ≥ 10^14` only, there are `X`, `A`
satisfying every hypothesis for which `A` is beyond the midpoint (it rounds to a different double):
the double `X = 9007199254740985` (`U = 1`, `m < 2^53`) and its nearest 15-digit decimal
`A = 900719925474099·10`. The full statement with 15 digits is FALSE. -/
theorem fifteen_digits_do_not :
    ∃ X U T A D : Nat, X < 9007199254740992 * U ∧ A = D * T ∧ 100000000000000 ≤ D ∧
      2 * (A - X) ≤ T ∧ 2 * (X - A) ≤ T ∧ ¬ (2 * A < 2 * X + U) :=
  ⟨9007199254740985, 1, 10, 9007199254740990, 900719925474099, by decide, by decide, by decide,
    by decide, by decide, by decide⟩

/-- the value of a floating literal text, for the examples -/
def litDec (t : String) : Dec := ((cppFloatL t.toList).map (·.1)).getD ⟨false, 0, 0⟩

/-- WITNESSES (kernel-decided instances, not a universal theorem): the 17-significant-digit texts
(`%.17g`) of DBL_MAX, 0.1+0.2, 1/3, π, the smallest subnormal, the smallest normal double (a binade
boundary) and 1234567.1234567892 round to exactly the bits of the double. -/
theorem seventeen_digit_witnesses :
    roundsTo (litDec "1.7976931348623157e+308") 9218868437227405311 = true ∧
    roundsTo (litDec "0.30000000000000004") 4599075939470750516 = true ∧
    roundsTo (litDec "0.33333333333333331") 4599676419421066581 = true ∧
    roundsTo (litDec "3.1415926535897931") 4614256656552045848 = true ∧
    roundsTo (litDec "4.9406564584124654e-324") 1 = true ∧
    roundsTo (litDec "2.2250738585072014e-308") 4503599627370496 = true ∧
    roundsTo (litDec "1234567.1234567892") 4698053237140020536 = true ∧
    roundsTo (litDec "2.4999999999999999e-07") 4508321993853365645 = true := by
  -- `-index`: a literal matches `String.ofList _` by unification only; evaluating `String.toList`
  -- on it would decode its UTF-8 bytes in the kernel
  simp -index only [litDec, String.toList_ofList]
  decide +kernel

/-- **15 digits: the counterexample on the real oracle** (the seeded changes C12-e2 / C18-e2,
`f"{value:.15g}"`): the 15-digit text of DBL_MAX is `1.79769313486232e+308`, of 0.1+0.2 it is `0.3`,
of 1/3 `0.333333333333333`, of the smallest normal double `2.2250738585072e-308`; none rounds to the
double it was printed from (`0.3` is a different double: …516 vs …515). -/
theorem fifteen_digits_counterexample :
    roundsTo (litDec "1.79769313486232e+308") 9218868437227405311 = false ∧
    roundsTo (litDec "0.3") 4599075939470750516 = false ∧
    roundsTo (litDec "0.3") 4599075939470750515 = true ∧
    roundsTo (litDec "0.333333333333333") 4599676419421066581 = false ∧
    roundsTo (litDec "2.2250738585072e-308") 4503599627370496 = false ∧
    roundsTo (litDec "1234567.12345679") 4698053237140020536 = false := by
  simp -index only [litDec, String.toList_ofList]
  decide +kernel

/-- 16 digits are not enough either: `%.16g` of DBL_MAX, 0.1+0.2, 1234567.1234567892. -/
theorem sixteen_digits_counterexample :
    roundsTo (litDec "1.797693134862316e+308") 9218868437227405311 = false ∧
    roundsTo (litDec "0.3000000000000000") 4599075939470750516 = false ∧
    roundsTo (litDec "1234567.123456789") 4698053237140020536 = false ∧
    roundsTo (litDec "2.225073858507201e-308") 4503599627370496 = false := by
  simp -index only [litDec, String.toList_ofList]
  decide +kernel

/-- one comparison of `roundsTo`, unfolded: both sides scaled by the common factor `2^(-k2)·5^(-k5)` -/
theorem cmpScaled_lt (a : Nat) (a2 a5 : Int) (b : Nat) (b2 b5 : Int) :
    cmpScaled a a2 a5 b b2 b5 = .lt ↔
      a * 2 ^ (a2 - min a2 b2).toNat * 5 ^ (a5 - min a5 b5).toNat <
      b * 2 ^ (b2 - min a2 b2).toNat * 5 ^ (b5 - min a5 b5).toNat := by
  simp only [cmpScaled]
  exact Nat.compare_eq_lt

theorem cmpScaled_gt (a : Nat) (a2 a5 : Int) (b : Nat) (b2 b5 : Int) :
    cmpScaled a a2 a5 b b2 b5 = .gt ↔
      b * 2 ^ (b2 - min a2 b2).toNat * 5 ^ (b5 - min a5 b5).toNat <
      a * 2 ^ (a2 - min a2 b2).toNat * 5 ^ (a5 - min a5 b5).toNat := by
  simp only [cmpScaled]
  exact Nat.compare_eq_gt

/-- the decimal unit, half the binary unit, and the decimal itself, all scaled by
`S = 2^(-min q.exp (e-1)) · 5^(-min q.exp 0)` -/
def gridT (q : Dec) (e : Int) : Nat := 2 ^ (q.exp - min q.exp (e - 1)).toNat * 5 ^ (q.exp - min q.exp 0).toNat
def gridH (q : Dec) (e : Int) : Nat := 2 ^ ((e - 1) - min q.exp (e - 1)).toNat * 5 ^ ((0 : Int) - min q.exp 0).toNat

theorem toNat_succ {z : Int} (h : 0 ≤ z) : (z + 1).toNat = z.toNat + 1 := Int.toNat_add h (by decide)

/-- The comparison `roundsTo` makes below a power of two, against `a · 2^(e-2)`, in the scaling of
`e - 1`: if the decimal is the finer one both scalings are `2^(-q.exp)` and `gridH` is twice the quarter
unit; otherwise `gridH` is the same and `gridT` doubles. -/
theorem cmpScaled_gt_quarter (q : Dec) (a : Nat) (e : Int) :
    cmpScaled q.mant q.exp q.exp a (e - 2) 0 = .gt ↔ a * gridH q e < 2 * (q.mant * gridT q e) := by
  rw [cmpScaled_gt]
  unfold gridH gridT
  generalize 5 ^ ((0 : Int) - min q.exp 0).toNat = F
  generalize 5 ^ (q.exp - min q.exp 0).toNat = G
  by_cases h : q.exp ≤ e - 2
  · have h3 : e - 1 - q.exp = (e - 2 - q.exp) + 1 := by omega
    rw [Int.min_eq_left h, Int.min_eq_left (by omega : q.exp ≤ e - 1), h3, toNat_succ (by omega), Nat.pow_succ,
      Int.sub_self, Int.toNat_zero, Nat.pow_zero, Nat.mul_one, Nat.one_mul]
    generalize 2 ^ ((e - 2) - q.exp).toNat = P
    have e1 : a * (P * 2 * F) = 2 * (a * P * F) := by ac_rfl
    rw [e1]
    omega
  · have h3 : q.exp - (e - 2) = (q.exp - (e - 1)) + 1 := by omega
    rw [Int.min_eq_right (by omega : e - 2 ≤ q.exp), Int.min_eq_right (by omega : e - 1 ≤ q.exp), h3,
      toNat_succ (by omega), Nat.pow_succ, Int.sub_self, Int.sub_self, Int.toNat_zero, Nat.pow_zero, Nat.mul_one,
      Nat.one_mul]
    generalize 2 ^ (q.exp - (e - 1)).toNat = P
    have e1 : q.mant * (P * 2) * G = 2 * (q.mant * (P * G)) := by ac_rfl
    rw [e1]

/-- The two strict comparisons of `roundsTo` are the grid inequalities, for every finite non-zero
double: `(2m−1)·H < A < (2m+1)·H`, and `(4m−1)·H < 2·A` for the lower one at a binade boundary. -/
theorem roundsTo_of_grid_all (q : Dec) (bits m : Nat) (e : Int)
    (hdec : decodeBits bits = some (q.neg, m, e)) (hm0 : m ≠ 0)
    (hup : q.mant * gridT q e < (2 * m + 1) * gridH q e)
    (hlo : if m = 2 ^ 52 ∧ e > -1074 then (4 * m - 1) * gridH q e < 2 * (q.mant * gridT q e)
           else (2 * m - 1) * gridH q e < q.mant * gridT q e) :
    roundsTo q bits = true := by
  have h1 : cmpScaled q.mant q.exp q.exp (2 * m + 1) (e - 1) 0 = .lt := by
    rw [cmpScaled_lt]
    simpa [gridT, gridH, Nat.mul_assoc] using hup
  have hm0' : (m == 0) = false := by simp [hm0]
  split at hlo
  · next hb =>
    have h2 := (cmpScaled_gt_quarter q (4 * m - 1) e).mpr hlo
    have hb' : (m == 2 ^ 52 && decide (e > -1074)) = true := by simp [hb.1, hb.2]
    simp only [roundsTo, hdec, h1, h2, hb', hm0', beq_self_eq_true, Bool.true_or, Bool.false_eq_true, if_false,
      if_true, Bool.and_self]
  · next hnb =>
    have h2 : cmpScaled q.mant q.exp q.exp (2 * m - 1) (e - 1) 0 = .gt := by
      rw [cmpScaled_gt]
      simpa [gridT, gridH, Nat.mul_assoc] using hlo
    have hb : (m == 2 ^ 52 && decide (e > -1074)) = false := by
      cases hx : (m == 2 ^ 52 && decide (e > -1074)) with
      | false => rfl
      | true =>
        simp only [Bool.and_eq_true, beq_iff_eq, decide_eq_true_eq] at hx
        exact absurd hx hnb
    simp only [roundsTo, hdec, h1, h2, hb, hm0', beq_self_eq_true, Bool.true_or, Bool.false_eq_true, if_false,
      Bool.and_self]

theorem roundsTo_of_grid (q : Dec) (bits m : Nat) (e : Int)
    (hdec : decodeBits bits = some (q.neg, m, e)) (hm0 : m ≠ 0)
    (hnb : ¬ (m = 2 ^ 52 ∧ e > -1074))
    (hup : q.mant * gridT q e < (2 * m + 1) * gridH q e)
    (hlo : (2 * m - 1) * gridH q e < q.mant * gridT q e) :
    roundsTo q bits = true :=
  roundsTo_of_grid_all q bits m e hdec hm0 hup (by rw [if_neg hnb]; exact hlo)

theorem gridH_pos (q : Dec) (e : Int) : 0 < gridH q e := by
  unfold gridH
  exact Nat.mul_pos (Nat.pow_pos (by decide)) (Nat.pow_pos (by decide))

/-- **The grid theorem on the real oracle.** `bits` a finite non-zero double `m·2^e` (the powers of
two with a smaller-spaced lower neighbour included), `q` a decimal `D·10^k` with at least 17
significant digits (`D ≥ 10^16`) of the same sign, within half a unit of its last place of the
double — the distance being measured with both numbers multiplied by the common positive factor
`S = 2^(-min k (e-1))·5^(-min k 0)` so that they are natural numbers (`q ↦ D·gridT`, the double ↦
`2m·gridH`, the decimal unit ↦ `gridT`). Then `roundsTo q bits`: the oracle the harness applies to
the implementation's literals accepts `q` as a literal of that double. -/
theorem seventeen_digits_roundsTo_all (q : Dec) (bits m : Nat) (e : Int)
    (hdec : decodeBits bits = some (q.neg, m, e)) (hm0 : m ≠ 0) (hm : m < 2 ^ 53)
    (hD : 10000000000000000 ≤ q.mant)
    (hup : 2 * (q.mant * gridT q e - 2 * m * gridH q e) ≤ gridT q e)
    (hdn : 2 * (2 * m * gridH q e - q.mant * gridT q e) ≤ gridT q e) :
    roundsTo q bits = true := by
  have hH := gridH_pos q e
  have hX : 2 * m * gridH q e < 9007199254740992 * (2 * gridH q e) := by
    have : 2 * m * gridH q e = m * (2 * gridH q e) := by
      rw [Nat.mul_comm 2 m, Nat.mul_assoc]
    rw [this]
    exact Nat.mul_lt_mul_of_pos_right (by simpa using hm) (by omega)
  obtain ⟨g1, g2⟩ := seventeen_digits_round_trip (2 * m * gridH q e) (2 * gridH q e) (gridT q e)
    (q.mant * gridT q e) q.mant hX rfl hD hup hdn
  have hP : 2 * m * gridH q e = 2 * (m * gridH q e) := Nat.mul_assoc 2 m _
  have hPH : gridH q e ≤ m * gridH q e := Nat.le_mul_of_pos_left _ (Nat.pos_of_ne_zero hm0)
  apply roundsTo_of_grid_all q bits m e hdec hm0
  · rw [Nat.add_mul, Nat.one_mul, hP]; omega
  · split
    · next hb =>
      -- below a power of two the rounding interval reaches only a quarter unit down
      have hX' : 2 * m * gridH q e = 4503599627370496 * (2 * gridH q e) := by rw [hb.1]; ac_rfl
      obtain ⟨-, g3⟩ := seventeen_digits_round_trip_at_binade_boundary (2 * m * gridH q e) (2 * gridH q e)
        (gridT q e) (q.mant * gridT q e) q.mant (by omega) hX' rfl hD hup hdn
      have : 4 * m * gridH q e = 4 * (m * gridH q e) := Nat.mul_assoc 4 m _
      rw [Nat.sub_mul, Nat.one_mul]
      omega
    · rw [Nat.sub_mul, Nat.one_mul, hP]; omega

set_option linter.unusedVariables false in
/-- `seventeen_digits_roundsTo_all` away from the binade boundaries: the hypothesis `hnb` is not needed -/
theorem seventeen_digits_roundsTo (q : Dec) (bits m : Nat) (e : Int)
    (hdec : decodeBits bits = some (q.neg, m, e)) (hm0 : m ≠ 0) (hm : m < 2 ^ 53)
    (hnb : ¬ (m = 2 ^ 52 ∧ e > -1074))
    (hD : 10000000000000000 ≤ q.mant)
    (hup : 2 * (q.mant * gridT q e - 2 * m * gridH q e) ≤ gridT q e)
    (hdn : 2 * (2 * m * gridH q e - q.mant * gridT q e) ≤ gridT q e) :
    roundsTo q bits = true :=
  seventeen_digits_roundsTo_all q bits m e hdec hm0 hm hD hup hdn

/-- the hypotheses are satisfiable: 0.1 = 7205759403792794·2^-56 and its 17-digit decimal -/
example : roundsTo ⟨false, 10000000000000001, -17⟩ 4591870180066957722 = true :=
  seventeen_digits_roundsTo ⟨false, 10000000000000001, -17⟩ 4591870180066957722 7205759403792794 (-56)
    (by decide +kernel) (by decide) (by decide) (by decide) (by decide) (by decide +kernel) (by decide +kernel)

/-- … also at a binade boundary: 1.0 = 2^52·2^-52 and its 17-digit decimal 1.0000000000000000 -/
example : roundsTo ⟨false, 10000000000000000, -16⟩ 4607182418800017408 = true :=
  seventeen_digits_roundsTo_all ⟨false, 10000000000000000, -16⟩ 4607182418800017408 4503599627370496 (-52)
    (by decide +kernel) (by decide) (by decide) (by decide) (by decide +kernel) (by decide +kernel)

-- 0.1 = 7205759403792794 · 2^-56; scaled by 2^56·10^17: U = 10^17, X = 7205759403792794·10^17,
-- the 17-digit decimal 0.10000000000000001 = 10000000000000001·10^-17 → T = 2^56, D = 10000000000000001
example : (7205759403792794 * 100000000000000000 : Nat) < 9007199254740992 * 100000000000000000 ∧
    (10000000000000000 : Nat) ≤ 10000000000000001 ∧
    2 * (10000000000000001 * 72057594037927936 - 7205759403792794 * 100000000000000000) ≤ 72057594037927936 := by
  decide

end FaxVerif.C18
