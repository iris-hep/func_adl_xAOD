/-
C18 — the C++ tokenizer of `Expr.lean` (maximal munch) on the texts the translator's expression renderer
writes: `PP`, what a pp-number reads; `Rendered`, the four shapes of a rendered constant as text, tokens and tree;
`lexes_renderE`.  The string-literal token is `str_in_context` of `Theorems.lean` (hence the import of a theorem
file); the property theorems are in `TheoremsContext.lean`.
-/
import FaxVerif.Fuel
import FaxVerif.C18.Expr
import FaxVerif.C18.Theorems
namespace FaxVerif.C18

theorem contains_false_of {α : Type} [BEq α] [LawfulBEq α] {l : List α} {p : α → Bool}
    (key : ∀ q ∈ l, p q = true) {x : α} (h : p x = false) : l.contains x = false := by
  cases hc : l.contains x with
  | false => rfl
  | true => rw [key x (List.contains_iff_mem.mp hc)] at h; cases h

theorem punct2_false_of_ext {a b : Char} (h : isPunctExt b = false) : punct2.contains (a, b) = false :=
  contains_false_of (p := fun q => isPunctExt q.2) (by decide +kernel) h

theorem punct3_false_of_mid {a b c : Char} (h : isPunctExt b = false) : punct3.contains (a, b, c) = false :=
  contains_false_of (p := fun q => isPunctExt q.2.1) (by decide +kernel) h

theorem punct3_false_of_last {a b c : Char} (h : isPunctExt c = false) : punct3.contains (a, b, c) = false :=
  contains_false_of (p := fun q => isPunctExt q.2.2) (by decide +kernel) h

theorem lexPunct_one (p c : Char) (r : Str) (hp : punct1.contains p = true) (hc : isPunctExt c = false) :
    lexPunct (p :: c :: r) = some ([p], c :: r) := by
  cases r with
  | nil => simp only [lexPunct, punct2_false_of_ext hc, hp, Bool.false_eq_true, if_false, if_true]
  | cons d r' =>
    simp only [lexPunct, punct2_false_of_ext hc, punct3_false_of_mid hc, hp, Bool.false_eq_true, if_false, if_true]

theorem lexPunct_two (a b c : Char) (r : Str) (hab : punct2.contains (a, b) = true)
    (hc : isPunctExt c = false) : lexPunct (a :: b :: c :: r) = some ([a, b], c :: r) := by
  simp only [lexPunct, punct3_false_of_last hc, hab, Bool.false_eq_true, if_false, if_true]

/-- characters that begin no longer punctuator: `(`, `)`, `,` … -/
def soloPunct (p : Char) : Bool :=
  punct1.contains p && !(punct2.map (·.1)).contains p && !(punct3.map (·.1)).contains p

theorem contains_fst_false {α β : Type} [BEq α] [LawfulBEq α] [BEq β] [LawfulBEq β]
    {l : List (α × β)} {a : α} (h : (l.map (·.1)).contains a = false) (b : β) :
    l.contains (a, b) = false := by
  cases hc : l.contains (a, b) with
  | false => rfl
  | true =>
    have : a ∈ l.map (·.1) := List.mem_map_of_mem (f := (·.1)) (List.contains_iff_mem.mp hc)
    rw [List.contains_iff_mem.mpr this] at h; cases h

theorem lexPunct_solo (p : Char) (r : Str) (h : soloPunct p = true) : lexPunct (p :: r) = some ([p], r) := by
  simp only [soloPunct, Bool.and_eq_true, Bool.not_eq_true'] at h
  obtain ⟨⟨h1, h2⟩, h3⟩ := h
  have n2 : ∀ b, punct2.contains (p, b) = false := contains_fst_false h2
  have n3 : ∀ b c, punct3.contains (p, b, c) = false := fun b c => contains_fst_false h3 (b, c)
  cases r with
  | nil => simp only [lexPunct, h1, if_true]
  | cons b r2 =>
    cases r2 with
    | nil => simp only [lexPunct, n2, h1, Bool.false_eq_true, if_false, if_true]
    | cons c r3 => simp only [lexPunct, n2, n3, h1, Bool.false_eq_true, if_false, if_true]

theorem punct1_props {p : Char} (h : punct1.contains p = true) :
    isDigit p = false ∧ isIdentStart p = false ∧ p ≠ '"' ∧ p ≠ ' ' := by
  have key : ∀ q ∈ punct1, isDigit q = false ∧ isIdentStart q = false ∧ q ≠ '"' ∧ q ≠ ' ' := by decide +kernel
  exact key p (List.contains_iff_mem.mp h)

theorem punct2_fst_punct1 {a b : Char} (h : punct2.contains (a, b) = true) : punct1.contains a = true := by
  have key : ∀ q ∈ punct2, punct1.contains q.1 = true := by decide +kernel
  exact key (a, b) (List.contains_iff_mem.mp h)

theorem lexTok_punct (p : Char) (r : Str) (hp : punct1.contains p = true) (hdot : p ≠ '.') :
    lexTok (p :: r) = (lexPunct (p :: r)).map fun q => (.punct q.1, q.2) := by
  obtain ⟨h1, h2, h3, _⟩ := punct1_props hp
  unfold lexTok
  simp only [h1, h2, h3, hdot, Bool.false_eq_true, if_false, decide_false, Bool.false_and]
  cases lexPunct (p :: r) with
  | none => rfl
  | some q => rfl

/-- first character of an operand the renderer writes -/
def isOpStart (c : Char) : Bool := c = '(' || isDigit c || c = '"' || isIdentStart c

/-- first character of what the renderer writes after an operand -/
def isTailStart (c : Char) : Bool :=
  [')', ',', ';', ' ', '+', '-', '*', '/', '%', '<', '>', '=', '!'].contains c

theorem opStart_not_ext {c : Char} (h : isOpStart c = true) : isPunctExt c = false :=
  contains_false_of (p := fun q => !isOpStart q) (by decide +kernel) (by rw [h]; rfl)

theorem tailStart_props {c : Char} (h : isTailStart c = true) : isIdentChar c = false ∧ c ≠ '.' := by
  have key : ∀ q ∈ [')', ',', ';', ' ', '+', '-', '*', '/', '%', '<', '>', '=', '!'],
      isIdentChar q = false ∧ q ≠ '.' := by decide +kernel
  exact key c (List.contains_iff_mem.mp h)

/-- the text after an operand: nothing, or something that starts like it -/
def TailOK (tl : Str) : Prop := ∀ c r, tl = c :: r → isTailStart c = true

theorem tailOK_cons {c : Char} (r : Str) (h : isTailStart c = true) : TailOK (c :: r) := by
  intro c' r' he
  cases he
  exact h

theorem tailOK_nil : TailOK [] := by
  intro c r he; cases he

theorem tailOK_rparen (r : Str) : TailOK (')' :: r) := tailOK_cons r (by decide)

/-- what fails on every character that may start the tail does not go on into the tail -/
theorem TailOK.headFails {tl : Str} (ht : TailOK tl) {P : Char → Bool} (hP : ∀ c, isTailStart c = true → P c = false) :
    Runs.HeadFails P tl :=
  Runs.headIs_iff.2 fun c r he => hP c (ht c r he)

theorem tail_not_ident {tl : Str} (ht : TailOK tl) : Runs.HeadFails isIdentChar tl :=
  ht.headFails fun _ hc => (tailStart_props hc).1

theorem identStart_not_digit {c : Char} (h : isIdentStart c = true) : isDigit c = false := by
  cases hd : isDigit c with
  | false => rfl
  | true =>
    simp only [isDigit, Bool.and_eq_true, decide_eq_true_eq] at hd
    simp only [isIdentStart, Bool.or_eq_true, Bool.and_eq_true, decide_eq_true_eq] at h
    rcases h with (h | h) | h
    · omega
    · omega
    · subst h
      have : ('_' : Char).toNat = 95 := by decide
      omega

theorem identStart_identChar {c : Char} (h : isIdentStart c = true) : isIdentChar c = true := by
  simp only [isIdentStart, Bool.or_eq_true, Bool.and_eq_true, decide_eq_true_eq] at h
  simp only [isIdentChar, Bool.or_eq_true, Bool.and_eq_true, decide_eq_true_eq]
  rcases h with (h | h) | h
  · exact Or.inl (Or.inl (Or.inr h))
  · exact Or.inl (Or.inr h)
  · exact Or.inr h

theorem identStart_not_quote {c : Char} (h : isIdentStart c = true) : c ≠ '"' := by
  intro he; subst he; revert h; decide

theorem identStart_not_space {c : Char} (h : isIdentStart c = true) : c ≠ ' ' := by
  intro he; subst he; revert h; decide

theorem identStart_not_ext {c : Char} (h : isIdentStart c = true) : isPunctExt c = false :=
  opStart_not_ext (by simp [isOpStart, h])

theorem spanIdent_eq (s : Str) : spanIdent s = (s.takeWhile isIdentChar, s.dropWhile isIdentChar) := by
  induction s with
  | nil => rfl
  | cons c r ih => by_cases h : isIdentChar c = true <;> simp [spanIdent, h, ih]

theorem lexTok_ident (s tl : Str) (hs : IsIdent s) (ht : Runs.HeadFails isIdentChar tl) :
    lexTok (s ++ tl) = some (.id s, tl) := by
  cases s with
  | nil => exact absurd hs (by simp [IsIdent])
  | cons c r =>
    obtain ⟨h1, h2⟩ := hs
    simp only [List.cons_append, lexTok, identStart_not_digit h1, h1, Bool.false_eq_true, if_false, if_true]
    rw [spanIdent_eq, Runs.takeWhile_run (List.all_eq_true.1 h2) ht, Runs.dropWhile_run (List.all_eq_true.1 h2) ht]

/-- does `c` continue a pp-number after `prev`? (the condition of `ppRest`) -/
def ppCont (prev c : Char) : Bool :=
  isIdentChar c || c = '.' ||
    ((c = '+' || c = '-') && (prev = 'e' || prev = 'E' || prev = 'p' || prev = 'P'))

/-- `PP p s l`: after `p`, every character of `s` continues the pp-number (what `ppRest` reads), and
`l` is the last character read (`p` if `s = []`) -/
inductive PP : Char → Str → Char → Prop
  | nil (p : Char) : PP p [] p
  | cons {p c l : Char} {r : Str} : ppCont p c = true → PP c r l → PP p (c :: r) l

theorem PP.append {p q l : Char} {a b : Str} (ha : PP p a q) (hb : PP q b l) : PP p (a ++ b) l := by
  induction ha with
  | nil => exact hb
  | cons hc _ ih => exact .cons hc (ih hb)

theorem ppRest_cons (prev c : Char) (r : Str) :
    ppRest prev (c :: r) =
      if ppCont prev c = true then (c :: (ppRest c r).1, (ppRest c r).2) else ([], c :: r) := by
  simp only [ppRest, ppCont]
  rfl

theorem PP.ppRest {p l : Char} {s : Str} (h : PP p s l) {tl : Str}
    (ht : Runs.HeadFails (ppCont l) tl) : ppRest p (s ++ tl) = (s, tl) := by
  induction h with
  | nil p =>
    cases tl with
    | nil => rfl
    | cons c r => rw [List.nil_append, ppRest_cons, if_neg (by rw [ht c rfl]; exact Bool.false_ne_true)]
  | cons hc _ ih => rw [List.cons_append, ppRest_cons, if_pos hc, ih ht]

theorem ppCont_digit_tail {p c : Char} (hp : isDigit p = true) (hc : isTailStart c = true) :
    ppCont p c = false := by
  obtain ⟨h1, h2⟩ := tailStart_props hc
  have e1 : p ≠ 'e' := ne_of_isDigit hp (by decide)
  have e2 : p ≠ 'E' := ne_of_isDigit hp (by decide)
  have e3 : p ≠ 'p' := ne_of_isDigit hp (by decide)
  have e4 : p ≠ 'P' := ne_of_isDigit hp (by decide)
  simp [ppCont, h1, h2, e1, e2, e3, e4]

/-- A piece of a number text: after any digit it continues the pp-number and ends with a digit
(or is empty). Digit runs, the fraction and the exponent of a `repr` text are such pieces. -/
def Piece (t : Str) : Prop := ∀ p, isDigit p = true → ∃ l, PP p t l ∧ isDigit l = true

theorem piece_nil : Piece [] := fun p hp => ⟨p, .nil p, hp⟩

theorem piece_append {a b : Str} (ha : Piece a) (hb : Piece b) : Piece (a ++ b) := fun p hp =>
  have ⟨q, h1, hq⟩ := ha p hp
  have ⟨l, h2, hl⟩ := hb q hq
  ⟨l, h1.append h2, hl⟩

/-- a run of digits after anything; it ends with a digit if it is not empty -/
theorem pp_digits : ∀ (ds : Str) (q : Char), (∀ c ∈ ds, isDigit c = true) →
    ∃ l, PP q ds l ∧ (isDigit q = true ∨ ds ≠ [] → isDigit l = true) := by
  intro ds
  induction ds with
  | nil => intro q _; exact ⟨q, .nil q, fun h => h.elim id (fun h => absurd rfl h)⟩
  | cons c r ih =>
    intro q h
    have hc := h c (by simp)
    obtain ⟨l, h1, h2⟩ := ih c (fun x hx => h x (by simp [hx]))
    exact ⟨l, .cons (by simp [ppCont, isIdentChar, hc]) h1, fun _ => h2 (Or.inl hc)⟩

theorem piece_digits (ds : Str) (h : ∀ c ∈ ds, isDigit c = true) : Piece ds := fun p hp =>
  have ⟨l, h1, h2⟩ := pp_digits ds p h
  ⟨l, h1, h2 (Or.inl hp)⟩

theorem piece_fracText (fp : Option (List (Fin 10))) (h : fp ≠ some []) : Piece (fracText fp) := by
  match fp, h with
  | none, _ => exact piece_nil
  | some f, h =>
    intro p _
    obtain ⟨l, h1, h2⟩ := pp_digits (digs f) '.' (digs_all_digits f)
    exact ⟨l, .cons (by simp [ppCont]) h1, h2 (Or.inr fun e => h (by rw [digs_eq_nil.mp e]))⟩

theorem piece_expText (ex : Option (Bool × List (Fin 10))) (h : ex.map (·.2) ≠ some []) :
    Piece (expText ex) := by
  match ex, h with
  | none, _ => exact piece_nil
  | some (eneg, ed), h =>
    intro p _
    obtain ⟨l, h1, h2⟩ := pp_digits (digs ed) (if eneg then '-' else '+') (digs_all_digits ed)
    exact ⟨l, .cons (by simp [ppCont, isIdentChar]) (.cons (by cases eneg <;> simp [ppCont]) h1),
      h2 (Or.inr fun e => h (by simp [digs_eq_nil.mp e]))⟩

def NumText : Str → Prop
  | [] => False
  | d :: r => isDigit d = true ∧ Piece r

theorem lexTok_num (s tl : Str) (hs : NumText s) (ht : TailOK tl) : lexTok (s ++ tl) = some (.num s, tl) := by
  match s, hs with
  | d :: r, ⟨hd, hr⟩ =>
    obtain ⟨l, h1, hl⟩ := hr d hd
    simp only [List.cons_append, lexTok, hd, if_true]
    rw [h1.ppRest (ht.headFails fun _ => ppCont_digit_tail hl)]

theorem numText_renderNat (n : Nat) : NumText (renderNat n) := by
  obtain ⟨d, ds, he, hall, _⟩ := renderNat_spec n
  rw [he]
  exact ⟨hall d (by simp), piece_digits ds fun c hc => hall c (by simp [hc])⟩

theorem numText_float (ip : List (Fin 10)) (fp : Option (List (Fin 10)))
    (ex : Option (Bool × List (Fin 10))) (wf : WFRepr (.finite false ip fp ex)) :
    NumText (renderFloat false ip fp ex) := by
  obtain ⟨hip, hfp, hex, _⟩ := wf
  obtain ⟨d, r, hd, he⟩ := digs_head hip
  have hr : ∀ c ∈ r, isDigit c = true := fun c hc => digs_all_digits ip c (by rw [he]; simp [hc])
  rw [renderFloat_pos, he]
  exact ⟨hd, piece_append (piece_digits r hr) (piece_append (piece_fracText fp hfp) (piece_expText ex hex))⟩

theorem lexes_punct {a : Char} {s r : Str} {ts : List Tok} (ha : punct1.contains a = true) (hdot : a ≠ '.')
    (hl : lexPunct (a :: (s ++ r)) = some (a :: s, r)) (hr : Lexes r ts) :
    Lexes (a :: (s ++ r)) (.punct (a :: s) :: ts) := by
  refine Lexes.tok a (s ++ r) r (.punct (a :: s)) ts (punct1_props ha).2.2.2 ?_ (by simp; omega) hr
  rw [lexTok_punct a _ ha hdot, hl]
  rfl

theorem lexes_solo (p : Char) (h : soloPunct p = true) (hdot : p ≠ '.') {r : Str} {ts : List Tok}
    (hr : Lexes r ts) : Lexes (p :: r) (.punct [p] :: ts) := by
  have hp : punct1.contains p = true := by
    simp only [soloPunct, Bool.and_eq_true] at h
    exact h.1.1
  exact lexes_punct (s := []) hp hdot (lexPunct_solo p r h) hr

theorem lexes_lparen {r : Str} {ts : List Tok} (hr : Lexes r ts) : Lexes ('(' :: r) (tLP :: ts) :=
  lexes_solo '(' (by decide) (by decide) hr

theorem lexes_rparen {r : Str} {ts : List Tok} (hr : Lexes r ts) : Lexes (')' :: r) (tRP :: ts) :=
  lexes_solo ')' (by decide) (by decide) hr

theorem lexes_op (op : Str) (hop : OpOk op = true) {c : Char} {r : Str} {ts : List Tok} (hc : isPunctExt c = false)
    (hr : Lexes (c :: r) ts) : Lexes (op ++ c :: r) (.punct op :: ts) := by
  match op, hop with
  | [a], hop =>
    simp only [OpOk, Bool.and_eq_true, bne_iff_ne, ne_eq] at hop
    exact lexes_punct (s := []) hop.1 hop.2 (lexPunct_one a c r hop.1 hc) hr
  | [a, b], hop =>
    simp only [OpOk, Bool.and_eq_true, bne_iff_ne, ne_eq] at hop
    exact lexes_punct (s := [b]) (punct2_fst_punct1 hop.1) hop.2 (lexPunct_two a b c r hop.1 hc) hr

theorem lexes_op_start (op : Str) (hop : OpOk op = true) {t : Str} {ts : List Tok}
    (ht : ∃ a r, t = a :: r ∧ isOpStart a = true) (hr : Lexes t ts) :
    Lexes (op ++ t) (.punct op :: ts) := by
  obtain ⟨a, r, rfl, ha⟩ := ht
  exact lexes_op op hop (opStart_not_ext ha) hr

theorem lexes_ident (s : Str) (hs : IsIdent s) (tl : Str) (ts : List Tok)
    (ht : Runs.HeadFails isIdentChar tl) (hr : Lexes tl ts) :
    Lexes (s ++ tl) (.id s :: ts) := by
  have hl := lexTok_ident s tl hs ht
  cases s with
  | nil => exact absurd hs (by simp [IsIdent])
  | cons c r =>
    exact Lexes.tok c (r ++ tl) tl (.id (c :: r)) ts (identStart_not_space hs.1) hl (by simp; omega) hr

theorem lexes_num (s : Str) (hs : NumText s) (tl : Str) (ts : List Tok) (ht : TailOK tl)
    (hr : Lexes tl ts) : Lexes (s ++ tl) (.num s :: ts) := by
  have hl := lexTok_num s tl hs ht
  cases s with
  | nil => exact absurd hs (by simp [NumText])
  | cons c r =>
    exact Lexes.tok c (r ++ tl) tl (.num (c :: r)) ts (ne_of_isDigit hs.1 (by decide)) hl
      (by simp; omega) hr

theorem lexes_str (s tl : Str) (ts : List Tok) (hr : Lexes tl ts) :
    Lexes (renderStrL pyTable s ++ tl) (.str s :: ts) := by
  have hl := str_in_context s tl
  simp only [renderStrL, List.cons_append, List.append_assoc] at hl ⊢
  refine Lexes.tok '"' _ tl (.str s) ts (by decide) ?_ (by simp; omega) hr
  simp only [cppStringLit, if_true] at hl
  have hd : isDigit '"' = false := by decide
  have hi : isIdentStart '"' = false := by decide
  simp only [lexTok, hd, hi, Bool.false_eq_true, if_false, if_true, hl]

theorem lexes_neg_num (s : Str) (hs : NumText s) (tl : Str) (ts : List Tok) (hr : Lexes tl ts) :
    Lexes ('(' :: '-' :: (s ++ ')' :: tl)) (tLP :: tMinus :: .num s :: tRP :: ts) := by
  have h3 := lexes_num s hs (')' :: tl) (tRP :: ts) (tailOK_rparen tl) (lexes_rparen hr)
  cases s with
  | nil => exact absurd hs (by simp [NumText])
  | cons d r =>
    have hd : isPunctExt d = false := opStart_not_ext (by simp [isOpStart, hs.1])
    exact lexes_lparen (lexes_op ['-'] (by decide) hd h3)

/-- the tree the rendering of a constant is meant to have -/
def treeConst : PyConst → CExpr
  | .str s => .str s
  | .int (.ofNat n) => .num (renderNat n)
  | .int (.negSucc n) => .un ['-'] (.num (renderNat (n + 1)))
  | .float (.finite false ip fp ex) _ => .num (floatAbsText ip fp ex)
  | .float (.finite true ip fp ex) _ => .un ['-'] (.num (floatAbsText ip fp ex))
  | .float _ _ => .num []
  | .bool b => .name [if b then "true".toList else "false".toList]
  | .other _ => .num []

/-- The four shapes in which a constant is rendered, each as text, tokens and tree: a string
literal, a number, a negative number in parentheses, a word (`true` / `false`). What the lexer, the
parser and `sameE` do with a constant they do with these shapes. -/
inductive Rendered : Str → List Tok → CExpr → Prop
  | str (s : Str) : Rendered (renderStrL pyTable s) [.str s] (.str s)
  | num (d : Str) : NumText d → Rendered d [.num d] (.num d)
  | neg (d : Str) : NumText d →
      Rendered ('(' :: '-' :: (d ++ [')'])) [tLP, tMinus, .num d, tRP] (.un ['-'] (.num d))
  | word (w : Str) : IsIdent w → w ≠ sStaticCast → Rendered w [.id w] (.name [w])

theorem signedLit_numText {d : Str} (h : NumText d) : signedLit d = d := by
  match d, h with
  | c :: r, h =>
    have : c ≠ '-' := ne_of_isDigit h.1 isDigit_minus
    simp [signedLit, this]

theorem signedLit_minus (t : Str) : signedLit ('-' :: t) = '(' :: '-' :: (t ++ [')']) := by
  simp [signedLit]

/-- a constant `visit_Constant` takes, with a well-formed `repr` if it is a float, is one the text lemmas speak of -/
theorem constWF_of_renderConst {c : PyConst} {p : Str × CTy} (hr : renderConst c = .ok p)
    (hfl : ∀ r bits, c = .float r bits → WFRepr r) : ConstWF c := by
  cases c with
  | str s => trivial
  | int n => trivial
  | float r bits =>
    cases r with
    | finite neg ip fp ex => exact ⟨trivial, hfl _ _ rfl⟩
    | inf b => simp [renderConst] at hr
    | nan => simp [renderConst] at hr
  | bool b => trivial
  | other t => simp [renderConst] at hr

theorem rendered_const (c : PyConst) (hc : ConstWF c) :
    Rendered (constText c) (toksConst c) (treeConst c) := by
  cases c with
  | str s => exact .str s
  | int n =>
    cases n with
    | ofNat m =>
      show Rendered (signedLit (renderNat m)) _ _
      rw [signedLit_numText (numText_renderNat m)]
      exact .num _ (numText_renderNat m)
    | negSucc m =>
      show Rendered (signedLit ('-' :: renderNat (m + 1))) _ _
      rw [signedLit_minus]
      exact .neg _ (numText_renderNat (m + 1))
  | float r bits =>
    cases r with
    | finite neg ip fp ex =>
      have hn := numText_float ip fp ex hc.2
      cases neg with
      | false =>
        show Rendered (signedLit (renderFloat false ip fp ex)) _ _
        rw [signedLit_numText hn]
        exact .num _ hn
      | true =>
        show Rendered (signedLit (renderFloat true ip fp ex)) _ _
        rw [renderFloat_neg, signedLit_minus]
        exact .neg _ hn
    | inf b => exact absurd hc.1 (by simp)
    | nan => exact absurd hc.1 (by simp)
  | bool b =>
    cases b with
    | true => exact .word "true".toList (by decide) (by decide)
    | false => exact .word "false".toList (by decide) (by decide)
  | other t => exact absurd hc (by simp [ConstWF])

theorem Rendered.lexes {t : Str} {ts : List Tok} {x : CExpr} (h : Rendered t ts x) (tl : Str)
    (ts' : List Tok) (ht : TailOK tl) (hr : Lexes tl ts') : Lexes (t ++ tl) (ts ++ ts') := by
  cases h with
  | str s => exact lexes_str s tl ts' hr
  | num _ hd => exact lexes_num _ hd tl ts' ht hr
  | neg d hd =>
    simp only [List.cons_append, List.append_assoc]
    exact lexes_neg_num d hd tl ts' hr
  | word _ hw _ => exact lexes_ident _ hw tl ts' (tail_not_ident ht) hr

theorem Rendered.head {t : Str} {ts : List Tok} {x : CExpr} (h : Rendered t ts x) (rest : Str) :
    ∃ a r, t ++ rest = a :: r ∧ isOpStart a = true := by
  cases h with
  | str s => exact ⟨'"', _, rfl, by decide⟩
  | num _ hd =>
    match t, hd with
    | a :: r, hd => exact ⟨a, _, rfl, by simp [isOpStart, hd.1]⟩
  | neg d _ => exact ⟨'(', _, rfl, by decide⟩
  | word _ hw _ =>
    match t, hw with
    | a :: r, hw => exact ⟨a, _, rfl, by simp [isOpStart, hw.1]⟩

theorem Rendered.toks_ne_nil {t : Str} {ts : List Tok} {x : CExpr} (h : Rendered t ts x) : ts ≠ [] := by
  cases h <;> exact List.cons_ne_nil _ _

theorem toksE_ne_nil (e : OExpr) (h : e.WF) : toksE e ≠ [] := by
  cases e with
  | const c => exact (rendered_const c h).toks_ne_nil
  | _ => exact List.cons_ne_nil _ _

theorem tokF_settles {s : Str} {ts : List Tok} (h : Lexes s ts) :
    Settles (s.length + 1) (fun f => tokF f s) (some ts) := by
  induction h with
  | nil => exact .ret fun _ => rfl
  | ws r ts _ ih => exact .step (fun f => by simp only [tokF, if_true]) ih
  | tok c r rest t ts hc hl hlen _ ih =>
    exact .call (ih.mono (by simp only [List.length_cons] at hlen ⊢; omega)) fun f hf => by
      simp only [tokF, hc, if_false, hl, hf]; rfl

theorem tokenize_of_lexes {s : Str} {ts : List Tok} (h : Lexes s ts) : tokenize s = some ts :=
  tokF_settles h _ (Nat.le_refl _)

theorem lexes_dot (c : Char) (r : Str) (hc : isIdentStart c = true) (ts : List Tok)
    (hr : Lexes (c :: r) ts) : Lexes ('.' :: c :: r) (.punct ['.'] :: ts) := by
  refine Lexes.tok '.' (c :: r) (c :: r) (.punct ['.']) ts (by decide) ?_ (by simp) hr
  have hd : isDigit '.' = false := by decide
  have hi : isIdentStart '.' = false := by decide
  have hq : ('.' : Char) ≠ '"' := by decide
  simp only [lexTok, hd, hi, hq, identStart_not_digit hc, Bool.false_eq_true, if_false, Bool.and_false,
    decide_true]
  rw [lexPunct_one '.' c r (by decide) (identStart_not_ext hc)]

theorem lexes_sep (arrow : Bool) (c : Char) (r : Str) (hc : isIdentStart c = true) (ts : List Tok)
    (hr : Lexes (c :: r) ts) :
    Lexes ((if arrow then ['-', '>'] else ['.']) ++ c :: r)
      (.punct (if arrow then ['-', '>'] else ['.']) :: ts) := by
  cases arrow
  · exact lexes_dot c r hc ts hr
  · exact lexes_op ['-', '>'] (by decide) (identStart_not_ext hc) hr

theorem renderE_head (e : OExpr) (he : e.WF) (rest : Str) :
    ∃ a r, renderE e ++ rest = a :: r ∧ isOpStart a = true := by
  cases e with
  | leaf v arrow m =>
    cases v with
    | nil => exact absurd he.1 (by simp [IsIdent])
    | cons c r => exact ⟨c, _, rfl, by simp [isOpStart, he.1.1]⟩
  | const c => exact (rendered_const c he).head rest
  | un op e => exact ⟨'(', _, rfl, by decide⟩
  | bin op a b => exact ⟨'(', _, rfl, by decide⟩
  | pow a b => exact ⟨'s', _, rfl, by decide⟩
  | cmp op a b => exact ⟨'(', _, rfl, by decide⟩

theorem uop_ok (op : UOp) : OpOk op.text = true := by cases op <;> decide
theorem bop_ok (op : BOp) : OpOk op.text = true := by cases op <;> decide
theorem cop_ok (op : COp) : OpOk op.text = true := by cases op <;> decide

theorem bop_tail (op : BOp) (r : Str) : TailOK (op.text ++ r) := by
  cases op <;> exact tailOK_cons _ (by decide)
theorem cop_tail (op : COp) (r : Str) : TailOK (op.text ++ r) := by
  cases op <;> exact tailOK_cons _ (by decide)

theorem lexes_castOpen {t : Str} {ts : List Tok} (hr : Lexes t ts) :
    Lexes (castOpen ++ t) (castToks ++ ts) := by
  have h1 := lexes_op_start ['>'] (by decide) ⟨'(', t, rfl, by decide⟩ (lexes_lparen hr)
  have h2 := lexes_ident sDouble (by decide) _ _ (Runs.headFails_cons _ (by decide)) h1
  have h3 := lexes_op ['<'] (by decide) (by decide) h2
  exact lexes_ident sStaticCast (by decide) _ _ (Runs.headFails_cons _ (by decide)) h3

theorem lexes_powOpen {t : Str} {ts : List Tok} (hr : Lexes t ts) :
    Lexes (powOpen ++ t) (powToks ++ ts) := by
  have h1 := lexes_ident sPow (by decide) _ _ (Runs.headFails_cons _ (by decide)) (lexes_lparen hr)
  have h2 := lexes_op [':', ':'] (by decide) (by decide) h1
  exact lexes_ident sStd (by decide) _ _ (Runs.headFails_cons _ (by decide)) h2

/-- **Tokenization is a homomorphism on what the renderer writes**: followed by any text that
starts like the text after an operand, the rendered expression is lexed into exactly the tokens
it was built from, then the tokens of the rest. -/
theorem lexes_renderE : ∀ (e : OExpr), e.WF → ∀ (tl : Str) (ts : List Tok), TailOK tl → Lexes tl ts →
    Lexes (renderE e ++ tl) (toksE e ++ ts) := by
  intro e
  induction e with
  | leaf v arrow m =>
    intro h tl ts _ hr
    obtain ⟨hv, hm⟩ := h
    have h3 := lexes_ident m hm ('(' :: ')' :: tl) _ (Runs.headFails_cons _ (by decide))
      (lexes_lparen (lexes_rparen hr))
    cases m with
    | nil => exact absurd hm (by simp [IsIdent])
    | cons mc mr =>
      have h4 := lexes_sep arrow mc (mr ++ '(' :: ')' :: tl) hm.1 _ h3
      have h5 := lexes_ident v hv _ _ (by cases arrow <;> exact Runs.headFails_cons _ (by decide)) h4
      simp only [renderE, toksE, List.cons_append, List.append_assoc, List.nil_append]
      exact h5
  | const c =>
    intro h tl ts ht hr
    exact (rendered_const c h).lexes tl ts ht hr
  | un op e ih =>
    intro h tl ts _ hr
    have h3 := ih h (')' :: ')' :: tl) _ (tailOK_rparen _) (lexes_rparen (lexes_rparen hr))
    have h5 := lexes_op op.text (uop_ok op) (by decide) (lexes_lparen h3)
    simp only [renderE, toksE, List.cons_append, List.append_assoc, List.nil_append]
    exact lexes_lparen h5
  | bin op a b iha ihb =>
    intro h tl ts _ hr
    obtain ⟨ha, hb⟩ := h
    have h2 := ihb hb (')' :: tl) _ (tailOK_rparen _) (lexes_rparen hr)
    have h3 := lexes_op_start op.text (bop_ok op) (renderE_head b hb _) h2
    by_cases hcast : needsCast op a b = true
    · have h5 := iha ha (')' :: (op.text ++ (renderE b ++ ')' :: tl))) _ (tailOK_rparen _) (lexes_rparen h3)
      have h6 := lexes_lparen (lexes_castOpen h5)
      simp only [renderE, toksE, hcast, if_true, List.cons_append, List.append_assoc, List.nil_append]
      exact h6
    · have h4 := iha ha (op.text ++ (renderE b ++ ')' :: tl)) _ (bop_tail op _) h3
      simp only [renderE, toksE, hcast, Bool.false_eq_true, if_false, List.cons_append, List.append_assoc,
        List.nil_append]
      exact lexes_lparen h4
  | pow a b iha ihb =>
    intro h tl ts _ hr
    obtain ⟨ha, hb⟩ := h
    have h2 := ihb hb (')' :: tl) _ (tailOK_rparen _) (lexes_rparen hr)
    have h4 := lexes_solo ',' (by decide) (by decide) (Lexes.ws _ _ h2)
    have h5 := iha ha (',' :: ' ' :: (renderE b ++ ')' :: tl)) _ (tailOK_cons _ (by decide)) h4
    have h6 := lexes_powOpen h5
    simp only [renderE, toksE, List.cons_append, List.append_assoc, List.nil_append]
    exact h6
  | cmp op a b iha ihb =>
    intro h tl ts _ hr
    obtain ⟨ha, hb⟩ := h
    have h2 := ihb hb (')' :: tl) _ (tailOK_rparen _) (lexes_rparen hr)
    have h3 := lexes_op_start op.text (cop_ok op) (renderE_head b hb _) h2
    have h4 := iha ha (op.text ++ (renderE b ++ ')' :: tl)) _ (cop_tail op _) h3
    simp only [renderE, toksE, List.cons_append, List.append_assoc, List.nil_append]
    exact lexes_lparen h4

end FaxVerif.C18
