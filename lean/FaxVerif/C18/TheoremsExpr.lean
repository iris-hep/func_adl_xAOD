/-
C18 — the rendered operand expression IS the query's expression.

`TheoremsContext.lean` has (T): the text is lexed into the intended tokens. Here the rest of (E):

    ∀ e, e.WF → ExprOk e (renderE e)                                                    -- (E)

`ExprOk` = tokenize (maximal munch) ∘ parse (C++ precedence) ∘ compare with the query (`sameE`: same
operators on the same operands, every constant denoted by a literal of its value and kind, a `/` is
a floating division). For the parser and for `sameE`: a lemma each by induction over the expression,
"with any fuel from so many times the nesting depth on" (`parsesU_toksE`, `same_tree`).

(E) is FALSE of the code as it stands for the same reason (★) of `Theorems.lean` is: an int constant
outside the 32-bit range is typed `int` (`exprok_int_counterexample`, the listed finding). It is
proved with that one defect exclusion (`exprok_model_partial`): ints of the 32-bit range; floats
given by a well-formed `repr` text that rounds to the float (the assumptions about CPython of
`const_ok_partial`); and the loop variable not spelled `static_cast` (a keyword: it is no Python
identifier a generated name can be — the translator's loop variables are `i_objN`).
-/
import FaxVerif.C18.ProofsExpr
import FaxVerif.C18.TheoremsContext
namespace FaxVerif.C18

/-- **The parser finds the intended structure**: for EVERY well-formed operand expression (any depth) that uses no keyword as a name (`NoKw`) the text
the translator writes, tokenized by maximal munch and parsed with C++ precedence and associativity,
is exactly the tree the renderer meant — the parentheses it writes are enough, no operator captures
an operand of its neighbour, `std::pow(a, b)` is a call with these two arguments, a sign in front
of `(…)` applies to the whole parenthesis. -/
theorem operand_parse (e : OExpr) (h : e.WF) (hk : e.NoKw) : exprTree (renderE e) = some (treeE e) := by
  unfold exprTree
  rw [operand_tokens e h]
  exact parseE_toksE e h hk

/-- Full statement (E) `∀ e, e.WF → ExprOk e (renderE e)` is false (`exprok_int_counterexample`).
PARTIAL — **the rendered expression is the query's expression**: for every operand expression (method
calls of the loop variable, constants, unary `+`/`-`, `+ - * / %`, `**`, comparisons; any depth)
whose int constants are in the 32-bit range (defect exclusion: the listed finding) and whose float
constants are given by a well-formed `repr` text that rounds to the float (assumptions about
CPython), what the translator writes is lexed, parsed and compared successfully: same operators on
the same operands, every constant denoted by a C++ literal of its value and kind (`ConstOk`), every
`/` a floating division (the `static_cast<double>` is there when both operands are `int`). -/
theorem exprok_model_partial (e : OExpr) (h : e.WF) (hk : e.NoKw) (hg : ∀ c ∈ e.consts, ConstGood c) :
    ExprOk e (renderE e) := by
  unfold ExprOk
  rw [operand_tokens e h]
  simp only
  rw [parseE_toksE e h hk]
  simp only
  exact same_tree e h hg _ (by have := depth_le_size e; omega)

/-- the excluded defect: `x - 3000000000` — the literal is a `long`, the translator records `int`
(`ConstOk` fails inside `ExprOk`); with 3 in its place the same expression is fine -/
theorem exprok_int_counterexample :
    ¬ ExprOk (.bin .sub (.leaf ['x'] true ['p', 't']) (.const (.int 3000000000)))
        (renderE (.bin .sub (.leaf ['x'] true ['p', 't']) (.const (.int 3000000000)))) ∧
    ExprOk (.bin .sub (.leaf ['x'] true ['p', 't']) (.const (.int 3)))
        (renderE (.bin .sub (.leaf ['x'] true ['p', 't']) (.const (.int 3)))) := by
  decide +kernel

/-- the hypothesis on the loop variable cannot be dropped for THIS parser (it reads `static_cast` as
the keyword it is in C++) -/
theorem exprok_keyword_counterexample :
    ¬ ExprOk (.leaf sStaticCast true ['p', 't']) (renderE (.leaf sStaticCast true ['p', 't'])) := by
  decide +kernel

/-- **One string, every landing place.** For EVERY string `s` of a query, the literal the translator
writes for it (a) denotes `s` under both lexing dialects with the recorded type `string` (`ConstOk`);
(b) is `ContextSafe`: one string-literal token after every operator of the regenerated operator
tables, `(`, `,` and before `)` (argument and comparison positions); (c) as a bank name, in any
retrieval line, is found again with the untouched rest, both dialects (the First() message line is
the instance `pre := throw std::runtime_error(` of this clause: `first_message_roundtrip`); (d) as a
TREE name and (e) as a BRANCH name, in every booking / fill line of the three backends as regenerated
from the source on this run, the literal at the name's place denotes exactly `s`, both dialects —
whatever the other name and the leaf variable are. -/
theorem string_at_every_landing_place (s : Str) :
    ConstOk (.str s) (renderStrL pyTable s) .string ∧
    ContextSafe (renderStrL pyTable s) ∧
    (∀ pre suf : Str, cppStringLit ((bankLine pyTable pre suf s).drop pre.length) = some (s, suf) ∧
      cppStringLit (detri ((bankLine pyTable pre suf s).drop pre.length)) = some (s, detri suf)) ∧
    (∀ b ∈ bookTable ++ fillTable, ∀ segs ∈ b.2, ∀ (other var : Str) (off : Nat) (esc : Bool),
      (nameSlot segs = some (off, .tree, esc) →
        nameAt off (renderSegs pyTable s other var segs) = some s ∧
        nameAtTri off (renderSegs pyTable s other var segs) = some s) ∧
      (nameSlot segs = some (off, .col, esc) →
        nameAt off (renderSegs pyTable other s var segs) = some s ∧
        nameAtTri off (renderSegs pyTable other s var segs) = some s)) := by
  refine ⟨str_const_ok s, const_context_safe (.str s) trivial, ?_, ?_⟩
  · intro pre suf
    exact ⟨bank_roundtrip pre suf s, bank_roundtrip_trigraphs pre suf s⟩
  · intro b hb segs hs other var off esc
    constructor
    · intro hslot
      exact ⟨names_roundtrip b hb segs hs s other var off .tree esc hslot,
        names_roundtrip_trigraphs b hb segs hs s other var off .tree esc hslot⟩
    · intro hslot
      exact ⟨names_roundtrip b hb segs hs other s var off .col esc hslot,
        names_roundtrip_trigraphs b hb segs hs other s var off .col esc hslot⟩

example : subNegExample.WF ∧ subNegExample.NoKw :=
  ⟨by decide +kernel, ⟨by simp [OExpr.NoKw, sStaticCast], trivial⟩⟩
example : ∀ c ∈ subNegExample.consts, ConstGood c := by
  intro c hc
  simp only [subNegExample, OExpr.consts, List.nil_append, List.mem_singleton] at hc
  subst hc
  constructor
  · intro n h; cases h
  · intro r bits h
    cases h
    decide +kernel
example : treeE subNegExample =
    .bin ['-'] (.call0 (.name [['x'], ['-', '>'], ['p', 't']])) (.un ['-'] (.num "2.5e-07".toList)) := by decide +kernel

end FaxVerif.C18
