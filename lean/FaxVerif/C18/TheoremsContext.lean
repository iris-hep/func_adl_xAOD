/-
C18 — a constant AS AN OPERAND.

"Denotes the same value" is a statement about the C++ program, and a C++ program is first of all a
sequence of TOKENS found by maximal munch: a literal that is right where it stands alone can be wrong
in place (`x - -2.5e-07` written `x--2.5e-07` is the decrement `--`). The full-strength statement,
for every operand expression `e` of a query (method calls of the loop variable, constants, unary
`+`/`-`, `+ - * / %`, `**`, comparisons — unbounded depth, every constant):

    ∀ e, e.WF → tokenize (renderE e) = some (toksE e)                                   -- (T)
    ∀ e, e.WF → ExprOk e (renderE e)                                                    -- (E)

(T): the text `visit_BinOp` / `visit_UnaryOp` / `visit_Compare` / `std::pow` / `visit_Constant`
write is lexed, by maximal munch, into exactly the tokens the renderer meant — no juxtaposition
anywhere in it forms a different token; proved here (`operand_tokens`).
(E) adds the parser (precedence) and the comparison with the query; it is the decidable Spec the
harness evaluates on the IMPLEMENTATION's text. Here it is shown on witnesses only; the universal
statement (with the one defect exclusion of the ints) is `exprok_model_partial` in
`TheoremsExpr.lean`.

`ContextSafe` (Expr.lean, evaluated on every constant text the implementation emits): the text of a
constant can be put after every operator of the translator's three operator tables (regenerated
from the source on every run), `(` and `,`, and before `)`, and is still lexed into its own tokens.
-/
import FaxVerif.C18.ProofsContext
import FaxVerif.C18.Theorems
namespace FaxVerif.C18

/-- Every operator text of `_known_binary_operators`, `_known_unary_operators` and
`compare_operations`, as they are in the source now (and `(`, `,`, which `emittedOps` holds as well), is a C++ punctuator of one or two characters
(and not `.`): an operand can be put after it. Re-checked on every run. -/
theorem emitted_ops_ok : ∀ op ∈ emittedOps, OpOk op = true := by decide +kernel

/-- the model's operator texts ARE the source's tables (nothing missing, nothing extra) -/
theorem emitted_ops_are_the_models :
    (Gen.binaryOps.map String.toList).all (fun o => [BOp.add, .sub, .mul, .div, .mod].any (·.text == o)) = true ∧
    [BOp.add, .sub, .mul, .div, .mod].all (fun b => (Gen.binaryOps.map String.toList).contains b.text) = true ∧
    [COp.lt, .le, .gt, .ge, .eq, .ne].all (fun b => (Gen.compareOps.map String.toList).contains b.text) = true ∧
    (Gen.compareOps.map String.toList).all (fun o => [COp.lt, .le, .gt, .ge, .eq, .ne].any (·.text == o)) = true ∧
    [UOp.neg, .pos].all (fun b => (Gen.unaryOps.map String.toList).contains b.text) = true := by
  decide +kernel

/-- **No juxtaposition in a rendered expression forms a different token.** For EVERY operand
expression (any depth, any constants the renderer accepts: all strings, all ints, every finite
float given by a well-formed `repr` text, bools; loop variable and method any identifiers), the text
the translator writes is lexed by maximal munch into exactly the tokens it was built from: every
sign, operator, parenthesis, number, name and string literal is a token of its own. In particular a
negative constant after `-` is `-`, `(`, `-`, number, `)` and never `--`. -/
theorem operand_tokens (e : OExpr) (h : e.WF) : tokenize (renderE e) = some (toksE e) := by
  have := lexes_renderE e h [] [] tailOK_nil Lexes.nil
  simp only [List.append_nil] at this
  exact tokenize_of_lexes this

/-- … and in any context that starts like the text after an operand (`)`, `,`, `;`, a blank, an
operator): the expression's tokens, then the context's. -/
theorem operand_tokens_in_context (e : OExpr) (h : e.WF) (tl : Str) (ts : List Tok)
    (ht : ∀ c r, tl = c :: r → isTailStart c = true) (hl : tokenize tl = some ts → Lexes tl ts)
    (htok : tokenize tl = some ts) : tokenize (renderE e ++ tl) = some (toksE e ++ ts) :=
  tokenize_of_lexes (lexes_renderE e h tl ts ht (hl htok))

/-- the same, stated with the relation (no side condition on how `tl` was lexed) -/
theorem operand_lexes_in_context (e : OExpr) (h : e.WF) (tl : Str) (ts : List Tok)
    (ht : ∀ c r, tl = c :: r → isTailStart c = true) (hl : Lexes tl ts) :
    Lexes (renderE e ++ tl) (toksE e ++ ts) := lexes_renderE e h tl ts ht hl

/-- **Every rendered operand is context safe**, not only a constant: its text is a token sequence of
its own, and directly after every operator the translator emits (and before `)`) it is lexed into the
same tokens. -/
theorem operand_context_safe (e : OExpr) (h : e.WF) : ContextSafe (renderE e) := by
  unfold ContextSafe
  rw [operand_tokens e h]
  refine ⟨toksE_ne_nil e h, fun op hop => ?_⟩
  rw [List.append_assoc]
  exact tokenize_of_lexes (lexes_op_start op (emitted_ops_ok op hop) (renderE_head e h [')'])
    (lexes_renderE e h [')'] [tRP] (tailOK_rparen []) (lexes_rparen Lexes.nil)))

/-- **The text of every constant is context safe**: whatever constant `visit_Constant` accepts,
its text is a token sequence of its own, and directly after every operator the translator emits
(its three operator tables as they are in the source now, `(`, `,`) and before `)` it is lexed
into the same tokens — no `--`, `++`, `-=`, `->`, `.5` can form. -/
theorem const_context_safe (c : PyConst) (hc : ConstWF c) : ContextSafe (constText c) :=
  operand_context_safe (.const c) hc

/-- `ConstOk` extended by `ContextSafe`, for the model's output: what `visit_Constant` emits denotes
the constant AND can stand after any emitted operator. PARTIAL in the ints only (32-bit range — the
listed finding of `visit_Constant`; `ContextSafe` itself holds for every int). -/
theorem const_ok_context_safe_partial (c : PyConst) (hint : ∀ n, c = .int n → InInt32 n)
    (hfl : ∀ r bits, c = .float r bits → WFRepr r ∧ ReprFaithful r bits)
    (text : Str) (ty : CTy) (hr : renderConst c = .ok (text, ty)) :
    ConstOk c text ty ∧ ContextSafe text := by
  have hok := const_ok_partial c hint hfl
  rw [hr] at hok
  refine ⟨hok, ?_⟩
  have := const_context_safe c (constWF_of_renderConst hr fun r bits h => (hfl r bits h).1)
  simpa [constText, hr] using this

/-- the query `x.pt() - -2.5e-07` as the Python parser delivers it: `Sub(pt, USub(2.5e-07))` -/
def subNegExample : OExpr :=
  .bin .sub (.leaf ['x'] true ['p', 't'])
    (.un .neg (.const (.float (.finite false [2] (some [5]) (some (true, [0, 7]))) 4508321993853365645)))

/-- **A sign written directly after the operator is a different program** (the seeded change C18-e1,
and with `-5` as one node the repaired defect 212716c): in `(x->pt()--2.5e-07)` the lexer finds the
decrement `--`; the text is not an expression of the query's shape (`ExprOk` fails; g++: "lvalue
required as decrement operand"), and the bare `-2.5e-07` / `-5` is not `ContextSafe`. The
renderer's own text for the same query is `(x->pt()-(-(2.5e-07)))`, lexed sign by sign, and is the
query's expression. -/
theorem glued_sign_counterexample :
    tokenize "(x->pt()--2.5e-07)".toList =
      some [tLP, .id ['x'], .punct ['-', '>'], .id ['p', 't'], tLP, tRP, .punct ['-', '-'],
            .num "2.5e-07".toList, tRP] ∧
    ¬ ExprOk subNegExample "(x->pt()--2.5e-07)".toList ∧
    ¬ ContextSafe "-2.5e-07".toList ∧ ¬ ContextSafe "-5".toList ∧
    renderE subNegExample = "(x->pt()-(-(2.5e-07)))".toList ∧
    ExprOk subNegExample (renderE subNegExample) ∧
    ExprOk subNegExample "(x->pt() - -2.5e-07)".toList ∧
    ExprOk (.bin .sub (.leaf ['x'] true ['p', 't']) (.const (.int (-5)))) "(x->pt()-(-5))".toList ∧
    ¬ ExprOk (.bin .sub (.leaf ['x'] true ['p', 't']) (.const (.int (-5)))) "(x->pt()--5)".toList := by
  -- `-index`: a literal matches `String.ofList _` by unification only; evaluating `String.toList`
  -- on it would decode its UTF-8 bytes in the kernel
  simp -index only [String.toList_ofList]
  decide +kernel

/-- (E) ON WITNESSES ONLY (kernel-decided instances; the universal theorem is `exprok_model_partial`,
TheoremsExpr.lean): the renderer's text is the query's expression for a unary minus under `**`, an
int/int division (the cast is needed: without it the C++ division is an integer one and `ExprOk`
fails), a comparison of a difference, a product of a negative node and a sum; and `ExprOk` rejects a
changed constant, a changed operator and a regrouping. -/
theorem exprok_witnesses :
    ExprOk (.pow (.un .neg (.const (.float (.finite false [1] (some [5]) none) 4609434218613702656))) (.const (.int 2)))
      (renderE (.pow (.un .neg (.const (.float (.finite false [1] (some [5]) none) 4609434218613702656))) (.const (.int 2)))) ∧
    renderE (.bin .div (.const (.int 5)) (.const (.int 2))) = "(static_cast<double>(5)/2)".toList ∧
    ExprOk (.bin .div (.const (.int 5)) (.const (.int 2))) "(static_cast<double>(5)/2)".toList ∧
    ¬ ExprOk (.bin .div (.const (.int 5)) (.const (.int 2))) "(5/2)".toList ∧
    ExprOk (.cmp .gt (.bin .sub (.leaf ['j'] false ['e', 't', 'a']) (.const (.int (-3)))) (.const (.int 0)))
      "((j.eta()-(-3))>0)".toList ∧
    ExprOk (.bin .mul (.const (.int (-3))) (.bin .add (.leaf ['j'] true ['p', 't']) (.const (.int 1))))
      "((-3)*(j->pt()+1))".toList ∧
    ¬ ExprOk (.bin .mul (.const (.int (-3))) (.bin .add (.leaf ['j'] true ['p', 't']) (.const (.int 1))))
      "(-3*j->pt()+1)".toList ∧
    ¬ ExprOk (.bin .sub (.leaf ['x'] true ['p', 't']) (.const (.int 5))) "(x->pt()-6)".toList ∧
    ¬ ExprOk (.bin .sub (.leaf ['x'] true ['p', 't']) (.const (.int 5))) "(x->pt()+5)".toList ∧
    ExprOk (.bin .sub (.leaf ['x'] true ['p', 't']) (.const (.int 5))) "x->pt() - 5".toList := by
  simp -index only [String.toList_ofList]
  decide +kernel

example : subNegExample.WF := by decide +kernel
example : (OExpr.pow (.leaf "i_obj1".toList true "pt".toList) (.const (.str "a\"b".toList))).WF := by decide +kernel
example : toksE subNegExample =
    [tLP, .id ['x'], .punct ['-', '>'], .id ['p', 't'], tLP, tRP, tMinus, tLP, tMinus, tLP,
     .num "2.5e-07".toList, tRP, tRP, tRP] := by decide +kernel
example : ContextSafe "(-5)".toList ∧ ContextSafe "2.5e-07".toList ∧ ContextSafe "\"a\\\"b\"".toList ∧
    ContextSafe "true".toList ∧ ¬ ContextSafe "=5".toList ∧ ¬ ContextSafe "+5".toList := by
  simp -index only [String.toList_ofList]
  decide +kernel
example : emittedOps.length = 16 := by decide +kernel

end FaxVerif.C18
