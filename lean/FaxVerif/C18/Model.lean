/-
C18 — constants in a query denote the same value in the generated code.

Two halves, both executable:

* the PYTHON side as it is now: `renderConst` mirrors `query_ast_visitor.visit_Constant`
  (common/ast_to_cpp_translator.py): `str` → `as_cpp_string_literal` (per-character table
  `Gen.escapeTable`, regenerated from the source on every run), `int` → `str(n)` typed `int`,
  `float` → `str(x)` (both in parentheses when negative; `str(x)` = CPython's `repr`, given here by its *text*: sign, digits, optional
  fraction, optional exponent; `inf`/`nan` are refused), `bool` → `true`/`false`, anything else
  refused; plus the lines in which names land (`renderSegs`: the booking / fill lines of the three
  backends, `Gen.bookLines`, where tree and branch names stand as escaped literals).

* the C++ side: a lexer for the literals of the emitted subset — `lex` (string literal bodies with
  every escape sequence of the language), `detri` (translation phase 1 of ISO C++ before C++17:
  trigraphs), `cppIntLit` (decimal/octal/hex/binary, suffixes, the type a bare literal has under
  LP64), `cppFloatLit` (the exact decimal value `mant · 10^exp` and the type).

Also the way of a constant through a conditional expression (`Carrier`, `columnPaths`: mirror of
`visit_IfExp` + `statement.set_var` + the column declaration).

Strings are lists of Unicode scalar values (`Str`); the `String` wrappers are at the end.
No Mathlib/Batteries import.
-/
import FaxVerif.Generated.C18Tables
namespace FaxVerif.C18

abbrev Str := List Char

/-! ## shared vocabulary -/

/-- C++ types that occur (LP64 data model: `int` 32 bit, `long` = `long long` 64 bit). -/
inductive CTy where
  | int | uint | long | ulong | llong | ullong
  | float | double | ldouble
  | bool | string
  deriving DecidableEq, Repr

def CTy.name : CTy → String
  | .int => "int" | .uint => "unsigned int" | .long => "long" | .ulong => "unsigned long"
  | .llong => "long long" | .ullong => "unsigned long long"
  | .float => "float" | .double => "double" | .ldouble => "long double"
  | .bool => "bool" | .string => "string"

/-- an exact decimal number `(-1)^neg · mant · 10^exp` (the sign is kept for zero: `-0.0`) -/
structure Dec where
  neg : Bool
  mant : Nat
  exp : Int
  deriving DecidableEq, Repr

/-! ## digits -/

def digitChar (d : Nat) : Char := Char.ofNat (48 + d)
def isDigit (c : Char) : Bool := decide (48 ≤ c.toNat) && decide (c.toNat ≤ 57)
def digitVal (c : Char) : Nat := c.toNat - 48

/-- value of a run of decimal digits -/
def decVal (cs : Str) : Nat := cs.foldl (fun a c => a * 10 + digitVal c) 0

/-- `str(n)` for a natural number: decimal digits, most significant first, no leading zero.
The first argument is fuel (`n` itself is always enough). -/
def natDigits : Nat → Nat → Str
  | 0, n => [digitChar (n % 10)]
  | f + 1, n => if n < 10 then [digitChar n] else natDigits f (n / 10) ++ [digitChar (n % 10)]

def renderNat (n : Nat) : Str := natDigits n n

/-- Python's `str(n)` for an `int` -/
def renderInt : Int → Str
  | .ofNat n => renderNat n
  | .negSucc n => '-' :: renderNat (n + 1)

/-! ## Python side -/

/-- The text CPython's `repr` prints for a float, as structure (digits are `Fin 10`):
`[-]ddd[.ddd][e(+|-)dd]`, or `inf`, `-inf`, `nan`. -/
inductive FloatRepr where
  | finite (neg : Bool) (ip : List (Fin 10)) (fp : Option (List (Fin 10)))
      (ex : Option (Bool × List (Fin 10)))
  | inf (neg : Bool)
  | nan
  deriving DecidableEq, Repr

/-- a constant of a query -/
inductive PyConst where
  | str (s : Str)
  | int (n : Int)
  /-- a float: the text `repr` prints for it and its 64 bits (IEEE-754 binary64) -/
  | float (r : FloatRepr) (bits : Nat)
  | bool (b : Bool)
  /-- `None`, bytes, complex, Ellipsis, tuples … (by the name of the Python type) -/
  | other (tyName : String)
  deriving DecidableEq, Repr

inductive RErr where
  | nonFinite
  | unsupported (tyName : String)
  deriving DecidableEq, Repr

def digs (ds : List (Fin 10)) : Str := ds.map fun d => digitChar d.val
def valDigits (ds : List (Fin 10)) : Nat := ds.foldl (fun a d => a * 10 + d.val) 0

def renderFloat (neg : Bool) (ip : List (Fin 10)) (fp : Option (List (Fin 10)))
    (ex : Option (Bool × List (Fin 10))) : Str :=
  (if neg then ['-'] else []) ++ digs ip ++
  (match fp with | some f => '.' :: digs f | none => []) ++
  (match ex with | some (eneg, ed) => 'e' :: (if eneg then '-' else '+') :: digs ed | none => [])

/-- the decimal number the text of a finite `repr` denotes -/
def floatValue (neg : Bool) (ip : List (Fin 10)) (fp : Option (List (Fin 10)))
    (ex : Option (Bool × List (Fin 10))) : Dec :=
  let f := fp.getD []
  let e : Int := match ex with
    | some (eneg, ed) => if eneg then -(valDigits ed : Int) else (valDigits ed : Int)
    | none => 0
  { neg := neg, mant := valDigits (ip ++ f), exp := e - (f.length : Int) }

/-- the per-character table of `as_cpp_string_literal`, regenerated from the source -/
def pyTable : List (Char × Str) :=
  Gen.escapeTable.map fun p => (Char.ofNat p.1, p.2.map Char.ofNat)

/-- image of one character: `_cpp_string_escapes.get(c, c)` -/
def escOf (tbl : List (Char × Str)) (c : Char) : Str :=
  match tbl.lookup c with
  | some e => e
  | none => [c]

def renderBody (tbl : List (Char × Str)) : Str → Str
  | [] => []
  | c :: cs => escOf tbl c ++ renderBody tbl cs

/-- `as_cpp_string_literal(s)` = `'"' + "".join(table.get(c, c) for c in s) + '"'` -/
def renderStrL (tbl : List (Char × Str)) (s : Str) : Str := '"' :: (renderBody tbl s ++ ['"'])

/-- `_signed_literal` (since 212716c): a text that starts with `-` is put in parentheses, so that a
negative constant directly after a binary minus is not lexed as a decrement (`a--5`). -/
def signedLit (t : Str) : Str := if t.head? = some '-' then '(' :: (t ++ [')']) else t

/-- `visit_Constant`: text of the C++ expression and the type recorded for it, or the refusal. -/
def renderConst : PyConst → Except RErr (Str × CTy)
  | .str s => .ok (renderStrL pyTable s, .string)
  | .int n => .ok (signedLit (renderInt n), .int)
  | .float (.finite neg ip fp ex) _ => .ok (signedLit (renderFloat neg ip fp ex), .double)
  | .float _ _ => .error .nonFinite
  | .bool b => .ok (if b then "true".toList else "false".toList, .bool)
  | .other t => .error (.unsupported t)

/-! ### a constant that reaches the output through a temporary (conditional expressions)

`visit_IfExp` declares `double if_else_resultN;` and assigns each arm to it with `set_var`, which
writes `static_cast<double>(arm)` when the arm's recorded type is not `double`; the column that is
filled from an expression is declared with the type recorded for the expression and assigned from
it; an arm whose recorded type is `string` is refused (`Carrier.accepted`). A *carrier* is an expression whose value is one of its constants: a constant, or a
conditional expression between two carriers (the tests do not matter here). `columnPaths` lists,
for every constant of the carrier in source order, the C++ types it is converted to on its way
into the column (one entry per written cast and per variable assigned). -/

/-- the type `visit_Constant` records for a constant that has one -/
def litTy : PyConst → CTy
  | .str _ => .string
  | .int _ => .int
  | .float _ _ => .double
  | .bool _ => .bool
  | .other _ => .string

inductive Carrier where
  | const (c : PyConst)
  | ite (body orelse : Carrier)
  deriving Repr

/-- the type recorded for the carrier's representation: the constant's, `double` for a conditional -/
def Carrier.ty : Carrier → CTy
  | .const c => litTy c
  | .ite _ _ => .double

/-- `set_var(target : t, value : src)`: a written cast when the types differ, then the variable -/
def setVarSteps (t src : CTy) : List CTy := if src = t then [t] else [t, t]

def Carrier.paths : Carrier → List (PyConst × List CTy)
  | .const c => [(c, [])]
  | .ite a b =>
    (a.paths.map fun p => (p.1, p.2 ++ setVarSteps .double a.ty)) ++
    (b.paths.map fun p => (p.1, p.2 ++ setVarSteps .double b.ty))

/-- `visit_IfExp` (since 6a224ae) refuses an arm whose recorded type is `string` (ValueError): the
`double` result variable cannot hold it. A constant is accepted when `visit_Constant` accepts it. -/
def Carrier.accepted : Carrier → Bool
  | .const c => (renderConst c).toOption.isSome
  | .ite a b => a.ty != .string && b.ty != .string && a.accepted && b.accepted

/-- … and finally the column, declared with the carrier's type -/
def Carrier.columnPaths (k : Carrier) : List (PyConst × List CTy) :=
  k.paths.map fun p => (p.1, p.2 ++ [k.ty])

def Carrier.consts : Carrier → List PyConst
  | .const c => [c]
  | .ite a b => a.consts ++ b.consts

/-! ### lines in which names land -/

inductive Seg where
  | lit (t : Str)
  | tree | col          -- the name, copied verbatim
  | treeEsc | colEsc    -- the name as an escaped literal (with its quotes)
  | var
  | unrecognised (t : String)
  deriving DecidableEq, Repr

def Seg.ofPair (p : String × String) : Seg :=
  if p.1 = "lit" then .lit p.2.toList
  else if p.1 = "tree" then .tree else if p.1 = "col" then .col
  else if p.1 = "treeEsc" then .treeEsc else if p.1 = "colEsc" then .colEsc
  else if p.1 = "var" then .var
  else .unrecognised (p.1 ++ ":" ++ p.2)

def segTable (t : List (String × List (List (String × String)))) : List (String × List (List Seg)) :=
  t.map fun b => (b.1, b.2.map fun l => l.map Seg.ofPair)

def bookTable : List (String × List (List Seg)) := segTable Gen.bookLines
def fillTable : List (String × List (List Seg)) := segTable Gen.fillLines

def renderSeg (tbl : List (Char × Str)) (tree col var : Str) : Seg → Str
  | .lit t => t
  | .tree => tree
  | .col => col
  | .treeEsc => renderStrL tbl tree
  | .colEsc => renderStrL tbl col
  | .var => var
  | .unrecognised _ => []

def renderSegs (tbl : List (Char × Str)) (tree col var : Str) : List Seg → Str
  | [] => []
  | s :: ss => renderSeg tbl tree col var s ++ renderSegs tbl tree col var ss

/-- the collection-retrieval line after the whole-word substitution of `collection_name`
(cpp_ast.py `_replace_whole_words`): the text before, the rendered literal, the text after -/
def bankLine (tbl : List (Char × Str)) (pre suf : Str) (bank : Str) : Str :=
  pre ++ renderStrL tbl bank ++ suf

/-! ## C++ side: string literals -/

/-- simple escape sequences (the character after the backslash ↦ the character denoted) -/
def simpleEsc (e : Char) : Option Char :=
  if e = 'n' then some '\n' else if e = 't' then some '\t' else if e = 'r' then some '\r'
  else if e = '\\' then some '\\' else if e = '"' then some '"' else if e = '\'' then some '\''
  else if e = '?' then some '?' else if e = 'a' then some (Char.ofNat 7)
  else if e = 'b' then some (Char.ofNat 8) else if e = 'f' then some (Char.ofNat 12)
  else if e = 'v' then some (Char.ofNat 11) else none

def isOct (c : Char) : Bool := decide (48 ≤ c.toNat) && decide (c.toNat ≤ 55)

def hexVal (c : Char) : Option Nat :=
  let n := c.toNat
  if 48 ≤ n ∧ n ≤ 57 then some (n - 48)
  else if 97 ≤ n ∧ n ≤ 102 then some (n - 87)
  else if 65 ≤ n ∧ n ≤ 70 then some (n - 55)
  else none

/-- a physical end of line (GCC accepts LF, CR LF and a lone CR) -/
def isNewline (c : Char) : Bool := c = '\n' || c = '\r'

/-- lexer states inside a string literal -/
inductive St where
  | norm
  | esc                       -- just after a backslash
  | oct (k acc : Nat)         -- k octal digits read
  | hex (k acc : Nat)         -- after \x, k hex digits read
  | ucn (k acc : Nat)         -- \u / \U: k hex digits still to read
  deriving DecidableEq, Repr

abbrev LexRes := Option (Str × Str)

def pushC (c : Char) : LexRes → LexRes
  | some (v, r) => some (c :: v, r)
  | none => none

/-- a numeric escape denotes one code unit; this lexer only speaks about values below 128
(above, a code unit is a byte, not a character) -/
def pushUnit (n : Nat) (k : LexRes) : LexRes := if n < 128 then pushC (Char.ofNat n) k else none

/-- a universal-character-name denotes a Unicode scalar value -/
def pushUcn (n : Nat) (k : LexRes) : LexRes :=
  if n < 0xD800 ∨ (0xE000 ≤ n ∧ n < 0x110000) then pushC (Char.ofNat n) k else none

/-- what state `norm` does with the character `c` (followed by `r`), given the results of
lexing `r` in state `norm` and in state `esc` (used to STATE the unfolding lemma only: `lex` itself
branches first, so that only one of the two continuations is ever computed) -/
def onNorm (c : Char) (r : Str) (recNorm recEsc : LexRes) : LexRes :=
  if c = '"' then some ([], r)
  else if isNewline c then none
  else if c = '\\' then recEsc
  else pushC c recNorm

/-- Body of a string literal (the text after the opening quote): the characters it denotes and the
text after the closing quote; `none` when the literal is not terminated on the line or contains
an escape sequence that is not one of the language. -/
def lex : St → Str → LexRes
  | _, [] => none
  | .norm, c :: r =>
    if c = '"' then some ([], r)
    else if isNewline c then none
    else if c = '\\' then lex .esc r
    else pushC c (lex .norm r)
  | .esc, e :: r =>
    match simpleEsc e with
    | some v => pushC v (lex .norm r)
    | none =>
      if isOct e then lex (.oct 1 (digitVal e)) r
      else if e = 'x' then lex (.hex 0 0) r
      else if e = 'u' then lex (.ucn 4 0) r
      else if e = 'U' then lex (.ucn 8 0) r
      else none
  | .oct k acc, c :: r =>
    if k < 3 ∧ isOct c then lex (.oct (k + 1) (acc * 8 + digitVal c)) r
    else pushUnit acc
      (if c = '"' then some ([], r) else if isNewline c then none
       else if c = '\\' then lex .esc r else pushC c (lex .norm r))
  | .hex k acc, c :: r =>
    match hexVal c with
    | some h => lex (.hex (k + 1) (acc * 16 + h)) r
    | none =>
      if k = 0 then none
      else pushUnit acc
        (if c = '"' then some ([], r) else if isNewline c then none
         else if c = '\\' then lex .esc r else pushC c (lex .norm r))
  | .ucn k acc, c :: r =>
    match hexVal c with
    | some h =>
      if k = 1 then pushUcn (acc * 16 + h) (lex .norm r) else lex (.ucn (k - 1) (acc * 16 + h)) r
    | none => none

/-- a string literal at the head of the text: its value and the rest of the text -/
def cppStringLit : Str → LexRes
  | c :: r => if c = '"' then lex .norm r else none
  | [] => none

/-- the whole text is one string literal -/
def cppStringL (t : Str) : Option Str :=
  match cppStringLit t with
  | some (v, []) => some v
  | _ => none

/-- what a `const char*` / `std::string(const char*)` parameter receives: up to the first NUL -/
def cstrOf (v : Str) : Str := v.takeWhile fun c => c ≠ Char.ofNat 0

/-! ### translation phase 1 of ISO C++98/11/14 (`-std=c++NN` before 17, `-trigraphs`) -/

def triChar (c : Char) : Option Char :=
  if c = '=' then some '#' else if c = '/' then some '\\' else if c = '\'' then some '^'
  else if c = '(' then some '[' else if c = ')' then some ']' else if c = '!' then some '|'
  else if c = '<' then some '{' else if c = '>' then some '}' else if c = '-' then some '~'
  else none

/-- replace every trigraph, left to right -/
def detri : Str → Str
  | [] => []
  | c :: c₂ :: x :: rest' =>
    if c = '?' ∧ c₂ = '?' then
      match triChar x with
      | some t => t :: detri rest'
      | none => c :: detri (c₂ :: x :: rest')
    else c :: detri (c₂ :: x :: rest')
  | c :: rest => c :: detri rest

/-- does the text contain a trigraph? (`q` = number of `?` immediately before) -/
def triScan : Nat → Str → Bool
  | _, [] => false
  | q, c :: rest =>
    if c = '?' then triScan (q + 1) rest
    else (decide (2 ≤ q) && (triChar c).isSome) || triScan 0 rest

def hasTrigraph (s : Str) : Bool := triScan 0 s

def cppStringTriL (t : Str) : Option Str := cppStringL (detri t)

/-! ## C++ side: numbers -/

def spanDigits : Str → Str × Str
  | [] => ([], [])
  | c :: r =>
    if isDigit c then
      match spanDigits r with
      | (a, b) => (c :: a, b)
    else ([], c :: r)

/-- value of a run of digits in base `b` (`none` if a character is not a digit of that base) -/
def baseVal (b : Nat) : Str → Nat → Option Nat
  | [], a => some a
  | c :: r, a =>
    match hexVal c with
    | some h => if h < b then baseVal b r (a * b + h) else none
    | none => none

def lower (c : Char) : Char := if 65 ≤ c.toNat ∧ c.toNat ≤ 90 then Char.ofNat (c.toNat + 32) else c

/-- integer suffix: (unsigned?, 0 = none / 1 = l / 2 = ll) -/
def intSuffix (s : Str) : Option (Bool × Nat) :=
  let t := s.map lower
  if t = [] then some (false, 0)
  else if t = ['u'] then some (true, 0)
  else if t = ['l'] then some (false, 1)
  else if t = ['u', 'l'] ∨ t = ['l', 'u'] then some (true, 1)
  else if (s = ['l', 'l'] ∨ s = ['L', 'L']) then some (false, 2)
  else if t = ['u', 'l', 'l'] ∨ t = ['l', 'l', 'u'] then some (true, 2)
  else none

/-- the type of an integer literal ([lex.icon] table, LP64) -/
def intLitType (decimal : Bool) (suf : Bool × Nat) (v : Nat) : Option CTy :=
  let i := v < 2 ^ 31; let u := v < 2 ^ 32; let l := v < 2 ^ 63; let ul := v < 2 ^ 64
  match suf with
  | (false, 0) =>
    if decimal then (if i then some .int else if l then some .long else none)
    else (if i then some .int else if u then some .uint else if l then some .long
          else if ul then some .ulong else none)
  | (true, 0) => if u then some .uint else if ul then some .ulong else none
  | (false, 1) =>
    if decimal then (if l then some .long else none)
    else (if l then some .long else if ul then some .ulong else none)
  | (true, 1) => if ul then some .ulong else none
  | (false, _) =>
    if decimal then (if l then some .llong else none)
    else (if l then some .llong else if ul then some .ullong else none)
  | (true, _) => if ul then some .ullong else none

def isSuffixChar (c : Char) : Bool := lower c = 'u' || lower c = 'l'

def spanHex : Str → Str × Str
  | [] => ([], [])
  | c :: r =>
    if (hexVal c).isSome then
      match spanHex r with
      | (a, b) => (c :: a, b)
    else ([], c :: r)

/-- decimal literal: digits then suffix -/
def decLit (cs : Str) : Option (Nat × CTy) :=
  let p := spanDigits cs
  if p.1 = [] then none
  else match intSuffix p.2 with
    | some suf => (intLitType true suf (decVal p.1)).map fun t => (decVal p.1, t)
    | none => none

def baseLit (b : Nat) (cs : Str) : Option (Nat × CTy) :=
  let p := spanHex cs
  if p.1 = [] then none
  else match baseVal b p.1 0, intSuffix p.2 with
    | some v, some suf => (intLitType false suf v).map fun t => (v, t)
    | _, _ => none

/-- an integer literal: value and type; `none` when the text is not one or no type can hold it -/
def cppIntLit : Str → Option (Nat × CTy)
  | [] => none
  | c :: rest =>
    if c = '0' then
      match rest with
      | [] => some (0, .int)
      | x :: r =>
        if x = 'x' ∨ x = 'X' then baseLit 16 r
        else if x = 'b' ∨ x = 'B' then baseLit 2 r
        else if isSuffixChar x then decLit (c :: rest)   -- `0u`, `0L`: octal zero with suffix
        else baseLit 8 rest
    else decLit (c :: rest)

/-- an integer constant expression of the emitted form: an optional unary minus applied to a
literal (the type is the literal's: `-2147483648` is a `long`) -/
def cppIntL : Str → Option (Int × CTy)
  | '-' :: r => (cppIntLit r).map fun p => (-(p.1 : Int), p.2)
  | t => (cppIntLit t).map fun p => ((p.1 : Int), p.2)

def floatSuffix (s : Str) : Option CTy :=
  if s = [] then some .double
  else if s = ['f'] ∨ s = ['F'] then some .float
  else if s = ['l'] ∨ s = ['L'] then some .ldouble
  else none

/-- exponent part: `e`/`E`, optional sign, digits. Result: (exponent if present, rest);
`none` when an `e` is not followed by digits. -/
def lexExponent : Str → Option (Option Int × Str)
  | [] => some (none, [])
  | e :: r =>
    if e = 'e' ∨ e = 'E' then
      let sr : Bool × Str := match r with
        | s :: r' => if s = '-' then (true, r') else if s = '+' then (false, r') else (false, r)
        | [] => (false, r)
      let p := spanDigits sr.2
      if p.1 = [] then none
      else some (some (if sr.1 then -(decVal p.1 : Int) else (decVal p.1 : Int)), p.2)
    else some (none, e :: r)

/-- A decimal floating literal: its exact decimal value and its type. `none` when the text is not
a floating literal (in particular when it has neither `.` nor exponent: that is an integer). -/
def cppFloatLit (cs : Str) : Option (Dec × CTy) :=
  let p := spanDigits cs
  let dot : Bool := match p.2 with | c :: _ => c = '.' | [] => false
  let q := if dot then spanDigits p.2.tail else ([], p.2)
  if p.1 = [] ∧ q.1 = [] then none
  else match lexExponent q.2 with
    | none => none
    | some (ex, r) =>
      if !dot && ex.isNone then none
      else (floatSuffix r).map fun t =>
        ({ neg := false, mant := decVal (p.1 ++ q.1), exp := ex.getD 0 - (q.1.length : Int) }, t)

/-- optional unary minus applied to a floating literal -/
def cppFloatL : Str → Option (Dec × CTy)
  | '-' :: r => (cppFloatLit r).map fun p => ({ p.1 with neg := true }, p.2)
  | t => cppFloatLit t

/-- a parenthesised expression denotes what stands between the parentheses: one enclosing pair removed -/
def unparen (t : Str) : Str :=
  if t.head? = some '(' ∧ t.getLast? = some ')' then (t.drop 1).dropLast else t

/-- an integer literal, `-literal`, or either of them in parentheses -/
def cppIntE (t : Str) : Option (Int × CTy) := cppIntL (unparen t)

/-- a floating literal, `-literal`, or either of them in parentheses -/
def cppFloatE (t : Str) : Option (Dec × CTy) := cppFloatL (unparen t)

/-- `true` / `false` -/
def cppBoolL (t : Str) : Option Bool :=
  if t = "true".toList then some true else if t = "false".toList then some false else none

/-! ### one preprocessing number at the head of a text (to find where a numeric literal ends) -/

def isIdentChar (c : Char) : Bool :=
  isDigit c || (decide (97 ≤ c.toNat) && decide (c.toNat ≤ 122)) ||
  (decide (65 ≤ c.toNat) && decide (c.toNat ≤ 90)) || c = '_'

/-- pp-number continuation: identifier characters, `.`, and a sign directly after e/E/p/P -/
def ppRest : Char → Str → Str × Str
  | _, [] => ([], [])
  | prev, c :: r =>
    if isIdentChar c || c = '.' ||
       ((c = '+' || c = '-') && (prev = 'e' || prev = 'E' || prev = 'p' || prev = 'P')) then
      match ppRest c r with
      | (a, b) => (c :: a, b)
    else ([], c :: r)

/-- an optional `-`, then one pp-number or identifier-like token; (token text, rest) -/
def numToken : Str → Str × Str
  | '-' :: r =>
    match ppRest '-' r with
    | (a, b) => ('-' :: a, b)
  | t => ppRest ' ' t

/-- the same, or `(` token `)`: (text of the primary expression, rest) -/
def numTokenP (t : Str) : Str × Str :=
  if t.head? = some '(' then
    match numToken (t.drop 1) with
    | (tok, c :: rest) => if c = ')' then ('(' :: (tok ++ [')']), rest) else ([], t)
    | _ => ([], t)
  else numToken t

/-! ## `String` wrappers -/

def renderStr (s : String) : String := String.ofList (renderStrL pyTable s.toList)
def cppString (t : String) : Option String := (cppStringL t.toList).map String.ofList
def cppStringTri (t : String) : Option String := (cppStringTriL t.toList).map String.ofList
def cppInt (t : String) : Option (Int × CTy) := cppIntL t.toList
def cppFloat (t : String) : Option (Dec × CTy) := cppFloatL t.toList
def pyIntStr (n : Int) : String := String.ofList (renderInt n)

end FaxVerif.C18
