/-
C18 — constants in a query denote the same value in the generated code.

The property, for every constant `c` a query may contain:

    ∀ c, OutcomeOk c (renderConst c).toOption                                  -- (★)

i.e. what `visit_Constant` emits is a C++ literal of the same value and kind whose recorded type
can hold it, and it refuses exactly the constants that have no such literal; and every string that
is a NAME (bank, tree, branch) is found again, character for character, by the C++ lexer at the
place where it was put.

(★) is FALSE of the code as it stands (`const_ok_counterexample`: the int 3000000000 is accepted
and typed `int`), so it is proved with the explicit decidable hypothesis `InInt32` for ints
(`const_ok_partial`). Strings, bools and names need no hypothesis; floats need `ReprFaithful`.

Trusted, not proved here: CPython's `repr(float)` (hypothesis `ReprFaithful`, evaluated by exact
integer arithmetic on every sampled float by the harness), the C++ lexing rules as transcribed in
`Model.lean` (validated against g++ by the harness on the emitted literals and on hand-written
ones), that the C++ compiler rounds a decimal literal to the nearest double (g++ echo, bit for
bit), UTF-8 as both Python's output and g++'s input encoding.

The counterexample theorems (`int_…`, `cstr_nul_…`) describe the hand model and have to be retired
together with the model when the code is repaired.
-/
import FaxVerif.C18.ProofsStr
import FaxVerif.C18.ProofsNum
import FaxVerif.C18.ProofsStored
namespace FaxVerif.C18

/-- The per-character table of `as_cpp_string_literal`, as it is in the source now, is sound for
the C++ lexer: each image is the character itself (never for `"`, `\`, LF, CR) or a backslash and
the letter of the simple escape sequence that denotes it. Re-checked on every run. -/
theorem escape_table_ok : TableOk pyTable := by decide +kernel

/-- Every single-character image of `as_cpp_string_literal` is `"` + text + `"`, and on the
multi-character probe strings (all pairs and triples over the special characters, runs of `?`
before every trigraph character, …) the function equals the concatenation of the per-character
images: the table above is all there is to its behaviour — it is not context dependent.
Re-checked on every run. -/
theorem escape_shape_ok : Gen.escapeShape = "ok" ∧ Gen.escapeHomomorphic = "ok" := by decide +kernel

/-- `?` is written `\\?` (since the repair 31a449a): two question marks are never adjacent in an
emitted literal, so no trigraph can form. Re-checked on every run. -/
theorem escape_table_question : pyTable.lookup '?' = some ['\\', '?'] := by decide +kernel

/-- No booking or fill line copies a name verbatim (since the repair c38e414): every
name place holds the escaped literal. Re-checked on every run. -/
theorem all_names_escaped :
    ∀ b ∈ bookTable ++ fillTable, ∀ segs ∈ b.2, verbatimSlot segs = false := by decide +kernel

/-- In every booking and fill line of the three backends, as emitted now, the tree / branch name
stands directly between a quote ending the preceding text and a quote starting the following
text (or is escaped), and nothing was unrecognised by the translator. Re-checked on every run. -/
theorem book_lines_ok :
    ∀ b ∈ bookTable ++ fillTable, ∀ segs ∈ b.2, BookLineOk segs = true := by decide +kernel

/-- The names are where the jobs need them: every backend's booking lines have a place for the
tree name and one for the branch name, and the ATLAS fill line (which finds its tree by name)
has one for the tree name. Re-checked on every run. -/
theorem name_slots_present :
    (∀ b ∈ bookTable, (b.2.any fun l => (nameSlot l).any (·.2.1 == .tree)) = true ∧
                      (b.2.any fun l => (nameSlot l).any (·.2.1 == .col)) = true) ∧
    bookTable.map (·.1) = ["atlas", "cms_aod", "cms_miniaod"] ∧
    (((fillTable.lookup "atlas").getD []).any fun l => (nameSlot l).any (·.2.1 == .tree)) = true := by
  decide +kernel

/-- **Strings pass through character for character.** For EVERY string `s` (quotes, backslashes,
newlines, control characters, non-ASCII, `?` … no hypothesis), the text `as_cpp_string_literal`
produces is one C++ string literal (C++17 lexing: no trigraphs) and it denotes exactly `s`. -/
theorem str_roundtrip (s : String) : cppString (renderStr s) = some s := by
  simp [cppString, renderStr, String.toList_ofList, cppStringL_render escape_table_ok]

/-- the same, as the Spec predicate on the model's output: both lexing dialects, type `string` -/
theorem str_const_ok (s : Str) : ConstOk (.str s) (renderStrL pyTable s) .string :=
  ⟨cppStringL_render escape_table_ok s,
   cppStringTriL_render_escaped escape_table_ok escape_table_question s, rfl⟩

/-- The string literal is found again in any context: whatever text follows the rendered
literal, the lexer stops exactly at its closing quote and returns `s`. -/
theorem str_in_context (s tail : Str) :
    cppStringLit (renderStrL pyTable s ++ tail) = some (s, tail) :=
  cppStringLit_render escape_table_ok s tail

/-- No emitted string literal contains a trigraph, whatever the string (a `?` is written `\\?`). -/
theorem render_trigraph_free (s : Str) : hasTrigraph (renderStrL pyTable s) = false :=
  hasTrigraph_render_escaped escape_table_ok escape_table_question s

/-- **Also under ISO C++ before C++17** (`-std=c++98/11/14`, `-trigraphs`: translation phase 1
replaces `??=` `??/` `??'` `??(` `??)` `??!` `??<` `??>` `??-`) the emitted literal denotes exactly
`s`, for EVERY string `s` — `a??/`, `x??=y` included. (Before the repair 31a449a this held only for
strings without a trigraph: `a??/` became the unterminated `"a\"`; that input is replayed on every
run as a repaired defect.) -/
theorem str_roundtrip_trigraphs (s : String) : cppStringTri (renderStr s) = some s := by
  simp [cppStringTri, renderStr, String.toList_ofList,
    cppStringTriL_render_escaped escape_table_ok escape_table_question]

/-- … and in any context: under trigraph replacement too the lexer stops exactly at the closing
quote of the rendered literal and returns `s` (the text after it is whatever phase 1 makes of it). -/
theorem str_in_context_trigraphs (s tail : Str) :
    cppStringLit (detri (renderStrL pyTable s ++ tail)) = some (s, detri tail) :=
  cppStringLit_detri_render escape_table_ok escape_table_question s tail

/-- PARTIAL (what a `const char*` / `std::string` parameter receives, e.g. the bank name in
`retrieve(result, "…")`): the string itself, provided it contains no NUL. -/
theorem cstr_roundtrip_partial (s : Str) (h : NoNul s) :
    (cppStringL (renderStrL pyTable s)).map cstrOf = some s := by
  rw [cppStringL_render escape_table_ok]
  simp only [Option.map_some, cstrOf, Option.some.injEq]
  have := Runs.takeWhile_run (rest := []) (List.all_eq_true.1 h) (fun _ hc => nomatch hc)
  rwa [List.append_nil] at this

/-- `a\0b` is accepted; the literal denotes all three characters but the callee sees `a`. -/
theorem cstr_nul_counterexample :
    (cppStringL (renderStrL pyTable ['a', Char.ofNat 0, 'b'])).map cstrOf = some ['a'] := by decide +kernel

/-- `True` / `False` are emitted as the C++ literals `true` / `false`, typed `bool`. -/
theorem bool_roundtrip (b : Bool) :
    ∃ text, renderConst (.bool b) = .ok (text, .bool) ∧ ConstOk (.bool b) text .bool := by
  cases b
  · exact ⟨"false".toList, rfl, by decide +kernel⟩
  · exact ⟨"true".toList, rfl, by decide +kernel⟩

/-- `None`, bytes, complex, Ellipsis, tuples …: refused, nothing is emitted. -/
theorem unsupported_rejected (t : String) :
    renderConst (.other t) = .error (.unsupported t) ∧ OutcomeOk (.other t) (renderConst (.other t)).toOption := by
  refine ⟨rfl, ?_⟩
  simp [renderConst, Except.toOption, OutcomeOk, Representable]

/-- Full statement `∀ n, cppInt (str n) = some (n, int)` is false (`int_counterexample`).
PARTIAL: for `-2^31 < n < 2^31` Python's `str(n)` is a C++ integer expression of value `n` whose
own type is `int` — the type the translator records. (For `n = -2^31` the value is right and the
expression's type is `long`, see `int_const_ok_partial`.) -/
theorem int_roundtrip_partial (n : Int) (h1 : -2147483648 < n) (h2 : n < 2147483648) :
    cppInt (pyIntStr n) = some (n, .int) := by
  simp only [cppInt, pyIntStr, String.toList_ofList]
  rw [cppIntL_renderInt, if_pos (by omega)]

/-- PARTIAL, value level: every `n` with `-2^63 < n < 2^63` is emitted as a C++ integer expression
of exactly that value (typed `int` or `long` by the language). Outside, `str(n)` is not an integer
literal any C++ type can hold. -/
theorem int_value_partial (n : Int) (h1 : -9223372036854775808 < n) (h2 : n < 9223372036854775808) :
    (cppInt (pyIntStr n)).map (·.1) = some n := by
  simp only [cppInt, pyIntStr, String.toList_ofList]
  rw [cppIntL_renderInt]
  by_cases h31 : n.natAbs < 2 ^ 31
  · rw [if_pos h31]; rfl
  · rw [if_neg h31, if_pos (by omega)]; rfl

/-- PARTIAL, as the Spec predicate: for every `n` of the 32-bit range (bounds included) the
emitted text — `str(n)`, in parentheses when negative (212716c) — denotes `n` and the recorded type
`int` can hold it. -/
theorem int_const_ok_partial (n : Int) (h : InInt32 n) :
    ConstOk (.int n) (signedLit (renderInt n)) .int :=
  int_ok_of_unparen n h _ (renderInt_numHead n).unparen_signedLit

/-- 3000000000 is accepted and emitted as `3000000000`: a literal of type `long` in C++, but the
translator records `int` for it — the column is declared `int` and the value is truncated.
The property is false of the code here. -/
theorem int_counterexample :
    (renderConst (.int 3000000000)).toOption = some ("3000000000".toList, .int) ∧
    cppInt "3000000000" = some (3000000000, .long) ∧
    ¬ OutcomeOk (.int 3000000000) (renderConst (.int 3000000000)).toOption := by decide +kernel

/-- 2^64 is accepted and emitted as `18446744073709551616`, which no C++ integer type can hold
(it is not refused although it has no literal). -/
theorem int_huge_counterexample :
    (renderConst (.int 18446744073709551616)).toOption = some ("18446744073709551616".toList, .int) ∧
    cppInt "18446744073709551616" = none ∧ ¬ Representable (.int 18446744073709551616) ∧
    ¬ OutcomeOk (.int 18446744073709551616) (renderConst (.int 18446744073709551616)).toOption := by
  decide +kernel

/-- **Integer literal typing boundaries** (LP64, [lex.icon]): the decimal literal Python's `str(n)`
is for a natural number has type `int` below 2^31, `long` from 2^31 up to 2^63 - 1, and NO type from
2^63 on (ill-formed) — for every `n`. The translator records `int` for every int constant: right
exactly below 2^31 (and for `-2^31`, whose literal `2147483648` is a `long` negated:
`int_const_ok_partial`). -/
theorem int_literal_type (n : Nat) :
    (cppIntLit (renderNat n)).map (·.2) =
      if n < 2 ^ 31 then some .int else if n < 2 ^ 63 then some .long else none := by
  rw [cppIntLit_renderNat, intLitType_dec]
  by_cases h1 : n < 2 ^ 31
  · simp [h1]
  · by_cases h2 : n < 2 ^ 63 <;> simp [h1, h2]

theorem int_literal_type_boundaries :
    cppInt "2147483647" = some (2147483647, .int) ∧ cppInt "2147483648" = some (2147483648, .long) ∧
    cppInt "-2147483648" = some (-2147483648, .long) ∧
    cppInt "9223372036854775807" = some (9223372036854775807, .long) ∧
    cppInt "9223372036854775808" = none ∧ cppInt "4294967295" = some (4294967295, .long) ∧
    cppInt "0xFFFFFFFF" = some (4294967295, .uint) ∧ cppInt "2147483648u" = some (2147483648, .uint) := by
  simp -index only [cppInt, String.toList_ofList]
  decide +kernel

/-- **Every text of the grammar of `repr(float)`** — optional `-`, digits, optional `.digits`,
optional `e±digits`, at least one of the last two — **lexes as one C++ floating literal of type
`double`** (never as an integer, never `float`/`long double`) **whose exact decimal value is the
value of the text**: mantissa digits and decimal exponent agree. Magnitude is unbounded: 1e+308,
5e-324, 17 significant digits, `-0.0` (the sign of zero is kept). CPython's `repr` itself —
that this text rounds back to the float the query held — is trusted. -/
theorem float_roundtrip (neg : Bool) (ip : List (Fin 10)) (fp : Option (List (Fin 10)))
    (ex : Option (Bool × List (Fin 10))) (wf : WFRepr (.finite neg ip fp ex)) :
    cppFloat (String.ofList (renderFloat neg ip fp ex)) = some (floatValue neg ip fp ex, .double) := by
  simp only [cppFloat, String.toList_ofList]
  exact cppFloatL_render neg ip fp ex wf

/-- As the Spec predicate on the model's output: the emitted literal (in parentheses when
negative) is a `double` literal whose exact decimal value rounds (IEEE-754 round-to-nearest-even)
to exactly the 64 bits of the float — given the one fact trusted about CPython, that the text
`repr` printed rounds to the float (`ReprFaithful`, an explicit hypothesis, checked by exact
arithmetic on every sampled float). -/
theorem float_const_ok (neg : Bool) (ip : List (Fin 10)) (fp : Option (List (Fin 10)))
    (ex : Option (Bool × List (Fin 10))) (bits : Nat) (wf : WFRepr (.finite neg ip fp ex))
    (hr : ReprFaithful (.finite neg ip fp ex) bits) :
    ConstOk (.float (.finite neg ip fp ex) bits) (signedLit (renderFloat neg ip fp ex)) .double :=
  float_ok_of_unparen neg ip fp ex bits wf hr _ (renderFloat_numHead neg ip fp ex wf.1).unparen_signedLit

/-- `inf`, `-inf` and `nan` have no C++ literal: they are refused (since the fix; before it the
bare words `inf` / `nan` were emitted). -/
theorem nonfinite_rejected (r : FloatRepr) (bits : Nat) (h : r = .nan ∨ ∃ b, r = .inf b) :
    renderConst (.float r bits) = .error .nonFinite ∧
    OutcomeOk (.float r bits) (renderConst (.float r bits)).toOption := by
  rcases h with rfl | ⟨b, rfl⟩ <;>
    exact ⟨rfl, by simp [renderConst, Except.toOption, OutcomeOk, Representable]⟩

/-- **No integer constant fuses with the operator before it** (since 212716c): a non-negative one
starts with a digit, a negative one with `(`. Before the repair `x - Constant(-5)` was `(x--5)`. -/
theorem int_not_glued (n : Int) (prev : Char) : glued prev (signedLit (renderInt n)) = false :=
  (renderInt_numHead n).not_glued prev

/-- **Nor does a float constant**: digits first, or `(` when negative (`-0.0` included). -/
theorem float_not_glued (neg : Bool) (ip : List (Fin 10)) (fp : Option (List (Fin 10)))
    (ex : Option (Bool × List (Fin 10))) (hip : ip ≠ []) (prev : Char) :
    glued prev (signedLit (renderFloat neg ip fp ex)) = false :=
  (renderFloat_numHead neg ip fp ex hip).not_glued prev

/-- A string constant never fuses with the operator before it. -/
theorem str_not_glued (s : Str) (prev : Char) : glued prev (renderStrL pyTable s) = false := by
  simp [renderStrL, glued]

/-- `x - (-5)` with the constant -5 as ONE node of the query (the repaired input): the operand is
emitted `(-5)`, and directly after the operator `-` the lexer finds a primary expression denoting
-5 followed by the untouched rest; likewise `-2.5` and `-0.0`. -/
theorem negative_after_minus :
    (renderConst (.int (-5))).toOption = some ("(-5)".toList, .int) ∧
    constAfter '-' (.int (-5)) "(-5))".toList = some [')'] ∧
    (renderConst (.float (.finite true [2] (some [5]) none) 13836183955189006336)).toOption = some ("(-2.5)".toList, .double) ∧
    constAfter '-' (.float (.finite true [2] (some [5]) none) 13836183955189006336) "(-2.5))".toList = some [')'] ∧
    constAfter '-' (.float (.finite true [0] (some [0]) none) 9223372036854775808) "(-0.0))".toList = some [')'] ∧
    constAfter '-' (.int (-5)) "-5)".toList = none := by
  -- `-index`: a literal matches `String.ofList _` by unification only; evaluating `String.toList`
  -- on it would decode its UTF-8 bytes in the kernel
  simp -index only [String.toList_ofList]
  decide +kernel

/-- Full statement (★) `∀ c, OutcomeOk c (renderConst c).toOption` is false
(`const_ok_counterexample`). PARTIAL: it holds for every constant that is not an int outside the
32-bit range (defect exclusion, listed finding) — floats being given by a well-formed `repr` text
that rounds to the float (assumptions about CPython's `repr`, not exclusions). -/
theorem const_ok_partial (c : PyConst) (hint : ∀ n, c = .int n → InInt32 n)
    (hfl : ∀ r bits, c = .float r bits → WFRepr r ∧ ReprFaithful r bits) :
    OutcomeOk c (renderConst c).toOption := by
  cases c with
  | str s => exact str_const_ok s
  | int n => exact int_const_ok_partial n (hint n rfl)
  | float r bits =>
    cases r with
    | finite neg ip fp ex => exact float_const_ok neg ip fp ex bits (hfl _ _ rfl).1 (hfl _ _ rfl).2
    | inf b => exact (nonfinite_rejected (.inf b) bits (Or.inr ⟨b, rfl⟩)).2
    | nan => exact (nonfinite_rejected .nan bits (Or.inl rfl)).2
  | bool b =>
    obtain ⟨text, h1, h2⟩ := bool_roundtrip b
    rw [h1]; exact h2
  | other t => exact (unsupported_rejected t).2

theorem const_ok_counterexample : ∃ c, ¬ OutcomeOk c (renderConst c).toOption :=
  ⟨.int 3000000000, int_counterexample.2.2⟩

/-- A storable constant (int of the 32-bit range, finite float, bool) is emitted as a literal of
its kind, with the type recorded for the kind. -/
theorem storable_literal (c : PyConst) (h : StorableConst c) :
    ∃ text, renderConst c = .ok (text, litTy c) ∧ ConstOk c text (litTy c) := by
  refine storable_cases ?_ bool_roundtrip ?_ c h
  · intro n hn
    exact ⟨signedLit (renderInt n), rfl, int_const_ok_partial n hn⟩
  · intro neg ip fp ex bits wf hr
    exact ⟨signedLit (renderFloat neg ip fp ex), rfl, float_const_ok neg ip fp ex bits wf hr⟩

/-- **A constant that reaches the output through conditional expressions keeps its value.**
For every carrier — a constant, or `a if … else b` nested to any depth — that the translator
accepts, every constant is emitted as a literal denoting it, and the conversions it undergoes on
its way into the column (the `double` result variable of each enclosing conditional, the
`static_cast<double>` that `set_var` writes for an `int`/`bool` arm, the column declared with the
expression's type) leave its value unchanged: `1 if c else 0.5` delivers 1 and 0.5, never 0; a bare
string goes into a `string` column. Strings are allowed among the constants: an accepted carrier
has none inside a conditional (`ifexp_str_rejected`, since 6a224ae).
PARTIAL in the ints (32-bit range: larger ones are the listed finding of `visit_Constant`); a float constant is a
finite one with its faithful `repr` (`StorableConst`). -/
theorem carrier_stored_ok (k : Carrier) (hacc : k.accepted = true)
    (h : ∀ c ∈ k.consts, StorableConst c ∨ ∃ s, c = .str s) :
    ∀ p ∈ k.columnPaths, ∃ text, renderConst p.1 = .ok (text, litTy p.1) ∧ StoredOk p.1 text p.2 := by
  intro p hp
  simp only [Carrier.columnPaths, List.mem_map] at hp
  obtain ⟨q, hq, rfl⟩ := hp
  obtain ⟨hmem, hdbl⟩ := paths_shape k q hq
  cases k with
  | const c =>
    simp only [Carrier.paths, List.mem_singleton] at hq
    subst hq
    rcases h c hmem with hs | ⟨s, rfl⟩
    · obtain ⟨text, hr, hc⟩ := storable_literal c hs
      exact ⟨text, hr, hc, kept_own c hs⟩
    · exact ⟨renderStrL pyTable s, rfl, str_const_ok s, by simp [Carrier.ty, litTy, keptThrough]⟩
  | ite a b =>
    have hns := accepted_nostr (.ite a b) hacc (by intro s hh; cases hh) q.1 hmem
    have hs : StorableConst q.1 := by
      rcases h q.1 hmem with hs | ⟨s, hs⟩
      · exact hs
      · exact absurd hs (hns s)
    obtain ⟨text, hr, hc⟩ := storable_literal q.1 hs
    refine ⟨text, hr, hc, kept_doubles q.1 hs _ (by simp) ?_⟩
    intro t ht
    rcases List.mem_append.mp ht with h' | h'
    · exact hdbl t h'
    · simpa [Carrier.ty] using h'

/-- **A string as the value of a conditional expression is refused** (since 6a224ae; before it
`'a' if c else 'b'` was emitted as `static_cast<double>("a")`, which C++ rejects): whatever the
other arm is. The refusal is what the property asks for — the result variable is a `double`, and
no literal handed to a `double` denotes the string. -/
theorem ifexp_str_rejected (s : Str) (k : Carrier) :
    (Carrier.ite (.const (.str s)) k).accepted = false ∧
    (Carrier.ite k (.const (.str s))).accepted = false ∧
    ∀ text chain, .double ∈ chain → ¬ StoredOk (.str s) text chain := by
  refine ⟨by simp [Carrier.accepted, Carrier.ty, litTy], by simp [Carrier.accepted, Carrier.ty, litTy], ?_⟩
  intro text chain hmem hst
  have hk := hst.2
  simp only [keptThrough, List.all_eq_true] at hk
  have := hk _ hmem
  simp at this

/-- What the clause forbids (the Spec is not vacuous): were the result variable of the
conditional typed after its first arm, `1 if c else 0.5` would push 0.5 through `int`s and
deliver 0; 0.1 through a `float` variable is no longer 0.1; -5 into a `bool` column is lost;
300 through `double`s stays 300. -/
theorem stored_counterexamples :
    keptThrough (.float (.finite false [0] (some [5]) none) 4602678819172646912) [.int, .int, .int] = false ∧
    ¬ StoredOk (.float (.finite false [0] (some [5]) none) 4602678819172646912) "0.5".toList [.int, .int, .int] ∧
    keptThrough (.float (.finite false [0] (some [1]) none) 4591870180066957722) [.float, .double] = false ∧
    keptThrough (.int (-5)) [.bool] = false ∧
    keptThrough (.float (.finite false [2] (some [5]) none) 4612811918334230528) [.double, .int] = false ∧
    StoredOk (.int 300) "300".toList [.double, .double, .double] ∧
    StoredOk (.float (.finite false [2] (some [0]) none) 4611686018427387904) "2.0".toList [.int, .double] := by
  decide +kernel

/-- **Bank names.** The collection-retrieval line is the backend's text with the whole word
`collection_name` replaced by the rendered literal; whatever stands before and after it, lexing
from the place of the substitution returns exactly the bank name and the untouched rest —
for ALL bank names. -/
theorem bank_roundtrip (pre suf bank : Str) :
    cppStringLit ((bankLine pyTable pre suf bank).drop pre.length) = some (bank, suf) :=
  bankLine_lit escape_table_ok pre suf bank

/-- Bank names under trigraph replacement (ISO C++ before C++17): the same, for ALL bank names. -/
theorem bank_roundtrip_trigraphs (pre suf bank : Str) :
    cppStringLit (detri ((bankLine pyTable pre suf bank).drop pre.length)) = some (bank, detri suf) :=
  bankLine_lit_detri escape_table_ok escape_table_question pre suf bank

/-- **The First() message.** The run-time check of `First()` is emitted as
`throw std::runtime_error(` + the escaped literal of the message + `);`, the message being the text
of the query — with every string constant of it (bank names …). Whatever the message is, lexing from
the place of the literal returns exactly the message and the untouched `);` — under C++17 lexing and
under trigraph replacement. (Before the repair ce7402e the message was put between quotes unescaped.) -/
theorem first_message_roundtrip (msg : Str) :
    cppStringLit (("throw std::runtime_error(".toList ++ renderStrL pyTable msg ++ ");".toList).drop
      "throw std::runtime_error(".toList.length) = some (msg, ");".toList) ∧
    cppStringLit (detri (("throw std::runtime_error(".toList ++ renderStrL pyTable msg ++ ");".toList).drop
      "throw std::runtime_error(".toList.length)) = some (msg, ");".toList) := by
  have h := bank_roundtrip "throw std::runtime_error(".toList ");".toList msg
  have ht := bank_roundtrip_trigraphs "throw std::runtime_error(".toList ");".toList msg
  have hd : detri ");".toList = ");".toList := by decide +kernel
  rw [hd] at ht
  exact ⟨h, ht⟩

theorem slot_escaped {b : String × List (List Seg)} (hb : b ∈ bookTable ++ fillTable) {segs : List Seg}
    (hs : segs ∈ b.2) {off : Nat} {k : NameKind} {esc : Bool} (hslot : nameSlot segs = some (off, k, esc)) :
    esc = true := by
  have hv := all_names_escaped b hb segs hs
  unfold verbatimSlot at hv
  rw [hslot] at hv
  simpa using hv

/-- **Tree and branch names, all of them.** In every booking / fill line of the three backends,
as regenerated from the source, for EVERY tree name, branch name and leaf variable (quotes,
backslashes, newlines … no hypothesis), the string literal at the name's place denotes exactly
the name. (Before the repair c38e414 the names were copied verbatim and this held only for names
without `"`, `\`, LF, CR; the inputs `t"r` / `c"1` are replayed on every run as repaired defects.) -/
theorem names_roundtrip (b : String × List (List Seg)) (hb : b ∈ bookTable ++ fillTable)
    (segs : List Seg) (hs : segs ∈ b.2) (tree col var : Str) (off : Nat) (k : NameKind) (esc : Bool)
    (hslot : nameSlot segs = some (off, k, esc)) :
    nameAt off (renderSegs pyTable tree col var segs) = some (pickName k tree col) := by
  obtain rfl := slot_escaped hb hs hslot
  exact nameAt_bookLine escape_table_ok segs (book_lines_ok b hb segs hs) tree col var off k true hslot
    (fun h => by cases h)

/-- … and under trigraph replacement (ISO C++ before C++17): for EVERY tree name, branch name and
leaf variable the literal at the name's place still denotes exactly the name (`???/`, `??=` …). -/
theorem names_roundtrip_trigraphs (b : String × List (List Seg)) (hb : b ∈ bookTable ++ fillTable)
    (segs : List Seg) (hs : segs ∈ b.2) (tree col var : Str) (off : Nat) (k : NameKind) (esc : Bool)
    (hslot : nameSlot segs = some (off, k, esc)) :
    nameAtTri off (renderSegs pyTable tree col var segs) = some (pickName k tree col) := by
  obtain rfl := slot_escaped hb hs hslot
  exact nameAtTri_bookLine escape_table_ok escape_table_question segs tree col var off k hslot

/-- the same as one decidable fact per line (the form the harness evaluates), for all names -/
theorem slotCarries_tables (tree col var : Str) :
    ∀ b ∈ bookTable ++ fillTable, ∀ segs ∈ b.2, slotCarries pyTable tree col var segs = true := by
  intro b hb segs hs
  unfold slotCarries
  split
  · next off k esc hslot =>
    rw [names_roundtrip b hb segs hs tree col var off k esc hslot]
    exact beq_self_eq_true _
  · rfl

/-- e.g. for the names that broke it before c38e414 -/
theorem names_roundtrip_on_repaired_inputs :
    ∀ b ∈ bookTable ++ fillTable, ∀ segs ∈ b.2,
      slotCarries pyTable "t\"r".toList "c\"1\\".toList "_v".toList segs = true :=
  slotCarries_tables _ _ _

example : TableOk pyTable ∧ pyTable.length ≥ 4 := by decide +kernel
example : cppString (renderStr "a\"b\\c\nd\re\tf?'ü") = some "a\"b\\c\nd\re\tf?'ü" := str_roundtrip _
example : renderStr "a\"b" = "\"a\\\"b\"" := by decide +kernel
example : hasTrigraph "what?? no!".toList = false ∧ hasTrigraph "a??/".toList = true := by decide +kernel
example : renderStr "a??/" = "\"a\\?\\?/\"" ∧ cppStringTri (renderStr "a??/") = some "a??/" := by decide +kernel
-- what a pairwise `replace("??", "?\\?")` would emit for `???/` is NOT read back under trigraph replacement
example : cppStringTri "\"?\\??/\"" ≠ some "???/" ∧ cppString "\"?\\??/\"" = some "???/" ∧
    cppStringTri (renderStr "???/") = some "???/" := by decide +kernel
example : InInt32 (-2147483648) ∧ InInt32 2147483647 ∧ ¬ InInt32 2147483648 := by decide +kernel
example : cppInt (pyIntStr (-2147483648)) = some (-2147483648, .long) := by decide +kernel
example : pyIntStr (-1234567890) = "-1234567890" := by decide +kernel
-- 1.7976931348623157e+308, 5e-324, -0.0 are well-formed repr texts
example : WFRepr (.finite false [1] (some [7,9,7,6,9,3,1,3,4,8,6,2,3,1,5,7]) (some (false, [3,0,8]))) := by decide +kernel
example : WFRepr (.finite false [5] none (some (true, [3,2,4]))) ∧ WFRepr (.finite true [0] (some [0]) none) := by decide +kernel
example : String.ofList (renderFloat true [1] (some [5]) (some (true, [0,7]))) = "-1.5e-07" := by decide +kernel
-- repr(0.1) = "0.1" rounds to the bits of 0.1 and not to those of its neighbour; 5e-324 to the smallest subnormal
example : ReprFaithful (.finite false [0] (some [1]) none) 4591870180066957722 ∧
    ¬ ReprFaithful (.finite false [0] (some [1]) none) 4591870180066957723 := by decide +kernel
example : ReprFaithful (.finite false [5] none (some (true, [3,2,4]))) 1 := by decide +kernel
example : cppFloat "-1.5e-07" = some ({ neg := true, mant := 15, exp := -8 }, .double) := by decide +kernel
example : cppFloat "100" = none ∧ cppInt "1e5" = none := by decide +kernel
example : (bookTable ++ fillTable).length = 6 := by decide +kernel
example : ∀ b ∈ bookTable ++ fillTable, ∀ segs ∈ b.2,
    slotCarries pyTable "atlas_xaod_tree".toList "jet pt".toList "_jetpt3".toList segs = true :=
  slotCarries_tables _ _ _

-- the model's paths on `1 if … else (0.5 if … else True)` and on a bare constant; the hypothesis is satisfiable
example : (Carrier.ite (.const (.int 1)) (.ite (.const (.float (.finite false [0] (some [5]) none) 4602678819172646912))
      (.const (.bool true)))).columnPaths.map (·.2) =
    [[.double, .double, .double], [.double, .double, .double], [.double, .double, .double, .double]] := by decide +kernel
example : (Carrier.const (.int 7)).columnPaths.map (·.2) = [[.int]] := by decide +kernel
example : StorableConst (.int (-2147483648)) ∧ StorableConst (.bool false) ∧ ¬ StorableConst (.int 2147483648) ∧
    StorableConst (.float (.finite false [0] (some [5]) none) 4602678819172646912) := by decide +kernel
example : intToDbl 1 = some 4607182418800017408 ∧ intToDbl (-3) = some 13837309855095848960 ∧
    intToDbl 2147483647 = some 4746794007244308480 ∧ dblToInt 4612811918334230528 = some 2 ∧
    dblToInt 13837309855095848960 = some (-3) := by decide +kernel

end FaxVerif.C18
