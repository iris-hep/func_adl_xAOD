/-
C18 — string literals: the C++ lexer on what `as_cpp_string_literal` writes under a sound table
(`cppStringLit_render`), translation phase 1 on it (`cppStringLit_detri_render`), and the names in
the booking / fill lines (`nameAt_bookLine`). Helper lemmas for `Theorems.lean`.
-/
import FaxVerif.C18.Spec
namespace FaxVerif.C18

theorem lookup_all {tbl : List (Char × Str)} {p : Char × Str → Bool} (h : tbl.all p = true)
    {c : Char} {e : Str} (hl : tbl.lookup c = some e) : p (c, e) = true := by
  obtain ⟨l₁, l₂, rfl, _⟩ := List.lookup_eq_some_iff.mp hl
  exact List.all_eq_true.mp h (c, e) (by simp)

theorem lex_norm_cons (c : Char) (r : Str) :
    lex .norm (c :: r) = onNorm c r (lex .norm r) (lex .esc r) := by
  simp only [lex, onNorm]

theorem lex_esc_cons_simple (e v : Char) (r : Str) (h : simpleEsc e = some v) :
    lex .esc (e :: r) = pushC v (lex .norm r) := by
  simp only [lex, h]

theorem lex_norm_quote (r : Str) : lex .norm ('"' :: r) = some ([], r) := by
  simp [lex_norm_cons, onNorm]

theorem lex_norm_plain (c : Char) (r : Str) (h : isSpecial c = false) :
    lex .norm (c :: r) = pushC c (lex .norm r) := by
  simp only [isSpecial, Bool.or_eq_false_iff, decide_eq_false_iff_not] at h
  obtain ⟨⟨h1, h2⟩, h3⟩ := h
  rw [lex_norm_cons]
  simp [onNorm, h1, h2, h3]

theorem lex_norm_escape (x c : Char) (r : Str) (h : simpleEsc x = some c) :
    lex .norm ('\\' :: x :: r) = pushC c (lex .norm r) := by
  rw [lex_norm_cons, ← lex_esc_cons_simple x c r h]
  simp [onNorm, isNewline]

theorem escOf_cases {tbl : List (Char × Str)} (ht : TableOk tbl) (c : Char) :
    (escOf tbl c = [c] ∧ isSpecial c = false) ∨
    ∃ x, escOf tbl c = ['\\', x] ∧ simpleEsc x = some c := by
  unfold escOf
  cases hl : tbl.lookup c with
  | none =>
    refine Or.inl ⟨rfl, ?_⟩
    cases hs : isSpecial c with
    | false => rfl
    | true =>
      obtain ⟨_, h1, h2, h3, h4⟩ := ht
      simp only [isSpecial, isNewline, Bool.or_eq_true, decide_eq_true_eq] at hs
      have : (tbl.lookup c).isSome = true := by
        rcases hs with (rfl | rfl) | rfl | rfl <;> assumption
      rw [hl] at this; cases this
  | some e =>
    have hrow := lookup_all ht.1 hl
    simp only [rowOk, Bool.or_eq_true, Bool.and_eq_true] at hrow
    rcases hrow with ⟨he, hns⟩ | hrow
    · exact Or.inl ⟨by simpa using he, by simpa using hns⟩
    · match e, hrow with
      | [b, x], hrow =>
        simp only [Bool.and_eq_true, decide_eq_true_eq, beq_iff_eq] at hrow
        exact Or.inr ⟨x, by rw [hrow.1], hrow.2⟩

theorem lex_escOf {tbl : List (Char × Str)} (ht : TableOk tbl) (c : Char) (r : Str) :
    lex .norm (escOf tbl c ++ r) = pushC c (lex .norm r) := by
  rcases escOf_cases ht c with ⟨he, hs⟩ | ⟨x, he, hx⟩ <;> rw [he]
  · exact lex_norm_plain c r hs
  · exact lex_norm_escape x c r hx

theorem lex_renderBody {tbl : List (Char × Str)} (ht : TableOk tbl) (s tail : Str) :
    lex .norm (renderBody tbl s ++ '"' :: tail) = some (s, tail) := by
  induction s with
  | nil => exact lex_norm_quote tail
  | cons c cs ih =>
    simp only [renderBody, List.append_assoc]
    rw [lex_escOf ht, ih]
    rfl

theorem cppStringLit_render {tbl : List (Char × Str)} (ht : TableOk tbl) (s tail : Str) :
    cppStringLit (renderStrL tbl s ++ tail) = some (s, tail) := by
  simp only [renderStrL, List.cons_append, List.append_assoc, cppStringLit, if_true]
  exact lex_renderBody ht s tail

theorem cppStringL_render {tbl : List (Char × Str)} (ht : TableOk tbl) (s : Str) :
    cppStringL (renderStrL tbl s) = some s := by
  have := cppStringLit_render ht s []
  simp only [List.append_nil] at this
  simp only [cppStringL, this]

theorem triScan_cons (q : Nat) (c : Char) (rest : Str) :
    triScan q (c :: rest) =
      if c = '?' then triScan (q + 1) rest
      else (decide (2 ≤ q) && (triChar c).isSome) || triScan 0 rest := by
  simp only [triScan]

theorem triChar_quote : triChar '"' = none := by decide

/-- a backslash ends a run of `?`; the letter after it starts a new run only if it is `?` itself -/
theorem triScan_bslash (q : Nat) (x : Char) (rest : Str) :
    triScan q ('\\' :: x :: rest) = triScan (if x = '?' then 1 else 0) rest := by
  have hb : ('\\' : Char) ≠ '?' := by decide
  have ht : triChar '\\' = none := by decide
  rw [triScan_cons, if_neg hb, ht, triScan_cons]
  split <;> simp

/-- One step of the scan, from a longer run of `?` on one text to a shorter run on another: what
`triScan_mono` and `triScan_render` have in common. -/
theorem triScan_step {qo qs : Nat} {c : Char} {r r' : Str} (hle : qo ≤ qs)
    (h : triScan qs (c :: r) = false)
    (ih : ∀ qo' qs', qo' ≤ qs' → triScan qs' r = false → triScan qo' r' = false) :
    triScan qo (c :: r') = false := by
  rw [triScan_cons] at h ⊢
  by_cases hc : c = '?'
  · simp only [hc, if_true] at h ⊢
    exact ih (qo + 1) (qs + 1) (by omega) h
  · simp only [hc, if_false, Bool.or_eq_false_iff, Bool.and_eq_false_iff, decide_eq_false_iff_not] at h ⊢
    exact ⟨h.1.imp (by omega) id, ih 0 0 (Nat.le_refl 0) h.2⟩

theorem triScan_mono : ∀ (l : Str) (q q' : Nat), q' ≤ q → triScan q l = false → triScan q' l = false := by
  intro l
  induction l with
  | nil => intro q q' _ _; rfl
  | cons c rest ih => intro q q' hle h; exact triScan_step hle h fun a b => ih b a

theorem triScan_false_tail {q : Nat} {c : Char} {rest : Str} (h : triScan q (c :: rest) = false) :
    triScan 0 rest = false := by
  rw [triScan_cons] at h
  by_cases hc : c = '?'
  · simp only [hc, if_true] at h
    exact triScan_mono _ _ _ (by omega) h
  · simp only [hc, if_false, Bool.or_eq_false_iff] at h
    exact h.2

def triHead : Str → Bool
  | c :: c₂ :: x :: _ => c = '?' && c₂ = '?' && (triChar x).isSome
  | _ => false

theorem detri_cons {c : Char} {l : Str} (h : triHead (c :: l) = false) : detri (c :: l) = c :: detri l := by
  match l, h with
  | [], _ => simp [detri]
  | [_], _ => simp [detri]
  | c₂ :: x :: r, h =>
    rw [detri]
    split
    · next hq =>
      cases ht : triChar x with
      | none => rfl
      | some t => simp [triHead, hq.1, hq.2, ht] at h
    · rfl

theorem triHead_of_triScan {q : Nat} {l : Str} (h : triScan q l = false) : triHead l = false := by
  match l, h with
  | [], _ | [_], _ | [_, _], _ => rfl
  | c :: c₂ :: x :: r, h =>
    cases hx : triChar x with
    | none => simp [triHead, hx]
    | some t =>
      have hxq : x ≠ '?' := by intro e; subst e; simp [triChar] at hx
      by_cases hc : c = '?'
      · by_cases hc₂ : c₂ = '?'
        · subst hc hc₂; simp [triScan, hxq, hx] at h
        · simp [triHead, hc₂]
      · simp [triHead, hc]

theorem detri_id : ∀ (l : Str), triScan 0 l = false → detri l = l := by
  intro l
  induction l with
  | nil => intro _; rfl
  | cons c l ih => intro h; rw [detri_cons (triHead_of_triScan h), ih (triScan_false_tail h)]

theorem simpleEsc_q {x c : Char} (h : simpleEsc x = some c) (hx : x = '?') : c = '?' := by
  subst hx
  have : simpleEsc '?' = some '?' := by decide
  rw [this] at h
  exact (Option.some.inj h).symm

/-- Under `TableOk` alone (a table that need not escape `?`) rendering brings in no trigraph: a string without one
has a body without one.  The table in use does escape `?`; for it no hypothesis on the string is needed
(`triScan_render_escaped`). -/
theorem triScan_render {tbl : List (Char × Str)} (ht : TableOk tbl) :
    ∀ (s : Str) (qo qs : Nat), qo ≤ qs → triScan qs s = false →
      triScan qo (renderBody tbl s ++ ['"']) = false := by
  intro s
  induction s with
  | nil =>
    intro qo qs _ _
    simp [renderBody, triScan, triChar_quote]
  | cons c cs ih =>
    intro qo qs hle h
    simp only [renderBody, List.append_assoc]
    rcases escOf_cases ht c with ⟨he, _⟩ | ⟨x, he, hx⟩ <;> rw [he]
    · exact triScan_step hle h ih
    · simp only [List.cons_append, List.nil_append]
      rw [triScan_bslash]
      by_cases hxq : x = '?'
      · have hcq := simpleEsc_q hx hxq
        subst hcq
        rw [triScan_cons, if_pos rfl] at h
        rw [if_pos hxq]
        exact ih 1 (qs + 1) (by omega) h
      · rw [if_neg hxq]
        exact ih 0 0 (Nat.le_refl 0) (triScan_false_tail h)

/-- When the table writes `?` as `\?`, no two question marks are adjacent in the rendered body:
followed by the closing quote it contains no trigraph, whatever the string. -/
theorem triScan_render_escaped {tbl : List (Char × Str)} (ht : TableOk tbl)
    (hq : tbl.lookup '?' = some ['\\', '?']) :
    ∀ (s : Str) (qo : Nat), qo ≤ 1 → triScan qo (renderBody tbl s ++ ['"']) = false := by
  intro s
  induction s with
  | nil =>
    intro qo _
    simp [renderBody, triScan, triChar_quote]
  | cons c cs ih =>
    intro qo hle
    simp only [renderBody, List.append_assoc]
    rcases escOf_cases ht c with ⟨he, _⟩ | ⟨x, he, _⟩ <;> rw [he]
    · have hc : c ≠ '?' := by
        intro h; subst h; simp [escOf, hq] at he
      rw [List.singleton_append, triScan_cons, if_neg hc, ih 0 (by omega)]
      simp only [Bool.or_false, Bool.and_eq_false_iff, decide_eq_false_iff_not]
      exact Or.inl (by omega)
    · simp only [List.cons_append, List.nil_append]
      rw [triScan_bslash]
      exact ih _ (by split <;> omega)

theorem hasTrigraph_renderStrL (tbl : List (Char × Str)) (s : Str) :
    hasTrigraph (renderStrL tbl s) = triScan 0 (renderBody tbl s ++ ['"']) := by
  have hq : ('"' : Char) ≠ '?' := by decide
  simp [hasTrigraph, renderStrL, triScan_cons, hq, triChar_quote]

theorem hasTrigraph_render {tbl : List (Char × Str)} (ht : TableOk tbl) (s : Str)
    (h : hasTrigraph s = false) : hasTrigraph (renderStrL tbl s) = false :=
  (hasTrigraph_renderStrL tbl s).trans (triScan_render ht s 0 0 (Nat.le_refl 0) h)

theorem hasTrigraph_render_escaped {tbl : List (Char × Str)} (ht : TableOk tbl)
    (hq : tbl.lookup '?' = some ['\\', '?']) (s : Str) : hasTrigraph (renderStrL tbl s) = false :=
  (hasTrigraph_renderStrL tbl s).trans (triScan_render_escaped ht hq s 0 (by omega))

theorem cppStringTriL_of_clean {t : Str} (h : hasTrigraph t = false) : cppStringTriL t = cppStringL t := by
  unfold cppStringTriL
  rw [detri_id t h]

theorem cppStringTriL_render {tbl : List (Char × Str)} (ht : TableOk tbl) (s : Str)
    (h : hasTrigraph s = false) : cppStringTriL (renderStrL tbl s) = some s :=
  (cppStringTriL_of_clean (hasTrigraph_render ht s h)).trans (cppStringL_render ht s)

theorem cppStringTriL_render_escaped {tbl : List (Char × Str)} (ht : TableOk tbl)
    (hq : tbl.lookup '?' = some ['\\', '?']) (s : Str) : cppStringTriL (renderStrL tbl s) = some s :=
  (cppStringTriL_of_clean (hasTrigraph_render_escaped ht hq s)).trans (cppStringL_render ht s)

theorem triHead_append {c : Char} {a : Str} (b : Str) (h : triHead (c :: a) = false)
    (hl : (c :: a).getLast? ≠ some '?') : triHead (c :: (a ++ b)) = false := by
  match a, h, hl with
  | [], _, hl =>
    have hc : c ≠ '?' := by simpa using hl
    rcases b with _ | ⟨c₂, _ | ⟨x, r⟩⟩ <;> simp [triHead, hc]
  | [c₂], _, hl =>
    have hc : c₂ ≠ '?' := by simpa using hl
    cases b <;> simp [triHead, hc]
  | _ :: _ :: _, h, _ => exact h

theorem detri_append_clean (b : Str) : ∀ a : Str, triScan 0 a = false → a.getLast? ≠ some '?' →
    detri (a ++ b) = a ++ detri b := by
  intro a
  induction a with
  | nil => intro _ _; rfl
  | cons c a' ih =>
    intro h hl
    rw [List.cons_append, detri_cons (triHead_append b (triHead_of_triScan h) hl)]
    cases a' with
    | nil => rfl
    | cons y ys => rw [ih (triScan_false_tail h) (by simpa [List.getLast?_cons_cons] using hl)]; rfl

theorem renderStrL_getLast (tbl : List (Char × Str)) (s : Str) :
    (renderStrL tbl s).getLast? ≠ some '?' := by
  unfold renderStrL
  rw [← List.cons_append, List.getLast?_append]
  simp

theorem cppStringLit_detri_render {tbl : List (Char × Str)} (ht : TableOk tbl)
    (hq : tbl.lookup '?' = some ['\\', '?']) (s tail : Str) :
    cppStringLit (detri (renderStrL tbl s ++ tail)) = some (s, detri tail) := by
  rw [detri_append_clean tail _ (hasTrigraph_render_escaped ht hq s) (renderStrL_getLast tbl s)]
  exact cppStringLit_render ht s (detri tail)

theorem lex_plain : ∀ (s tail : Str), PlainName s → lex .norm (s ++ '"' :: tail) = some (s, tail) := by
  intro s
  induction s with
  | nil => intro tail _; exact lex_norm_quote tail
  | cons c cs ih =>
    intro tail h
    simp only [PlainName, List.all_cons, Bool.and_eq_true, Bool.not_eq_true'] at h
    simp only [List.cons_append]
    rw [lex_norm_plain c _ h.1, ih tail (by simpa [PlainName] using h.2)]
    rfl

theorem cppStringLit_verbatim (s tail : Str) (h : PlainName s) :
    cppStringLit ('"' :: (s ++ '"' :: tail)) = some (s, tail) := by
  simp only [cppStringLit, if_true]
  exact lex_plain s tail h

theorem bankLine_drop (tbl : List (Char × Str)) (pre suf bank : Str) :
    (bankLine tbl pre suf bank).drop pre.length = renderStrL tbl bank ++ suf := by
  unfold bankLine
  rw [List.append_assoc, List.drop_left]

theorem bankLine_lit {tbl : List (Char × Str)} (ht : TableOk tbl) (pre suf bank : Str) :
    cppStringLit ((bankLine tbl pre suf bank).drop pre.length) = some (bank, suf) := by
  rw [bankLine_drop]
  exact cppStringLit_render ht bank suf

theorem bankLine_lit_detri {tbl : List (Char × Str)} (ht : TableOk tbl) (hq : tbl.lookup '?' = some ['\\', '?'])
    (pre suf bank : Str) :
    cppStringLit (detri ((bankLine tbl pre suf bank).drop pre.length)) = some (bank, detri suf) := by
  rw [bankLine_drop]
  exact cppStringLit_detri_render ht hq bank suf

theorem renderSegs_litPrefix (tbl : List (Char × Str)) (tree col var : Str) :
    ∀ segs : List Seg, renderSegs tbl tree col var segs =
      (litPrefix segs).1 ++ renderSegs tbl tree col var (litPrefix segs).2 := by
  intro segs
  induction segs with
  | nil => simp [litPrefix, renderSegs]
  | cons s ss ih =>
    cases s with
    | lit t => simp only [litPrefix, renderSegs, renderSeg, List.append_assoc]; rw [ih]
    | _ => simp [litPrefix]

/-- the verbatim case: `pre' " name " t' …` lexed from the position of the opening quote -/
theorem nameAt_verbatim (pre t rest name : Str) (hp : pre.getLast? = some '"')
    (ht : t.head? = some '"') (hn : PlainName name) :
    nameAt (pre.length - 1) (pre ++ (name ++ (t ++ rest))) = some name := by
  obtain ⟨pre', rfl⟩ := List.getLast?_eq_some_iff.mp hp
  obtain ⟨t', rfl⟩ := List.head?_eq_some_iff.mp ht
  have hlen : (pre' ++ ['"']).length - 1 = pre'.length := by simp
  unfold nameAt
  rw [hlen, List.append_assoc, List.drop_left]
  simp only [List.cons_append, List.nil_append]
  rw [cppStringLit_verbatim name _ hn]
  rfl

theorem nameAt_escaped {tbl : List (Char × Str)} (htb : TableOk tbl) (pre rest name : Str) :
    nameAt pre.length (pre ++ (renderStrL tbl name ++ rest)) = some name := by
  unfold nameAt
  rw [List.drop_left, cppStringLit_render htb]
  rfl

theorem nameAtTri_escaped {tbl : List (Char × Str)} (htb : TableOk tbl)
    (hq : tbl.lookup '?' = some ['\\', '?']) (pre rest name : Str) :
    nameAtTri pre.length (pre ++ (renderStrL tbl name ++ rest)) = some name := by
  unfold nameAtTri
  rw [List.drop_left, cppStringLit_detri_render htb hq]
  rfl

def slotSeg : NameKind → Bool → Seg
  | .tree, false => .tree
  | .col, false => .col
  | .tree, true => .treeEsc
  | .col, true => .colEsc

/-- `nameSlot` read backwards: after the leading constant text comes the name's segment, and the
offset is the length of that text (less the opening quote when the name is copied verbatim). -/
theorem nameSlot_some {segs : List Seg} {off : Nat} {k : NameKind} {esc : Bool}
    (h : nameSlot segs = some (off, k, esc)) :
    ∃ post, (litPrefix segs).2 = slotSeg k esc :: post ∧
      off = (litPrefix segs).1.length - (if esc then 0 else 1) := by
  unfold nameSlot at h
  split at h <;> first
    | (rename_i post heq; cases h; exact ⟨post, heq, rfl⟩)
    | cases h

theorem renderSeg_slotSeg (tbl : List (Char × Str)) (tree col var : Str) (k : NameKind) (esc : Bool) :
    renderSeg tbl tree col var (slotSeg k esc) =
      if esc then renderStrL tbl (pickName k tree col) else pickName k tree col := by
  cases k <;> cases esc <;> rfl

theorem nameAt_bookLine {tbl : List (Char × Str)} (htb : TableOk tbl) (segs : List Seg)
    (hok : BookLineOk segs = true) (tree col var : Str) (off : Nat) (k : NameKind) (esc : Bool)
    (hs : nameSlot segs = some (off, k, esc))
    (hn : esc = false → PlainName (pickName k tree col)) :
    nameAt off (renderSegs tbl tree col var segs) = some (pickName k tree col) := by
  obtain ⟨post, hpost, rfl⟩ := nameSlot_some hs
  rw [renderSegs_litPrefix, hpost, renderSegs, renderSeg_slotSeg]
  cases esc with
  | true => exact nameAt_escaped htb _ _ _
  | false =>
    -- a verbatim name stands between the quote that ends the text before and one that starts the text after
    simp only [BookLineOk, Bool.and_eq_true, hpost] at hok
    match k, post, hok.2 with
    | .tree, .lit t :: post', h =>
      simp only [slotSeg, Bool.and_eq_true, beq_iff_eq] at h
      exact nameAt_verbatim _ t _ _ h.1 h.2 (hn rfl)
    | .col, .lit t :: post', h =>
      simp only [slotSeg, Bool.and_eq_true, beq_iff_eq] at h
      exact nameAt_verbatim _ t _ _ h.1 h.2 (hn rfl)

theorem nameAtTri_bookLine {tbl : List (Char × Str)} (htb : TableOk tbl)
    (hq : tbl.lookup '?' = some ['\\', '?']) (segs : List Seg) (tree col var : Str) (off : Nat)
    (k : NameKind) (hs : nameSlot segs = some (off, k, true)) :
    nameAtTri off (renderSegs tbl tree col var segs) = some (pickName k tree col) := by
  obtain ⟨post, hpost, rfl⟩ := nameSlot_some hs
  rw [renderSegs_litPrefix, hpost, renderSegs, renderSeg_slotSeg]
  exact nameAtTri_escaped htb hq _ _ _

end FaxVerif.C18
