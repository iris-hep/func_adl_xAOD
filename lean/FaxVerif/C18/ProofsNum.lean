/-
C18 — numbers: `str(n)` (`renderNat_spec`, `cppIntL_renderInt`) and the `repr` text of a float
(`cppFloatL_render`) as C++ literals, the parentheses of `signedLit`, and that such a text, in parentheses
or not, denotes its constant (`int_ok_of_unparen`, `float_ok_of_unparen`). The lemmas behind `Theorems.lean`; `ProofsContext.lean` and `ProofsExpr.lean` build on them (`fracText`, `expText`).
-/
import FaxVerif.C18.Spec
import FaxVerif.Common.Runs
namespace FaxVerif.C18

theorem digitChar_toNat {d : Nat} (h : d < 10) : (digitChar d).toNat = 48 + d :=
  (by decide : ∀ d : Fin 10, (digitChar d.val).toNat = 48 + d.val) ⟨d, h⟩

theorem digitVal_digitChar {d : Nat} (h : d < 10) : digitVal (digitChar d) = d := by
  simp [digitVal, digitChar_toNat h]

theorem isDigit_digitChar {d : Nat} (h : d < 10) : isDigit (digitChar d) = true := by
  simp [isDigit, digitChar_toNat h]; omega

theorem isDigit_minus : isDigit '-' = false := by decide
theorem isDigit_plus : isDigit '+' = false := by decide

theorem ne_of_isDigit {d c : Char} (hd : isDigit d = true) (hc : isDigit c = false) : d ≠ c := by
  intro h; rw [h, hc] at hd; cases hd

theorem spanDigits_eq (s : Str) : spanDigits s = (s.takeWhile isDigit, s.dropWhile isDigit) := by
  induction s with
  | nil => rfl
  | cons c r ih => by_cases h : isDigit c = true <;> simp [spanDigits, h, ih]

theorem spanDigits_append (ds rest : Str) (h : ∀ c ∈ ds, isDigit c = true)
    (hr : Runs.HeadFails isDigit rest) : spanDigits (ds ++ rest) = (ds, rest) := by
  rw [spanDigits_eq, Runs.takeWhile_run h hr, Runs.dropWhile_run h hr]

theorem spanDigits_all (ds : Str) (h : ∀ c ∈ ds, isDigit c = true) : spanDigits ds = (ds, []) := by
  simpa using spanDigits_append ds [] h (fun _ hc => nomatch hc)

/-! `str(n)` of the model IS core's `Nat.toDigits 10 n`; what is used of it comes from core's lemmas. -/

theorem digitChar_eq_core {d : Nat} (h : d < 10) : digitChar d = Nat.digitChar d :=
  (by decide : ∀ d : Fin 10, digitChar d.val = Nat.digitChar d.val) ⟨d, h⟩

theorem isDigit_eq_core (c : Char) : isDigit c = c.isDigit := by
  rw [Bool.eq_iff_iff, Char.isDigit_iff_toNat]
  simp [isDigit]

theorem decVal_eq_core (cs : Str) : decVal cs = Nat.ofDigitChars 10 cs 0 := by
  simp only [decVal, Nat.ofDigitChars, digitVal, Nat.mul_comm 10]
  rfl

/-- the model's fuel recursion is core's: both satisfy `Nat.toDigits_eq_if` -/
theorem natDigits_eq_toDigits : ∀ f n, n ≤ f → natDigits f n = Nat.toDigits 10 n := by
  intro f
  induction f with
  | zero =>
    intro n h
    obtain rfl : n = 0 := by omega
    rfl
  | succ f ih =>
    intro n h
    rw [natDigits, Nat.toDigits_eq_if (by decide)]
    split
    · rw [digitChar_eq_core ‹_›]
    · rw [ih _ (by omega), digitChar_eq_core (Nat.mod_lt n (by decide))]

theorem renderNat_eq_toDigits (n : Nat) : renderNat n = Nat.toDigits 10 n :=
  natDigits_eq_toDigits n n (Nat.le_refl n)

/-- no leading zero (the one fact core does not have) -/
theorem toDigits_head_ne_zero {n : Nat} (h : 1 ≤ n) : (Nat.toDigits 10 n).head? ≠ some '0' := by
  induction n using Nat.base_induction 10 (by decide) with
  | single m hm =>
    rw [Nat.toDigits_of_lt_base hm]
    simpa using Nat.ne_of_gt h
  | digit m k hk hm ih =>
    rw [← Nat.toDigits_append_toDigits (by decide) hm hk]
    match hd : Nat.toDigits 10 m, ih hm with
    | [], _ => exact absurd hd Nat.toDigits_ne_nil
    | _ :: _, ih => exact ih

/-- What is used of `str(n)`: it is a non-empty run of decimal digits of value `n`, and the first is
not `0` unless `n = 0`. -/
theorem renderNat_spec (n : Nat) : ∃ d ds, renderNat n = d :: ds ∧
    (∀ c ∈ d :: ds, isDigit c = true) ∧ decVal (d :: ds) = n ∧ (1 ≤ n → d ≠ '0') := by
  have hall : ∀ c ∈ renderNat n, isDigit c = true := fun c hc => by
    rw [isDigit_eq_core]
    exact Nat.isDigit_of_mem_toDigits (by decide) (by decide) (renderNat_eq_toDigits n ▸ hc)
  have hval : decVal (renderNat n) = n := by
    rw [decVal_eq_core, renderNat_eq_toDigits, Nat.ofDigitChars_ten_toDigits]
  have hhead : 1 ≤ n → (renderNat n).head? ≠ some '0' := fun h =>
    renderNat_eq_toDigits n ▸ toDigits_head_ne_zero h
  match hr : renderNat n, hall, hval, hhead with
  | [], _, _, _ => exact absurd (renderNat_eq_toDigits n ▸ hr) Nat.toDigits_ne_nil
  | d :: ds, hall, hval, hhead => exact ⟨d, ds, rfl, hall, hval, fun h e => hhead h (by rw [e]; rfl)⟩

theorem decLit_digits {ds : Str} (hall : ∀ c ∈ ds, isDigit c = true) (hne : ds ≠ []) :
    decLit ds = (intLitType true (false, 0) (decVal ds)).map fun t => (decVal ds, t) := by
  have : intSuffix [] = some (false, 0) := by decide
  simp only [decLit, spanDigits_all ds hall, hne, if_false, this]

theorem cppIntLit_renderNat (n : Nat) :
    cppIntLit (renderNat n) = (intLitType true (false, 0) n).map fun t => (n, t) := by
  by_cases h0 : n = 0
  · subst h0; decide
  · obtain ⟨d, ds, he, hall, hval, hd⟩ := renderNat_spec n
    rw [he]
    simp only [cppIntLit, hd (by omega), if_false]
    rw [decLit_digits hall (List.cons_ne_nil d ds), hval]

theorem renderNat_head (n : Nat) : ∃ d ds, isDigit d = true ∧ renderNat n = d :: ds := by
  obtain ⟨d, ds, he, hall, _⟩ := renderNat_spec n
  exact ⟨d, ds, hall d (by simp), he⟩

theorem cppIntL_of_ne_minus {t : Str} (h : t.head? ≠ some '-') :
    cppIntL t = (cppIntLit t).map fun p => ((p.1 : Int), p.2) := by
  unfold cppIntL
  split
  · simp at h
  · rfl

theorem intLitType_dec (v : Nat) :
    intLitType true (false, 0) v =
      if v < 2 ^ 31 then some .int else if v < 2 ^ 63 then some .long else none := by
  simp [intLitType]

/-- `str(n)` as a C++ integer expression, for every `n`: the value is `n`; the type is `int` below
2^31 in absolute value, `long` below 2^63, and beyond that no type holds the literal. -/
theorem cppIntL_renderInt (n : Int) :
    cppIntL (renderInt n) =
      if n.natAbs < 2 ^ 31 then some (n, .int) else if n.natAbs < 2 ^ 63 then some (n, .long)
      else none := by
  have key : cppIntL (renderInt n) = (intLitType true (false, 0) n.natAbs).map fun t => (n, t) := by
    cases n with
    | ofNat m =>
      obtain ⟨d, ds, hd, he⟩ := renderNat_head m
      have hm : (renderNat m).head? ≠ some '-' := by
        rw [he]; simpa using ne_of_isDigit hd isDigit_minus
      simp only [renderInt]
      rw [cppIntL_of_ne_minus hm, cppIntLit_renderNat, Option.map_map]
      rfl
    | negSucc m =>
      simp only [renderInt, cppIntL, cppIntLit_renderNat, Option.map_map]
      rfl
  rw [key, intLitType_dec]
  split
  · rfl
  · split <;> rfl

theorem digs_all_digits (ds : List (Fin 10)) : ∀ c ∈ digs ds, isDigit c = true := by
  intro c hc
  simp only [digs, List.mem_map] at hc
  obtain ⟨d, _, rfl⟩ := hc
  exact isDigit_digitChar d.isLt

theorem foldl_digs (ds : List (Fin 10)) : ∀ a : Nat,
    (digs ds).foldl (fun a c => a * 10 + digitVal c) a = ds.foldl (fun a d => a * 10 + d.val) a := by
  induction ds with
  | nil => intro a; rfl
  | cons d r ih =>
    intro a
    simp only [digs, List.map_cons, List.foldl_cons] at ih ⊢
    rw [digitVal_digitChar d.isLt]
    exact ih _

theorem decVal_digs (ds : List (Fin 10)) : decVal (digs ds) = valDigits ds := foldl_digs ds 0

theorem digs_append (a b : List (Fin 10)) : digs a ++ digs b = digs (a ++ b) := by
  simp [digs]

theorem digs_length (ds : List (Fin 10)) : (digs ds).length = ds.length := by simp [digs]

theorem digs_eq_nil {ds : List (Fin 10)} : digs ds = [] ↔ ds = [] := by simp [digs]

theorem digs_head {ip : List (Fin 10)} (h : ip ≠ []) :
    ∃ d r, isDigit d = true ∧ digs ip = d :: r := by
  cases ip with
  | nil => exact absurd rfl h
  | cons d r => exact ⟨_, digs r, isDigit_digitChar d.isLt, rfl⟩

/-- the fraction and the exponent of a `repr` text -/
def fracText (fp : Option (List (Fin 10))) : Str :=
  match fp with | some f => '.' :: digs f | none => []

def expText (ex : Option (Bool × List (Fin 10))) : Str :=
  match ex with | some (eneg, ed) => 'e' :: (if eneg then '-' else '+') :: digs ed | none => []

theorem renderFloat_pos (ip : List (Fin 10)) (fp : Option (List (Fin 10)))
    (ex : Option (Bool × List (Fin 10))) :
    renderFloat false ip fp ex = digs ip ++ (fracText fp ++ expText ex) := by
  simp only [renderFloat, Bool.false_eq_true, if_false, List.nil_append, List.append_assoc]
  rfl

theorem renderFloat_neg (ip : List (Fin 10)) (fp : Option (List (Fin 10)))
    (ex : Option (Bool × List (Fin 10))) :
    renderFloat true ip fp ex = '-' :: renderFloat false ip fp ex := by
  simp [renderFloat]

theorem expText_head (ex : Option (Bool × List (Fin 10))) : Runs.HeadFails isDigit (expText ex) := by
  match ex with
  | some (eneg, ed) => exact Runs.headFails_cons _ (by decide)
  | none => exact fun _ hc => nomatch hc

theorem lexExponent_expText (ex : Option (Bool × List (Fin 10))) (h : ex.map (·.2) ≠ some []) :
    lexExponent (expText ex) =
      some (ex.map fun p => if p.1 then -(valDigits p.2 : Int) else (valDigits p.2 : Int), []) := by
  match ex, h with
  | none, _ => rfl
  | some (eneg, ed), h =>
    have hsp := spanDigits_all (digs ed) (digs_all_digits ed)
    have hne : digs ed ≠ [] := fun hh => h (by simp [digs_eq_nil.1 hh])
    cases eneg <;> simp [expText, lexExponent, hsp, hne, decVal_digs]

theorem cppFloatLit_render (ip : List (Fin 10)) (fp : Option (List (Fin 10)))
    (ex : Option (Bool × List (Fin 10))) (wf : WFRepr (.finite false ip fp ex)) :
    cppFloatLit (renderFloat false ip fp ex) = some (floatValue false ip fp ex, .double) := by
  obtain ⟨hip, hfp, hex, hsome⟩ := wf
  have hne : digs ip ≠ [] := fun hh => hip (digs_eq_nil.1 hh)
  have hexp := lexExponent_expText ex hex
  rw [renderFloat_pos]
  unfold cppFloatLit
  cases fp with
  | some f =>
    -- digits, `.`, digits, exponent
    have h1 : spanDigits (digs ip ++ (fracText (some f) ++ expText ex)) =
        (digs ip, '.' :: (digs f ++ expText ex)) :=
      spanDigits_append _ _ (digs_all_digits ip) (Runs.headFails_cons _ (by decide))
    have h2 := spanDigits_append _ _ (digs_all_digits f) (expText_head ex)
    simp only [h1, List.tail_cons, decide_true, if_true, h2, hne, false_and, if_false, hexp]
    cases ex <;> simp [floatSuffix, floatValue, digs_append, decVal_digs, digs_length]
  | none =>
    -- digits, exponent: the exponent is there
    match ex, hsome, hexp with
    | some (eneg, ed), _, hexp =>
      have h1 := spanDigits_append _ _ (digs_all_digits ip) (expText_head (some (eneg, ed)))
      have hdot : (('e' : Char) = '.') = False := by decide
      simp only [fracText, List.nil_append, expText] at h1 hexp ⊢
      simp only [h1, hdot, decide_false, Bool.false_eq_true, if_false, hne, false_and, hexp]
      simp [floatSuffix, floatValue, decVal_digs]

theorem cppFloatL_of_ne_minus {t : Str} (h : t.head? ≠ some '-') : cppFloatL t = cppFloatLit t := by
  unfold cppFloatL
  split
  · simp at h
  · rfl

theorem cppFloatL_render (neg : Bool) (ip : List (Fin 10)) (fp : Option (List (Fin 10)))
    (ex : Option (Bool × List (Fin 10))) (wf : WFRepr (.finite neg ip fp ex)) :
    cppFloatL (renderFloat neg ip fp ex) = some (floatValue neg ip fp ex, .double) := by
  have hl := cppFloatLit_render ip fp ex wf
  cases neg with
  | true =>
    rw [renderFloat_neg]
    simp only [cppFloatL, hl, Option.map_some]
    simp [floatValue]
  | false =>
    obtain ⟨d, r, hd, he⟩ := digs_head wf.1
    rw [cppFloatL_of_ne_minus, hl]
    rw [renderFloat_pos, he]
    simpa using ne_of_isDigit hd isDigit_minus

theorem Dec.same_refl (d : Dec) : Dec.same d d := ⟨rfl, rfl⟩

/-- `str(n)` and the `repr` text of a float start with a digit or with the sign -/
def NumHead (t : Str) : Prop := ∃ d r, t = d :: r ∧ (isDigit d = true ∨ d = '-')

theorem NumHead.ne {t : Str} (h : NumHead t) {c : Char} (hc : isDigit c = false) (hm : c ≠ '-') :
    t.head? ≠ some c := by
  obtain ⟨d, r, rfl, hd | rfl⟩ := h
  · simpa using ne_of_isDigit hd hc
  · simpa using hm.symm

theorem renderInt_numHead (n : Int) : NumHead (renderInt n) := by
  cases n with
  | ofNat m =>
    obtain ⟨d, ds, hd, he⟩ := renderNat_head m
    exact ⟨d, ds, he, Or.inl hd⟩
  | negSucc m => exact ⟨'-', _, rfl, Or.inr rfl⟩

theorem renderFloat_numHead (neg : Bool) (ip : List (Fin 10)) (fp : Option (List (Fin 10)))
    (ex : Option (Bool × List (Fin 10))) (hip : ip ≠ []) : NumHead (renderFloat neg ip fp ex) := by
  cases neg with
  | true => exact ⟨'-', _, renderFloat_neg ip fp ex, Or.inr rfl⟩
  | false =>
    obtain ⟨d, r, hd, he⟩ := digs_head hip
    exact ⟨d, _, by rw [renderFloat_pos, he]; rfl, Or.inl hd⟩

theorem unparen_plain (t : Str) (h : t.head? ≠ some '(') : unparen t = t := by
  simp [unparen, h]

theorem unparen_signedLit (t : Str) (h : t.head? ≠ some '(') : unparen (signedLit t) = t := by
  unfold signedLit
  by_cases hm : t.head? = some '-'
  · have hl : ('(' :: (t ++ [')'])).getLast? = some ')' := by
      rw [← List.cons_append, List.getLast?_append]; simp
    simp [hm, unparen, hl]
  · simp [hm, unparen, h]

theorem signedLit_head (t : Str) : (signedLit t).head? ≠ some '-' ∧
    ((signedLit t).head? = some '+' → t.head? = some '+') := by
  unfold signedLit
  by_cases hm : t.head? = some '-'
  · simp [hm]
  · simp [hm]

theorem signedLit_not_glued (t : Str) (h : t.head? ≠ some '+') (prev : Char) :
    glued prev (signedLit t) = false := by
  obtain ⟨h1, h2⟩ := signedLit_head t
  cases hs : signedLit t with
  | nil => rfl
  | cons c r =>
    rw [hs] at h1 h2
    have hm : c ≠ '-' := by simpa using h1
    have hp : c ≠ '+' := fun e => h (h2 (by rw [e]; rfl))
    simp [glued, hm, hp]

/-- a number text carries no parentheses of its own, `signedLit` adds at most one pair, and never a sign in front -/
theorem NumHead.unparen {t : Str} (h : NumHead t) : unparen t = t :=
  unparen_plain t (h.ne (by decide) (by decide))

theorem NumHead.unparen_signedLit {t : Str} (h : NumHead t) : C18.unparen (signedLit t) = t :=
  C18.unparen_signedLit t (h.ne (by decide) (by decide))

theorem NumHead.not_glued {t : Str} (h : NumHead t) (prev : Char) : glued prev (signedLit t) = false :=
  signedLit_not_glued t (h.ne (by decide) (by decide)) prev

/-- An int of the 32-bit range is denoted by every text that is `str(n)` up to one pair of
parentheses; the type of the expression is `int`, or `long` for `-2147483648`. -/
theorem int_ok_of_unparen (n : Int) (h : InInt32 n) (text : Str) (hu : unparen text = renderInt n) :
    ConstOk (.int n) text .int := by
  have hfit : fitsTy .int n = true := decide_eq_true h
  obtain ⟨h1, h2⟩ := h
  have hfit64 : fitsTy .long n = true := by
    simp only [fitsTy, InInt64]
    exact decide_eq_true ⟨by omega, by omega⟩
  unfold ConstOk
  simp only [cppIntE, hu, cppIntL_renderInt]
  by_cases h31 : n.natAbs < 2 ^ 31
  · rw [if_pos h31]; exact ⟨rfl, hfit, hfit⟩
  · rw [if_neg h31, if_pos (by omega)]; exact ⟨rfl, hfit64, hfit⟩

theorem float_ok_of_unparen (neg : Bool) (ip : List (Fin 10)) (fp : Option (List (Fin 10)))
    (ex : Option (Bool × List (Fin 10))) (bits : Nat) (wf : WFRepr (.finite neg ip fp ex))
    (hr : ReprFaithful (.finite neg ip fp ex) bits) (text : Str)
    (hu : unparen text = renderFloat neg ip fp ex) :
    ConstOk (.float (.finite neg ip fp ex) bits) text .double := by
  unfold ConstOk
  simp only [cppFloatE, hu, cppFloatL_render neg ip fp ex wf]
  exact ⟨hr, trivial, trivial⟩

end FaxVerif.C18
