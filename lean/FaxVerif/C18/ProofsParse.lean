/-
C18 — the precedence parser of `Expr.lean` on the INTENDED token list of a rendered operand
expression: it returns the intended tree (`parsesU_toksE`, by induction over the expression). Fuel is
spoken of as `ParsesU n …`, "with any fuel from `n` on" (`Settles` of `Fuel.lean`): each shape the
renderer writes has its frame, which says how much it adds to `n`; the induction only chains frames.
-/
import FaxVerif.Fuel
import FaxVerif.C18.ProofsContext
namespace FaxVerif.C18

def treeE : OExpr → CExpr
  | .leaf v arrow m => .call0 (.name [v, if arrow then ['-', '>'] else ['.'], m])
  | .const c => treeConst c
  | .un op e => .un op.text (treeE e)
  | .bin op a b =>
    .bin op.text (if needsCast op a b then .cast sDouble (treeE a) else treeE a) (treeE b)
  | .pow a b => .call2 (.name [sStd, [':', ':'], sPow]) (treeE a) (treeE b)
  | .cmp op a b => .bin op.text (treeE a) (treeE b)

/-- what may follow an operand: nothing, or a punctuator that continues no name and opens no call -/
def stopHead : List Tok → Bool
  | [] => true
  | .punct s :: _ => s ≠ ['-', '>'] && s ≠ ['.'] && s ≠ [':', ':'] && s ≠ ['(']
  | _ => false

def noBinHead : List Tok → Bool
  | .punct op :: _ => (binPrec op).isNone
  | _ => true

/-- first token of an operand -/
def startOk : List Tok → Bool
  | .punct s :: _ => s = ['(']
  | .id _ :: _ => true
  | .num _ :: _ => true
  | .str _ :: _ => true
  | [] => false

/-- with any fuel from `n` on, `parseU` reads `x` off the front of `ts` and leaves `rest` -/
abbrev ParsesU (n : Nat) (ts : List Tok) (x : CExpr) (rest : List Tok) : Prop :=
  Settles n (fun f => parseU f ts) (some (x, rest))

abbrev ParsesB (n minp : Nat) (ts : List Tok) (x : CExpr) (rest : List Tok) : Prop :=
  Settles n (fun f => parseB f minp ts) (some (x, rest))

theorem nameTail_punct (f : Nat) (p : Str) (ts : List Tok)
    (hp : p ≠ [':', ':'] ∧ p ≠ ['-', '>'] ∧ p ≠ ['.']) :
    nameTail f (.punct p :: ts) = ([], .punct p :: ts) := by
  cases f with
  | zero => rfl
  | succ f =>
    match ts with
    | .id x :: r => simp [nameTail, hp.1, hp.2.1, hp.2.2]
    | [] | .punct _ :: _ | .num _ :: _ | .str _ :: _ => simp [nameTail]

theorem nameTail_stop (f : Nat) (ts : List Tok) (h : stopHead ts = true) : nameTail f ts = ([], ts) := by
  match ts, h with
  | [], _ => cases f <;> rfl
  | .punct s :: r, h =>
    simp only [stopHead, Bool.and_eq_true, decide_eq_true_eq, ne_eq] at h
    exact nameTail_punct f s r ⟨h.1.2, h.1.1.1, h.1.1.2⟩

theorem climb_stop (f minp : Nat) (x : CExpr) (rest : List Tok) (h : noBinHead rest = true) :
    climb f minp x rest = some (x, rest) := by
  cases f with
  | zero => simp [climb]
  | succ f =>
    match rest, h with
    | [], _ => simp [climb]
    | .punct op :: r, h =>
      simp only [noBinHead, Option.isNone_iff_eq_none] at h
      simp [climb, h]
    | .id _ :: _, _ => simp [climb]
    | .num _ :: _, _ => simp [climb]
    | .str _ :: _, _ => simp [climb]

theorem noBin_rparen (rest : List Tok) : noBinHead (tRP :: rest) = true := by
  simp only [noBinHead]; decide

theorem noBin_comma (rest : List Tok) : noBinHead (tComma :: rest) = true := by
  simp only [noBinHead]; decide

section frames
variable {n m : Nat} {ts rest : List Tok} {x : CExpr}

theorem parsesU_num (t : Str) (ts : List Tok) : ParsesU 1 (.num t :: ts) (.num t) ts :=
  .ret fun f => by simp [parseU]

theorem parsesU_str (v : Str) (ts : List Tok) : ParsesU 1 (.str v :: ts) (.str v) ts :=
  .ret fun f => by simp [parseU]

theorem parsesU_name (y : Str) (ts : List Tok) (hy : y ≠ sStaticCast) (hs : stopHead ts = true) :
    ParsesU 1 (.id y :: ts) (.name [y]) ts :=
  .ret fun f => by
    simp only [parseU, hy, if_false, nameTail_stop f ts hs]
    match ts, hs with
    | [], _ => rfl
    | .punct s :: r, h =>
      simp only [stopHead, Bool.and_eq_true, decide_eq_true_eq, ne_eq] at h
      simp [h.2]

theorem parsesU_leaf (v sep m : Str) (rest : List Tok) (hv : v ≠ sStaticCast)
    (hsep : sep = ['-', '>'] ∨ sep = ['.']) :
    ParsesU 2 (.id v :: .punct sep :: .id m :: tLP :: tRP :: rest) (.call0 (.name [v, sep, m])) rest :=
  .step (q := fun f => parseU (f + 1) _) (fun _ => rfl) <| .ret fun f => by
    have ht : nameTail (f + 1) (.punct sep :: .id m :: tLP :: tRP :: rest) = ([sep, m], tLP :: tRP :: rest) := by
      have h0 := nameTail_punct f ['('] (tRP :: rest) (by decide)
      rcases hsep with rfl | rfl <;> simp [nameTail, h0]
    simp only [parseU, hv, if_false, ht]
    simp

/-- an operand that no binary operator follows is a whole binary expression, at any binding strength -/
theorem ParsesU.toB (h : ParsesU n ts x rest) (hr : noBinHead rest = true) (minp : Nat) :
    ParsesB (n + 1) minp ts x rest :=
  .call h fun f hf => by simp only [parseB, hf]; exact climb_stop f minp x rest hr

theorem ParsesB.paren (h : ParsesB n 0 ts x (tRP :: rest)) : ParsesU (n + 1) (tLP :: ts) x rest :=
  .call h fun f hf => by simp [parseU, hf]

theorem ParsesU.sign (h : ParsesU n ts x rest) {p : Str} (hp : p = ['-'] ∨ p = ['+']) :
    ParsesU (n + 1) (.punct p :: ts) (.un p x) rest :=
  .call h fun f hf => by rcases hp with rfl | rfl <;> simp [parseU, hf]

theorem ParsesB.cast (h : ParsesB n 0 ts x (tRP :: rest)) :
    ParsesU (n + 1) (.id sStaticCast :: tLt :: .id sDouble :: tGt :: tLP :: ts) (.cast sDouble x) rest :=
  .call h fun f hf => by simp [parseU, hf]

/-- `( A op B )`: one binary operator between two operands, in parentheses; `A` is read two calls above `B` -/
theorem ParsesU.parenBin {p : Nat} {op : Str} {A B : List Tok} {y : CExpr}
    (hA : ParsesU n A x (.punct op :: B)) (hp : binPrec op = some p) (hB : ParsesU m B y (tRP :: rest)) :
    ParsesU (max n (m + 2) + 2) (tLP :: A) (.bin op x y) rest := by
  -- `climb` over `op`: `parseB` at `p + 1` reads `B`, and the next `climb` stops at `)`
  have hc : Settles (m + 2) (fun f => climb f 0 x (.punct op :: B)) (some (.bin op x y, tRP :: rest)) :=
    .call (hB.toB (noBin_rparen rest) (p + 1)) fun f hf => by
      simp only [climb, hp, Nat.zero_le, if_true, hf]
      exact climb_stop f 0 _ _ (noBin_rparen rest)
  exact ParsesB.paren (hA.bind_max (fun f hf => by simp only [parseB, hf]) hc)

/-- `std::pow(A, B)`, for an `A` that does not start with `)` -/
theorem ParsesB.pow {A tsB : List Tok} {a b : CExpr} (hA : startOk A = true)
    (ha : ParsesB n 0 A a (tComma :: tsB)) (hb : ParsesB m 0 tsB b (tRP :: rest)) :
    ParsesU (max n m + 2) (.id sStd :: tScope :: .id sPow :: tLP :: A)
      (.call2 (.name [sStd, [':', ':'], sPow]) a b) rest :=
  .step (q := fun f => parseU (f + 1) _) (fun _ => rfl) <| .call₂ ha hb fun f ea eb => by
    have hstd : sStd ≠ sStaticCast := by decide
    have ht : nameTail (f + 1) (tScope :: .id sPow :: tLP :: A) = ([[':', ':'], sPow], tLP :: A) := by
      simp [nameTail, nameTail_punct f ['('] A (by decide)]
    have hargs : parseArgs (f + 1) (.name [sStd, [':', ':'], sPow]) A =
        some (.call2 (.name [sStd, [':', ':'], sPow]) a b, rest) := by
      simp [parseArgs, ea, eb]
    simp only [parseU, hstd, if_false, ht, if_true]
    split
    · next rp _ =>
      have : rp = ['('] := by simpa [startOk] using hA
      rw [if_neg (by rw [this]; decide)]
      exact hargs
    · exact hargs

end frames

/-- the loop variable is not the keyword the parser treats specially -/
def OExpr.NoKw : OExpr → Prop
  | .leaf v _ _ => v ≠ sStaticCast
  | .const _ => True
  | .un _ e => e.NoKw
  | .bin _ a b => a.NoKw ∧ b.NoKw
  | .pow a b => a.NoKw ∧ b.NoKw
  | .cmp _ a b => a.NoKw ∧ b.NoKw

/-- nesting depth of an operand expression: the fuel `parseU` and `sameE` need grows with it, not with the size -/
def OExpr.depth : OExpr → Nat
  | .leaf .. | .const _ => 1
  | .un _ e => e.depth + 1
  | .bin _ a b | .pow a b | .cmp _ a b => max a.depth b.depth + 1

theorem depth_le_size : (e : OExpr) → e.depth ≤ e.size
  | .leaf .. | .const _ => Nat.le_refl 1
  | .un _ e => Nat.succ_le_succ (depth_le_size e)
  | .bin _ a b | .pow a b | .cmp _ a b =>
    Nat.succ_le_succ (Nat.max_le.mpr ⟨Nat.le_trans (depth_le_size a) (Nat.le_add_right ..),
      Nat.le_trans (depth_le_size b) (Nat.le_add_left ..)⟩)

theorem Rendered.startOk {t : Str} {ts : List Tok} {x : CExpr} (h : Rendered t ts x) (rest : List Tok) :
    startOk (ts ++ rest) = true := by
  cases h <;> rfl

theorem startOk_toksE (e : OExpr) (h : e.WF) (rest : List Tok) : startOk (toksE e ++ rest) = true := by
  cases e with
  | leaf v arrow m => rfl
  | const c => exact (rendered_const c h).startOk rest
  | un op e => rfl
  | bin op a b => rfl
  | pow a b => rfl
  | cmp op a b => rfl

/-- Four calls: the negative number `( - d )`, one each for the number, the sign, `toB` and the parentheses. -/
theorem Rendered.parses {t : Str} {ts : List Tok} {x : CExpr} (h : Rendered t ts x) (rest : List Tok)
    (hs : stopHead rest = true) : ParsesU 4 (ts ++ rest) x rest := by
  cases h with
  | str s => exact (parsesU_str s rest).mono (by decide)
  | num _ _ => exact (parsesU_num _ rest).mono (by decide)
  | neg d _ => exact (((parsesU_num d _).sign (Or.inl rfl)).toB (noBin_rparen rest) 0).paren
  | word _ _ hw => exact (parsesU_name _ rest hw hs).mono (by decide)

theorem bop_prec (op : BOp) : ∃ p, binPrec op.text = some p := by cases op <;> exact ⟨_, rfl⟩
theorem cop_prec (op : COp) : ∃ p, binPrec op.text = some p := by cases op <;> exact ⟨_, rfl⟩
theorem bop_stop (op : BOp) (r : List Tok) : stopHead (.punct op.text :: r) = true := by cases op <;> rfl
theorem cop_stop (op : COp) (r : List Tok) : stopHead (.punct op.text :: r) = true := by cases op <;> rfl

/-- The parser finds the intended tree in the intended tokens, whatever may follow an operand comes after.
Five calls per level of nesting: the `un` case, `( sign ( e ) )`. -/
theorem parsesU_toksE (e : OExpr) : e.WF → e.NoKw → ∀ rest, stopHead rest = true →
    ParsesU (5 * e.depth) (toksE e ++ rest) (treeE e) rest := by
  induction e with
  | leaf v arrow m =>
    intro _ hk rest _
    exact (parsesU_leaf v _ m rest hk (by cases arrow <;> simp)).mono (by simp only [OExpr.depth]; omega)
  | const c => intro h _ rest hs; exact ((rendered_const c h).parses rest hs).mono (by simp only [OExpr.depth]; omega)
  | un op e ih =>
    intro h hk rest _
    have h1 := ((ih h hk (tRP :: tRP :: rest) rfl).toB (noBin_rparen _) 0).paren.sign
      (p := op.text) (by cases op <;> simp [UOp.text])
    simp only [toksE, treeE, List.cons_append, List.append_assoc, List.nil_append]
    exact (h1.toB (noBin_rparen rest) 0).paren.mono (by simp only [OExpr.depth]; omega)
  | bin op a b iha ihb =>
    intro ⟨ha, hb⟩ ⟨ka, kb⟩ rest _
    obtain ⟨p, hp⟩ := bop_prec op
    have h2 := ihb hb kb (tRP :: rest) rfl
    by_cases hc : needsCast op a b = true
    · simp only [toksE, treeE, hc, if_true, castToks, List.cons_append, List.append_assoc, List.nil_append]
      have h1 := ((iha ha ka (tRP :: .punct op.text :: (toksE b ++ tRP :: rest)) rfl).toB (noBin_rparen _) 0).cast
      exact (h1.parenBin hp h2).mono (by simp only [OExpr.depth]; omega)
    · simp only [toksE, treeE, hc, Bool.false_eq_true, if_false, List.cons_append, List.append_assoc,
        List.nil_append]
      have h1 := iha ha ka (.punct op.text :: (toksE b ++ tRP :: rest)) (bop_stop op _)
      exact (h1.parenBin hp h2).mono (by simp only [OExpr.depth]; omega)
  | pow a b iha ihb =>
    intro ⟨ha, hb⟩ ⟨ka, kb⟩ rest _
    simp only [toksE, treeE, powToks, List.cons_append, List.append_assoc, List.nil_append]
    have h1 := (iha ha ka (tComma :: (toksE b ++ tRP :: rest)) rfl).toB (noBin_comma _) 0
    have h2 := (ihb hb kb (tRP :: rest) rfl).toB (noBin_rparen rest) 0
    exact (ParsesB.pow (startOk_toksE a ha _) h1 h2).mono (by simp only [OExpr.depth]; omega)
  | cmp op a b iha ihb =>
    intro ⟨ha, hb⟩ ⟨ka, kb⟩ rest _
    obtain ⟨p, hp⟩ := cop_prec op
    simp only [toksE, treeE, List.cons_append, List.append_assoc, List.nil_append]
    have h1 := iha ha ka (.punct op.text :: (toksE b ++ tRP :: rest)) (cop_stop op _)
    exact (h1.parenBin hp (ihb hb kb (tRP :: rest) rfl)).mono (by simp only [OExpr.depth]; omega)

theorem size_le_toks (e : OExpr) (h : e.WF) : e.size ≤ (toksE e).length := by
  induction e with
  | leaf v arrow m => simp [OExpr.size, toksE]
  | const c => exact List.length_pos_iff.mpr (toksE_ne_nil _ h)
  | un op e ih =>
    have := ih h
    simp only [OExpr.size, toksE, List.length_cons, List.length_append, List.length_nil]; omega
  | bin op a b iha ihb =>
    have := iha h.1; have := ihb h.2
    simp only [OExpr.size, toksE]
    split <;> simp only [List.length_cons, List.length_append] <;> omega
  | pow a b iha ihb =>
    have := iha h.1; have := ihb h.2
    simp only [OExpr.size, toksE, List.length_cons, List.length_append]; omega
  | cmp op a b iha ihb =>
    have := iha h.1; have := ihb h.2
    simp only [OExpr.size, toksE, List.length_cons, List.length_append, List.length_nil]; omega

theorem parseE_toksE (e : OExpr) (h : e.WF) (hk : e.NoKw) : parseE (toksE e) = some (treeE e) := by
  have hkey : parseB (8 * (toksE e).length + 16) 0 (toksE e ++ []) = some (treeE e, []) :=
    (parsesU_toksE e h hk [] rfl).toB rfl 0 _ (by have := depth_le_size e; have := size_le_toks e h; omega)
  rw [List.append_nil] at hkey
  unfold parseE
  rw [hkey]

end FaxVerif.C18
