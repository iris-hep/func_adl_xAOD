/-
C18 — `sameE` on the intended tree of a rendered operand expression: every constant is matched by
its literal (`constMatches`, for constants that are `ConstGood`), a `/` is a floating division (`same_tree`: one frame per arm of `sameE`,
each saying what it adds to the fuel that is enough, as for the parser).  That a number literal denotes
its constant is `int_ok_of_unparen` / `float_ok_of_unparen` of `ProofsNum.lean`; the property theorems are in
`TheoremsExpr.lean`.
-/
import FaxVerif.C18.ProofsParse
namespace FaxVerif.C18

/-- the hypotheses under which `visit_Constant`'s literal denotes the constant (`const_ok_partial`) -/
def ConstGood (c : PyConst) : Prop :=
  (∀ n, c = .int n → InInt32 n) ∧ (∀ r bits, c = .float r bits → WFRepr r ∧ ReprFaithful r bits)

/-- The tree of a constant carries the sign apart from the digits; `constMatches` puts them together
again, and the plain text `str(n)` / `repr(x)` (no parentheses) denotes the constant as well as the
parenthesised one. -/
theorem constMatches_tree (c : PyConst) (hc : ConstWF c) (hg : ConstGood c) :
    constMatches c (treeConst c) = true := by
  cases c with
  | str s => exact beq_self_eq_true s
  | int n =>
    have h := int_ok_of_unparen n (hg.1 n rfl) (renderInt n) (renderInt_numHead n).unparen
    cases n <;> exact decide_eq_true h
  | float r bits =>
    cases r with
    | finite neg ip fp ex =>
      obtain ⟨wf, hr⟩ := hg.2 _ _ rfl
      have h := float_ok_of_unparen neg ip fp ex bits wf hr (renderFloat neg ip fp ex)
        (renderFloat_numHead neg ip fp ex wf.1).unparen
      cases neg with
      | false => exact decide_eq_true h
      | true => rw [renderFloat_neg] at h; exact decide_eq_true h
    | inf b => exact absurd hc.1 (by simp)
    | nan => exact absurd hc.1 (by simp)
  | bool b => exact beq_self_eq_true _
  | other t => exact absurd hc (by simp [ConstWF])

theorem Rendered.not_cast {t : Str} {ts : List Tok} {x : CExpr} (h : Rendered t ts x) :
    ∀ ty y, x ≠ .cast ty y := by
  intro ty y
  cases h <;> exact CExpr.noConfusion

/-- with any fuel from `n` on, `sameE` accepts the C++ expression `x` for the query's `e` -/
abbrev Same (n : Nat) (e : OExpr) (x : CExpr) : Prop := Settles n (fun f => sameE f e x) true

section frames
variable {n m : Nat} {e a b : OExpr} {x y z : CExpr}

theorem Same.cast (h : Same n e x) : Same (n + 1) e (.cast sDouble x) :=
  .call h fun f hf => by cases e <;> exact Bool.and_eq_true_iff.mpr ⟨decide_eq_true rfl, hf⟩

theorem same_leaf (v m : Str) (arrow : Bool) :
    Same 1 (.leaf v arrow m) (.call0 (.name [v, if arrow then ['-', '>'] else ['.'], m])) :=
  .ret fun f => by cases arrow <;> simp [sameE]

theorem same_const {c : PyConst} (hx : ∀ ty y, x ≠ .cast ty y) (h : constMatches c x = true) :
    Same 1 (.const c) x :=
  .ret fun f => by
    show sameE (f + 1) (.const c) x = true
    cases x <;> first | exact h | exact absurd rfl (hx _ _)

theorem Same.neg (h : Same n e y) : Same (n + 1) (.un .neg e) (.un ['-'] y) :=
  .call h fun f hf => by simp [sameE, hf]

theorem Same.pos (h : Same n e y) : Same (n + 1) (.un .pos e) (.un ['+'] y) :=
  .call h fun f hf => by simp [sameE, hf]

theorem Same.bin {op : BOp} (ha : Same n a y) (hb : Same m b z)
    (hd : op ≠ .div ∨ cIsDouble y = true ∨ cIsDouble z = true) :
    Same (max n m + 1) (.bin op a b) (.bin op.text y z) :=
  .call₂ ha hb fun f ea eb => by rcases hd with h | h | h <;> simp [sameE, ea, eb, h]

theorem Same.pow (ha : Same n a y) (hb : Same m b z) :
    Same (max n m + 1) (.pow a b) (.call2 (.name [sStd, [':', ':'], sPow]) y z) :=
  .call₂ ha hb fun f ea eb => by simp [sameE, ea, eb]

theorem Same.cmp {op : COp} (ha : Same n a y) (hb : Same m b z) :
    Same (max n m + 1) (.cmp op a b) (.bin op.text y z) :=
  .call₂ ha hb fun f ea eb => by simp [sameE, ea, eb]

end frames

/-- Where `visit_BinOp` writes no cast although the operation is a floating one (a division, or the
type recorded for it is `double`), one operand is a `double` already. -/
theorem double_operand {op : BOp} {a b : OExpr} (hc : ¬ needsCast op a b = true)
    (hd : op = .div ∨ (OExpr.bin op a b).ty = .double) : a.ty = .double ∨ b.ty = .double := by
  by_cases hdiv : op = .div
  · exact Decidable.or_iff_not_imp_left.mpr (by simpa [needsCast, hdiv] using hc)
  · have ht := hd.resolve_left hdiv
    simp only [OExpr.ty, hdiv, if_false] at ht
    by_cases h1 : a.ty = .double ∨ b.ty = .double
    · exact h1
    · simp [h1] at ht

theorem ty_double_cIsDouble (e : OExpr) : e.WF → e.ty = .double → cIsDouble (treeE e) = true := by
  induction e with
  | leaf v arrow m => intro _ _; rfl
  | const c =>
    intro h ht
    cases c with
    | str s => simp [OExpr.ty, litTy] at ht
    | int n => simp [OExpr.ty, litTy] at ht
    | bool b => simp [OExpr.ty, litTy] at ht
    | other t => exact absurd h (by simp [OExpr.WF, ConstWF])
    | float r bits =>
      cases r with
      | finite neg ip fp ex =>
        have hl := cppFloatLit_render ip fp ex h.2
        cases neg <;>
        · show (cppFloatLit (renderFloat false ip fp ex)).isSome = true
          rw [hl]; rfl
      | inf b => exact absurd h.1 (by simp)
      | nan => exact absurd h.1 (by simp)
  | un op e ih => intro h ht; exact ih h ht
  | bin op a b iha ihb =>
    intro h ht
    have hp : (binPrec op.text).any (fun p => decide (3 ≤ p)) = true := by cases op <;> decide
    simp only [treeE, cIsDouble, hp, Bool.true_and, Bool.or_eq_true]
    by_cases hc : needsCast op a b = true
    · left; simp [hc, cIsDouble]
    · rw [if_neg hc]
      exact (double_operand hc (Or.inr ht)).imp (iha h.1) (ihb h.2)
  | pow a b _ _ => intro _ _; rfl
  | cmp op a b _ _ => intro _ ht; simp [OExpr.ty] at ht

def OExpr.consts : OExpr → List PyConst
  | .leaf .. => []
  | .const c => [c]
  | .un _ e => e.consts
  | .bin _ a b => a.consts ++ b.consts
  | .pow a b => a.consts ++ b.consts
  | .cmp _ a b => a.consts ++ b.consts

/-- Two calls per level of nesting: a `bin` whose left operand was cast. -/
theorem same_tree (e : OExpr) : e.WF → (∀ c ∈ e.consts, ConstGood c) → Same (2 * e.depth) e (treeE e) := by
  induction e with
  | leaf v arrow m => intro _ _; exact (same_leaf v m arrow).mono (by simp only [OExpr.depth]; omega)
  | const c =>
    intro h hg
    exact (same_const (rendered_const c h).not_cast (constMatches_tree c h (hg c (by simp [OExpr.consts])))).mono
      (by simp only [OExpr.depth]; omega)
  | un op e ih =>
    intro h hg
    cases op
    · exact (ih h hg).neg.mono (by simp only [OExpr.depth]; omega)
    · exact (ih h hg).pos.mono (by simp only [OExpr.depth]; omega)
  | bin op a b iha ihb =>
    intro h hg
    obtain ⟨hga, hgb⟩ := List.forall_mem_append.mp hg
    rw [treeE]
    by_cases hc : needsCast op a b = true
    · -- the cast is transparent for `sameE` and makes the division a floating one
      rw [if_pos hc]
      exact ((iha h.1 hga).cast.bin (ihb h.2 hgb) (Or.inr (Or.inl rfl))).mono (by simp only [OExpr.depth]; omega)
    · rw [if_neg hc]
      refine ((iha h.1 hga).bin (ihb h.2 hgb) ?_).mono (by simp only [OExpr.depth]; omega)
      -- no cast at a division: one operand is a `double` already
      by_cases hd : op = .div
      · exact Or.inr ((double_operand hc (Or.inl hd)).imp (ty_double_cIsDouble a h.1) (ty_double_cIsDouble b h.2))
      · exact Or.inl hd
  | pow a b iha ihb =>
    intro h hg
    obtain ⟨hga, hgb⟩ := List.forall_mem_append.mp hg
    exact ((iha h.1 hga).pow (ihb h.2 hgb)).mono (by simp only [OExpr.depth]; omega)
  | cmp op a b iha ihb =>
    intro h hg
    obtain ⟨hga, hgb⟩ := List.forall_mem_append.mp hg
    exact ((iha h.1 hga).cmp (ihb h.2 hgb)).mono (by simp only [OExpr.depth]; omega)

end FaxVerif.C18
