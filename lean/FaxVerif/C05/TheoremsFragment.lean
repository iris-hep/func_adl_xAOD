/-
C05 — rows for an event depend on that event only: the translator MODEL, for all queries of the
fragment F0-lite, by proof about the compiler (not per program).

`C05/Theorems.lean` derives the job-level statements for any package accepted by the verified
checker `EventLocal` (evaluated on the implementation's own output, one theorem instance per
program). Here the same statements are proved ONCE for every package `Gen.compile` can emit:
every fragment query (event-level rows with scalar / vector / `First()` columns; element-level
rows), every backend satisfying `Gen.BackendBase` (ATLAS, CMS AOD, CMS miniAOD — proved instances
in `C01`), every number model, every list of events — and tied to what the QUERY means:
the job writes, event after event, exactly the rows the query denotes on that event.

Full statement of the property for the fragment (not proved at this strength):
    ∀ fq evs, runJob (compile fq) evs = denoteJob fq evs          (faults included)
What is proved is the success direction: every event of the job is one on which the query is
defined (`denoteJob = ok`, i.e. `denoteRows = ok` on each event), with the per-event side
conditions `FragHyp` (Gen/EventRowsCorrect.lean: those that `C01.eventRows_correct_partial` /
`C01.elemRows_correct_partial` spell out)
(static well-typedness, accessors return the declared kinds, banks hold collections, a floating
`Sum` ranges over ≥ 1 element). A job containing an event on which the query faults is covered by
`C05.job_is_per_event` (checker route) and, for an empty `First()`, by `C04.event_first_empty_loud`.
-/
import FaxVerif.Gen.EventRowsCorrect
import FaxVerif.C01.Instances
namespace FaxVerif.C05
open FaxVerif.Cpp FaxVerif.Linq FaxVerif.Gen
variable {D : Type}

/-- **C05.fragment_event_post_partial** — ONE call of the per-event method, for every fragment
query: from a class state satisfying `FragPre` (vector columns empty, column variables declared)
on an event where the query denotes `rows`, the emitted package writes exactly `rows` and leaves a
class state satisfying `FragPre` again — the `clear()`s the translator emits after the `Fill`
re-establish what the next event needs; no accumulator, flag or vector content survives.
(Partial: success direction.) -/
theorem fragment_event_post_partial (B : Backend) (hB : BackendBase B) (nm cn : Nat → String)
    (hinj : ∀ i j, nm i = nm j → i = j) (hcinj : ∀ i j, cn i = cn j → i = j)
    (hres : ∀ j, nm j ≠ "result") (hcres : ∀ k, cn k ≠ "result") (hdisj : ∀ j k, nm j ≠ cn k)
    (QC : QCtx D) (hcollT : ∀ name, B.collType name = QC.collType name)
    (fq : FQ) (hhyp : FragHyp QC fq) (σc : Env D) (hσ : FragPre cn fq σc)
    (rows : List (List (Val D))) (hden : denoteRows QC fq.toQuery = .ok rows) :
    ∃ σ', runEvent (compile B nm cn fq) QC.N σc QC.ev = .ok (rows, σ') ∧ FragPre cn fq σ' :=
  fragEvent_correct_post B hB nm cn ⟨hinj, hcinj, hres, hcres, hdisj⟩ QC hcollT fq hhyp σc hσ rows hden

/-- **C05.fragment_init_pre** — the class state a job starts from (`classInit` of the emitted
class variables: vector members empty, scalar members declared, miniAOD token members first)
satisfies the precondition `FragPre`. No hypothesis on the query or the backend. -/
theorem fragment_init_pre (B : Backend) (nm cn : Nat → String)
    (hcinj : ∀ i j, cn i = cn j → i = j) (hdisj : ∀ j k, nm j ≠ cn k) (fq : FQ) :
    FragPre cn fq (classInit (compile B nm cn fq).classVars : Env D) :=
  fragPre_classInit B nm cn hcinj hdisj fq

/-- **C05.fragment_job_correct_partial** — a JOB: for every fragment query, every backend
satisfying `BackendBase`, every number model and EVERY list of events, if the query is defined on
each event, the emitted package run as one job (class state threaded from event to event, starting
from the initial one) writes exactly `rows(ev₁) ++ rows(ev₂) ++ …`, the rows the query denotes on
each event, in order. Nothing written for one event depends on another event of the job.
(Partial: success direction — every event of the job is one on which the query is defined.) -/
theorem fragment_job_correct_partial (B : Backend) (hB : BackendBase B) (nm cn : Nat → String)
    (hinj : ∀ i j, nm i = nm j → i = j) (hcinj : ∀ i j, cn i = cn j → i = j)
    (hres : ∀ j, nm j ≠ "result") (hcres : ∀ k, cn k ≠ "result") (hdisj : ∀ j k, nm j ≠ cn k)
    (QC : QCtx D) (hcollT : ∀ name, B.collType name = QC.collType name)
    (fq : FQ) (evs : List (Event D)) (hhyp : ∀ ev ∈ evs, FragHyp (QC.withEvent ev) fq)
    (rows : List (List (Val D))) (hden : denoteJob QC fq.toQuery evs = .ok rows) :
    runJob (compile B nm cn fq) QC.N evs = .ok rows :=
  (fragJobOK B hB nm cn ⟨hinj, hcinj, hres, hcres, hdisj⟩ QC hcollT fq).job hhyp hden

/-- the same with the per-event row blocks explicit: if `rsᵢ` is what the query denotes on `evᵢ`
then `runJob = ok (rs₁ ++ rs₂ ++ …)`. -/
theorem fragment_job_blocks_partial (B : Backend) (hB : BackendBase B) (nm cn : Nat → String)
    (hinj : ∀ i j, nm i = nm j → i = j) (hcinj : ∀ i j, cn i = cn j → i = j)
    (hres : ∀ j, nm j ≠ "result") (hcres : ∀ k, cn k ≠ "result") (hdisj : ∀ j k, nm j ≠ cn k)
    (QC : QCtx D) (hcollT : ∀ name, B.collType name = QC.collType name)
    (fq : FQ) (evs : List (Event D)) (hhyp : ∀ ev ∈ evs, FragHyp (QC.withEvent ev) fq)
    (rs : List (List (List (Val D)))) (hden : DenoteBlocks QC fq.toQuery evs rs) :
    runJob (compile B nm cn fq) QC.N evs = .ok rs.flatten :=
  (fragJobOK B hB nm cn ⟨hinj, hcinj, hres, hcres, hdisj⟩ QC hcollT fq).blocks hhyp hden

/-- **C05.fragment_job_split** — splitting the input across jobs changes nothing: a job over
`xs ++ ys` writes what a job over `xs` followed by a separate job over `ys` (fresh class state)
write. (Success case: the query is defined on every event of `xs` and `ys`.) -/
theorem fragment_job_split (B : Backend) (hB : BackendBase B) (nm cn : Nat → String)
    (hinj : ∀ i j, nm i = nm j → i = j) (hcinj : ∀ i j, cn i = cn j → i = j)
    (hres : ∀ j, nm j ≠ "result") (hcres : ∀ k, cn k ≠ "result") (hdisj : ∀ j k, nm j ≠ cn k)
    (QC : QCtx D) (hcollT : ∀ name, B.collType name = QC.collType name)
    (fq : FQ) (xs ys : List (Event D)) (hhyp : ∀ ev ∈ xs ++ ys, FragHyp (QC.withEvent ev) fq)
    (r₁ r₂ : List (List (Val D)))
    (h₁ : denoteJob QC fq.toQuery xs = .ok r₁) (h₂ : denoteJob QC fq.toQuery ys = .ok r₂) :
    runJob (compile B nm cn fq) QC.N xs = .ok r₁ ∧ runJob (compile B nm cn fq) QC.N ys = .ok r₂ ∧
    runJob (compile B nm cn fq) QC.N (xs ++ ys) = .ok (r₁ ++ r₂) :=
  (fragJobOK B hB nm cn ⟨hinj, hcinj, hres, hcres, hdisj⟩ QC hcollT fq).split hhyp h₁ h₂

/-- **C05.fragment_prefix_independent** — in a job `pre ++ ev :: post` the rows written for `ev`
are exactly those of running `ev` alone from the initial class state — which are the rows the
query denotes on `ev` — whatever events preceded it (events that wrote no row included); the job's
output is `rows(pre) ++ rows(ev) ++ rows(post)`. (Success case.) -/
theorem fragment_prefix_independent (B : Backend) (hB : BackendBase B) (nm cn : Nat → String)
    (hinj : ∀ i j, nm i = nm j → i = j) (hcinj : ∀ i j, cn i = cn j → i = j)
    (hres : ∀ j, nm j ≠ "result") (hcres : ∀ k, cn k ≠ "result") (hdisj : ∀ j k, nm j ≠ cn k)
    (QC : QCtx D) (hcollT : ∀ name, B.collType name = QC.collType name)
    (fq : FQ) (pre : List (Event D)) (ev : Event D) (post : List (Event D))
    (hhyp : ∀ e ∈ pre ++ ev :: post, FragHyp (QC.withEvent e) fq)
    (r : List (List (Val D))) (hden : denoteJob QC fq.toQuery (pre ++ ev :: post) = .ok r) :
    ∃ rp re rq σ',
      runJob (compile B nm cn fq) QC.N pre = .ok rp ∧
      runEvent (compile B nm cn fq) QC.N (classInit (compile B nm cn fq).classVars) ev = .ok (re, σ') ∧
      denoteRows (QC.withEvent ev) fq.toQuery = .ok re ∧
      runJob (compile B nm cn fq) QC.N post = .ok rq ∧
      runJob (compile B nm cn fq) QC.N (pre ++ ev :: post) = .ok (rp ++ re ++ rq) :=
  (fragJobOK B hB nm cn ⟨hinj, hcinj, hres, hcres, hdisj⟩ QC hcollT fq).prefix_independent hhyp hden

/-- **C05.fragment_perm** — processing the events in any order: the permuted job completes too,
writes for each event the same block of rows, and the two outputs are permutations of each other
(`List.Perm` on the rows). (Success case: the query is defined on every event.) -/
theorem fragment_perm (B : Backend) (hB : BackendBase B) (nm cn : Nat → String)
    (hinj : ∀ i j, nm i = nm j → i = j) (hcinj : ∀ i j, cn i = cn j → i = j)
    (hres : ∀ j, nm j ≠ "result") (hcres : ∀ k, cn k ≠ "result") (hdisj : ∀ j k, nm j ≠ cn k)
    (QC : QCtx D) (hcollT : ∀ name, B.collType name = QC.collType name)
    (fq : FQ) (evs evs' : List (Event D)) (hp : evs.Perm evs')
    (hhyp : ∀ ev ∈ evs, FragHyp (QC.withEvent ev) fq)
    (r : List (List (Val D))) (hden : denoteJob QC fq.toQuery evs = .ok r) :
    ∃ r', runJob (compile B nm cn fq) QC.N evs = .ok r ∧ runJob (compile B nm cn fq) QC.N evs' = .ok r' ∧
      denoteJob QC fq.toQuery evs' = .ok r' ∧ r.Perm r' :=
  (fragJobOK B hB nm cn ⟨hinj, hcinj, hres, hcres, hdisj⟩ QC hcollT fq).perm hp hhyp hden

def fragNum : Num Int :=
  { ofInt := id, ofDec := fun m _ => m, add := (· + ·), sub := (· - ·), mul := (· * ·), div := Int.tdiv, neg := (- ·),
    lt := fun a b => decide (a < b), le := fun a b => decide (a ≤ b), eq := fun a b => decide (a = b), toInt := id,
    fn := fun _ _ => none }

def fragQC : QCtx Int := { N := fragNum, ev := ⟨[]⟩, collTypes := [("As", "std::vector<pat::Aa>")] }

def fragEv1 : Event Int := ⟨[("ba", "std::vector<pat::Aa>", .vec [.obj "A" [("i", .int 3)], .obj "A" [("i", .int 5)]])]⟩
def fragEv2 : Event Int := ⟨[("ba", "std::vector<pat::Aa>", .vec [])]⟩

/-- `ds.Select(e -> {n: e.As("ba").Count(), is: e.As("ba").Select(a -> a.i())})` -/
def fragFq : FQ := .eventRows [("n", .scalar (.count ⟨"As", "ba", []⟩)), ("is", .seq ⟨"As", "ba", [.sel (.meth "i" .int)]⟩)]

/-- `ds.SelectMany(e -> e.As("ba").Where(a -> a.i() > 3)).Select(a -> {i: a.i()})` -/
def fragFqE : FQ := .elemRows ⟨"As", "ba", [.whr (.cmp .gt (.meth "i" .int) (.int 3))]⟩ [("i", .meth "i" .int)]

theorem fragDen : denoteJob fragQC fragFq.toQuery [fragEv1, fragEv2, fragEv1] =
    .ok [[.int 2, .vec [.int 3, .int 5]], [.int 0, .vec []], [.int 2, .vec [.int 3, .int 5]]] := rfl

theorem fragDenE : denoteJob fragQC fragFqE.toQuery [fragEv1, fragEv2, fragEv1] = .ok [[.int 5], [.int 5]] := rfl

theorem fragCollT : ∀ name, C01.cmsMiniAodB.collType name = fragQC.collType name :=
  fun name => (collType_single rfl name).symm

theorem fragMethTyped (ev : Event Int) (hev : ev = fragEv1 ∨ ev = fragEv2) (cty : String) (l : List (Val Int))
    (hf : (fragQC.withEvent ev).ev.find "ba" = some (cty, .vec l)) : ∀ v ∈ l, MethTyped v [("i", .int)] := by
  intro v hv
  rcases hev with rfl | rfl
  · simp [QCtx.withEvent, fragEv1, Event.find, Event.find.go] at hf
    obtain ⟨_, rfl⟩ := hf
    intro p hp w hw
    simp only [List.mem_singleton] at hp; subst hp
    simp at hv
    rcases hv with rfl | rfl <;> simp [member, lookupAttr] at hw <;> subst hw <;> simp [HasTy]
  · simp [QCtx.withEvent, fragEv2, Event.find, Event.find.go] at hf
    obtain ⟨_, rfl⟩ := hf
    simp at hv

theorem fragBankIsVec (ev : Event Int) (hev : ev = fragEv1 ∨ ev = fragEv2) (steps : List Step) :
    BankIsVec (fragQC.withEvent ev) ⟨"As", "ba", steps⟩ := by
  intro cty content hf
  rcases hev with rfl | rfl
  · simp [QCtx.withEvent, fragEv1, Event.find, Event.find.go] at hf
    exact ⟨_, hf.2.symm⟩
  · simp [QCtx.withEvent, fragEv2, Event.find, Event.find.go] at hf
    exact ⟨_, hf.2.symm⟩

theorem fragHyp : ∀ ev ∈ [fragEv1, fragEv2, fragEv1], FragHyp (fragQC.withEvent ev) fragFq := by
  intro ev hm
  have hev : ev = fragEv1 ∨ ev = fragEv2 := by simpa [or_comm] using hm
  intro p hp
  simp only [List.mem_cons, List.not_mem_nil, or_false] at hp
  rcases hp with rfl | rfl
  · refine ⟨by decide, ?_, ?_⟩
    · intro c hc
      simp only [chainsEE, List.mem_singleton] at hc; subst hc
      intro cty l _ v _ p hp
      simp [methsSteps] at hp
    · intro c hc; simp [sumChainsEE] at hc
  · refine ⟨by decide, ?_, fragBankIsVec ev hev _⟩
    intro cty l hf
    exact fragMethTyped ev hev cty l hf

theorem fragHypE : ∀ ev ∈ [fragEv1, fragEv2, fragEv1], FragHyp (fragQC.withEvent ev) fragFqE := by
  intro ev hm
  have hev : ev = fragEv1 ∨ ev = fragEv2 := by simpa [or_comm] using hm
  refine ⟨by decide, by decide, ?_⟩
  intro cty l hf v hv
  have := fragMethTyped ev hev cty l hf v hv
  refine ⟨?_, ?_⟩
  · simpa [methsSteps, methsPE] using this
  · intro p hp
    simp only [List.mem_singleton] at hp; subst hp
    simpa [methsPE] using this

example : runJob (compile C01.cmsMiniAodB C01.exNm C01.exCn fragFq) fragNum [fragEv1, fragEv2, fragEv1] =
    .ok [[.int 2, .vec [.int 3, .int 5]], [.int 0, .vec []], [.int 2, .vec [.int 3, .int 5]]] :=
  fragment_job_correct_partial C01.cmsMiniAodB C01.backendOK_cmsMiniAod C01.exNm C01.exCn C01.exNm_inj C01.exCn_inj
    C01.exNm_ne_result C01.exCn_ne_result C01.exNm_ne_exCn fragQC fragCollT fragFq _ fragHyp _ fragDen

/-- element-level rows on miniAOD: the event with an empty collection writes no row -/
example : runJob (compile C01.cmsMiniAodB C01.exNm C01.exCn fragFqE) fragNum [fragEv1, fragEv2, fragEv1] =
    .ok [[.int 5], [.int 5]] :=
  fragment_job_correct_partial C01.cmsMiniAodB C01.backendOK_cmsMiniAod C01.exNm C01.exCn C01.exNm_inj C01.exCn_inj
    C01.exNm_ne_result C01.exCn_ne_result C01.exNm_ne_exCn fragQC fragCollT fragFqE _ fragHypE _ fragDenE

example : ∃ r', runJob (compile C01.cmsMiniAodB C01.exNm C01.exCn fragFq) fragNum [fragEv1, fragEv1, fragEv2] = .ok r' ∧
    List.Perm [[Val.int 2, .vec [.int 3, .int 5]], [.int 0, .vec []], [.int 2, .vec [.int 3, .int 5]]] r' := by
  obtain ⟨r', _, h2, _, h4⟩ := fragment_perm C01.cmsMiniAodB C01.backendOK_cmsMiniAod C01.exNm C01.exCn C01.exNm_inj C01.exCn_inj
    C01.exNm_ne_result C01.exCn_ne_result C01.exNm_ne_exCn fragQC fragCollT fragFq [fragEv1, fragEv2, fragEv1]
    [fragEv1, fragEv1, fragEv2] ((List.Perm.swap fragEv1 fragEv2 []).cons fragEv1) fragHyp _ fragDen
  exact ⟨r', h2, h4⟩

example : BackendBase C01.atlasB ∧ BackendBase C01.cmsAodB ∧ BackendBase C01.cmsMiniAodB :=
  ⟨C01.backendBase_atlas, C01.backendBase_cmsAod, C01.backendOK_cmsMiniAod⟩

end FaxVerif.C05
