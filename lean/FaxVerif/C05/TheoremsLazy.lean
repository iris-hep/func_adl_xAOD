/-
C05 — rows for an event depend on that event only: the LAZY fragment of the translator model (`Gen/Lazy.lean`,
`Gen.compileL`): element-level rows `ds.SelectMany(e → coll.{Select(pure) | Where(lazy)}*).Select(x → {name: lazy, …})`
whose filters and columns use Python's lazy operators (`a and b and …`, `a or b or …`, `x if c else y`).

The translator lowers these operators to STATEMENTS with result variables (`bool bool_opN;`, `double
if_else_resultN;`) that are assigned on some paths only (a later operand's statements sit inside the guard of the
earlier ones; each arm of a conditional assigns in its own branch). A result variable left over from the previous
element — or the previous event — holding the previous decision is exactly the kind of carried state the property
forbids.

Full statement of the property (not proved at this strength for this fragment): for EVERY event list, including
events on which the query faults, one job = the events run one at a time. Partial = success direction (the query
is defined on every event of the job), side conditions `LFragHyp` (static well-typedness `wtStepsL` / `wtLE`,
accessors returning the declared kinds). The checker route (`C05.job_is_per_event` for every package accepted by
`EventLocal`) covers faulting events program by program: `EventLocal` is evaluated on the implementation's output
for every generated query, lazy operators included.
-/
import FaxVerif.Gen.LazyElemRowsCorrect
import FaxVerif.C05.TheoremsFragment
namespace FaxVerif.C05
open FaxVerif.Cpp FaxVerif.Linq FaxVerif.Gen
variable {D : Type}

/-- **C05.lazy_result_restarts** — the value a lazy expression computes for an element does not depend on what
the result variables `bool_opN` / `if_else_resultN` held before: let `σ₁`, `σ₂` be ANY two environments in which
the current-value expression evaluates to the same element `v` — e.g. `σ₁` pristine and `σ₂` the one left by the
block's run for the previous element (or the previous event), result variables holding THAT element's decisions.
Running the emitted block (declarations, then the lowered statements) from either terminates, writes no row,
and the value expression evaluates to the SAME value in both: what the query expression denotes for `v` alone. -/
theorem lazy_result_restarts (C : Ctx D) (QC : QCtx D) (hN : QC.N = C.N) (nm : Nat → String)
    (hinj : ∀ i j, nm i = nm j → i = j) (ptr : Bool) (cur : CExpr) (curTy : Option Ty) (v : Val D)
    (x : String) (ρ : LEnv D) (hty : ∀ t, curTy = some t → HasTy v t)
    (le : LE) (k : Nat) (hwt : wtLE curTy le = true) (hmt : MethTyped v (methsLE le))
    (hfr : ∀ y ∈ vars cur, ∀ j, k ≤ j → y ≠ nm j)
    (σ₁ σ₂ : Env D) (rows₁ rows₂ : List (List (Val D)))
    (hcur₁ : evalE C.N σ₁ cur = .ok v) (hcur₂ : evalE C.N σ₂ cur = .ok v)
    (w : Val D) (hden : denote QC ((x, v) :: ρ) (leQ x le) = .ok w) :
    ∃ σ₁' σ₂',
      execs C ((compLE nm ptr cur (curT curTy) le k).decls ++ (compLE nm ptr cur (curT curTy) le k).stmts) ⟨σ₁, rows₁⟩ =
        .ok ⟨σ₁', rows₁⟩ ∧
      execs C ((compLE nm ptr cur (curT curTy) le k).decls ++ (compLE nm ptr cur (curT curTy) le k).stmts) ⟨σ₂, rows₂⟩ =
        .ok ⟨σ₂', rows₂⟩ ∧
      evalE C.N σ₁' (compLE nm ptr cur (curT curTy) le k).val = .ok w ∧
      evalE C.N σ₂' (compLE nm ptr cur (curT curTy) le k).val = .ok w := by
  obtain ⟨σ₁', h1, hv1, _⟩ := le_block_correct C QC hN nm hinj ptr cur curTy v x ρ hty le k hwt hmt hfr σ₁ rows₁ hcur₁ w hden
  obtain ⟨σ₂', h2, hv2, _⟩ := le_block_correct C QC hN nm hinj ptr cur curTy v x ρ hty le k hwt hmt hfr σ₂ rows₂ hcur₂ w hden
  exact ⟨σ₁', σ₂', h1, h2, hv1, hv2⟩

/-- **C05.lazy_event_post_partial** — one call of the per-event method, for every query of the lazy fragment:
from a class state satisfying `LFragPre` (the column variables are declared), on an event where the query
denotes `rows`, the emitted package writes exactly `rows` and leaves a class state satisfying `LFragPre` again —
nothing an event computes is needed by, or disturbs, the next one. -/
theorem lazy_event_post_partial (B : Backend) (hB : BackendBase B) (nm cn : Nat → String)
    (hinj : ∀ i j, nm i = nm j → i = j) (hcinj : ∀ i j, cn i = cn j → i = j)
    (hres : ∀ j, nm j ≠ "result") (hcres : ∀ k, cn k ≠ "result") (hdisj : ∀ j k, nm j ≠ cn k)
    (QC : QCtx D) (hcollT : ∀ name, B.collType name = QC.collType name)
    (fq : FQL) (hhyp : LFragHyp QC fq) (σc : Env D) (hσ : LFragPre cn fq σc)
    (rows : List (List (Val D))) (hden : denoteRows QC fq.toQuery = .ok rows) :
    ∃ σ', runEvent (compileL B nm cn fq) QC.N σc QC.ev = .ok (rows, σ') ∧ LFragPre cn fq σ' :=
  (lazyJobOK B hB nm cn ⟨hinj, hcinj, hres, hcres, hdisj⟩ QC hcollT fq).event QC.ev hhyp σc hσ rows hden

/-- **C05.lazy_init_pre** — the class state a job starts from satisfies the precondition. -/
theorem lazy_init_pre (B : Backend) (nm cn : Nat → String) (fq : FQL) :
    LFragPre cn fq (classInit (compileL B nm cn fq).classVars : Env D) :=
  lfragPre_classInit B nm cn fq

/-- **C05.lazy_event_history_free_partial** — the rows an event writes do not depend on the class state the
per-event method is entered with: from ANY two class states with the column variables declared (the initial
one; the one left by any number of earlier events; one holding arbitrary values) the event writes the same rows —
those the query denotes on it. (Partial: the query is defined on the event.) -/
theorem lazy_event_history_free_partial (B : Backend) (hB : BackendBase B) (nm cn : Nat → String)
    (hinj : ∀ i j, nm i = nm j → i = j) (hcinj : ∀ i j, cn i = cn j → i = j)
    (hres : ∀ j, nm j ≠ "result") (hcres : ∀ k, cn k ≠ "result") (hdisj : ∀ j k, nm j ≠ cn k)
    (QC : QCtx D) (hcollT : ∀ name, B.collType name = QC.collType name)
    (fq : FQL) (hhyp : LFragHyp QC fq) (σ₁ σ₂ : Env D) (h₁ : LFragPre cn fq σ₁) (h₂ : LFragPre cn fq σ₂)
    (rows : List (List (Val D))) (hden : denoteRows QC fq.toQuery = .ok rows) :
    ∃ σ₁' σ₂', runEvent (compileL B nm cn fq) QC.N σ₁ QC.ev = .ok (rows, σ₁') ∧
      runEvent (compileL B nm cn fq) QC.N σ₂ QC.ev = .ok (rows, σ₂') :=
  (lazyJobOK B hB nm cn ⟨hinj, hcinj, hres, hcres, hdisj⟩ QC hcollT fq).event.history_free (ev := QC.ev) hhyp h₁ h₂ hden

/-- **C05.lazy_job_correct_partial** — for every query of the lazy fragment, every backend satisfying
`BackendBase`, every number model and EVERY list of events on each of which the query is defined: the emitted
package, run as ONE job from the initial class state, writes exactly the rows the query denotes on the first
event, then those of the second, … — the output is a function of the individual events only. -/
theorem lazy_job_correct_partial (B : Backend) (hB : BackendBase B) (nm cn : Nat → String)
    (hinj : ∀ i j, nm i = nm j → i = j) (hcinj : ∀ i j, cn i = cn j → i = j)
    (hres : ∀ j, nm j ≠ "result") (hcres : ∀ k, cn k ≠ "result") (hdisj : ∀ j k, nm j ≠ cn k)
    (QC : QCtx D) (hcollT : ∀ name, B.collType name = QC.collType name)
    (fq : FQL) (evs : List (Event D)) (hhyp : ∀ ev ∈ evs, LFragHyp (QC.withEvent ev) fq)
    (rows : List (List (Val D))) (hden : denoteJob QC fq.toQuery evs = .ok rows) :
    runJob (compileL B nm cn fq) QC.N evs = .ok rows :=
  (lazyJobOK B hB nm cn ⟨hinj, hcinj, hres, hcres, hdisj⟩ QC hcollT fq).job hhyp hden

/-- **C05.lazy_job_blocks_partial** — block form: if the query denotes the row blocks `rs` event by event, the job
writes their concatenation (event k contributes exactly its own block, in position k). -/
theorem lazy_job_blocks_partial (B : Backend) (hB : BackendBase B) (nm cn : Nat → String)
    (hinj : ∀ i j, nm i = nm j → i = j) (hcinj : ∀ i j, cn i = cn j → i = j)
    (hres : ∀ j, nm j ≠ "result") (hcres : ∀ k, cn k ≠ "result") (hdisj : ∀ j k, nm j ≠ cn k)
    (QC : QCtx D) (hcollT : ∀ name, B.collType name = QC.collType name)
    (fq : FQL) (evs : List (Event D)) (hhyp : ∀ ev ∈ evs, LFragHyp (QC.withEvent ev) fq)
    (rs : List (List (List (Val D)))) (hblk : DenoteBlocks QC fq.toQuery evs rs) :
    runJob (compileL B nm cn fq) QC.N evs = .ok rs.flatten :=
  (lazyJobOK B hB nm cn ⟨hinj, hcinj, hres, hcres, hdisj⟩ QC hcollT fq).blocks hhyp hblk

/-- **C05.lazy_job_split** — one job over `xs ++ ys` writes what a job over `xs` followed by a SEPARATE job over
`ys` (fresh class state) write. -/
theorem lazy_job_split (B : Backend) (hB : BackendBase B) (nm cn : Nat → String)
    (hinj : ∀ i j, nm i = nm j → i = j) (hcinj : ∀ i j, cn i = cn j → i = j)
    (hres : ∀ j, nm j ≠ "result") (hcres : ∀ k, cn k ≠ "result") (hdisj : ∀ j k, nm j ≠ cn k)
    (QC : QCtx D) (hcollT : ∀ name, B.collType name = QC.collType name)
    (fq : FQL) (xs ys : List (Event D)) (hhyp : ∀ ev ∈ xs ++ ys, LFragHyp (QC.withEvent ev) fq)
    (r₁ r₂ : List (List (Val D)))
    (h₁ : denoteJob QC fq.toQuery xs = .ok r₁) (h₂ : denoteJob QC fq.toQuery ys = .ok r₂) :
    runJob (compileL B nm cn fq) QC.N xs = .ok r₁ ∧ runJob (compileL B nm cn fq) QC.N ys = .ok r₂ ∧
    runJob (compileL B nm cn fq) QC.N (xs ++ ys) = .ok (r₁ ++ r₂) :=
  (lazyJobOK B hB nm cn ⟨hinj, hcinj, hres, hcres, hdisj⟩ QC hcollT fq).split hhyp h₁ h₂

/-- **C05.lazy_prefix_independent** — in a job `pre ++ ev :: post` the rows written for `ev` are exactly those of
running `ev` ALONE from the initial class state (= what the query denotes on `ev`), whatever events preceded it. -/
theorem lazy_prefix_independent (B : Backend) (hB : BackendBase B) (nm cn : Nat → String)
    (hinj : ∀ i j, nm i = nm j → i = j) (hcinj : ∀ i j, cn i = cn j → i = j)
    (hres : ∀ j, nm j ≠ "result") (hcres : ∀ k, cn k ≠ "result") (hdisj : ∀ j k, nm j ≠ cn k)
    (QC : QCtx D) (hcollT : ∀ name, B.collType name = QC.collType name)
    (fq : FQL) (pre : List (Event D)) (ev : Event D) (post : List (Event D))
    (hhyp : ∀ e ∈ pre ++ ev :: post, LFragHyp (QC.withEvent e) fq)
    (r : List (List (Val D))) (hden : denoteJob QC fq.toQuery (pre ++ ev :: post) = .ok r) :
    ∃ rp re rq σ',
      runJob (compileL B nm cn fq) QC.N pre = .ok rp ∧
      runEvent (compileL B nm cn fq) QC.N (classInit (compileL B nm cn fq).classVars) ev = .ok (re, σ') ∧
      denoteRows (QC.withEvent ev) fq.toQuery = .ok re ∧
      runJob (compileL B nm cn fq) QC.N post = .ok rq ∧
      runJob (compileL B nm cn fq) QC.N (pre ++ ev :: post) = .ok (rp ++ re ++ rq) :=
  (lazyJobOK B hB nm cn ⟨hinj, hcinj, hres, hcres, hdisj⟩ QC hcollT fq).prefix_independent hhyp hden

/-- **C05.lazy_perm** — processing the events in any other order gives the same per-event row blocks in that
order: the two outputs are permutations of each other (and the permuted job completes too). -/
theorem lazy_perm (B : Backend) (hB : BackendBase B) (nm cn : Nat → String)
    (hinj : ∀ i j, nm i = nm j → i = j) (hcinj : ∀ i j, cn i = cn j → i = j)
    (hres : ∀ j, nm j ≠ "result") (hcres : ∀ k, cn k ≠ "result") (hdisj : ∀ j k, nm j ≠ cn k)
    (QC : QCtx D) (hcollT : ∀ name, B.collType name = QC.collType name)
    (fq : FQL) (evs evs' : List (Event D)) (hp : evs.Perm evs')
    (hhyp : ∀ ev ∈ evs, LFragHyp (QC.withEvent ev) fq)
    (r : List (List (Val D))) (hden : denoteJob QC fq.toQuery evs = .ok r) :
    ∃ r', runJob (compileL B nm cn fq) QC.N evs = .ok r ∧ runJob (compileL B nm cn fq) QC.N evs' = .ok r' ∧
      denoteJob QC fq.toQuery evs' = .ok r' ∧ r.Perm r' :=
  (lazyJobOK B hB nm cn ⟨hinj, hcinj, hres, hcres, hdisj⟩ QC hcollT fq).perm hp hhyp hden

/-! The second element of `lazyEv1` takes the OTHER path through every lowered operator than the first one: a result
variable surviving from the first element would show. -/

def lazyA (i d : Int) (b : Bool) : Val Int := .obj "A" [("i", .int i), ("d", .dbl d), ("b", .bool b)]
def lazyEv1 : Event Int := ⟨[("ba", "std::vector<pat::Aa>", .vec [lazyA 3 7 true, lazyA 5 9 false, lazyA 0 1 false])]⟩
def lazyEv2 : Event Int := ⟨[("ba", "std::vector<pat::Aa>", .vec [])]⟩
/-- `a.b() or a.i() > 4` -/
def lazyKeep : LE := .bop .or (.meth "b" .bool) [.cmp .gt (.meth "i" .int) (.int 4)]
/-- `a.i() > 2 and a.b()` -/
def lazyBoth : LE := .bop .and (.cmp .gt (.meth "i" .int) (.int 2)) [.meth "b" .bool]
/-- `ds.SelectMany(e → e.As("ba").Where(a → a.b() or a.i() > 4)).Select(a → {v: a.d() if (a.i() > 2 and a.b()) else 2.5, ok: a.i() > 2 and a.b()})` -/
def lazyFq : FQL := .elemRows ⟨"As", "ba", [.whr lazyKeep]⟩ [("v", .ite lazyBoth (.meth "d" .double) (.dbl 25 (-1))), ("ok", lazyBoth)]

theorem lazyDen1 : denoteRows (fragQC.withEvent lazyEv1) lazyFq.toQuery =
    .ok [[.dbl 7, .bool true], [.dbl 25, .bool false]] := rfl

theorem lazyDen : denoteJob fragQC lazyFq.toQuery [lazyEv1, lazyEv2, lazyEv1] =
    .ok [[.dbl 7, .bool true], [.dbl 25, .bool false], [.dbl 7, .bool true], [.dbl 25, .bool false]] :=
  denoteJob_blocks fragQC lazyFq.toQuery [lazyEv1, lazyEv2, lazyEv1] [_, [], _] ⟨lazyDen1, rfl, lazyDen1, trivial⟩

theorem lazyMethTyped (v : Val Int) (hv : v = lazyA 3 7 true ∨ v = lazyA 5 9 false ∨ v = lazyA 0 1 false)
    (ms : List (String × Ty)) (hms : ∀ p ∈ ms, p = ("i", .int) ∨ p = ("d", .double) ∨ p = ("b", .bool)) :
    MethTyped v ms := by
  intro p hp w hw
  rcases hms p hp with rfl | rfl | rfl <;> rcases hv with rfl | rfl | rfl <;>
    simp [lazyA, member, lookupAttr] at hw <;> subst hw <;> simp [HasTy]

theorem lazyHyp : ∀ ev ∈ [lazyEv1, lazyEv2, lazyEv1], LFragHyp (fragQC.withEvent ev) lazyFq := by
  intro ev hm
  have hev : ev = lazyEv1 ∨ ev = lazyEv2 := by simpa [or_comm] using hm
  refine ⟨by decide, by decide, ?_⟩
  intro cty l hf v hv
  rcases hev with rfl | rfl
  · simp [QCtx.withEvent, lazyEv1, Event.find, Event.find.go] at hf
    obtain ⟨_, rfl⟩ := hf
    have hv' : v = lazyA 3 7 true ∨ v = lazyA 5 9 false ∨ v = lazyA 0 1 false := by simpa using hv
    refine ⟨lazyMethTyped v hv' _ ?_, ?_⟩
    · intro p hp
      simp [methsStepsL, lazyKeep, methsLE, methsLEs] at hp
      rcases hp with rfl | rfl <;> simp
    · intro p hp
      apply lazyMethTyped v hv'
      intro q hq
      simp only [List.mem_cons, List.not_mem_nil, or_false] at hp
      rcases hp with rfl | rfl <;> simp [lazyBoth, methsLE, methsLEs] at hq <;>
        rcases hq with rfl | rfl | rfl <;> simp
  · simp [QCtx.withEvent, lazyEv2, Event.find, Event.find.go] at hf
    obtain ⟨_, rfl⟩ := hf
    simp at hv

/-- one job over three events on miniAOD: the second element of an event is decided on its own (the conditional
takes the else-arm, the `and` is false) although the first one left `bool_op…` true and `if_else_result…` = 7 -/
example : runJob (compileL C01.cmsMiniAodB C01.exNm C01.exCn lazyFq) fragNum [lazyEv1, lazyEv2, lazyEv1] =
    .ok [[.dbl 7, .bool true], [.dbl 25, .bool false], [.dbl 7, .bool true], [.dbl 25, .bool false]] :=
  lazy_job_correct_partial C01.cmsMiniAodB C01.backendOK_cmsMiniAod C01.exNm C01.exCn C01.exNm_inj C01.exCn_inj
    C01.exNm_ne_result C01.exCn_ne_result C01.exNm_ne_exCn fragQC fragCollT lazyFq _ lazyHyp _ lazyDen

example : ∃ r', runJob (compileL C01.cmsMiniAodB C01.exNm C01.exCn lazyFq) fragNum [lazyEv1, lazyEv1, lazyEv2] = .ok r' ∧
    List.Perm [[Val.dbl 7, .bool true], [.dbl 25, .bool false], [.dbl 7, .bool true], [.dbl 25, .bool false]] r' := by
  obtain ⟨r', _, h2, _, h4⟩ := lazy_perm C01.cmsMiniAodB C01.backendOK_cmsMiniAod C01.exNm C01.exCn C01.exNm_inj C01.exCn_inj
    C01.exNm_ne_result C01.exCn_ne_result C01.exNm_ne_exCn fragQC fragCollT lazyFq [lazyEv1, lazyEv2, lazyEv1]
    [lazyEv1, lazyEv1, lazyEv2] ((List.Perm.swap lazyEv1 lazyEv2 []).cons lazyEv1) lazyHyp _ lazyDen
  exact ⟨r', h2, h4⟩

/-- the event alone, from a class state in which the columns hold leftovers of some other event: same rows -/
example (σ : Env Int) (hσ : LFragPre C01.exCn lazyFq σ) :
    ∃ σ₁' σ₂', runEvent (compileL C01.cmsMiniAodB C01.exNm C01.exCn lazyFq) fragNum
        (classInit (compileL C01.cmsMiniAodB C01.exNm C01.exCn lazyFq).classVars) lazyEv1 =
          .ok ([[.dbl 7, .bool true], [.dbl 25, .bool false]], σ₁') ∧
      runEvent (compileL C01.cmsMiniAodB C01.exNm C01.exCn lazyFq) fragNum σ lazyEv1 =
          .ok ([[.dbl 7, .bool true], [.dbl 25, .bool false]], σ₂') :=
  lazy_event_history_free_partial C01.cmsMiniAodB C01.backendOK_cmsMiniAod C01.exNm C01.exCn C01.exNm_inj C01.exCn_inj
    C01.exNm_ne_result C01.exCn_ne_result C01.exNm_ne_exCn (fragQC.withEvent lazyEv1) fragCollT lazyFq
    (lazyHyp lazyEv1 (by simp)) _ σ (lazy_init_pre _ _ _ _) hσ _ lazyDen1

end FaxVerif.C05
