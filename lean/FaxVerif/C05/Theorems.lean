/-
C05 — rows for an event depend on that event only.

The theorems are about ANY package accepted by the verified static check `EventLocal`
(lean/FaxVerif/Cpp/Check.lean) — in particular about the implementation's own output, on which the
check is evaluated on every run — for every number model, every event list and every history.
-/
import FaxVerif.Cpp.EventLocal
namespace FaxVerif.C05
open FaxVerif.Cpp
variable {D : Type}

/-- **C05.job_is_per_event** — one job over a list of events writes exactly what the events
write when each is processed alone from the initial class state (a faulting event ends the job in
both readings). No accumulator, flag, vector column or cached value carries over. -/
theorem job_is_per_event (P : Package) (N : Num D) (hP : EventLocal P = true) (evs : List (Event D)) :
    runJob P N evs = perEvent P N evs :=
  runJobFrom_eq P N hP evs _ (wellFormed_init P ((eventLocal_iff P).1 hP).1)

/-- **C05.split** — processing `xs ++ ys` in one job writes what two jobs over `xs` and `ys` write. -/
theorem split (P : Package) (N : Num D) (hP : EventLocal P = true) (xs ys : List (Event D))
    (r₁ r₂ : List (List (Val D))) (h₁ : runJob P N xs = .ok r₁) (h₂ : runJob P N ys = .ok r₂) :
    runJob P N (xs ++ ys) = .ok (r₁ ++ r₂) := by
  rw [job_is_per_event P N hP] at h₁ h₂ ⊢
  rw [perEvent_append, h₁, h₂]

/-- **C05.prefix_independent** — the rows of an event are unchanged by the events that preceded
it in the job (including events that wrote no row). -/
theorem prefix_independent (P : Package) (N : Num D) (hP : EventLocal P = true)
    (pre : List (Event D)) (ev : Event D) (r : List (List (Val D)))
    (h : runJob P N (pre ++ [ev]) = .ok r) :
    ∃ rp re, runJob P N pre = .ok rp ∧ runJob P N [ev] = .ok re ∧ r = rp ++ re := by
  simp only [job_is_per_event P N hP] at h ⊢
  rw [perEvent_append] at h
  cases hp : perEvent P N pre with
  | error f => rw [hp] at h; cases h
  | ok rp =>
    cases he : perEvent P N [ev] with
    | error f => rw [hp, he] at h; cases h
    | ok re => rw [hp, he] at h; exact ⟨rp, re, rfl, rfl, (Except.ok.inj h).symm⟩

/-- **C05.perm** — processing the events in any order gives the same multiset of rows. -/
theorem perm (P : Package) (N : Num D) (hP : EventLocal P = true) (evs evs' : List (Event D))
    (hp : evs.Perm evs') (r r' : List (List (Val D)))
    (h : runJob P N evs = .ok r) (h' : runJob P N evs' = .ok r') : r.Perm r' := by
  rw [job_is_per_event P N hP] at h h'
  rw [((perEvent_ok_iff P N evs r).1 h).2, ((perEvent_ok_iff P N evs' r').1 h').2]
  exact (hp.filterMap _).flatten

/-- **C05.perm_total** — if a job over `evs` completes, the job over any permutation completes too. -/
theorem perm_total (P : Package) (N : Num D) (hP : EventLocal P = true) (evs evs' : List (Event D))
    (hp : evs.Perm evs') (r : List (List (Val D))) (h : runJob P N evs = .ok r) :
    ∃ r', runJob P N evs' = .ok r' := by
  rw [job_is_per_event P N hP] at h ⊢
  obtain ⟨a, _⟩ := (perEvent_ok_iff P N evs r).1 h
  exact ⟨_, (perEvent_ok_iff P N evs' _).2 ⟨fun ev hm => a ev (hp.symm.subset hm), rfl⟩⟩

/-- A fault is not caused by history: if the job over `pre ++ [ev]` ends in a fault while the job over `pre`
completes, then `ev` processed alone ends in the same fault. -/
theorem fault_is_the_events (P : Package) (N : Num D) (hP : EventLocal P = true) (pre : List (Event D)) (ev : Event D)
    (rp : List (List (Val D))) (f : Fault) (hp : runJob P N pre = .ok rp)
    (h : runJob P N (pre ++ [ev]) = .error f) : runJob P N [ev] = .error f := by
  rw [job_is_per_event P N hP] at hp h ⊢
  rw [perEvent_append, hp] at h
  cases he : perEvent P N [ev] with
  | error g => rw [he] at h; exact h
  | ok re => rw [he] at h; cases h

/-! a concrete accepted package: the shape emitted for `Select(e -> e.Jets("J").Select(j -> j.pt()))` -/

def exBody : Stmt :=
  .block [
    .decl "const xAOD::JetContainer*" "jets0" none,
    .block [
      .decl "const xAOD::JetContainer*" "result" (some (.int 0)),
      .retrieve "atlas" "xAOD::JetContainer" "result" (.str "J") "",
      .set "jets0" (.var "result")],
    .loop "i_obj1" (.deref (.var "jets0")) [
      .push "_col12" (.mem (.var "i_obj1") true "pt" [])],
    .fill "atlas_xaod_tree",
    .clear "_col12"]

def exPkg : Package :=
  { body := exBody, classVars := [("std::vector<double>", "_col12")], branches := [("col1", "_col12")],
    tree := "atlas_xaod_tree", tokens := [] }

example : EventLocal exPkg = true := by decide +kernel

/-- the same package without the `clear`: rejected by the check (and indeed not event-local) -/
def exPkgNoClear : Package :=
  { exPkg with body := .block ((match exBody with | .block b => b | _ => []).dropLast) }

example : EventLocal exPkgNoClear = false := eventLocal_false_of_emp (by decide +kernel)

end FaxVerif.C05
