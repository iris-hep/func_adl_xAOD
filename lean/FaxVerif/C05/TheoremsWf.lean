/-
C05 — rows for an event depend on that event only: for the translator MODEL, every package `Gen.compile`
can emit is accepted by the verified checker `EventLocal` — for ALL queries of the fragment F0-lite, by
proof about the generator, not per program — so the job-level theorems of `C05/Theorems.lean` hold for
the whole fragment, over every event list INCLUDING events on which the query faults.

This is the checker route made universal. It complements `C05/TheoremsFragment.lean`, whose job theorems
are proved through compiler correctness and therefore only in the success direction (every event of the job
is one on which the query is defined, under the typing side conditions `FragHyp`): here there is NO
hypothesis on the events at all — ill-typed events, missing banks, empty `First()`, integer division by
zero: whatever an event does alone (rows or a fault), it does the same inside any job after any history.
What this route does not say is WHAT the rows are (that is `fragment_job_correct_partial`).
Hypotheses as in `C02/TheoremsWf.lean`.
-/
import FaxVerif.Gen.WfCorrectTop
import FaxVerif.C05.Theorems
import FaxVerif.C02.TheoremsWf
namespace FaxVerif.C05
open FaxVerif.Cpp FaxVerif.Gen
variable {D : Type}

/-- **C05.compile_eventLocal** — for EVERY query of the fragment the emitted package is accepted by
`EventLocal`: it is `WellFormed` (so the per-event body reads nothing it has not written in the same event,
apart from vector columns, which it finds empty), the emptiness analysis `emp` accepts the body from "all
vector columns empty" (its loop-invariance checks succeed), and every vector column is known empty again at
the end (each has its `clear()` after the fill). Full strength: no restriction on the query. -/
theorem compile_eventLocal (B : Backend) (hB : BackendBase B) (nm cn : Nat → String)
    (hinj : ∀ i j, nm i = nm j → i = j) (hcinj : ∀ i j, cn i = cn j → i = j)
    (hres : ∀ j, nm j ≠ "result") (hcres : ∀ k, cn k ≠ "result") (hdisj : ∀ j k, nm j ≠ cn k)
    (fq : FQ) : EventLocal (compile B nm cn fq) = true :=
  Wf.compile_el B hB nm cn hinj hcinj hdisj hres hcres fq

/-- **C05.fragment_job_is_per_event** — for every fragment query, every backend satisfying `BackendBase`,
every number model and EVERY list of events — with no hypothesis on the events, in particular INCLUDING
events on which the query faults — one job over the list writes exactly what the events write when each is
processed alone from the initial class state; a faulting event ends the job in both readings, with the same
fault. No accumulator, flag, vector column or cached value carries over.
Stronger than the success-direction job theorems of `C05/TheoremsFragment.lean`
(`fragment_job_correct_partial`, `fragment_job_split`, `fragment_prefix_independent`, `fragment_perm`), which
assume the query is defined (and well typed) on every event of the job; weaker in that it does not say
what the rows are. (`compile_eventLocal` composed with the soundness theorem `job_is_per_event`.) -/
theorem fragment_job_is_per_event (B : Backend) (hB : BackendBase B) (nm cn : Nat → String)
    (hinj : ∀ i j, nm i = nm j → i = j) (hcinj : ∀ i j, cn i = cn j → i = j)
    (hres : ∀ j, nm j ≠ "result") (hcres : ∀ k, cn k ≠ "result") (hdisj : ∀ j k, nm j ≠ cn k)
    (fq : FQ) (N : Num D) (evs : List (Event D)) :
    runJob (compile B nm cn fq) N evs = perEvent (compile B nm cn fq) N evs :=
  job_is_per_event _ N (compile_eventLocal B hB nm cn hinj hcinj hres hcres hdisj fq) evs

/-- **C05.fragment_event_history_free** — ONE call of the per-event method, from ANY clean class state (in
particular the one left by any sequence of earlier events): it fails iff it fails from the initial class
state, with the same fault; if it succeeds it writes the same rows as from the initial state and leaves a
clean class state again. Faulting events included; no hypothesis on the event. -/
theorem fragment_event_history_free (B : Backend) (hB : BackendBase B) (nm cn : Nat → String)
    (hinj : ∀ i j, nm i = nm j → i = j) (hcinj : ∀ i j, cn i = cn j → i = j)
    (hres : ∀ j, nm j ≠ "result") (hcres : ∀ k, cn k ≠ "result") (hdisj : ∀ j k, nm j ≠ cn k)
    (fq : FQ) (N : Num D) (σc : Env D) (hc : ClassClean (compile B nm cn fq) σc) (ev : Event D) :
    (∀ f, runEvent (compile B nm cn fq) N σc ev = .error f ↔
        runEvent (compile B nm cn fq) N (classInit (compile B nm cn fq).classVars) ev = .error f) ∧
    (∀ rows σc', runEvent (compile B nm cn fq) N σc ev = .ok (rows, σc') →
        ClassClean (compile B nm cn fq) σc' ∧
        ∃ σ0', runEvent (compile B nm cn fq) N (classInit (compile B nm cn fq).classVars) ev = .ok (rows, σ0')) :=
  runEvent_local _ N (compile_eventLocal B hB nm cn hinj hcinj hres hcres hdisj fq) σc hc ev

/-- **C05.fragment_fault_is_the_events** — a fault is not caused by history either: if the job over
`pre ++ [ev]` ends in a fault while the job over `pre` completes, then `ev` processed alone (fresh class
state) ends in the same fault. -/
theorem fragment_fault_is_the_events (B : Backend) (hB : BackendBase B) (nm cn : Nat → String)
    (hinj : ∀ i j, nm i = nm j → i = j) (hcinj : ∀ i j, cn i = cn j → i = j)
    (hres : ∀ j, nm j ≠ "result") (hcres : ∀ k, cn k ≠ "result") (hdisj : ∀ j k, nm j ≠ cn k)
    (fq : FQ) (N : Num D) (pre : List (Event D)) (ev : Event D) (rp : List (List (Val D))) (f : Fault)
    (hp : runJob (compile B nm cn fq) N pre = .ok rp)
    (h : runJob (compile B nm cn fq) N (pre ++ [ev]) = .error f) :
    runJob (compile B nm cn fq) N [ev] = .error f :=
  fault_is_the_events _ N (compile_eventLocal B hB nm cn hinj hcinj hres hcres hdisj fq) pre ev rp f hp h

example (fq : FQ) : EventLocal (compile C01.atlasB C01.exNm C01.exCn fq) = true :=
  compile_eventLocal _ C01.backendBase_atlas _ _ C01.exNm_inj C01.exCn_inj C01.exNm_ne_result C01.exCn_ne_result
    C01.exNm_ne_exCn fq
example (fq : FQ) : EventLocal (compile C01.cmsAodB C01.exNm C01.exCn fq) = true :=
  compile_eventLocal _ C01.backendBase_cmsAod _ _ C01.exNm_inj C01.exCn_inj C01.exNm_ne_result C01.exCn_ne_result
    C01.exNm_ne_exCn fq
example (fq : FQ) : EventLocal (compile C01.cmsMiniAodB C01.exNm C01.exCn fq) = true :=
  compile_eventLocal _ C01.backendOK_cmsMiniAod _ _ C01.exNm_inj C01.exCn_inj C01.exNm_ne_result C01.exCn_ne_result
    C01.exNm_ne_exCn fq

/-- every backend record the text tie builds (`Gen.mkBackend`, any backend name and collection table) -/
example (name : String) (colls : List (String × String × String)) (fq : FQ) :
    EventLocal (compile (mkBackend name colls) C01.exNm C01.exCn fq) = true :=
  compile_eventLocal _ (Wf.backendBase_mkBackend name colls) _ _ C01.exNm_inj C01.exCn_inj C01.exNm_ne_result C01.exCn_ne_result
    C01.exNm_ne_exCn fq

def exFq : FQ := .eventRows [
  ("n", .scalar (.bin .add (.count ⟨"As", "ba", [.whr (.cmp .gt (.meth "d" .double) (.int 1))]⟩) (.int 1))),
  ("v", .seq ⟨"As", "ba", [.sel (.meth "d" .double), .whr (.cmp .gt .it (.int 1)), .whr (.cmp .lt .it (.int 5))]⟩),
  ("f", .first ⟨"As", "bb", [.sel (.meth "d" .double)]⟩)]

/-- the checker evaluated by the kernel on concrete compiled packages (what the theorem predicts): the emptiness
analysis here, the `WellFormed` part in `C02/TheoremsWf.lean` -/
example : EventLocal (compile C01.atlasB C01.exNm C01.exCn exFq) = true :=
  eventLocal_of_emp C02.exFq_atlas_wf (by decide +kernel)
example : EventLocal (compile C01.cmsMiniAodB C01.exNm C01.exCn exFq) = true :=
  eventLocal_of_emp C02.exFq_miniAod_wf (by decide +kernel)

/-- … and the statement is not trivially true of the checker: the same package without its last statement
(the `clear()` of the vector column) is rejected — the column would carry over to the next event -/
example : EventLocal { compile C01.atlasB C01.exNm C01.exCn exFq with
    body := match (compile C01.atlasB C01.exNm C01.exCn exFq).body with
      | .block b => .block b.dropLast
      | st => st } = false := eventLocal_false_of_emp (by decide +kernel)

end FaxVerif.C05
