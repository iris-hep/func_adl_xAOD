/-
C05 — rows for an event depend on that event only; and, inside one event, the value computed for one outer
element depends on that element only: NESTED iteration (`Gen/Nested.lean`).

The translator declares the accumulator of an inner `Count()` / `Sum()` and the storage vector of a 2-D column
in the block that contains the INNER loop — the body of the outer loop. A declaration is executed every time
its block is entered, so these variables restart for every outer element.
Partial = success direction, side conditions `NFragHyp` (Gen/NestedRowsCorrect.lean).
-/
import FaxVerif.C01.TheoremsNested
namespace FaxVerif.C05
open FaxVerif.Cpp FaxVerif.Linq FaxVerif.Gen
variable {D : Type}

/-- **C05.inner_accumulator_restarts** — the value computed for outer element `v` does not depend on the
elements before it: let `s₁`, `s₂` be ANY two states in which the current-value expression evaluates to the
same outer element `v` — e.g. `s₁` pristine and `s₂` the state left by the block's runs for any number of
earlier outer elements, its accumulators holding their counts and sums. Running the emitted block
(accumulator declarations, then the inner loops) from either terminates, and afterwards the value expression
evaluates to the SAME value in both: what the query expression denotes for `v` alone. -/
theorem inner_accumulator_restarts (C : Ctx D) (QC : QCtx D) (hN : QC.N = C.N) (nm : Nat → String)
    (hinj : ∀ i j, nm i = nm j → i = j) (ptr : Bool) (cur : CExpr) (v : Val D) (x : String) (ρ : LEnv D)
    (e : NE) (n : Nat) (s₁ s₂ : St D) (w : Val D)
    (hfr : ∀ y ∈ vars cur, ∀ j, n ≤ j → y ≠ nm j)
    (hcur₁ : evalE C.N s₁.env cur = .ok v) (hcur₂ : evalE C.N s₂.env cur = .ok v)
    (hwt : wtNE e = true) (hhyp : NEHyp QC v e)
    (hden : denote QC ((x, v) :: ρ) (neQ x e) = .ok w) :
    ∃ s₁' s₂',
      execs C ((compNE nm ptr cur e n).decls ++ (compNE nm ptr cur e n).stmts) s₁ = .ok s₁' ∧
      execs C ((compNE nm ptr cur e n).decls ++ (compNE nm ptr cur e n).stmts) s₂ = .ok s₂' ∧
      evalE C.N s₁'.env (compNE nm ptr cur e n).val = .ok w ∧ evalE C.N s₂'.env (compNE nm ptr cur e n).val = .ok w := by
  obtain ⟨s₁', h1, _, hv1, _⟩ := compNE_block_correct C QC hN nm hinj ptr cur v x ρ e n s₁ w hfr hcur₁ hwt hhyp hden
  obtain ⟨s₂', h2, _, hv2, _⟩ := compNE_block_correct C QC hN nm hinj ptr cur v x ρ e n s₂ w hfr hcur₂ hwt hhyp hden
  exact ⟨s₁', s₂', h1, h2, hv1, hv2⟩

/-- **C05.storage_vector_restarts** — the inner row a 2-D column gets for outer element `v` does not depend on
the elements before it: from ANY two states in which the current-value expression evaluates to `v` and the
column holds lists `a₁`, `a₂` (whatever the storage vector `ntupleN` and the loop variables hold), the emitted
block appends the SAME value `u` — the inner sequence the query denotes for `v` alone — to the column. -/
theorem storage_vector_restarts (C : Ctx D) (QC : QCtx D) (hN : QC.N = C.N) (B : Backend) (nm : Nat → String)
    (hinj : ∀ i j, nm i = nm j → i = j) (col : String) (hcol : ∀ j, nm j ≠ col) (ic : IChain) (hwt : wtIChain ic = true)
    (y : String) (ρ : LEnv D) (cur : CExpr) (m : Nat) (s₁ s₂ : St D) (v u : Val D) (a₁ a₂ : List (Val D))
    (hcv : ∀ z ∈ vars cur, (∀ j, m ≤ j → z ≠ nm j) ∧ z ≠ col)
    (hcur₁ : evalE C.N s₁.env cur = .ok v) (hcur₂ : evalE C.N s₂.env cur = .ok v)
    (hit : InnerTyped v ic) (hvec : InnerIsVec v ic)
    (hc₁ : s₁.env col = some (.val (.vec a₁))) (hc₂ : s₂.env col = some (.val (.vec a₂)))
    (hden : denote QC ((y, v) :: ρ) (ichainQ y ic) = .ok u) :
    ∃ s₁' s₂', execs C (twoDK B nm col ic cur none m).1 s₁ = .ok s₁' ∧ execs C (twoDK B nm col ic cur none m).1 s₂ = .ok s₂' ∧
      s₁'.env col = some (.val (.vec (a₁ ++ [u]))) ∧ s₂'.env col = some (.val (.vec (a₂ ++ [u]))) := by
  have hspec := twoDK_pushSpec C QC hN B nm hinj col hcol ic hwt y ρ
  have hfr : OutOfReach (InRange nm) m cur := .inRange fun z hz => (hcv z hz).1
  obtain ⟨s₁', h1, _, hc1, _⟩ := hspec cur m s₁ v u a₁ hfr trivial hcur₁ ⟨hit, hvec⟩ hc₁ hden
  obtain ⟨s₂', h2, _, hc2, _⟩ := hspec cur m s₂ v u a₂ hfr trivial hcur₂ ⟨hit, hvec⟩ hc₂ hden
  exact ⟨s₁', s₂', h1, h2, hc1, hc2⟩

/-- **C05.nested_event_post_partial** — one call of the per-event method, for every query of the nested
fragment: from a class state satisfying `NFragPre` (column vectors empty / column variables declared), on an
event where the query denotes `rows`, the emitted package writes exactly `rows` and leaves a class state
satisfying `NFragPre` again — nothing an event computes survives into the next one. -/
theorem nested_event_post_partial (B : Backend) (hB : BackendBase B) (nm cn : Nat → String)
    (hinj : ∀ i j, nm i = nm j → i = j) (hcinj : ∀ i j, cn i = cn j → i = j)
    (hres : ∀ j, nm j ≠ "result") (hcres : ∀ k, cn k ≠ "result") (hdisj : ∀ j k, nm j ≠ cn k)
    (QC : QCtx D) (hcollT : ∀ name, B.collType name = QC.collType name)
    (nq : NQ) (hhyp : NFragHyp QC nq) (σc : Env D) (hσ : NFragPre cn nq σc)
    (rows : List (List (Val D))) (hden : denoteRows QC nq.toQuery = .ok rows) :
    ∃ σ', runEvent (compileN B nm cn nq) QC.N σc QC.ev = .ok (rows, σ') ∧ NFragPre cn nq σ' :=
  nfragEvent_correct_post B hB nm cn ⟨hinj, hcinj, hres, hcres, hdisj⟩ QC hcollT nq hhyp σc hσ rows hden

/-- **C05.nested_init_pre** — the class state a job starts from satisfies the precondition. -/
theorem nested_init_pre (B : Backend) (nm cn : Nat → String) (hdisj : ∀ j k, nm j ≠ cn k) (nq : NQ) :
    NFragPre cn nq (classInit (compileN B nm cn nq).classVars : Env D) :=
  nfragPre_classInit B nm cn hdisj nq

/-- **C05.nested_job_correct_partial** — for every query of the nested fragment (all three shapes), every
backend satisfying `BackendBase`, every number model and EVERY list of events on each of which the query is
defined: the emitted package, run as ONE job from the initial class state, writes exactly the rows the query
denotes on the first event, then those of the second, … — the output is a function of the individual events
only. -/
theorem nested_job_correct_partial (B : Backend) (hB : BackendBase B) (nm cn : Nat → String)
    (hinj : ∀ i j, nm i = nm j → i = j) (hcinj : ∀ i j, cn i = cn j → i = j)
    (hres : ∀ j, nm j ≠ "result") (hcres : ∀ k, cn k ≠ "result") (hdisj : ∀ j k, nm j ≠ cn k)
    (QC : QCtx D) (hcollT : ∀ name, B.collType name = QC.collType name)
    (nq : NQ) (evs : List (Event D)) (hhyp : ∀ ev ∈ evs, NFragHyp (QC.withEvent ev) nq)
    (rows : List (List (Val D))) (hden : denoteJob QC nq.toQuery evs = .ok rows) :
    runJob (compileN B nm cn nq) QC.N evs = .ok rows :=
  (nfragJobOK B hB nm cn ⟨hinj, hcinj, hres, hcres, hdisj⟩ QC hcollT nq).job hhyp hden

/-- **C05.nested_job_split** — one job over `xs ++ ys` writes what a job over `xs` followed by a SEPARATE job
over `ys` (fresh class state) write. -/
theorem nested_job_split (B : Backend) (hB : BackendBase B) (nm cn : Nat → String)
    (hinj : ∀ i j, nm i = nm j → i = j) (hcinj : ∀ i j, cn i = cn j → i = j)
    (hres : ∀ j, nm j ≠ "result") (hcres : ∀ k, cn k ≠ "result") (hdisj : ∀ j k, nm j ≠ cn k)
    (QC : QCtx D) (hcollT : ∀ name, B.collType name = QC.collType name)
    (nq : NQ) (xs ys : List (Event D)) (hhyp : ∀ ev ∈ xs ++ ys, NFragHyp (QC.withEvent ev) nq)
    (r₁ r₂ : List (List (Val D)))
    (h₁ : denoteJob QC nq.toQuery xs = .ok r₁) (h₂ : denoteJob QC nq.toQuery ys = .ok r₂) :
    runJob (compileN B nm cn nq) QC.N xs = .ok r₁ ∧ runJob (compileN B nm cn nq) QC.N ys = .ok r₂ ∧
    runJob (compileN B nm cn nq) QC.N (xs ++ ys) = .ok (r₁ ++ r₂) :=
  Gen.nested_job_split B hB nm cn hinj hcinj hres hcres hdisj QC hcollT nq xs ys hhyp r₁ r₂ h₁ h₂

/-- **C05.nested_prefix_independent** — in a job `pre ++ ev :: post` the rows written for `ev` are exactly
those of running `ev` ALONE from the initial class state (= what the query denotes on `ev`), whatever events
preceded it. -/
theorem nested_prefix_independent (B : Backend) (hB : BackendBase B) (nm cn : Nat → String)
    (hinj : ∀ i j, nm i = nm j → i = j) (hcinj : ∀ i j, cn i = cn j → i = j)
    (hres : ∀ j, nm j ≠ "result") (hcres : ∀ k, cn k ≠ "result") (hdisj : ∀ j k, nm j ≠ cn k)
    (QC : QCtx D) (hcollT : ∀ name, B.collType name = QC.collType name)
    (nq : NQ) (pre : List (Event D)) (ev : Event D) (post : List (Event D))
    (hhyp : ∀ e ∈ pre ++ ev :: post, NFragHyp (QC.withEvent e) nq)
    (r : List (List (Val D))) (hden : denoteJob QC nq.toQuery (pre ++ ev :: post) = .ok r) :
    ∃ rp re rq σ',
      runJob (compileN B nm cn nq) QC.N pre = .ok rp ∧
      runEvent (compileN B nm cn nq) QC.N (classInit (compileN B nm cn nq).classVars) ev = .ok (re, σ') ∧
      denoteRows (QC.withEvent ev) nq.toQuery = .ok re ∧
      runJob (compileN B nm cn nq) QC.N post = .ok rq ∧
      runJob (compileN B nm cn nq) QC.N (pre ++ ev :: post) = .ok (rp ++ re ++ rq) :=
  (nfragJobOK B hB nm cn ⟨hinj, hcinj, hres, hcres, hdisj⟩ QC hcollT nq).prefix_independent hhyp hden

/-- **C05.nested_perm** — processing the events in any other order gives the same per-event row blocks in that
order: the two outputs are permutations of each other (and the permuted job completes too). -/
theorem nested_perm (B : Backend) (hB : BackendBase B) (nm cn : Nat → String)
    (hinj : ∀ i j, nm i = nm j → i = j) (hcinj : ∀ i j, cn i = cn j → i = j)
    (hres : ∀ j, nm j ≠ "result") (hcres : ∀ k, cn k ≠ "result") (hdisj : ∀ j k, nm j ≠ cn k)
    (QC : QCtx D) (hcollT : ∀ name, B.collType name = QC.collType name)
    (nq : NQ) (evs evs' : List (Event D)) (hp : evs.Perm evs')
    (hhyp : ∀ ev ∈ evs, NFragHyp (QC.withEvent ev) nq)
    (r : List (List (Val D))) (hden : denoteJob QC nq.toQuery evs = .ok r) :
    ∃ r', runJob (compileN B nm cn nq) QC.N evs = .ok r ∧ runJob (compileN B nm cn nq) QC.N evs' = .ok r' ∧
      denoteJob QC nq.toQuery evs' = .ok r' ∧ r.Perm r' :=
  (nfragJobOK B hB nm cn ⟨hinj, hcinj, hres, hcres, hdisj⟩ QC hcollT nq).perm hp hhyp hden

open FaxVerif.C01

theorem nestDenJobC : denoteJob nestQC nestQc.toQuery [nestEv1, nestEv2, nestEv1] =
    .ok [[.int 2, .int 8], [.int 0, .int 0], [.int 2, .int 8], [.int 0, .int 0]] :=
  denoteJob_blocks nestQC _ [nestEv1, nestEv2, nestEv1] [_, [], _] ⟨nestDenC, rfl, nestDenC, trivial⟩

theorem nestDenJobE : denoteJob nestQC nestQe.toQuery [nestEv1, nestEv2, nestEv1] =
    .ok [[.vec [.int 6, .int 5], .vec [.vec [.dbl 2, .dbl 4, .dbl 10], .vec []]], [.vec [], .vec []],
         [.vec [.int 6, .int 5], .vec [.vec [.dbl 2, .dbl 4, .dbl 10], .vec []]]] :=
  denoteJob_blocks nestQC _ [nestEv1, nestEv2, nestEv1] [_, [[.vec [], .vec []]], _] ⟨nestDenE, rfl, nestDenE, trivial⟩

theorem nestFind2 (cty : String) (l : List (Val Int)) (hf : (nestQC.withEvent nestEv2).ev.find "ba" = some (cty, .vec l)) :
    l = [] := by
  simp [nestQC, QCtx.withEvent, nestEv2, Event.find, Event.find.go] at hf
  exact hf.2

theorem nestJobHypC : ∀ ev ∈ [nestEv1, nestEv2, nestEv1], NFragHyp (nestQC.withEvent ev) nestQc := by
  intro ev hm
  have hev : ev = nestEv1 ∨ ev = nestEv2 := by simpa [or_comm] using hm
  rcases hev with rfl | rfl
  · exact nestHypC
  · refine ⟨by decide, by decide, ?_⟩
    intro cty l hf v hv
    rw [nestFind2 cty l hf] at hv; simp at hv

theorem nestJobHypE : ∀ ev ∈ [nestEv1, nestEv2, nestEv1], NFragHyp (nestQC.withEvent ev) nestQe := by
  intro ev hm
  have hev : ev = nestEv1 ∨ ev = nestEv2 := by simpa [or_comm] using hm
  rcases hev with rfl | rfl
  · exact nestHypE
  · intro p hp
    simp only [List.mem_cons, List.not_mem_nil, or_false] at hp
    have hct : ChainTyped (nestQC.withEvent nestEv2) ⟨"As", "ba", []⟩ := by
      intro cty l _ v _ q hq; simp [methsSteps] at hq
    rcases hp with rfl | rfl <;>
      exact ⟨by decide, by decide, hct, fun cty l hf v hv => by rw [nestFind2 cty l hf] at hv; simp at hv⟩

/-- shape (c) on miniAOD: one job over three events; every outer element's aggregates are its own -/
example : runJob (compileN cmsMiniAodB exNm exCn nestQc) nestNum [nestEv1, nestEv2, nestEv1] =
    .ok [[.int 2, .int 8], [.int 0, .int 0], [.int 2, .int 8], [.int 0, .int 0]] :=
  nested_job_correct_partial cmsMiniAodB backendOK_cmsMiniAod exNm exCn exNm_inj exCn_inj
    exNm_ne_result exCn_ne_result exNm_ne_exCn nestQC nestCollT nestQc _ nestJobHypC _ nestDenJobC

/-- shapes (a) + (b) on miniAOD: the event with an empty collection writes a row of empty vectors; the third
event's vectors are those of the first again (nothing carried over) -/
example : runJob (compileN cmsMiniAodB exNm exCn nestQe) nestNum [nestEv1, nestEv2, nestEv1] =
    .ok [[.vec [.int 6, .int 5], .vec [.vec [.dbl 2, .dbl 4, .dbl 10], .vec []]], [.vec [], .vec []],
         [.vec [.int 6, .int 5], .vec [.vec [.dbl 2, .dbl 4, .dbl 10], .vec []]]] :=
  nested_job_correct_partial cmsMiniAodB backendOK_cmsMiniAod exNm exCn exNm_inj exCn_inj
    exNm_ne_result exCn_ne_result exNm_ne_exCn nestQC nestCollT nestQe _ nestJobHypE _ nestDenJobE

example : ∃ r', runJob (compileN cmsMiniAodB exNm exCn nestQc) nestNum [nestEv1, nestEv1, nestEv2] = .ok r' ∧
    List.Perm [[Val.int 2, .int 8], [.int 0, .int 0], [.int 2, .int 8], [.int 0, .int 0]] r' := by
  obtain ⟨r', _, h2, _, h4⟩ := nested_perm cmsMiniAodB backendOK_cmsMiniAod exNm exCn exNm_inj exCn_inj
    exNm_ne_result exCn_ne_result exNm_ne_exCn nestQC nestCollT nestQc [nestEv1, nestEv2, nestEv1]
    [nestEv1, nestEv1, nestEv2] ((List.Perm.swap nestEv1 nestEv2 []).cons nestEv1) nestJobHypC _ nestDenJobC
  exact ⟨r', h2, h4⟩

/-- the accumulator restarts, on a concrete state: whatever `aggResult` (here `exNm 0`) holds beforehand, the block
computes the count of THIS element's `vs()` -/
example (σ : Env Int) (hcur : σ "it" = some (.val nestA1)) (junk : Val Int) :
    ∃ s₁' s₂',
      execs ⟨nestNum, nestEv1, [], []⟩ ((compNE exNm false (.var "it") (.icount nestCountVs) 0).decls ++
        (compNE exNm false (.var "it") (.icount nestCountVs) 0).stmts) ⟨σ, []⟩ = .ok s₁' ∧
      execs ⟨nestNum, nestEv1, [], []⟩ ((compNE exNm false (.var "it") (.icount nestCountVs) 0).decls ++
        (compNE exNm false (.var "it") (.icount nestCountVs) 0).stmts) ⟨σ.set (exNm 0) junk, []⟩ = .ok s₂' ∧
      evalE nestNum s₁'.env (.var (exNm 0)) = .ok (.int 2) ∧ evalE nestNum s₂'.env (.var (exNm 0)) = .ok (.int 2) := by
  have hit : ∀ j, "it" ≠ exNm j := fun j => ne_of_head _ _ (by rw [exNm_head]; decide)
  exact inner_accumulator_restarts ⟨nestNum, nestEv1, [], []⟩ nestQC rfl exNm exNm_inj false (.var "it") nestA1 "x" []
    (.icount nestCountVs) 0 ⟨σ, []⟩ ⟨σ.set (exNm 0) junk, []⟩ (.int 2)
    (by intro y hy j _; simp only [vars, List.mem_singleton] at hy; rw [hy]; exact hit j)
    (by simp [evalE, hcur]) (by simp [evalE, Env.set, hit 0, hcur]) (by decide)
    ⟨by intro q hq; simp [puresNE] at hq,
     by intro ic hic; simp only [ichainsNE, List.mem_singleton] at hic; subst hic
        exact nestInnerVs nestA1 (Or.inl rfl) _ (fun u => by simpa [methsSteps, methsPE] using methTyped_nil u),
     by intro ic hic; simp [isumsNE] at hic⟩
    rfl

end FaxVerif.C05
