/-
C09 — unsupported or malformed queries are refused, never half-translated.

The dispatch tables are regenerated from the translator's source on every run; the visitor
model visits every live child (as `get_rep` does) and fails at the first node it cannot express.
After the visitor, the other refusal points one by one, each with what exactly it refuses: the arity of a call
(`call_refuses_exactly`), a metadata dictionary (`md_refuses_exactly`, `md_any_position`), two inject blocks of one name
(`InjConflict`, a `Clash`; `injectAdd_spec`), the job scripts (through `C15.complete`). ExecProofs.lean puts them in
sequence.
-/
import FaxVerif.C09.Model
import FaxVerif.C09.Spec
import FaxVerif.C15.Theorems
import FaxVerif.Common.Clash
namespace FaxVerif.C09

theorem error_iff_ne_ok {ε : Type} (x : Except ε Unit) : (∃ e, x = .error e) ↔ x ≠ .ok () := by
  cases x <;> simp

mutual
  theorem visit_ok_iff : ∀ p : Py, visit p = .ok () ↔ hasUnsupported p = false
    | .node kind op nops children => by
      rw [visit, hasUnsupported]
      cases supportedNode kind op nops
      · simp
      · simpa using visitAll_ok_iff children
  theorem visitAll_ok_iff : ∀ ps : List Py, visitAll ps = .ok () ↔ anyUnsupported ps = false
    | [] => by simp [visitAll, anyUnsupported]
    | c :: cs => by
      rw [visitAll, anyUnsupported, Bool.or_eq_false_iff, ← visit_ok_iff c, ← visitAll_ok_iff cs]
      cases visit c <;> simp
end

/-- **C09.refuses_exactly** — the visitor refuses exactly the trees that contain an inexpressible node. -/
theorem refuses_exactly (p : Py) : (∃ e, visit p = .error e) ↔ hasUnsupported p = true := by
  rw [error_iff_ne_ok, Ne, visit_ok_iff, Bool.not_eq_false]

theorem visitAll_refuses_exactly (ps : List Py) : (∃ e, visitAll ps = .error e) ↔ anyUnsupported ps = true := by
  rw [error_iff_ne_ok, Ne, visitAll_ok_iff, Bool.not_eq_false]

theorem visitAll_error_of_unsupported : ∀ ps : List Py, anyUnsupported ps = true → ∃ e, visitAll ps = .error e
  | ps, h => (visitAll_refuses_exactly ps).2 h

theorem visitAllError : ∀ ps : List Py, anyUnsupported ps = true → ∃ e, visitAll ps = .error e
  | ps, h => visitAll_error_of_unsupported ps h

/-- **C09.fail_closed** — if ANY live node of a query, at any depth, is something the translator's
tables cannot express (operator outside the tables, comparison chain, unknown node class), the
visit fails: errors propagate to the top and nothing is silently skipped. -/
theorem fail_closed (p : Py) (h : hasUnsupported p = true) : ∃ e, visit p = .error e :=
  (refuses_exactly p).2 h

theorem visitAll_ok_of_supported : ∀ ps : List Py, anyUnsupported ps = false → visitAll ps = .ok ()
  | ps, h => (visitAll_ok_iff ps).2 h

/-- **C09.tables_recognised** — the translator understood the source it read. -/
theorem tables_recognised : unrecognised = [] := by decide +kernel

/-- **C09.documented_present** — the operators and LINQ calls the documentation promises are in
the regenerated tables (so the refusals above concern only what is *not* documented). -/
theorem documented_present :
    (["Add", "Sub", "Mult", "Div", "Mod"].all binOps.contains) = true ∧
    (["Lt", "LtE", "Gt", "GtE", "Eq", "NotEq"].all cmpOps.contains) = true ∧
    (["UAdd", "USub", "Not"].all unaryOps.contains) = true ∧
    (["Select", "SelectMany", "Where", "Aggregate", "First", "Range", "ResultTTree"].all callNames.contains) = true ∧
    (["IfExp", "BoolOp", "Compare", "BinOp", "UnaryOp", "Subscript", "Tuple", "List", "Dict", "Constant", "Name", "Attribute", "Call"].all visitKinds.contains) = true := by
  decide +kernel

/-- **C09.undocumented_refused** — operators outside the documentation are outside the tables:
floor division, bit operators, shifts, matrix multiplication, `is`, `in`, invert. -/
theorem undocumented_refused :
    (["FloorDiv", "BitAnd", "BitOr", "BitXor", "LShift", "RShift", "MatMult"].any binOps.contains) = false ∧
    (["Is", "IsNot", "In", "NotIn"].any cmpOps.contains) = false ∧
    (["Invert"].any unaryOps.contains) = false := by
  decide +kernel

example : hasUnsupported (.node "Call" "Select" 0 [.node "BinOp" "FloorDiv" 0 [.node "Name" "" 0 [], .node "Constant" "" 0 []]]) = true := by decide +kernel
example : hasUnsupported (.node "Compare" "Lt" 2 []) = true := by decide +kernel
example : hasUnsupported (.node "BinOp" "Add" 0 [.node "Name" "" 0 [], .node "Constant" "" 0 []]) = false := by decide +kernel

/-- **C09.call_refuses_exactly** — a call of a callee with a fixed parameter list is refused
exactly when the number of arguments differs from the number of declared parameters (in either
direction) or the call style is not the declared one. -/
theorem call_refuses_exactly (s : FnSpec) (c : CallSite) :
    (∃ e, buildCall s c = .error e) ↔ callWellFormed s c = false := by
  unfold buildCall callWellFormed
  by_cases h : c.nargs = s.arity
  · cases hm : c.asMethod <;> cases hs : s.isMethod <;> simp [h]
  · simp [h]

theorem arity_mismatch_refused (s : FnSpec) (c : CallSite) (h : c.nargs ≠ s.arity) :
    ∃ e, buildCall s c = .error e :=
  ⟨_, if_pos h⟩

/-- **C09.surplus_argument_refused** — more arguments than parameters: refused (the surplus
expression would otherwise appear nowhere in the generated code). -/
theorem surplus_argument_refused (s : FnSpec) (c : CallSite) (h : s.arity < c.nargs) :
    ∃ e, buildCall s c = .error e :=
  arity_mismatch_refused s c (by omega)

/-- **C09.missing_argument_refused** — fewer arguments than parameters: refused. -/
theorem missing_argument_refused (s : FnSpec) (c : CallSite) (h : c.nargs < s.arity) :
    ∃ e, buildCall s c = .error e :=
  arity_mismatch_refused s c (by omega)

example : callWellFormed ⟨"DeltaR", 4, false⟩ ⟨4, false⟩ = true := by decide +kernel
example : callWellFormed ⟨"DeltaR", 4, false⟩ ⟨5, false⟩ = false := by decide +kernel
example : (buildCall ⟨"getAttributeFloat", 1, true⟩ ⟨2, true⟩).toOption = none := by decide +kernel

theorem firstUnexpected_isSome (closed : Option (List String)) (keys : List String) :
    (firstUnexpected closed keys).isSome = anyUnexpected closed keys := by
  cases closed with
  | none => rfl
  | some ws => simp only [firstUnexpected, anyUnexpected, List.isSome_find?]

theorem mdTail_error (u : Option String) (r : Option (List String)) (b : Bool) :
    (∃ e, mdTail u r b = .error e) ↔ (u.isSome || r.isSome || b) = true := by
  cases u <;> cases r <;> cases b <;> simp [mdTail]

/-- **C09.md_refuses_exactly** — one metadata dictionary is refused exactly when it is malformed:
no type, unknown type, key outside a whitelist, needed key missing, element-type contradiction. -/
theorem md_refuses_exactly (m : Md) : (∃ e, mdCheck m = .error e) ↔ mdMalformed m = true := by
  unfold mdCheck mdMalformed
  cases hty : m.ty with
  | none => simp
  | some t =>
    simp only []
    cases hk : mdKinds.find? (fun k => k.ty == t) with
    | none => simp
    | some k =>
      simp only []
      by_cases hskip : (t == "inject_code" && m.keys.isEmpty) = true
      · simp [hskip]
      · simp only [hskip, if_false, Bool.not_false, Bool.true_and, Bool.false_eq_true]
        rw [mdTail_error, firstUnexpected_isSome, List.isSome_find?]

/-- **C09.md_any_position** — a malformed dictionary anywhere in the list of metadata of a query
makes the whole translation fail; a list without one passes. -/
theorem md_any_position (ms : List Md) : (∃ e, mdAll ms = .error e) ↔ ms.any mdMalformed = true := by
  induction ms with
  | nil => simp [mdAll]
  | cons m ms ih =>
    rw [List.any_cons, Bool.or_eq_true, ← md_refuses_exactly, ← ih, mdAll]
    cases mdCheck m <;> simp

/-- **C09.md_kinds_documented** — the kinds of metadata the documentation describes are exactly
the ones the table of the model knows. -/
theorem md_kinds_documented :
    mdKinds.map (·.ty) = ["add_method_type_info", "inject_code", "add_job_script", "add_cpp_function",
      "add_atlas_event_collection_info", "add_cms_aod_event_collection_info", "add_cms_miniaod_event_collection_info",
      "define_enum"] := by decide +kernel

example : mdMalformed ⟨some "add_job_script", ["name"], false⟩ = true := by decide +kernel
example : mdMalformed ⟨some "add_job_script", ["name", "script", "depends_on"], false⟩ = false := by decide +kernel
example : mdMalformed ⟨some "add_job_scripts", ["name", "script"], false⟩ = true := by decide +kernel
example : mdMalformed ⟨none, ["name"], false⟩ = true := by decide +kernel
example : mdMalformed ⟨some "inject_code", ["name", "body_include"], false⟩ = true := by decide +kernel
example : mdMalformed ⟨some "add_method_type_info", ["type_string", "method_name", "return_type_element"], false⟩ = false := by decide +kernel

abbrev InjConflict (l : List IB) : Prop := Clash (fun b₁ b₂ : IB => b₁.name = b₂.name ∧ b₁ ≠ b₂) l

theorem injectConflict_iff (l : List IB) : injectConflict l = true ↔ InjConflict l := by
  unfold injectConflict InjConflict Clash
  simp only [List.any_eq_true, Bool.and_eq_true, beq_iff_eq, bne_iff_ne]

/-- the kept blocks `acc` are free of conflict, so a contradiction inside `acc ++ bs` shows at
the latest when its second block meets the kept block of its name -/
theorem injectAdd_spec : ∀ (bs acc : List IB), ¬ InjConflict acc →
    ((∃ e, injectAdd bs acc = .error e) ↔ InjConflict (acc ++ bs))
  | [], acc, h => by
    rw [injectAdd, List.append_nil]
    exact ⟨fun ⟨_, he⟩ => (nomatch he), fun hc => absurd hc h⟩
  | b :: bs, acc, h => by
    rw [injectAdd]
    cases hf : acc.find? (fun a => a.name == b.name) with
    | none =>
      have hno : ∀ a ∈ acc, a.name ≠ b.name := by simpa using hf
      have hone : ¬ InjConflict (acc ++ [b]) := fun hc =>
        ((clash_snoc (fun _ _ h => ⟨h.1.symm, h.2.symm⟩) (fun _ h => h.2 rfl) acc b).1 hc).elim h
          fun ⟨a, ha, hn, _⟩ => hno a ha hn
      rw [injectAdd_spec bs (acc ++ [b]) hone, List.append_assoc, List.singleton_append]
    | some a =>
      have ha : a ∈ acc := List.mem_of_find?_eq_some hf
      have hna : a.name = b.name := by simpa using List.find?_some hf
      dsimp only
      by_cases hab : a = b
      · subst hab
        rw [if_pos rfl, injectAdd_spec bs acc h]
        -- `a` is already in `acc`: the two lists have the same members
        have hm (x : IB) : x ∈ acc ++ bs ↔ x ∈ acc ++ a :: bs := by
          rw [List.mem_append, List.mem_append, List.mem_cons]
          exact ⟨.imp_right .inr, fun hx => hx.elim .inl (·.elim (fun e => .inl (e ▸ ha)) .inr)⟩
        exact ⟨Clash.mono fun x => (hm x).1, Clash.mono fun x => (hm x).2⟩
      · rw [if_neg hab]
        exact ⟨fun _ => ⟨a, List.mem_append_left _ ha, b, List.mem_append_right _ List.mem_cons_self, hna, hab⟩,
          fun _ => ⟨_, rfl⟩⟩

/-- **C09.inject_refuses_exactly** — the `inject_code` blocks of a query are refused exactly
when two of them carry one name and differ, wherever in the list the two stand. -/
theorem inject_refuses_exactly (bs : List IB) :
    (∃ e, injectAdd bs [] = .error e) ↔ injectConflict bs = true := by
  rw [injectConflict_iff]
  simpa using injectAdd_spec bs [] (by simp [Clash])

example : injectConflict [⟨"a", [["x.h"]]⟩, ⟨"b", [[]]⟩, ⟨"a", [["y.h"]]⟩] = true := by decide +kernel
example : injectConflict [⟨"a", [["x.h"]]⟩, ⟨"b", [[]]⟩, ⟨"a", [["x.h"]]⟩] = false := by decide +kernel

/-- **C09.jobscript_refuses_exactly** — the job-script blocks a query sends are refused exactly
when two blocks of one name differ in their script, a dependency names a block that was never
sent, or the dependencies form a circle (C15's model of `generate_script_block`, which sees every
block of the query; corollary of `C15.complete`). In particular a second copy of a block is
looked at, not dropped: it can introduce each of the three. -/
theorem jobscript_refuses_exactly (bs : List C15.JB) :
    (∃ e, C15.genScript bs = .error e) ↔ jobMalformed bs := by
  unfold jobMalformed
  rw [← C15.complete]
  unfold C15.genScript
  cases h : C15.genScriptOrder bs with
  | error e => simp
  | ok r => obtain ⟨a, b⟩ := r; simp

example : jobMalformed [⟨"a", ["l1"], []⟩, ⟨"a", ["l2"], []⟩] :=
  Or.inl (by decide +kernel)
example : jobMalformed [⟨"a", ["l1"], []⟩, ⟨"a", ["l1"], ["never_sent"]⟩] :=
  Or.inr (Or.inl (by decide +kernel))
example : jobMalformedB [⟨"a", ["l1"], ["b"]⟩, ⟨"b", ["l2"], []⟩, ⟨"b", ["l2"], ["a"]⟩] = true := by decide +kernel
example : jobMalformedB [⟨"a", ["l1"], ["b"]⟩, ⟨"b", ["l2"], []⟩, ⟨"b", ["l2"], []⟩] = false := by decide +kernel

end FaxVerif.C09
