/-
C09 — the executor-level model (`ExecModel.lean`) characterised. The list walks (`metaFrom`, `callsFrom`,
`renderFrom`, `foreignOf`) are reasoned about by their functional induction principles: one case per branch of the
definition. The eight `*_refuses` facts, one per refusal point of `run`, say that the verdict of a stage on its input
(`errOf`: the error of a result, if it is one) is a refusal exactly when its clause of `ExecSpec.lean` holds (for the visitor: `hasUnsupported` of `Spec.lean`; for the
template directory: `env.templateDir`); they
rest on the per-check theorems of `C09/Theorems` (`refuses_exactly`, `call_refuses_exactly`, `md_any_position`,
`inject_refuses_exactly`, `jobscript_refuses_exactly`).
-/
import FaxVerif.C09.ExecModel
import FaxVerif.C09.ExecSpec
import FaxVerif.C09.Theorems
import FaxVerif.Common.Dict
namespace FaxVerif.C09.Exec
open FaxVerif.C09

def errOf {α : Type} : Except Err α → Option Err
  | .ok _ => none
  | .error e => some e

@[simp] theorem errOf_ok {α : Type} (a : α) : errOf (.ok a : Except Err α) = none := rfl
@[simp] theorem errOf_error {α : Type} (e : Err) : errOf (.error e : Except Err α) = some e := rfl

theorem errOf_isSome {α : Type} (x : Except Err α) : (errOf x).isSome = true ↔ ∃ e, x = .error e := by
  cases x <;> simp

theorem errOf_eq_some {α : Type} (x : Except Err α) (e : Err) : errOf x = some e ↔ x = .error e := by
  cases x <;> simp

theorem ok_of_errOf_isSome_eq_false {α : Type} {x : Except Err α} (h : (errOf x).isSome = false) :
    ∃ a, x = .ok a := by
  cases x <;> simp_all

def firstSome : List (Option Err) → Option Err
  | [] => none
  | some e :: _ => some e
  | none :: r => firstSome r

theorem firstSome_isSome (l : List (Option Err)) : (firstSome l).isSome = true ↔ ∃ v ∈ l, v.isSome = true := by
  fun_induction firstSome l <;> simp_all

theorem injectsOf_append (a b : List Contrib) : injectsOf (a ++ b) = injectsOf a ++ injectsOf b := by
  fun_induction injectsOf a <;> simp_all [injectsOf]

theorem jobsOf_append (a b : List Contrib) : jobsOf (a ++ b) = jobsOf a ++ jobsOf b := by
  fun_induction jobsOf a <;> simp_all [jobsOf]

theorem declsOf_append (a b : List Contrib) : declsOf (a ++ b) = declsOf a ++ declsOf b := by
  fun_induction declsOf a <;> simp_all [declsOf]

theorem foreignOf_append (bk : String) (a b : List Contrib) :
    foreignOf bk (a ++ b) = (foreignOf bk a).or (foreignOf bk b) := by
  fun_induction foreignOf bk a <;> simp_all [foreignOf]

theorem injectsOf_cons_of_not_inject (c : Contrib) (l : List Contrib) (hc : ∀ b, c = .inject b → False) :
    injectsOf (c :: l) = injectsOf l := by
  cases c <;> simp_all [injectsOf]

/-- the contributions other than inject blocks: `metaFrom` keeps every one of them, in order -/
structure SameRest (r acc rest : List Contrib) : Prop where
  jobs : jobsOf r = jobsOf acc ++ jobsOf rest
  decls : declsOf r = declsOf acc ++ declsOf rest
  foreign : ∀ bk, foreignOf bk r = foreignOf bk (acc ++ rest)

theorem foreignOf_congr_inject (bk : String) (acc : List Contrib) (b : IB) (rest : List Contrib) :
    foreignOf bk (acc ++ [.inject b] ++ rest) = foreignOf bk (acc ++ rest) := by
  simp [foreignOf_append, foreignOf]

theorem SameRest.push {r acc rest : List Contrib} {c : Contrib} (h : SameRest r (acc ++ [c]) rest) :
    SameRest r acc (c :: rest) :=
  ⟨by rw [h.jobs, jobsOf_append, List.append_assoc, ← jobsOf_append]; rfl,
   by rw [h.decls, declsOf_append, List.append_assoc, ← declsOf_append]; rfl,
   fun bk => by rw [h.foreign, List.append_assoc]; rfl⟩

theorem SameRest.skip {r acc rest : List Contrib} {c : Contrib} (h : SameRest r acc rest)
    (hc : c = .nothing ∨ ∃ b, c = .inject b) : SameRest r acc (c :: rest) := by
  rcases hc with rfl | ⟨b, rfl⟩ <;>
    exact ⟨h.jobs, h.decls, fun bk => by rw [h.foreign, foreignOf_append, foreignOf_append]; rfl⟩

theorem metaFrom_ok_rest (items : List Item) (i : Nat) (acc r : List Contrib)
    (h : metaFrom items i acc = .ok r) : SameRest r acc (items.map contribOf) := by
  -- the branches of `metaFrom`: 1 no item left, 2 `mdCheck` refuses, 3 contributes nothing, 4 inject block of a new
  -- name, 5 the kept inject block again, 6 conflicting inject block, 7 any other contribution
  fun_induction metaFrom items i acc with
  | case1 => cases h; exact ⟨by simp [jobsOf], by simp [declsOf], by simp⟩
  | case2 | case6 => cases h
  | case3 _ _ _ _ _ hc ih => rw [List.map_cons, hc]; exact (ih h).skip (.inl rfl)
  | case4 _ _ _ _ _ _ hc _ ih => rw [List.map_cons, hc]; exact (ih h).push
  | case5 _ _ _ _ _ _ hc _ ih => rw [List.map_cons, hc]; exact (ih h).skip (.inr ⟨_, rfl⟩)
  | case7 _ _ _ _ _ _ _ ih => exact (ih h).push

theorem metaFrom_error_iff (items : List Item) (i : Nat) (acc : List Contrib) :
    (∃ e, metaFrom items i acc = .error e) ↔
      ((∃ e, mdAll (items.map (·.md)) = .error e) ∨
       (∃ e, injectAdd (injectsOf (items.map contribOf)) (injectsOf acc) = .error e)) := by
  fun_induction metaFrom items i acc with
  | case7 _ _ _ _ hmd _ hc ih =>
    simp [mdAll, hmd, ih, injectsOf, injectsOf_append, injectsOf_cons_of_not_inject _ _ hc]
  | _ => simp [*, mdAll, injectsOf, injectAdd, injectsOf_append]

theorem metaFrom_append (pre rest : List Item) (i : Nat) (acc : List Contrib) :
    metaFrom (pre ++ rest) i acc = (metaFrom pre i acc).bind (metaFrom rest (i + pre.length)) := by
  fun_induction metaFrom pre i acc <;> simp [*, metaFrom, Except.bind, Nat.add_assoc, Nat.add_comm 1]

theorem foreignOf_isSome (bk : String) (l : List Contrib) :
    (foreignOf bk l).isSome = l.any (isForeign bk) := by
  fun_induction foreignOf bk l with
  | case4 c _ hc ih => rw [List.any_cons, ← ih]; cases c <;> simp_all [isForeign]
  | _ => simp_all [isForeign]

/-- `==` on strings is `decide (· = ·)` -/
theorem lookup_eq_lastBy (b : Backend) (specs : List Contrib) (n : String) :
    lookup b specs n = (Dict.lastBy Decl.name (b.builtins ++ declsOf specs) n).map (·.callee) := rfl

theorem callsFrom_congr (b : Backend) (s₁ s₂ : List Contrib) (h : declsOf s₁ = declsOf s₂)
    (cs : List Call) (i : Nat) : callsFrom b s₁ cs i = callsFrom b s₂ cs i := by
  have hl : ∀ n, lookup b s₂ n = lookup b s₁ n := fun n => by simp [lookup, h]
  fun_induction callsFrom b s₁ cs i <;> simp [*, callsFrom]

theorem checkCall_error_iff (k : Callee) (c : Call) : (∃ e, checkCall k c = .error e) ↔ callOK k c = false := by
  cases k with
  | code s =>
    rw [callOK, ← call_refuses_exactly, checkCall]
    cases buildCall s c.site <;> simp
  | collection =>
    simp only [checkCall, callOK]
    by_cases h1 : c.site.nargs = 1
    · cases hs : c.strArg <;> simp [h1]
    · simp [h1]

theorem callsFrom_append (b : Backend) (specs : List Contrib) (pre rest : List Call) (i : Nat) :
    callsFrom b specs (pre ++ rest) i = (callsFrom b specs pre i).bind fun _ => callsFrom b specs rest (i + pre.length) := by
  fun_induction callsFrom b specs pre i <;> simp [*, callsFrom, Except.bind, Nat.add_assoc, Nat.add_comm 1]

theorem renderFrom_none (env : Env) (fs : List String) (acc w : List Written)
    (h : renderFrom env fs acc = (w, none)) :
    w = acc ++ fs.map (fun f => ⟨f, true⟩) ∧ ∀ f ∈ fs, env.render f = .ok := by
  fun_induction renderFrom env fs acc with
  | case1 => cases h; simp
  | case2 f _ _ hr ih => simpa [hr] using ih h
  | case3 | case4 => cases h

theorem renderFrom_some (env : Env) (fs : List String) (acc w : List Written) (f : String)
    (h : renderFrom env fs acc = (w, some f)) :
    ∃ pre post, fs = pre ++ f :: post ∧ (∀ g ∈ pre, env.render g = .ok) ∧ env.render f ≠ .ok ∧
      w = acc ++ pre.map (fun g => ⟨g, true⟩) ++ (if env.render f = .failsAfterOpen then [⟨f, false⟩] else []) := by
  fun_induction renderFrom env fs acc with
  | case1 => cases h
  | case2 g _ _ hr ih =>
    obtain ⟨pre, post, h1, h2, h3, h4⟩ := ih h
    exact ⟨g :: pre, post, by simp [h1], by simpa [hr] using h2, h3, by simp [h4]⟩
  | case3 _ fs _ hr | case4 _ fs _ hr => cases h; exact ⟨[], fs, rfl, by simp, by simp [hr], by simp [hr]⟩

theorem renderFrom_isSome (env : Env) (fs : List String) (acc : List Written) :
    (renderFrom env fs acc).2.isSome = fs.any (fun f => env.render f != .ok) := by
  fun_induction renderFrom env fs acc <;> simp [*]

theorem stageMeta_facts (b : Backend) (q : Query) (specs : List Contrib) (h : stageMeta q = .ok specs) :
    stageTable b specs = stageTable b (allContribs q) ∧
    (∀ cs i, callsFrom b specs cs i = callsFrom b (allContribs q) cs i) ∧
    jobsOf specs = jobBlocks q := by
  have hr := metaFrom_ok_rest q.items 0 [] specs h
  refine ⟨?_, ?_, ?_⟩
  · simp only [stageTable, hr.foreign b.name, List.nil_append, allContribs]
  · exact callsFrom_congr b specs (allContribs q) (by simpa [declsOf, allContribs] using hr.decls)
  · simpa [jobsOf, jobBlocks, allContribs] using hr.jobs

theorem metaFrom_err_inApply (items : List Item) (i : Nat) (acc : List Contrib) (e : Err)
    (h : metaFrom items i acc = .error e) : e.inApply = true := by
  fun_induction metaFrom items i acc with
  | case1 => cases h
  | case2 | case6 => cases h; rfl
  | _ => rename_i ih; exact ih h

theorem stageTable_err_inApply (b : Backend) (specs : List Contrib) (e : Err)
    (h : stageTable b specs = .error e) : e.inApply = true := by
  unfold stageTable at h
  split at h <;> cases h
  rfl

theorem callsFrom_err_inApply (b : Backend) (specs : List Contrib) (cs : List Call) (i : Nat) (e : Err)
    (h : callsFrom b specs cs i = .error e) : e.inApply = true := by
  fun_induction callsFrom b specs cs i with
  | case1 => cases h
  | case3 => cases h; rfl
  | _ => rename_i ih; exact ih h

theorem stageTop_err (t : Top) (e : Err) (h : stageTop t = .error e) : e.inApply = false ∧ ∀ f, e ≠ .render f := by
  cases t <;> simp [stageTop] at h <;> subst h <;> simp [Err.inApply]

theorem stageVisit_err (p : Py) (e : Err) (h : stageVisit p = .error e) : e.inApply = false ∧ ∀ f, e ≠ .render f := by
  unfold stageVisit at h
  split at h <;> cases h
  simp [Err.inApply]

theorem stageJobs_err (b : Backend) (jobs : List C15.JB) (e : Err) (h : stageJobs b jobs = .error e) :
    e.inApply = false ∧ ∀ f, e ≠ .render f := by
  unfold stageJobs at h
  split at h
  · split at h <;> cases h
    simp [Err.inApply]
  · cases h

theorem stageMeta_refuses (q : Query) : (errOf (stageMeta q)).isSome = metaMalformed q := by
  rw [Bool.eq_iff_iff, errOf_isSome, stageMeta, metaFrom_error_iff, md_any_position, List.any_map, metaMalformed,
    itemsMalformed, Bool.or_eq_true]
  exact or_congr_right (inject_refuses_exactly _)

theorem stageTable_refuses (b : Backend) (q : Query) :
    (errOf (stageTable b (allContribs q))).isSome = foreignDecl b q := by
  rw [foreignDecl, ← foreignOf_isSome, stageTable]
  cases foreignOf b.name (allContribs q) <;> rfl

theorem callsFrom_refuses (b : Backend) (specs : List Contrib) (cs : List Call) (i : Nat) :
    (errOf (callsFrom b specs cs i)).isSome = cs.any (callBad b specs) := by
  fun_induction callsFrom b specs cs i with
  | case1 => rfl
  | case2 _ _ _ hl ih => simp [ih, callBad, hl]
  | case3 c _ _ k hl e hk => simpa [callBad, hl] using Or.inl ((checkCall_error_iff k c).1 ⟨e, hk⟩)
  | case4 c _ _ k hl hk ih =>
    have : callOK k c = true := by
      rw [← Bool.not_eq_false, ← checkCall_error_iff, hk]; simp
    simp [ih, callBad, hl, this]

theorem stageTop_refuses (t : Top) : (errOf (stageTop t)).isSome = topMalformed t := by
  cases t <;> rfl

theorem stageVisit_refuses (p : Py) : (errOf (stageVisit p)).isSome = hasUnsupported p := by
  rw [Bool.eq_iff_iff, ← refuses_exactly, stageVisit]
  cases visit p <;> simp

theorem stageJobs_refuses (b : Backend) (jobs : List C15.JB) :
    (errOf (stageJobs b jobs)).isSome = true ↔ (b.jobScripts = true ∧ jobMalformed jobs) := by
  unfold stageJobs
  cases b.jobScripts with
  | false => simp
  | true =>
    rw [← jobscript_refuses_exactly]
    cases C15.genScript jobs <;> simp

theorem templateDir_refuses (env : Env) :
    (if env.templateDir then (none : Option Err) else some .templateDir).isSome = true ↔ env.templateDir = false := by
  cases env.templateDir <;> simp

theorem renderFrom_refuses (env : Env) (b : Backend) :
    ((renderFrom env b.files []).2.map Err.render).isSome = renderFails env b := by
  rw [Option.isSome_map, renderFrom_isSome]; rfl

end FaxVerif.C09.Exec
