/-
C09 — executor level: a refused query leaves no package, an accepted one a complete package.

`Exec.run` (ExecModel.lean) is one translation on one executor: the stages of
`apply_ast_transformations` + `write_cpp_files` in the order of the source (regenerated:
`Generated/C09Exec.lean`). The theorems say which queries are refused (exactly), which error
surfaces, what is in the output directory afterwards, and what the executor keeps. All of them read off `run_spec`: the
run, analysed in one walk, ends in the `RunShape` that the first refusing entry of `verdicts` (every stage's verdict
computed from the input alone) decides.
-/
import FaxVerif.C09.ExecProofs
namespace FaxVerif.C09.Exec
open FaxVerif.C09

/-- **C09.exec_source_recognised** — the translator understood the four executor sources. -/
theorem exec_source_recognised : ExecSrc.unrecognised = [] := by decide +kernel

/-- **C09.exec_stage_order** — `apply_ast_transformations` and `write_cpp_files` run their stages in
the order `Exec.run` does: all metadata before the method table, the table before the call sites,
the call sites before the executor keeps inject / job-script blocks; dataset, top-level shape and
the visitor before the job script, the job script before the first file is written, every file
before `chmod`, `reset()` last. -/
theorem exec_stage_order :
    ExecSrc.applyOrder = ["extract_metadata", "process_metadata", "build_collection_callback", "cpp_ast_finder",
      "_inject_blocks=", "_job_option_blocks.append"] ∧
    ExecSrc.writeOrder = ["find_EventDataset", "_is_format_request", "get_rep", "add_to_replacement_dict", "_find_dir",
      "_copy_template_file", "chmod", "reset"] := by decide +kernel

/-- **C09.exec_backends** — the three executors: each package has its files without repetition,
the runner is the LAST file written, and only ATLAS builds a job script. -/
theorem exec_backends :
    ExecSrc.backends.map (·.name) = ["atlas", "cms_aod", "cms_miniaod"] ∧
    (ExecSrc.backends.all fun s => s.files.getLast? == some s.runner && decide s.files.Nodup && !s.files.isEmpty) = true ∧
    ExecSrc.backends.map (·.jobScripts) = [true, false, false] := by decide +kernel

/-- the verdict of every stage computed on its own from the INPUT (all dictionaries of the chain,
all call sites, the blocks the executor already keeps) — not from what earlier stages handed on -/
def verdicts (b : Backend) (env : Env) (st : ExecState) (q : Query) : List (Option Err) :=
  [ errOf (stageMeta q),
    errOf (stageTable b (allContribs q)),
    errOf (callsFrom b (allContribs q) q.calls 0),
    errOf (stageTop q.top),
    errOf (stageVisit q.body),
    errOf (stageJobs b (st.jobs ++ jobBlocks q)),
    if env.templateDir then none else some .templateDir,
    (renderFrom env b.files []).2.map .render ]

/-- the four ways a translation can end, in terms of its input: refused inside
`apply_ast_transformations` (executor untouched), refused inside `write_cpp_files` before the files or
at file `f` (the blocks of the query are kept), or a package -/
inductive RunShape (b : Backend) (env : Env) (st : ExecState) (q : Query) : Outcome → Prop
  | early (e : Err) (hin : e.inApply = true) : RunShape b env st q (fail e st)
  | late (specs : List Contrib) (e : Err) (hm : stageMeta q = .ok specs) (hin : e.inApply = false)
      (hnr : ∀ f, e ≠ .render f) :
      RunShape b env st q (fail e ⟨st.jobs ++ jobBlocks q, injectsOf specs⟩)
  | render (specs : List Contrib) (w : List Written) (f : String) (hm : stageMeta q = .ok specs)
      (hr : renderFrom env b.files [] = (w, some f)) :
      RunShape b env st q (fail (.render f) ⟨st.jobs ++ jobBlocks q, injectsOf specs⟩ w)
  | done (specs : List Contrib) (ls : List String) (w : List Written) (hm : stageMeta q = .ok specs)
      (hj : stageJobs b (st.jobs ++ jobBlocks q) = .ok ls) (hr : renderFrom env b.files [] = (w, none)) :
      RunShape b env st q ⟨.ok ⟨b.files, b.runner, ls, injectsOf specs⟩, w, true, .ground⟩

/-- one walk through the stages of `run`: at every exit, which error surfaces (the first refusing
verdict on the input) and what is left behind -/
theorem run_spec (b : Backend) (env : Env) (st : ExecState) (q : Query) :
    errOf (run b env st q).result = firstSome (verdicts b env st q) ∧ RunShape b env st q (run b env st q) := by
  unfold run verdicts
  cases hm : stageMeta q with
  | error e => exact ⟨rfl, .early e (metaFrom_err_inApply _ _ _ e hm)⟩
  | ok specs =>
  obtain ⟨ht, hc, hj⟩ := stageMeta_facts b q specs hm
  dsimp only
  rw [ht, hc, hj]
  cases hT : stageTable b (allContribs q) with
  | error e => exact ⟨rfl, .early e (stageTable_err_inApply b _ e hT)⟩
  | ok =>
  cases hC : callsFrom b (allContribs q) q.calls 0 with
  | error e => exact ⟨rfl, .early e (callsFrom_err_inApply b _ _ _ e hC)⟩
  | ok =>
  cases hP : stageTop q.top with
  | error e => exact ⟨rfl, .late specs e hm (stageTop_err _ e hP).1 (stageTop_err _ e hP).2⟩
  | ok =>
  cases hV : stageVisit q.body with
  | error e => exact ⟨rfl, .late specs e hm (stageVisit_err _ e hV).1 (stageVisit_err _ e hV).2⟩
  | ok =>
  cases hJ : stageJobs b (st.jobs ++ jobBlocks q) with
  | error e => exact ⟨rfl, .late specs e hm (stageJobs_err _ _ e hJ).1 (stageJobs_err _ _ e hJ).2⟩
  | ok ls =>
  cases hD : env.templateDir with
  | false => exact ⟨rfl, .late specs .templateDir hm rfl (fun f hf => nomatch hf)⟩
  | true =>
  cases hR : renderFrom env b.files [] with
  | mk w o =>
  cases o with
  | none => exact ⟨rfl, .done specs ls w hm hJ hR⟩
  | some f => exact ⟨rfl, .render specs w f hm hR⟩

/-- **C09.first_error_wins** — the error a refused translation surfaces is the error of the FIRST
stage (in the order metadata, method table, call sites, dataset / top-level shape, visitor, job
script, template directory, files) whose own verdict on the input is a refusal; a translation
succeeds exactly when no stage refuses. Within the metadata stage it is the first refused
dictionary of the chain, within the call sites the first refused site (`metaFrom`, `callsFrom`
carry the index; see `malformed_item_any_position`, `bad_call_any_position`). -/
theorem first_error_wins (b : Backend) (env : Env) (st : ExecState) (q : Query) :
    errOf (run b env st q).result = firstSome (verdicts b env st q) :=
  (run_spec b env st q).1

/-- **C09.refused_iff_some_stage_refuses** — a translation is refused exactly when (at least) one
of the following holds of its input: a dictionary of the metadata chain is malformed or two
`inject_code` blocks contradict each other; a collection is declared for another backend; a call
site does not match the (last) declaration of its callee; there is no dataset or the top level is
not a call of a name; the visitor meets a node outside its tables; (ATLAS) the job-script blocks the
executor holds together with ALL blocks of the query are contradictory, dangling or circular; the
template directory is missing or a file cannot be rendered. Each clause is a predicate on the
input alone (`ExecSpec.lean`). -/
theorem refused_iff_some_stage_refuses (b : Backend) (env : Env) (st : ExecState) (q : Query) :
    (∃ e, (run b env st q).result = .error e) ↔
      (metaMalformed q = true ∨ foreignDecl b q = true ∨ badCall b q = true ∨ topMalformed q.top = true ∨
       hasUnsupported q.body = true ∨ jobsMalformed b st q ∨ env.templateDir = false ∨ renderFails env b = true) := by
  rw [← errOf_isSome, first_error_wins, firstSome_isSome]
  simp only [verdicts, List.mem_cons, List.not_mem_nil, or_false, exists_eq_or_imp, exists_eq_left,
    stageMeta_refuses, stageTable_refuses, callsFrom_refuses, stageTop_refuses, stageVisit_refuses, stageJobs_refuses,
    templateDir_refuses, renderFrom_refuses, jobsMalformed, badCall]

theorem run_shape {b : Backend} {env : Env} {st : ExecState} {q : Query} {o : Outcome}
    (h : run b env st q = o) : RunShape b env st q o :=
  h ▸ (run_spec b env st q).2

/-- **C09.no_partial_package** — after a refused translation: the runner has not been made
executable; if the refusal came from any stage before the files (metadata, method table, call
sites, dataset, shape, visitor, job script, template directory) the output directory is EMPTY;
if file `f` could not be rendered, the directory holds exactly the files of the package before
`f`, complete, plus a truncated `f` when the failure came while `f` was being written — nothing
after `f` (in particular not the runner, which is the last file of every backend, unless `f` is
the runner itself). -/
theorem no_partial_package (b : Backend) (env : Env) (st : ExecState) (q : Query) (e : Err)
    (h : (run b env st q).result = .error e) :
    (run b env st q).runnerExec = false ∧
    ((∀ f, e ≠ .render f) → (run b env st q).written = []) ∧
    (∀ f, e = .render f → ∃ pre post, b.files = pre ++ f :: post ∧ (∀ g ∈ pre, env.render g = .ok) ∧
      env.render f ≠ .ok ∧
      (run b env st q).written = pre.map (fun g => ⟨g, true⟩) ++
        (if env.render f = .failsAfterOpen then [⟨f, false⟩] else [])) := by
  generalize ho : run b env st q = o at h ⊢
  cases run_shape ho with
  | early e' hin =>
    cases h
    refine ⟨rfl, fun _ => rfl, ?_⟩
    intro f hf; subst hf; cases hin
  | late specs e' hm hin hnr =>
    cases h
    exact ⟨rfl, fun _ => rfl, fun f hf => absurd hf (hnr f)⟩
  | render specs w f hm hr =>
    cases h
    refine ⟨rfl, fun hne => absurd rfl (hne f), ?_⟩
    intro f' hf'
    cases hf'
    obtain ⟨pre, post, h1, h2, h3, h4⟩ := renderFrom_some env b.files [] w f hr
    exact ⟨pre, post, h1, h2, h3, by simpa [fail] using h4⟩
  | done specs ls w hm hj hr => simp at h

/-- **C09.accepted_is_complete** — a translation that returns a package has written EVERY file of
the backend's package, complete and in order, has made the runner executable, reports exactly
these files, and has reset the executor. -/
theorem accepted_is_complete (b : Backend) (env : Env) (st : ExecState) (q : Query) (p : Package)
    (h : (run b env st q).result = .ok p) :
    (run b env st q).written = b.files.map (fun f => ⟨f, true⟩) ∧
    (run b env st q).runnerExec = true ∧
    (run b env st q).state = .ground ∧
    p.files = b.files ∧ p.runner = b.runner := by
  generalize ho : run b env st q = o at h ⊢
  cases run_shape ho with
  | early | late | render => simp [fail] at h
  | done specs ls w hm hj hr =>
    simp only [Except.ok.injEq] at h
    subst h
    obtain ⟨h1, _⟩ := renderFrom_none env b.files [] w hr
    exact ⟨by simpa using h1, rfl, rfl, rfl, rfl⟩

theorem complete_filter (l : List String) :
    ((l.map (fun g => (⟨g, true⟩ : Written))).filter (·.complete)) = l.map (fun g => ⟨g, true⟩) := by
  induction l with
  | nil => rfl
  | cons a l ih => simp [ih]

theorem prefix_listing_ok (pre post : List String) (f : String) (tail : List Written)
    (ht : tail = [] ∨ tail = [⟨f, false⟩]) :
    isPrefixListing (pre ++ f :: post) (pre.map (fun g => ⟨g, true⟩) ++ tail) = true ∧
    ((pre.map (fun g => (⟨g, true⟩ : Written)) ++ tail).filter (·.complete)).length < (pre ++ f :: post).length := by
  rcases ht with rfl | rfl
  · have hall : ∀ x ∈ (pre.map fun g => (⟨g, true⟩ : Written)).dropLast, x.complete = true := fun x hx => by
      obtain ⟨g, _, rfl⟩ := List.mem_map.1 (List.dropLast_subset _ hx)
      rfl
    simpa [isPrefixListing, complete_filter, Function.comp_def] using hall
  · simp [isPrefixListing, complete_filter, Function.comp_def, List.take_append, List.take_of_length_le]

/-- **C09.outcome_satisfies_spec** — the observation clause the harness evaluates on the real
executor (`noPartialPackage`: after a refusal the directory holds a proper initial part of the
package — fewer complete files than the package has — and no executable runner; after a package
was returned every file, complete, and an executable runner) holds of every outcome of the model,
for every backend with a non-empty package. -/
theorem outcome_satisfies_spec (b : Backend) (env : Env) (st : ExecState) (q : Query) (hne : b.files ≠ []) :
    noPartialPackage b (errOf (run b env st q).result).isSome (run b env st q).written (run b env st q).runnerExec = true := by
  cases hr : (run b env st q).result with
  | ok p =>
    obtain ⟨h1, h2, _⟩ := accepted_is_complete b env st q p hr
    simp [noPartialPackage, errOf, h1, h2]
  | error e =>
    obtain ⟨h1, h2, h3⟩ := no_partial_package b env st q e hr
    simp only [noPartialPackage, errOf, Option.isSome_some, if_true, h1, Bool.not_false, Bool.and_true,
      Bool.and_eq_true, decide_eq_true_eq]
    by_cases hf : ∃ f, e = .render f
    · obtain ⟨f, hf⟩ := hf
      obtain ⟨pre, post, hfiles, _, hnok, hw⟩ := h3 f hf
      rw [hw, hfiles]
      apply prefix_listing_ok
      split
      · exact Or.inr rfl
      · exact Or.inl rfl
    · have hw := h2 (fun f hfe => hf ⟨f, hfe⟩)
      rw [hw]
      have : 0 < b.files.length := List.length_pos_iff.2 hne
      simpa [isPrefixListing] using this

/-- **C09.refused_runner_never_complete** — for a package whose runner is its last file (all three
backends: `exec_backends`): after a refusal the output directory holds no complete runner. -/
theorem refused_runner_never_complete (b : Backend) (env : Env) (st : ExecState) (q : Query) (e : Err)
    (hlast : b.files.getLast? = some b.runner) (hnd : b.files.Nodup)
    (h : (run b env st q).result = .error e) :
    (⟨b.runner, true⟩ : Written) ∉ (run b env st q).written := by
  obtain ⟨_, h2, h3⟩ := no_partial_package b env st q e h
  by_cases hf : ∃ f, e = .render f
  · obtain ⟨f, hf⟩ := hf
    obtain ⟨pre, post, hfiles, _, _, hw⟩ := h3 f hf
    rw [hw]
    intro hmem
    have hpre : b.runner ∈ pre := by split at hmem <;> simpa using hmem
    -- the runner is also the last element of `pre ++ f :: post`: it occurs twice
    rw [hfiles] at hlast hnd
    have hin : b.runner ∈ f :: post :=
      List.mem_of_getLast? (by simpa [List.getLast?_append] using hlast)
    exact (List.nodup_append.1 hnd).2.2 _ hpre _ hin rfl
  · rw [h2 (fun f hfe => hf ⟨f, hfe⟩)]
    simp

/-- **C09.malformed_item_any_position** — a malformed dictionary at ANY place of the metadata chain,
after any number of well-formed ones and whatever follows it, is what the translation is refused
with: the error names its position. -/
theorem malformed_item_any_position (b : Backend) (env : Env) (st : ExecState) (q : Query)
    (pre post : List Item) (bad : Item) (e : MdErr)
    (hpre : itemsMalformed pre = false) (hbad : mdCheck bad.md = .error e) :
    (run b env st { q with items := pre ++ bad :: post }).result = .error (.metadata pre.length e) := by
  obtain ⟨acc, hacc⟩ : ∃ acc, metaFrom pre 0 [] = .ok acc :=
    ok_of_errOf_isSome_eq_false (hpre ▸ stageMeta_refuses { q with items := pre })
  have : stageMeta { q with items := pre ++ bad :: post } = .error (.metadata pre.length e) := by
    simp [stageMeta, metaFrom_append, hacc, Except.bind, metaFrom, hbad]
  unfold run
  rw [this]
  rfl

/-- **C09.inject_conflict_any_position** — two `inject_code` blocks of one name that differ, at ANY
two places of the chain, make the translation refuse. -/
theorem inject_conflict_any_position (b : Backend) (env : Env) (st : ExecState) (q : Query)
    (pre mid post : List Item) (i₁ i₂ : Item) (b₁ b₂ : IB)
    (h₁ : contribOf i₁ = .inject b₁) (h₂ : contribOf i₂ = .inject b₂) (hn : b₁.name = b₂.name) (hne : b₁ ≠ b₂) :
    ∃ e, (run b env st { q with items := pre ++ i₁ :: mid ++ i₂ :: post }).result = .error e := by
  rw [refused_iff_some_stage_refuses]
  left
  simp only [metaMalformed, itemsMalformed, Bool.or_eq_true]
  right
  rw [injectConflict_iff]
  refine ⟨b₁, ?_, b₂, ?_, hn, hne⟩
  · simp [injectsOf_append, injectsOf, h₁]
  · simp [injectsOf_append, injectsOf, h₁, h₂]

/-- **C09.bad_call_any_position** — a call site that does not match its callee, after ANY number of
matching (or foreign) call sites and whatever follows, is what the translation is refused with
(when metadata and method table are in order): the error names its position. -/
theorem bad_call_any_position (b : Backend) (env : Env) (st : ExecState) (q : Query)
    (pre post : List Call) (c : Call) (k : Callee) (e : CallErr')
    (hm : metaMalformed q = false) (hf : foreignDecl b q = false)
    (hpre : pre.any (callBad b (allContribs q)) = false)
    (hk : lookup b (allContribs q) c.name = some k) (hc : checkCall k c = .error e) :
    (run b env st { q with calls := pre ++ c :: post }).result = .error (.call pre.length e) := by
  -- the verdicts of the first two stages are acceptances, the third is this refusal
  rw [← errOf_eq_some, first_error_wins]
  have h1 : errOf (stageMeta q) = none := by
    rw [← Option.not_isSome_iff_eq_none, stageMeta_refuses, hm]; simp
  have h2 : errOf (stageTable b (allContribs q)) = none := by
    rw [← Option.not_isSome_iff_eq_none, stageTable_refuses, hf]; simp
  obtain ⟨⟨⟩, hpre'⟩ := ok_of_errOf_isSome_eq_false (hpre ▸ callsFrom_refuses b (allContribs q) pre 0)
  have h3 : callsFrom b (allContribs q) (pre ++ c :: post) 0 = .error (.call pre.length e) := by
    simp [callsFrom_append, hpre', Except.bind, callsFrom, hk, hc]
  show firstSome (errOf (stageMeta q) :: errOf (stageTable b (allContribs q)) ::
    errOf (callsFrom b (allContribs q) (pre ++ c :: post) 0) :: _) = _
  rw [h1, h2, h3]
  rfl

/-- **C09.job_blocks_all_handed** — on a backend that builds a job script, an accepted translation
emits what `generate_script_block` makes of the blocks the executor held together with the block of
EVERY `add_job_script` dictionary of the chain, wherever it stands (that the block of a dictionary at
any position is among them is `job_block_member`). -/
theorem job_blocks_all_handed (b : Backend) (env : Env) (st : ExecState) (q : Query) (p : Package)
    (hb : b.jobScripts = true) (h : (run b env st q).result = .ok p) :
    C15.genScript (st.jobs ++ jobBlocks q) = .ok p.jobLines := by
  generalize ho : run b env st q = o at h ⊢
  cases run_shape ho with
  | early | late | render => simp [fail] at h
  | done specs ls w hm hj hr =>
    simp only [Except.ok.injEq] at h
    subst h
    simp only [stageJobs, hb, if_true] at hj
    cases hg : C15.genScript (st.jobs ++ jobBlocks q) with
    | ok ls' => rw [hg] at hj; simpa using hj
    | error e' => rw [hg] at hj; simp at hj

/-- `generate_script_block` drops no line: when it succeeds, every line of every block it was given
is in its output (`C15.gso_ok`: the output is the scripts along an order that covers every name, and no
two blocks of one name differ) -/
theorem genScript_keeps_every_line (bs : List C15.JB) (out : List String) (h : C15.genScript bs = .ok out) :
    ∀ jb ∈ bs, ∀ l ∈ jb.script, l ∈ out := by
  unfold C15.genScript at h
  cases hg : C15.genScriptOrder bs with
  | error e => rw [hg] at h; cases h
  | ok r =>
    obtain ⟨π, o⟩ := r
    rw [hg] at h
    cases h
    have hnc := (C15.gso_ok bs π out hg).1
    obtain ⟨_, _, hall, hout, _⟩ := C15.sound bs π out hg
    intro jb hjb l hl
    rw [hout, List.mem_flatMap]
    exact ⟨jb.name, hall _ (List.mem_map.2 ⟨jb, hjb, rfl⟩), C15.script_eq_of_noconf bs hnc jb hjb ▸ hl⟩

/-- **C09.job_lines_all_emitted** — on a backend that BUILDS a job script (hypothesis `hb`: of the
three executors only ATLAS, `exec_backends`) nothing that was asked for is dropped: every line of
every `add_job_script` block of the chain is among the lines the accepted package carries. -/
theorem job_lines_all_emitted (b : Backend) (env : Env) (st : ExecState) (q : Query) (p : Package)
    (hb : b.jobScripts = true) (h : (run b env st q).result = .ok p) :
    jobLinesKept (jobBlocks q) p.jobLines = true := by
  have hg := job_blocks_all_handed b env st q p hb h
  have hk := genScript_keeps_every_line _ _ hg
  simp only [jobLinesKept, List.all_eq_true, List.contains_iff_mem]
  intro jb hjb l hl
  exact hk jb (List.mem_append.2 (Or.inr hjb)) l hl

/-- the ATLAS executor as regenerated from its source, and a world in which every file renders -/
def leakBackend : Backend := ⟨"atlas", ["ATestRun_eljob.py", "package_CMakeLists.txt", "query.cxx", "query.h", "runner.sh"], "runner.sh", true, []⟩
def leakEnv : Env := ⟨true, fun _ => .ok⟩

/-- the CMS AOD executor as regenerated from its source (no job script), and two queries that send
job-script blocks to it: a well-formed one, and one whose dependency names a block never sent -/
def cmsBackend : Backend := ⟨"cms_aod", ["analyzer_cfg.py", "Analyzer.cc", "BuildFile.xml", "copy_root_tree.C", "runner.sh"], "runner.sh", false, []⟩
def cmsJobItem (deps : List String) : Item :=
  { md := ⟨some "add_job_script", ["name", "script", "depends_on"], false⟩, name := "vpjob", script := ["# vp asked for"], deps := deps }
def cmsJobQuery (deps : List String) : Query := ⟨[cmsJobItem deps], [], .otherCall, .node "Name" "" 0 []⟩

/-- **C09.cms_jobscript_dropped_counterexample** — `job_blocks_all_handed` / `job_lines_all_emitted` /
`malformed_jobs_refused` are FALSE without the hypothesis `b.jobScripts = true`, and the code is such a
case: the CMS executors (`exec_backends`: `jobScripts = false`) accept a query that sends an
`add_job_script` block and emit NONE of its lines — what was asked for is silently dropped — and
they accept a block whose dependency was never sent (malformed by `jobMalformed`), which ATLAS
refuses. (Both inputs are replayed on the real cms_aod / cms_miniaod executors on every run;
listed findings.) -/
theorem cms_jobscript_dropped_counterexample :
    (ExecSrc.backends.any fun s => s.name == cmsBackend.name && s.files == cmsBackend.files && s.runner == cmsBackend.runner &&
      s.jobScripts == cmsBackend.jobScripts) = true ∧
    -- well-formed block: accepted, its line is in no file
    (run cmsBackend leakEnv .ground (cmsJobQuery [])).result.toOption.map (·.jobLines) = some [] ∧
    jobLinesKept (jobBlocks (cmsJobQuery [])) [] = false ∧
    -- dangling dependency: malformed, accepted all the same …
    jobMalformedB (jobBlocks (cmsJobQuery ["never_sent"])) = true ∧
    (errOf (run cmsBackend leakEnv .ground (cmsJobQuery ["never_sent"])).result) = none ∧
    -- … while the same query is refused by a backend that builds the job script
    (errOf (run leakBackend leakEnv .ground (cmsJobQuery ["never_sent"])).result) =
      some (.jobScript (.missing "never_sent" "vpjob")) := by
  decide +kernel

theorem job_block_member (pre post : List Item) (it : Item) (q : Query) (jb : C15.JB) (h : contribOf it = .job jb) :
    jb ∈ jobBlocks { q with items := pre ++ it :: post } := by
  simp [jobBlocks, allContribs, jobsOf_append, jobsOf, h]

/-- **C09.malformed_jobs_refused** — on a backend that builds a job script: if the blocks of the
chain (any position, copies included) together with the blocks the executor holds are contradictory,
dangling or circular, the translation is refused. -/
theorem malformed_jobs_refused (b : Backend) (env : Env) (st : ExecState) (q : Query)
    (hb : b.jobScripts = true) (h : jobMalformed (st.jobs ++ jobBlocks q)) :
    ∃ e, (run b env st q).result = .error e := by
  rw [refused_iff_some_stage_refuses]
  exact Or.inr (Or.inr (Or.inr (Or.inr (Or.inr (Or.inl ⟨hb, h⟩)))))

/-- **C09.last_declaration_counts** — a call site is checked against the LAST declaration of its
name in the chain (which also replaces the backend's own callee of that name). -/
theorem last_declaration_counts (b : Backend) (pre post : List Contrib) (d : Decl) (c : Contrib)
    (hc : declsOf [c] = [d]) (hpost : ∀ d' ∈ declsOf post, d'.name ≠ d.name) :
    lookup b (pre ++ c :: post) d.name = some d.callee := by
  have hd : declsOf (pre ++ c :: post) = declsOf pre ++ d :: declsOf post := by
    rw [declsOf_append]
    have : declsOf (c :: post) = declsOf ([c] ++ post) := rfl
    rw [this, declsOf_append, hc]; rfl
  have hnone : Dict.lastBy Decl.name (declsOf post) d.name = none :=
    (Dict.lastBy_eq_none _).2 fun hm => by
      obtain ⟨d', hd', e⟩ := List.mem_map.1 hm
      exact hpost d' hd' e
  rw [lookup_eq_lastBy, hd, ← List.append_assoc, Dict.lastBy_append, Dict.lastBy_cons, hnone]
  simp

/-- **C09.refused_state_exact** — the executor after a refused translation: a refusal inside
`apply_ast_transformations` (metadata, method table, call sites) leaves it as it was; a refusal
inside `write_cpp_files` comes AFTER the job-script blocks of the query were appended and the
inject blocks stored, and `reset()` is not reached — the executor keeps them. -/
theorem refused_state_exact (b : Backend) (env : Env) (st : ExecState) (q : Query) (e : Err)
    (h : (run b env st q).result = .error e) :
    (e.inApply = true → (run b env st q).state = st) ∧
    (e.inApply = false → ∃ specs, stageMeta q = .ok specs ∧
      (run b env st q).state = ⟨st.jobs ++ jobBlocks q, injectsOf specs⟩) := by
  generalize ho : run b env st q = o at h ⊢
  cases run_shape ho with
  | early e' hin =>
    cases h
    exact ⟨fun _ => rfl, fun hf => (by rw [hin] at hf; cases hf)⟩
  | late specs e' hm hin hnr =>
    cases h
    exact ⟨fun ht => (by rw [hin] at ht; cases ht), fun _ => ⟨specs, hm, rfl⟩⟩
  | render specs w f hm hr =>
    cases h
    exact ⟨fun ht => (by simp [Err.inApply] at ht), fun _ => ⟨specs, hm, rfl⟩⟩
  | done specs ls w hm hj hr => simp at h

/-- a literal translation history on ATLAS: a query that declares a job-script block and is refused
by the visitor (`//`), then a query without any metadata on the same executor -/
def leakFirst : Query :=
  ⟨[{ md := ⟨some "add_job_script", ["name", "script", "depends_on"], false⟩, name := "vpleak", script := ["# leaked line"] }],
   [], .otherCall, .node "BinOp" "FloorDiv" 0 [.node "Name" "" 0 [], .node "Constant" "" 0 []]⟩
def leakSecond : Query := ⟨[], [], .otherCall, .node "Name" "" 0 []⟩

/-- **C09.failed_run_state_not_restored_counterexample** — the statement "a refused translation
leaves the executor as it found it" is FALSE of the code: after the refused first query the
executor still holds its job-script block, and the package of the next (unrelated) query on that
executor carries the line — a fresh executor emits none. (The same history is replayed on the
real ATLAS executor on every run; listed finding.) -/
theorem failed_run_state_not_restored_counterexample :
    (errOf (runTwo leakBackend leakEnv .ground leakFirst leakSecond).1.result).isSome = true ∧
    (runTwo leakBackend leakEnv .ground leakFirst leakSecond).1.state ≠ .ground ∧
    (runTwo leakBackend leakEnv .ground leakFirst leakSecond).2.result.toOption.map (·.jobLines) = some ["# leaked line"] ∧
    (run leakBackend leakEnv .ground leakSecond).result.toOption.map (·.jobLines) = some [] := by
  decide +kernel

def exAtlas : Backend := ⟨"atlas", ["ATestRun_eljob.py", "package_CMakeLists.txt", "query.cxx", "query.h", "runner.sh"], "runner.sh", true,
  [⟨"DeltaR", .code ⟨"DeltaR", 4, false⟩⟩, ⟨"Jets", .collection⟩]⟩
def exOkItem : Item := { md := ⟨some "add_cpp_function", ["name", "include_files", "arguments", "code", "return_type"], false⟩, name := "f", arity := 2 }
def exBadItem : Item := { md := ⟨some "add_job_script", ["name"], false⟩, name := "a" }
def exQuery : Query := ⟨[exOkItem, exOkItem, exBadItem, exOkItem], [⟨"f", ⟨2, false⟩, false⟩, ⟨"DeltaR", ⟨3, false⟩, false⟩], .otherCall, .node "Name" "" 0 []⟩
def exSurrogate : Env := ⟨true, fun f => if f = "query.cxx" then .failsAfterOpen else .ok⟩

-- a malformed dictionary after two well-formed ones: refused with its position, nothing written
example : errOf (run exAtlas leakEnv .ground exQuery).result = some (.metadata 2 (.missingKey ["script"])) := by decide +kernel
example : (run exAtlas leakEnv .ground exQuery).written = [] := by decide +kernel
example : itemsMalformed [exOkItem, exOkItem] = false ∧ (mdCheck exBadItem.md).toOption = none := by decide +kernel
-- without it: the second call site (DeltaR with three arguments) is what surfaces
example : errOf (run exAtlas leakEnv .ground { exQuery with items := [exOkItem] }).result = some (.call 1 (.code (.arity 4 3))) := by decide +kernel
-- a file that cannot be written out: the files before it complete, the file truncated, no runner
example : (run exAtlas exSurrogate .ground leakSecond).written =
    [⟨"ATestRun_eljob.py", true⟩, ⟨"package_CMakeLists.txt", true⟩, ⟨"query.cxx", false⟩] := by decide +kernel
example : errOf (run exAtlas exSurrogate .ground leakSecond).result = some (.render "query.cxx") := by decide +kernel
example : (run exAtlas leakEnv .ground leakSecond).written.length = 5 ∧ (run exAtlas leakEnv .ground leakSecond).runnerExec = true := by decide +kernel
example : lookup exAtlas [.fn ⟨"f", 2, false⟩, .fn ⟨"f", 1, false⟩] "f" = some (.code ⟨"f", 1, false⟩) := by decide +kernel
example : lookup exAtlas [.fn ⟨"DeltaR", 1, false⟩] "DeltaR" = some (.code ⟨"DeltaR", 1, false⟩) := by decide +kernel

end FaxVerif.C09.Exec
