/-
C13 — model of the arithmetic part of `query_ast_visitor` (func_adl_xAOD/common/ast_to_cpp_translator.py),
of `most_accurate_type` (common/utils.py) and of the `set_var` cast rule (common/statement.py).

Three layers:
  1. `translate : Expr → Except Refusal Rep` — what `visit_BinOp` / `visit_special_BinOp` / `visit_UnaryOp` /
     `visit_Compare` / `visit_Constant` build: a *declared* type (`cpp_value.cpp_type().type`) and a C++
     expression.  The operator tables and the type priority table are the constants of
     `FaxVerif.Generated.C13Tables`, regenerated from the source on every run.
  2. `evalC` — the meaning C++ gives to that expression (usual arithmetic conversions, bool promotion,
     int/int truncation, `%` only on integral operands and truncating toward zero, `std::pow` overloads),
     over `Int` and an ABSTRACT double `Num` (no IEEE reasoning; no law is assumed).
  3. `evalPy` — what Python computes for the source expression.
Statement-producing nodes (`visit_IfExp`, the `Aggregate` path, `visit_BoolOp`) are modelled as forms of
their own (`emitCond`, `emitAgg`, `evalBoolOpC`) whose operands are expressions.

No Mathlib/Batteries import: this file is run by the driver.
-/
import FaxVerif.Generated.C13Tables
namespace FaxVerif.C13
open FaxVerif.Generated.C13Tables

/-! ## types and tables -/

/-- the four terminal types that occur (`ctyp.terminal(...).type`) -/
inductive CT | int | float | double | bool
  deriving DecidableEq, Repr, Inhabited

def CT.name : CT → String
  | .int => "int" | .float => "float" | .double => "double" | .bool => "bool"

def CT.isFloating : CT → Bool
  | .float | .double => true
  | _ => false

def lookup {β : Type} (t : List (String × β)) (k : String) : Option β :=
  match t with
  | [] => none
  | (a, b) :: r => if a == k then some b else lookup r k

/-- `_type_priority[t.type]` (none = `t.type not in _type_priority`) -/
def prio (t : CT) : Option Nat := lookup typePriority t.name

/-- why a translation is refused (the exception class the visitor raises) -/
inductive Refusal
  | assertion   -- AssertionError of most_accurate_type: a type outside the priority table (bool)
  | runtime     -- RuntimeError: "Do not know how to translate Binary/Unary operator"
  | keyError    -- compare_operations[type(op)] for `is`, `in`, …
  | valueError  -- "Aggregate over a sequence of type … is not supported"
  deriving DecidableEq, Repr

def Refusal.name : Refusal → String
  | .assertion => "AssertionError" | .runtime => "RuntimeError" | .keyError => "KeyError" | .valueError => "ValueError"

/-- first element of maximal priority: `sorted(l, key=prio, reverse=True)[0]` (Python's sort is stable,
also with `reverse=True`) -/
def firstMax : CT × Nat → List (CT × Nat) → CT × Nat
  | best, [] => best
  | best, x :: xs => if x.2 > best.2 then firstMax x xs else firstMax best xs

def withPrio : List CT → Option (List (CT × Nat))
  | [] => some []
  | t :: ts =>
    match prio t, withPrio ts with
    | some p, some r => some ((t, p) :: r)
    | _, _ => none

/-- `most_accurate_type` -/
def mostAccurate (ts : List CT) : Except Refusal CT :=
  match withPrio ts with
  | some (x :: xs) => .ok (firstMax x xs).1
  | _ => .error .assertion

/-! ## Python side: the source expression -/

inductive PyBin | add | sub | mult | div | mod | pow | floordiv | matmult | lshift | rshift | bitor | bitxor | bitand
  deriving DecidableEq, Repr

def PyBin.astName : PyBin → String
  | .add => "Add" | .sub => "Sub" | .mult => "Mult" | .div => "Div" | .mod => "Mod" | .pow => "Pow"
  | .floordiv => "FloorDiv" | .matmult => "MatMult" | .lshift => "LShift" | .rshift => "RShift"
  | .bitor => "BitOr" | .bitxor => "BitXor" | .bitand => "BitAnd"

inductive PyUn | uadd | usub | not | invert
  deriving DecidableEq, Repr

def PyUn.astName : PyUn → String
  | .uadd => "UAdd" | .usub => "USub" | .not => "Not" | .invert => "Invert"

inductive PyCmp | lt | lte | gt | gte | eq | noteq | is | isNot | isIn | notIn
  deriving DecidableEq, Repr

def PyCmp.astName : PyCmp → String
  | .lt => "Lt" | .lte => "LtE" | .gt => "Gt" | .gte => "GtE" | .eq => "Eq" | .noteq => "NotEq"
  | .is => "Is" | .isNot => "IsNot" | .isIn => "In" | .notIn => "NotIn"

/-- A scalar Python expression.  `leaf t text id`: an operand whose representation is already known — a
method call with a declared return type, an accumulator, an `if_else_result` variable … —, `text` its C++
rendering, `id` the slot of its value in the environment. `flt text id` is a `float` constant (`text` =
`str(value)`, value in slot `id`). -/
inductive Expr
  | leaf (t : CT) (text : String) (id : Nat)
  | int (n : Int)
  | flt (text : String) (id : Nat)
  | bool (b : Bool)
  | bin (op : PyBin) (l r : Expr)
  | un (op : PyUn) (e : Expr)
  | cmp (op : PyCmp) (l r : Expr)
  deriving Repr

/-! ## C++ side: the emitted expression -/

inductive CE
  | leaf (t : CT) (text : String) (id : Nat)
  | ilit (n : Int)
  | blit (b : Bool)
  | bin (op : String) (l r : CE)      -- "(" l op r ")"
  | cast (t : CT) (e : CE)            -- "static_cast<t>(" e ")"
  | pow (l r : CE)                    -- "std::pow(" l ", " r ")"
  | un (op : String) (e : CE)         -- "(" op "(" e "))"
  deriving Repr, DecidableEq

def CE.render : CE → String
  | .leaf _ s _ => s
  | .ilit n => if n < 0 then "(" ++ toString n ++ ")" else toString n   -- `_signed_literal`
  | .blit b => if b then "true" else "false"
  | .bin op l r => "(" ++ l.render ++ op ++ r.render ++ ")"
  | .cast t e => "static_cast<" ++ t.name ++ ">(" ++ e.render ++ ")"
  | .pow l r => "std::pow(" ++ l.render ++ ", " ++ r.render ++ ")"
  | .un op e => "(" ++ op ++ "(" ++ e.render ++ "))"

/-- a `cpp_value`: declared type and expression -/
structure Rep where
  ty : CT
  ce : CE
  deriving Repr, DecidableEq

/-- `visit_BinOp` for an operator found in `_known_binary_operators` -/
def emitKnownBin (op : PyBin) (txt : String) (l r : Rep) : Except Refusal Rep :=
  match mostAccurate [l.ty, r.ty] with
  | .error e => .error e
  | .ok best =>
    if op = .div then
      -- Python's `/` is real division: C++ would truncate int/int
      .ok ⟨.double, .bin txt (if best = .int then .cast .double l.ce else l.ce) r.ce⟩
    else
      .ok ⟨best, .bin txt l.ce r.ce⟩

/-- `visit_BinOp` / `visit_special_BinOp` given the operands' representations -/
def emitBin (op : PyBin) (l r : Rep) : Except Refusal Rep :=
  match lookup binaryOps op.astName with
  | some txt => emitKnownBin op txt l r
  | none => if op = .pow then .ok ⟨.double, .pow l.ce r.ce⟩ else .error .runtime

/-- `visit_UnaryOp`: `not x` is a `bool` whatever the operand is; `+x` and `-x` keep the operand's type -/
def emitUn (op : PyUn) (e : Rep) : Except Refusal Rep :=
  match lookup unaryOps op.astName with
  | some txt => .ok ⟨if op = .not then .bool else e.ty, .un txt e.ce⟩
  | none => .error .runtime

/-- `visit_Compare` (one operator) -/
def emitCmp (op : PyCmp) (l r : Rep) : Except Refusal Rep :=
  match lookup compareOps op.astName with
  | some txt => .ok ⟨.bool, .bin txt l.ce r.ce⟩
  | none => .error .keyError

/-- is the operator handled at all (decided before the operands are visited) -/
def binHandled (op : PyBin) : Bool := (lookup binaryOps op.astName).isSome || op = .pow
def unHandled (op : PyUn) : Bool := (lookup unaryOps op.astName).isSome

def translate : Expr → Except Refusal Rep
  | .leaf t s i => .ok ⟨t, .leaf t s i⟩
  | .int n => .ok ⟨.int, .ilit n⟩                       -- visit_Constant: `type(value) is int`
  | .flt s i => .ok ⟨.double, .leaf .double s i⟩        -- visit_Constant: `type(value) is float`
  | .bool b => .ok ⟨.bool, .blit b⟩                     -- visit_Constant: `type(value) is bool`
  | .bin op l r =>
    if binHandled op then
      match translate l with
      | .error e => .error e
      | .ok lr =>
        match translate r with
        | .error e => .error e
        | .ok rr => emitBin op lr rr
    else .error .runtime
  | .un op e =>
    if unHandled op then
      match translate e with
      | .error x => .error x
      | .ok r => emitUn op r
    else .error .runtime
  | .cmp op l r =>
    match translate l with
    | .error e => .error e
    | .ok lr =>
      match translate r with
      | .error e => .error e
      | .ok rr => emitCmp op lr rr

/-- `guess_type_from_number` (only used by the legacy `visit_Num`): `int(n) == n` decides. `isIntegerValued`
is `int(n) == n` for the number at hand. -/
def guessTypeFromNumber (isIntegerValued : Bool) : CT := if isIntegerValued then .int else .double

/-! ## statements: the `set_var` / `push_back` cast rule, conditional, aggregate, bool-op -/

/-- `statement.set_var.emit` (and `push_back.emit` against the element type): the right-hand side -/
def setVarRhs (target : CT) (value : Rep) : CE :=
  if target ≠ value.ty then .cast target value.ce else value.ce

/-- `visit_IfExp`: the result variable is always declared `double` -/
structure CondOut where
  test : Rep
  thenRhs : CE
  elseRhs : CE
  result : Rep
  deriving Repr

def condResultType : CT := .double

def emitCond (name : String) (slot : Nat) (test a b : Rep) : CondOut :=
  { test := test, thenRhs := setVarRhs condResultType a, elseRhs := setVarRhs condResultType b,
    result := ⟨condResultType, .leaf condResultType name slot⟩ }

def condLines (name : String) (o : CondOut) : List String :=
  [condResultType.name ++ " " ++ name ++ ";",
   "if (" ++ o.test.ce.render ++ ")",
   name ++ " = " ++ o.thenRhs.render ++ ";",
   "else",
   name ++ " = " ++ o.elseRhs.render ++ ";"]

/-- `check_accumulator_type` -/
def accTypeOk (t : CT) : Bool := t = .float || t = .double || t = .int

/-- `visit_call_Aggregate_initial`, typing part: the accumulator starts with the seed's type and is widened
to `most_accurate_type([seed, update])` when the update expression has another type. -/
def accType (seed upd : CT) : Except Refusal CT :=
  if upd ≠ seed then mostAccurate [seed, upd] else .ok seed

/-- slot of the accumulator in the environment of an update expression -/
def accSlot : Nat := 0

/-- The accumulator is a `cpp_variable` whose type is *mutated* (`update_type`) after the update expression
has been translated: in the emitted C++ it has the widened type wherever its name occurs. -/
def CE.retype (t : CT) : CE → CE
  | .leaf t' s i => if i = accSlot then .leaf t s i else .leaf t' s i
  | .ilit n => .ilit n
  | .blit b => .blit b
  | .bin op l r => .bin op (l.retype t) (r.retype t)
  | .cast t' e => .cast t' (e.retype t)
  | .pow l r => .pow (l.retype t) (r.retype t)
  | .un op e => .un op (e.retype t)

/-- `set_var` decides its cast when the statement is *emitted*, i.e. with the accumulator's final type when the
value is the accumulator variable itself; the type of a compound expression was fixed when it was visited. -/
def finalRep (accTy : CT) (r : Rep) : Rep :=
  match r.ce with
  | .leaf _ s i => if i = accSlot then ⟨accTy, .leaf accTy s i⟩ else r
  | _ => ⟨r.ty, r.ce.retype accTy⟩

/-- the update lambda of an `Aggregate`: a scalar expression, or a conditional (what `Max`/`Min` expand to) -/
inductive Upd
  | plain (e : Expr)
  | cond (test a b : Expr)
  /-- a conditional *inside* the lambda's body: `body` refers to the conditional's value through the operand in
  slot `slot` (`(acc if acc > 0 else 0) + j.pt()`) -/
  | condIn (slot : Nat) (test a b : Expr) (body : Expr)
  deriving Repr

/-- give the operand in `slot` the type `t` -/
def Expr.retypeAt (slot : Nat) (t : CT) : Expr → Expr
  | .leaf t' s i => if i = slot then .leaf t s i else .leaf t' s i
  | .int n => .int n
  | .flt s i => .flt s i
  | .bool b => .bool b
  | .bin op l r => .bin op (l.retypeAt slot t) (r.retypeAt slot t)
  | .un op e => .un op (e.retypeAt slot t)
  | .cmp op l r => .cmp op (l.retypeAt slot t) (r.retypeAt slot t)

structure AggOut where
  accTy : CT
  seed : CE
  cond : Option CondOut     -- the conditional evaluated inside the loop, if any
  updRhs : CE               -- right-hand side of `acc = …;`
  deriving Repr

def translateUpd (ifName : String) (ifSlot : Nat) : Upd → Except Refusal (Option (Rep × Rep × Rep) × Rep)
  | .plain e =>
    match translate e with
    | .error x => .error x
    | .ok r => .ok (none, r)
  | .cond t a b =>
    match translate t with
    | .error x => .error x
    | .ok tr =>
      match translate a with
      | .error x => .error x
      | .ok ar =>
        match translate b with
        | .error x => .error x
        | .ok br => .ok (some (tr, ar, br), ⟨condResultType, .leaf condResultType ifName ifSlot⟩)
  | .condIn slot t a b body =>
    match translate t with
    | .error x => .error x
    | .ok tr =>
      match translate a with
      | .error x => .error x
      | .ok ar =>
        match translate b with
        | .error x => .error x
        | .ok br =>
          -- the body sees the conditional's result variable, which `visit_IfExp` types `double`
          match translate (body.retypeAt slot condResultType) with
          | .error x => .error x
          | .ok r => .ok (some (tr, ar, br), r)

/-- `visit_call_Aggregate_initial`: `seed` is the representation of the initial value, the update was
translated with the accumulator typed as the seed. -/
def emitAgg (ifName : String) (ifSlot : Nat) (seed : Rep) (u : Upd) : Except Refusal AggOut :=
  if accTypeOk seed.ty then
    match translateUpd ifName ifSlot u with
    | .error e => .error e
    | .ok (c, upd) =>
      match accType seed.ty upd.ty with
      | .error e => .error e
      | .ok t =>
        .ok { accTy := t, seed := seed.ce,
              cond := c.map fun (tr, ar, br) => emitCond ifName ifSlot (finalRep t tr) (finalRep t ar) (finalRep t br),
              updRhs := setVarRhs t (finalRep t upd) }
  else .error .valueError

def aggLines (accName ifName : String) (o : AggOut) : List String :=
  [o.accTy.name ++ " " ++ accName ++ " (" ++ o.seed.render ++ ");"] ++
  (match o.cond with | some c => condLines ifName c | none => []) ++
  [accName ++ " = " ++ o.updRhs.render ++ ";"]

/-- `visit_BoolOp`: `bool r; r = v₀; if (r) { r = v₁; } …` — right-hand sides of the assignments -/
def boolOpRhs (vals : List Rep) : List CE := vals.map (setVarRhs .bool)

/-! ## meaning: abstract double -/

/-- An abstract `double`.  No law is assumed: every theorem holds for every interpretation, in
particular for IEEE-754 binary64 with the C library's `pow` (what the driver runs with). -/
structure Num where
  D : Type
  add : D → D → D
  sub : D → D → D
  mul : D → D → D
  div : D → D → D
  pow : D → D → D
  /-- Python's float `%` (only ever evaluated on the Python side) -/
  pymod : D → D → D
  neg : D → D
  lt : D → D → Bool
  le : D → D → Bool
  eq : D → D → Bool
  /-- `static_cast<double>(int)` / Python's `float(int)` (assumption: |n| < 2^53, so both are exact) -/
  ofInt : Int → D
  /-- `static_cast<int>(double)`; never needed by an accepted translation -/
  toInt : D → Int

variable {N : Num}

def b2i (b : Bool) : Int := if b then 1 else 0

/-- a C++ value together with its static type (`flt`: 32-bit float, carried in the same abstract `D`) -/
inductive CV (N : Num)
  | int (n : Int)
  | flt (x : N.D)
  | dbl (x : N.D)
  | bool (b : Bool)

def CV.ctype : CV N → CT
  | .int _ => .int | .flt _ => .float | .dbl _ => .double | .bool _ => .bool

/-- a Python value -/
inductive PV (N : Num)
  | int (n : Int)
  | float (x : N.D)
  | bool (b : Bool)

/-- one slot of the environment: the value an operand has, read at the operand's declared type -/
structure Cell (N : Num) where
  i : Int
  d : N.D
  b : Bool

abbrev Env (N : Num) := Nat → Cell N

def leafVal (t : CT) (c : Cell N) : CV N :=
  match t with
  | .int => .int c.i | .float => .flt c.d | .double => .dbl c.d | .bool => .bool c.b

/-- conversion to a floating type -/
def CV.toD : CV N → N.D
  | .int n => N.ofInt n | .flt x => x | .dbl x => x | .bool b => N.ofInt (b2i b)

def CV.isFloating (v : CV N) : Bool := v.ctype.isFloating

/-- value of an integral operand after integral promotion -/
def CV.toI : CV N → Int
  | .int n => n | .bool b => b2i b | .flt x => N.toInt x | .dbl x => N.toInt x

/-- contextual conversion to bool -/
def CV.truthy : CV N → Bool
  | .int n => n != 0 | .bool b => b | .flt x => !(N.eq x (N.ofInt 0)) | .dbl x => !(N.eq x (N.ofInt 0))

/-- `static_cast<t>(v)` and implicit conversion on assignment / push_back -/
def convert (t : CT) (v : CV N) : CV N :=
  match t with
  | .int => .int v.toI
  | .float => .flt v.toD
  | .double => .dbl v.toD
  | .bool => .bool v.truthy

/-- result type of the usual arithmetic conversions on floating operands -/
def wider (a b : CT) : CT := if a = .double ∨ b = .double then .double else .float

def mkF (t : CT) (x : N.D) : CV N := if t = .double then .dbl x else .flt x

/-- C++ binary operator on two values, by operator *text* (none: ill-formed — `%` on a floating operand,
an operator text the model does not know — or undefined behaviour: integer division by zero) -/
def cBin (op : String) (a b : CV N) : Option (CV N) :=
  if a.isFloating || b.isFloating then
    let x := a.toD; let y := b.toD
    let t := wider a.ctype b.ctype
    if op == "+" then some (mkF t (N.add x y))
    else if op == "-" then some (mkF t (N.sub x y))
    else if op == "*" then some (mkF t (N.mul x y))
    else if op == "/" then some (mkF t (N.div x y))
    else if op == "<" then some (.bool (N.lt x y))
    else if op == "<=" then some (.bool (N.le x y))
    else if op == ">" then some (.bool (N.lt y x))
    else if op == ">=" then some (.bool (N.le y x))
    else if op == "==" then some (.bool (N.eq x y))
    else if op == "!=" then some (.bool (!(N.eq x y)))
    else none
  else
    let x := a.toI; let y := b.toI
    if op == "+" then some (.int (x + y))
    else if op == "-" then some (.int (x - y))
    else if op == "*" then some (.int (x * y))
    else if op == "/" then (if y = 0 then none else some (.int (Int.tdiv x y)))
    else if op == "%" then (if y = 0 then none else some (.int (Int.tmod x y)))
    else if op == "<" then some (.bool (decide (x < y)))
    else if op == "<=" then some (.bool (decide (x ≤ y)))
    else if op == ">" then some (.bool (decide (y < x)))
    else if op == ">=" then some (.bool (decide (y ≤ x)))
    else if op == "==" then some (.bool (decide (x = y)))
    else if op == "!=" then some (.bool (decide (x ≠ y)))
    else none

def cUn (op : String) (a : CV N) : Option (CV N) :=
  if op == "+" then
    some (match a with | .int n => .int n | .bool b => .int (b2i b) | .flt x => .flt x | .dbl x => .dbl x)
  else if op == "-" then
    some (match a with | .int n => .int (-n) | .bool b => .int (-(b2i b)) | .flt x => .flt (N.neg x) | .dbl x => .dbl (N.neg x))
  else if op == "!" then some (.bool (!a.truthy))
  else none

/-- `std::pow`: `float pow(float,float)`; every other combination of arithmetic arguments is promoted to
double (C++11 [c.math] additional overloads) -/
def cPow (a b : CV N) : CV N :=
  match a, b with
  | .flt x, .flt y => .flt (N.pow x y)
  | _, _ => .dbl (N.pow a.toD b.toD)

def evalC (env : Env N) : CE → Option (CV N)
  | .leaf t _ i => some (leafVal t (env i))
  | .ilit n => some (.int n)
  | .blit b => some (.bool b)
  | .bin op l r =>
    match evalC env l, evalC env r with
    | some a, some b => cBin op a b
    | _, _ => none
  | .cast t e =>
    match evalC env e with
    | some a => some (convert t a)
    | none => none
  | .pow l r =>
    match evalC env l, evalC env r with
    | some a, some b => some (cPow a b)
    | _, _ => none
  | .un op e =>
    match evalC env e with
    | some a => cUn op a
    | none => none

/-! ## meaning: Python -/

def CV.toPy : CV N → PV N
  | .int n => .int n | .flt x => .float x | .dbl x => .float x | .bool b => .bool b

def PV.isFloat : PV N → Bool
  | .float _ => true
  | _ => false

def PV.toF : PV N → N.D
  | .int n => N.ofInt n | .float x => x | .bool b => N.ofInt (b2i b)

/-- `int(v)` for `int` and `bool` -/
def PV.toI : PV N → Int
  | .int n => n | .bool b => b2i b | .float x => N.toInt x

def PV.truthy : PV N → Bool
  | .int n => n != 0 | .bool b => b | .float x => !(N.eq x (N.ofInt 0))

/-- Python binary arithmetic (none: ZeroDivisionError / TypeError / not an arithmetic operator here).
`rp = true`: the property's reading "`**` is a real power" (int ** int is the real number too);
`rp = false`: CPython, where `int ** non-negative int` is an `int`. -/
def pyBin (rp : Bool) (op : PyBin) (a b : PV N) : Option (PV N) :=
  if a.isFloat || b.isFloat then
    let x := a.toF; let y := b.toF
    match op with
    | .add => some (.float (N.add x y))
    | .sub => some (.float (N.sub x y))
    | .mult => some (.float (N.mul x y))
    | .div => if N.eq y (N.ofInt 0) then none else some (.float (N.div x y))
    | .mod => if N.eq y (N.ofInt 0) then none else some (.float (N.pymod x y))
    | .pow =>
      -- `0.0 ** negative` raises ZeroDivisionError
      if N.eq x (N.ofInt 0) && N.lt y (N.ofInt 0) then none else some (.float (N.pow x y))
    | _ => none
  else
    let x := a.toI; let y := b.toI
    match op with
    | .add => some (.int (x + y))
    | .sub => some (.int (x - y))
    | .mult => some (.int (x * y))
    | .div => if y = 0 then none else some (.float (N.div (N.ofInt x) (N.ofInt y)))
    | .mod => if y = 0 then none else some (.int (Int.fmod x y))
    | .pow =>
      -- `0 ** negative` raises ZeroDivisionError
      if x = 0 ∧ y < 0 then none
      else if rp then some (.float (N.pow (N.ofInt x) (N.ofInt y)))
      else if 0 ≤ y then some (.int (x ^ y.toNat))
      else some (.float (N.pow (N.ofInt x) (N.ofInt y)))
    | _ => none

def pyUn (op : PyUn) (a : PV N) : Option (PV N) :=
  match op with
  | .uadd => some (match a with | .int n => .int n | .bool b => .int (b2i b) | .float x => .float x)
  | .usub => some (match a with | .int n => .int (-n) | .bool b => .int (-(b2i b)) | .float x => .float (N.neg x))
  | .not => some (.bool (!a.truthy))
  | .invert => none

def pyCmp (op : PyCmp) (a b : PV N) : Option (PV N) :=
  if a.isFloat || b.isFloat then
    let x := a.toF; let y := b.toF
    match op with
    | .lt => some (.bool (N.lt x y))
    | .lte => some (.bool (N.le x y))
    | .gt => some (.bool (N.lt y x))
    | .gte => some (.bool (N.le y x))
    | .eq => some (.bool (N.eq x y))
    | .noteq => some (.bool (!(N.eq x y)))
    | _ => none
  else
    let x := a.toI; let y := b.toI
    match op with
    | .lt => some (.bool (decide (x < y)))
    | .lte => some (.bool (decide (x ≤ y)))
    | .gt => some (.bool (decide (y < x)))
    | .gte => some (.bool (decide (y ≤ x)))
    | .eq => some (.bool (decide (x = y)))
    | .noteq => some (.bool (decide (x ≠ y)))
    | _ => none

def evalPy (rp : Bool) (env : Env N) : Expr → Option (PV N)
  | .leaf t _ i => some (leafVal t (env i)).toPy
  | .int n => some (.int n)
  | .flt _ i => some (.float (env i).d)
  | .bool b => some (.bool b)
  | .bin op l r =>
    match evalPy rp env l, evalPy rp env r with
    | some a, some b => pyBin rp op a b
    | _, _ => none
  | .un op e =>
    match evalPy rp env e with
    | some a => pyUn op a
    | none => none
  | .cmp op l r =>
    match evalPy rp env l, evalPy rp env r with
    | some a, some b => pyCmp op a b
    | _, _ => none

/-! ## meaning of the statement forms -/

/-- what the generated `if (test) { r = a; } else { r = b; }` leaves in `r` (declared `condResultType`) -/
def evalCondC (env : Env N) (o : CondOut) : Option (CV N) :=
  match evalC env o.test.ce with
  | none => none
  | some t =>
    match evalC env (if t.truthy then o.thenRhs else o.elseRhs) with
    | none => none
    | some v => some (convert o.result.ty v)

/-- `a if test else b` in Python -/
def evalCondPy (rp : Bool) (env : Env N) (test a b : Expr) : Option (PV N) :=
  match evalPy rp env test with
  | none => none
  | some t => if t.truthy then evalPy rp env a else evalPy rp env b

def setAcc (env : Env N) (v : CV N) : Env N :=
  fun i => if i = accSlot then ⟨v.toI, v.toD, v.truthy⟩ else env i

/-- one pass through the generated loop body: `[double r; if (t) r = a; else r = b;] acc = rhs;` -/
def stepAggC (ifSlot : Nat) (o : AggOut) (env : Env N) (acc : CV N) : Option (CV N) :=
  let env1 := setAcc env acc
  match o.cond with
  | none =>
    match evalC env1 o.updRhs with
    | none => none
    | some v => some (convert o.accTy v)
  | some c =>
    match evalCondC env1 c with
    | none => none
    | some r =>
      let env2 : Env N := fun i => if i = ifSlot then ⟨r.toI, r.toD, r.truthy⟩ else env1 i
      match evalC env2 o.updRhs with
      | none => none
      | some v => some (convert o.accTy v)

/-- the generated loop `T acc (seed); for (…) { … acc = rhs; }` over the per-element environments -/
def runAggC (ifSlot : Nat) (o : AggOut) : CV N → List (Env N) → Option (CV N)
  | acc, [] => some acc
  | acc, env :: rest =>
    match stepAggC ifSlot o env acc with
    | none => none
    | some v => runAggC ifSlot o v rest

/-- initial value of the accumulator: `T acc (seed);` -/
def initAggC (o : AggOut) (env : Env N) : Option (CV N) :=
  match evalC env o.seed with
  | none => none
  | some v => some (convert o.accTy v)

/-- Python is dynamically typed: the accumulator has the type of the value it currently holds -/
def PV.ct : PV N → CT
  | .int _ => .int | .float _ => .double | .bool _ => .bool

def Expr.retype (t : CT) : Expr → Expr
  | .leaf t' s i => if i = accSlot then .leaf t s i else .leaf t' s i
  | .int n => .int n
  | .flt s i => .flt s i
  | .bool b => .bool b
  | .bin op l r => .bin op (l.retype t) (r.retype t)
  | .un op e => .un op (e.retype t)
  | .cmp op l r => .cmp op (l.retype t) (r.retype t)

def setAccPy (env : Env N) (v : PV N) : Env N :=
  fun i => if i = accSlot then ⟨v.toI, v.toF, v.truthy⟩ else env i

def stepAggPy (rp : Bool) (u : Upd) (env : Env N) (acc : PV N) : Option (PV N) :=
  let env1 := setAccPy env acc
  match u with
  | .plain e => evalPy rp env1 (e.retype acc.ct)
  | .cond t a b => evalCondPy rp env1 (t.retype acc.ct) (a.retype acc.ct) (b.retype acc.ct)
  | .condIn slot t a b body =>
    match evalCondPy rp env1 (t.retype acc.ct) (a.retype acc.ct) (b.retype acc.ct) with
    | none => none
    | some r =>
      let env2 : Env N := fun i => if i = slot then ⟨r.toI, r.toF, r.truthy⟩ else env1 i
      evalPy rp env2 ((body.retype acc.ct).retypeAt slot r.ct)

/-- `functools.reduce(lambda acc, v: upd, elems, seed)` -/
def runAggPy (rp : Bool) (u : Upd) : PV N → List (Env N) → Option (PV N)
  | acc, [] => some acc
  | acc, env :: rest =>
    match stepAggPy rp u env acc with
    | none => none
    | some v => runAggPy rp u v rest

/-- `visit_BoolOp` with two operands: `bool r; r = v₀; if (r) { r = v₁; }` (and) / `if (!r) { r = v₁; }` (or) -/
def evalBoolOpC (isAnd : Bool) (env : Env N) (rhs0 rhs1 : CE) : Option Bool :=
  match evalC env rhs0 with
  | none => none
  | some v0 =>
    let r := (convert CT.bool v0).truthy
    if (if isAnd then r else !r) then
      match evalC env rhs1 with
      | none => none
      | some v1 => some (convert CT.bool v1).truthy
    else some r

def evalBoolOpPy (rp : Bool) (isAnd : Bool) (env : Env N) (a b : Expr) : Option (PV N) :=
  match evalPy rp env a with
  | none => none
  | some x => if (if isAnd then x.truthy else !x.truthy) then evalPy rp env b else some x

/-! ## the aggregate shortcuts of func_adl (`aggregate_node_transformer`): all seeded with the int constant 0 -/

def accLeaf (t : CT) : Expr := .leaf t "acc" accSlot
def seed0 : Rep := ⟨.int, .ilit 0⟩
/-- `Count()`: `lambda acc,v: acc+1` -/
def countUpd : Upd := .plain (.bin .add (accLeaf .int) (.int 1))
/-- `Sum()`: `lambda acc,v: acc + v` over values of declared type `k` -/
def sumUpd (k : CT) (s : String) (slot : Nat) : Upd := .plain (.bin .add (accLeaf .int) (.leaf k s slot))
/-- `Max()`: `lambda acc,v: acc if acc > v else v` -/
def maxUpd (k : CT) (s : String) (slot : Nat) : Upd :=
  .cond (.cmp .gt (accLeaf .int) (.leaf k s slot)) (accLeaf .int) (.leaf k s slot)
/-- `Min()`: `lambda acc,v: acc if acc < v else v` -/
def minUpd (k : CT) (s : String) (slot : Nat) : Upd :=
  .cond (.cmp .lt (accLeaf .int) (.leaf k s slot)) (accLeaf .int) (.leaf k s slot)

end FaxVerif.C13
