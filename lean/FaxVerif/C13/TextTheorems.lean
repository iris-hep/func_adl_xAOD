/-
C13 — property theorems of the TEXT side of arithmetic.

`translate` (Model.lean) says which C++ expression TREE `visit_BinOp` / `visit_UnaryOp` / `visit_Compare` /
`visit_special_BinOp` / `visit_Constant` build; `CE.render` is the text they write for it (tied to the real
`as_cpp()` texts by text equality on every case of every run).  `expr_correct_partial` & co. (Theorems.lean) are about
the meaning `evalC` of the tree.  What connects the two is proved here: a C++ compiler that reads the TEXT —
maximal-munch tokens (`lex`), C++ operator precedence (`pExpr`) — finds exactly that tree, for every expression of
every depth.  `readCpp` is also the reader the oracle uses on the IMPLEMENTATION's texts (Driver.lean).
-/
import FaxVerif.C13.ProofsExpr
import FaxVerif.C13.TextLex
import FaxVerif.C13.TextRead
namespace FaxVerif.C13
open FaxVerif.Generated.C13Tables

/-- only the operators of an emitted expression (not its operand texts) -/
def CE.opsOk : CE → Bool
  | .leaf _ _ _ => true
  | .ilit _ => true
  | .blit _ => true
  | .bin op l r => knownBinTexts.contains op && l.opsOk && r.opsOk
  | .cast _ e => e.opsOk
  | .pow l r => l.opsOk && r.opsOk
  | .un op e => knownUnTexts.contains op && e.opsOk

theorem wf_of_opsOk (e : CE) : e.opsOk = true → (e.leaves.all fun l => atomOk l.2.1) = true → e.wf = true := by
  induction e with
  | leaf t s i => intro _ h; simpa [CE.leaves, CE.wf] using h
  | ilit n => intros; rfl
  | blit b => intros; rfl
  | bin op l r ihl ihr =>
    intro h hl
    simp only [CE.opsOk, Bool.and_eq_true] at h
    simp only [CE.leaves, List.all_append, Bool.and_eq_true] at hl
    simp only [CE.wf, Bool.and_eq_true]
    exact ⟨⟨h.1.1, ihl h.1.2 hl.1⟩, ihr h.2 hl.2⟩
  | cast t e ih => intro h hl; exact ih h hl
  | pow l r ihl ihr =>
    intro h hl
    simp only [CE.opsOk, Bool.and_eq_true] at h
    simp only [CE.leaves, List.all_append, Bool.and_eq_true] at hl
    simp only [CE.wf, Bool.and_eq_true]
    exact ⟨ihl h.1 hl.1, ihr h.2 hl.2⟩
  | un op e ih =>
    intro h hl
    simp only [CE.opsOk, Bool.and_eq_true] at h
    simp only [CE.wf, Bool.and_eq_true]
    exact ⟨h.1, ih h.2 hl⟩

/-- the operand texts of an emitted expression are usable (each starts and ends a token of its own and is a name
with member accesses / empty calls, or a non-integer number), unambiguous, and none is spelled `true` / `false` -/
def leavesOk (ls : List (CT × String × Nat)) : Bool :=
  (ls.all fun l => atomOk l.2.1) && leavesConsistent ls && noBoolNames ls

/-- Tie T: every operator TEXT of the tables regenerated from the source (`_known_binary_operators`,
`compare_operations`, `_known_unary_operators`) is an operator the reader knows with its C++ binding strength —
re-checked on every run over the regenerated tables. -/
theorem text_tables_known :
    (binaryOps.all fun p => knownBinTexts.contains p.2) = true ∧
    (compareOps.all fun p => knownBinTexts.contains p.2) = true ∧
    (unaryOps.all fun p => knownUnTexts.contains p.2) = true := by decide +kernel

theorem translate_opsOk (x : Expr) : ∀ r, translate x = .ok r → r.ce.opsOk = true := by
  refine translate_induct (P := fun _ r => r.ce.opsOk = true)
    (fun _ _ _ => rfl) (fun _ => rfl) (fun _ _ => rfl) (fun _ => rfl) ?_ ?_ ?_ x
  · intro op l r lr rr res _ _ he wl wr
    rcases emitBin_ok he with ⟨_, rfl⟩ | ⟨txt, ht, _, _, rfl⟩
    · simp only [CE.opsOk, wl, wr, Bool.and_self]
    · have hk := lookup_all (fun t => knownBinTexts.contains t) binaryOps _ txt text_tables_known.1 ht
      split
      · simp only [CE.opsOk, hk, wr, Bool.true_and, Bool.and_true]; split <;> exact wl
      · simp only [CE.opsOk, hk, wl, wr, Bool.and_self]
  · intro op e er res _ he w
    obtain ⟨txt, ht, rfl⟩ := emitUn_ok he
    have hk := lookup_all (fun t => knownUnTexts.contains t) unaryOps _ txt text_tables_known.2.2 ht
    simp only [CE.opsOk, hk, w, Bool.and_self]
  · intro op l r lr rr res he wl wr
    obtain ⟨txt, ht, rfl⟩ := emitCmp_ok he
    have hk := lookup_all (fun t => knownBinTexts.contains t) compareOps _ txt text_tables_known.2.1 ht
    simp only [CE.opsOk, hk, wl, wr, Bool.and_self]

/-- **Tokens.**  The maximal-munch scanner, run over the characters of the rendering of ANY well-formed emitted
expression (every depth, every operator of the known lists, every usable operand text), yields exactly the tokens
the renderer meant: no `--`, `++`, `->`, `<=`, `1e-` … forms across any join of two pieces of text. -/
theorem text_lex (e : CE) (h : e.wf = true) : lex e.render.toList = some e.toks := lex_render e h

example : lex exP.render.toList = some exP.toks := text_lex exP exP_wf

/-- **Precedence.**  The C++ expression grammar (postfix > unary > `* / %` > `+ -` > shifts > relational > equality >
bitwise > logical), run on those tokens, returns exactly the intended tree: the parentheses the renderer writes
are enough, no neighbouring operator captures an operand. -/
theorem text_parse (e : CE) (h : e.wf = true) : pExpr e.toks = .ok e.toPT := parse_toks e h

/-- `text_read` against any consistent operand table `ls` that holds the operands of `e` and shadows none of its
boolean constants: the table of a whole statement form, against which the driver reads each of its expressions -/
theorem text_read_in (ls : List (CT × String × Nat)) (hc : leavesConsistent ls = true) (e : CE) (h : e.wf = true)
    (hm : ∀ l ∈ e.leaves, l ∈ ls) (hb : e.boolsClear ls = true) : readCpp ls e.render = .ok e.norm := by
  simp only [readCpp, readChars, text_lex e h, text_parse e h]
  exact toCE_toPT_gen ls hc e h hm hb

/-- **The emitted text denotes the emitted tree** — for every well-formed emitted expression: reading the rendered
text the way a C++ compiler does gives the expression back (up to `CE.norm`: `(-5)` and `(-(5))` are both the
constant −5, theorem `text_norm_meaning`). -/
theorem text_read (e : CE) (h : e.wf = true) (hc : leavesConsistent e.leaves = true) (hb : noBoolNames e.leaves = true) :
    readCpp e.leaves e.render = .ok e.norm :=
  text_read_in e.leaves hc e h (fun _ hl => hl) (boolsClear_of_noBoolNames _ hb e)

/-- the normal form means the same: `evalC` does not tell `(-5)` from `(-(5))` -/
theorem text_norm_meaning {N : Num} (env : Env N) : ∀ e : CE, evalC env e.norm = evalC env e := by
  intro e
  induction e with
  | leaf t s i => rfl
  | ilit n => rfl
  | blit b => rfl
  | bin op l r ihl ihr => simp only [CE.norm, evalC, ihl, ihr]
  | cast t e ih => simp only [CE.norm, evalC, ih]
  | pow l r ihl ihr => simp only [CE.norm, evalC, ihl, ihr]
  | un op e ih =>
    simp only [CE.norm]
    split
    · rename_i n hn
      rw [hn] at ih
      split
      · rename_i hop
        obtain ⟨rfl, _⟩ := hop
        simp only [evalC, ← ih, cUn]
        simp
      · simp only [evalC, ← ih]
    · simp only [evalC, ih]

/-- **Full statement, for every source expression the translator accepts** (any depth; all operators of the
generated tables, `**`, the int/int cast): the text the translator writes, read with maximal-munch tokenisation
and C++ precedence, is the tree it built — tokens, parse tree, and expression, whose meaning `evalC` is the one
`expr_correct_partial` relates to Python.  The only hypothesis is on the OPERAND texts the expression was given
(decidable; checked by the driver on the operand table of every case of every run). -/
theorem text_denotes (x : Expr) (r : Rep) (h : translate x = .ok r) (hl : leavesOk r.ce.leaves = true) :
    lex r.ce.render.toList = some r.ce.toks ∧ pExpr r.ce.toks = .ok r.ce.toPT ∧
    readCpp r.ce.leaves r.ce.render = .ok r.ce.norm ∧
    ∀ (N : Num) (env : Env N), evalC env r.ce.norm = evalC env r.ce := by
  simp only [leavesOk, Bool.and_eq_true] at hl
  have hw : r.ce.wf = true := wf_of_opsOk r.ce (translate_opsOk x r h) hl.1.1
  exact ⟨text_lex _ hw, text_parse _ hw, text_read _ hw hl.1.2 hl.2, fun N env => text_norm_meaning env _⟩

/-- the hypotheses are satisfiable by a non-trivial input: `j.d() - (-(j.d() - 5)) < 2.5 ** -j.i()` -/
example :
    (match translate (.cmp .lt (.bin .sub (.leaf .double "it0->d()" 3) (.un .usub (.bin .sub (.leaf .double "it0->d()" 3) (.int 5))))
        (.bin .pow (.flt "2.5" 31) (.un .usub (.leaf .int "it0->i()" 1)))) with
     | .ok r => leavesOk r.ce.leaves && r.ce.render == "((it0->d()-(-((it0->d()-5))))<std::pow(2.5, (-(it0->i()))))"
     | .error _ => false) = true := by
  decide +kernel

/-- the statement forms write the same expression language: the `set_var` cast keeps well-formedness, so the
right-hand sides of a conditional's and an accumulator's assignments meet that hypothesis of `text_read` too -/
theorem text_setVar_wf (t : CT) (v : Rep) (h : v.ce.wf = true) : (setVarRhs t v).wf = true := by
  unfold setVarRhs; split <;> simpa [CE.wf] using h

/-! ### why the parentheses are there: the same reader on texts WITHOUT them -/

def Res.isIll {α : Type} : Res α → Bool
  | .ill _ => true
  | _ => false

/-- A negative constant written without its parentheses directly after a binary minus is not the expression that
was meant: maximal munch makes `--` one token (a decrement of a call result: ill-formed C++).  `_signed_literal` and
the `(op(…))` shape of `visit_UnaryOp` are what `text_lex` rests on. -/
theorem text_minus_minus_counterexample :
    (readCpp [(.double, "it0->d()", 3), (.double, "2.5", 31)] "(it0->d()--2.5)").isIll = true := by
  -- evaluating `toList` of a literal costs more than the reader: hand the kernel the character list
  unfold readCpp
  rw [String.toList_ofList]
  decide +kernel

/-- …and a unary minus that drops its own parentheses in front of a bracketed operand: `x - -(a-b)` -/
theorem text_unary_unbracketed_counterexample :
    (readCpp [(.double, "it0->d()", 3), (.int, "it0->i2()", 5)] "(it0->d()--(it0->d()-it0->i2()))").isIll = true := by
  unfold readCpp
  rw [String.toList_ofList]
  decide +kernel

/-- without parentheses precedence decides, not the renderer: `a-b*c` is `a-(b*c)` -/
theorem text_precedence_counterexample :
    (match readCpp [(.int, "a", 1), (.int, "b", 2), (.int, "c", 3)] "a-b*c" with
     | .ok e => e == .bin "-" (.leaf .int "a" 1) (.bin "*" (.leaf .int "b" 2) (.leaf .int "c" 3))
     | _ => false) = true := by
  decide +kernel

end FaxVerif.C13
