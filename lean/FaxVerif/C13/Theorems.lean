/-
C13 — arithmetic follows Python numerics on the declared value types: property theorems.

Every theorem is universally quantified over the abstract double `N : Num` (no law assumed), over all
operand texts / slots / values, and — the compositional ones — over expression trees of any depth.
`evalPy true` is the reference ("what Python computes", with the property's clause "`**` is a real power");
`evalPy false` is CPython to the letter (`int ** non-negative int` is an `int`).

Where the code violates the statement there is a `_counterexample` on a literal, the `_partial` theorems carry
the matching decidable exclusion (`Expr.noFloatMod`, `Expr.noNegBool`, `condIntegral`), and
known_findings.jsonl lists the concrete failing input.
-/
import FaxVerif.C13.ProofsAgg
set_option linter.unusedVariables false
namespace FaxVerif.C13
open FaxVerif.Generated.C13Tables
variable {N : Num}

/-- The operator tables read from the source on this run are exactly Python's operator ↦ the C++ operator of the
same meaning (rows sorted by name); `**` is *not* in the binary table (it takes the `std::pow` path), `~` not in the unary one. -/
theorem operator_tables :
    binaryOps = [("Add", "+"), ("Div", "/"), ("Mod", "%"), ("Mult", "*"), ("Sub", "-")] ∧
    unaryOps = [("Not", "!"), ("UAdd", "+"), ("USub", "-")] ∧
    compareOps = [("Eq", "=="), ("Gt", ">"), ("GtE", ">="), ("Lt", "<"), ("LtE", "<="), ("NotEq", "!=")] := by
  decide

/-- `_type_priority` as read from the source orders the types by width (int < float < double) and does not
know `bool`. -/
theorem priority_table (t : CT) (p : Nat) : prio t = some p ↔ (t ≠ .bool ∧ p = t.rank) := by
  rw [prio_eq]
  split <;> simp [*, eq_comm]

/-- **widest-type selection.** `most_accurate_type` returns a member of its argument that is at least as wide
as every member (so: the widest), for lists of any length; no member is `bool`. -/
theorem widest (ts : List CT) (t : CT) (h : mostAccurate ts = .ok t) :
    t ∈ ts ∧ ∀ x ∈ ts, x ≠ .bool ∧ x.rank ≤ t.rank := by
  obtain ⟨hm, pt, hpt, hall⟩ := mostAccurate_spec ts t h
  refine ⟨hm, fun x hx => ?_⟩
  obtain ⟨px, hpx, hle⟩ := hall x hx
  obtain ⟨h1, h2⟩ := (priority_table x px).mp hpx
  obtain ⟨_, h4⟩ := (priority_table t pt).mp hpt
  exact ⟨h1, by omega⟩

/-- `most_accurate_type` refuses (AssertionError) exactly the empty list and lists containing `bool`. -/
theorem widest_refuses (ts : List CT) (e : Refusal) (h : mostAccurate ts = .error e) :
    e = .assertion ∧ (ts = [] ∨ .bool ∈ ts) := by
  obtain ⟨h1, h2⟩ := mostAccurate_error ts e h
  refine ⟨h1, h2.imp id ?_⟩
  rintro ⟨x, hx, hp⟩
  rw [prio_eq] at hp
  split at hp
  · subst x; exact hx
  · cases hp

example : mostAccurate [.int, .float, .double, .float] = .ok .double := by rfl
example : (mostAccurate [.int, .bool]).toOption = none := by decide

/-- **Value of an expression.** For every source expression `e` the translator accepts, outside the exclusion
A (`%` on a real operand), on every sample on which every `%` has
non-negative operands and on which Python's evaluation is defined: the emitted C++ expression is well-formed,
and evaluates — under the usual arithmetic conversions, bool promotion, int/int truncation — to exactly the
Python value (an `int` to the same `int`, a `float` to the same double, a `bool` to the same `bool`).
Missing for the unrestricted statement: the exclusion (false there, see `mod_float_counterexample`).  (`not` on
a real operand is covered, since `not x` is typed `bool`: `not_real_is_bool`, `not_real_then_div_refused`.) -/
theorem expr_correct_partial (e : Expr) (r : Rep) (h : translate e = .ok r)
    (hA : e.noFloatMod = true)
    (env : Env N) (hm : e.modNonneg env = true) (pv : PV N) (hpv : evalPy true env e = some pv) :
    ∃ cv, evalC env r.ce = some cv ∧ cv.toPy = pv := by
  obtain ⟨cv, h1, h2, _⟩ := translate_sound e r h hA env hm pv hpv
  exact ⟨cv, h1, h2⟩

/-- **integer-valued results remain integers.** The declared type of the result is a
floating type exactly when Python's result is a `float` (with `**` real); so `int`/`bool`-valued results are
declared `int`/`bool`. -/
theorem int_stays_int (e : Expr) (r : Rep) (h : translate e = .ok r)
    (hA : e.noFloatMod = true) :
    r.ty.isFloating = decide (e.pyKind true = .float) := by
  simpa [Expr.isFloatKind] using (translate_typed e r h).1

/-- **mixed operands promote to the wider type** (no exclusion needed): the declared type is at least as wide
as every operand that flows into the value. -/
theorem result_wide_enough (e : Expr) (r : Rep) (h : translate e = .ok r) : e.width ≤ r.ty.rank :=
  (translate_typed e r h).2.1

/-- value and column clause at once: what `expr_correct_partial` and `column_correct_partial` say of the same `cv` -/
theorem column_sound (e : Expr) (r : Rep) (h : translate e = .ok r) (hd : e.noDefect = true)
    (env : Env N) (hm : e.modNonneg env = true) (pv : PV N) (hpv : evalPy true env e = some pv) :
    ∃ cv, evalC env r.ce = some cv ∧ cv.toPy = pv ∧ ColOk r.ty (e.pyKind true) e.width (convert r.ty cv) pv := by
  simp only [Expr.noDefect, Bool.and_eq_true] at hd
  obtain ⟨hA, hB⟩ := hd
  obtain ⟨hk, hw, _⟩ := translate_typed e r h
  obtain ⟨cv, h1, h2, h3⟩ := translate_sound e r h hA env hm pv hpv
  refine ⟨cv, h1, h2, convert_ctype _ _, ?_, ?_⟩
  · rw [← h2]
    refine store_numEq r.ty cv h3 (fun hb => ?_)
    have := translate_boolInv (N := N) e r h hb hB env cv h1
    exact this (by rw [h3, hb]; rfl)
  · simp only [kindOk]
    by_cases hf : e.pyKind true = .float
    · have : r.ty.isFloating = true := by rw [hk]; simp [Expr.isFloatKind, hf]
      simp [hf, this, hw]
    · have : r.ty.isFloating = false := by rw [hk]; simp [Expr.isFloatKind, hf]
      simp [hf, this]

/-- **The column.** Outside the two expression-level exclusions (A, and B: unary minus on a bool), the
value stored in a column of the declared type satisfies the column clause of the property: it is numerically
what Python computes, integer-valued results are stored in an integer type, real-valued ones in a floating type
at least as wide as every operand. -/
theorem column_correct_partial (e : Expr) (r : Rep) (h : translate e = .ok r) (hd : e.noDefect = true)
    (env : Env N) (hm : e.modNonneg env = true) (pv : PV N) (hpv : evalPy true env e = some pv) :
    ∃ cv, evalC env r.ce = some cv ∧ ColOk r.ty (e.pyKind true) e.width (convert r.ty cv) pv :=
  let ⟨cv, h1, _, h3⟩ := column_sound e r h hd env hm pv hpv
  ⟨cv, h1, h3⟩

theorem operand_rep (k : Kind) (n : Int) (s : String) (i : Nat) (env : Env N) :
    ∃ r c, translate (k.operand n s i) = .ok r ∧ evalC env r.ce = some c ∧
      evalPy true env (k.operand n s i) = some c.toPy := by
  cases k <;> exact ⟨_, _, rfl, rfl, rfl⟩

theorem operand_facts (k : Kind) (n : Int) (s : String) (i : Nat) :
    (k.operand n s i).opsInScope = true ∧ (k.operand n s i).noBoolArith = true ∧
    (k.operand n s i).noFloatMod = true ∧ (k.operand n s i).noNegBool = true ∧
    (k.operand n s i).boolish = decide (k = .bool) ∧ (k.operand n s i).isFloatKind = k.isReal := by
  cases k <;> exact ⟨rfl, rfl, rfl, rfl, rfl, rfl⟩

/-- **binop_table.** For every operator in the generated binary table, and `**`, and every pair of non-boolean
operand kinds — `%` only on the integer kinds and non-negative operands (the quantifier of the property) —: the
translation succeeds, the emitted expression evaluates to Python's value, and the column clause holds. -/
theorem binop_table (op : PyBin) (hop : (lookup binaryOps op.astName).isSome = true ∨ op = .pow)
    (k₁ k₂ : Kind) (hk : k₁ ≠ .bool ∧ k₂ ≠ .bool) (hmod : op = .mod → k₁.isReal = false ∧ k₂.isReal = false)
    (n₁ n₂ : Int) (s₁ s₂ : String) (i₁ i₂ : Nat) (env : Env N) (pv : PV N)
    (hm : (Expr.bin op (k₁.operand n₁ s₁ i₁) (k₂.operand n₂ s₂ i₂)).modNonneg env = true)
    (hpv : evalPy true env (.bin op (k₁.operand n₁ s₁ i₁) (k₂.operand n₂ s₂ i₂)) = some pv) :
    ∃ r cv, translate (.bin op (k₁.operand n₁ s₁ i₁) (k₂.operand n₂ s₂ i₂)) = .ok r ∧
      evalC env r.ce = some cv ∧ cv.toPy = pv ∧
      ColOk r.ty ((Expr.bin op (k₁.operand n₁ s₁ i₁) (k₂.operand n₂ s₂ i₂)).pyKind true)
        (Expr.bin op (k₁.operand n₁ s₁ i₁) (k₂.operand n₂ s₂ i₂)).width (convert r.ty cv) pv := by
  obtain ⟨a1, a2, a3, a4, a5, a6⟩ := operand_facts k₁ n₁ s₁ i₁
  obtain ⟨b1, b2, b3, b4, b5, b6⟩ := operand_facts k₂ n₂ s₂ i₂
  have hops : (op = .add || op = .sub || op = .mult || op = .div || op = .mod || op = .pow) = true := by
    rcases hop with h | rfl
    · obtain ⟨txt, ht⟩ := Option.isSome_iff_exists.mp h
      rcases binaryOps_ops ht with rfl | rfl | rfl | rfl | rfl <;> rfl
    · rfl
  have hacc : (Expr.bin op (k₁.operand n₁ s₁ i₁) (k₂.operand n₂ s₂ i₂)).mustAccept = true := by
    simp only [Expr.mustAccept, Expr.opsInScope, Expr.noBoolArith, a1, a2, a5, b1, b2, b5, hops, hk.1, hk.2,
      decide_false, Bool.or_self, Bool.not_false, Bool.and_self]
  have hdef : (Expr.bin op (k₁.operand n₁ s₁ i₁) (k₂.operand n₂ s₂ i₂)).noDefect = true := by
    simp only [Expr.noDefect, Expr.noFloatMod, Expr.noNegBool, a3, a4, a6, b3, b4, b6, Bool.and_self, Bool.true_and]
    by_cases hm : op = .mod
    · simp [(hmod hm).1, (hmod hm).2]
    · simp [hm]
  obtain ⟨r, hr⟩ := accepts_in_scope _ hacc
  obtain ⟨cv, h1, h2, h3⟩ := column_sound _ r hr hdef env hm pv hpv
  exact ⟨r, cv, hr, h1, h2, h3⟩

/-- non-vacuity: `Count()/2` on 7 jets — the translation is `(static_cast<double>(cnt)/2)`, declared `double` -/
example : (translate (.bin .div (Kind.intCount.operand 0 "cnt" 1) (Kind.intLit.operand 2 "" 0))).toOption
    = some ⟨.double, .bin "/" (.cast .double (.leaf .int "cnt" 1)) (.ilit 2)⟩ := by decide

/-- **'/' is real division even between integers** (the repaired defect `c100516`, kept as a theorem so that a
regression breaks the build): for two integer operands the emitted expression is `(static_cast<double>(a)/b)`
and its value is the real quotient. -/
theorem intdiv_real (a b : Int) (hb : b ≠ 0) (s : String) (i : Nat) (env : Env N) (hi : (env i).i = a) :
    ∃ r, translate (.bin .div (.leaf .int s i) (.int b)) = .ok r ∧
      r.ce = .bin "/" (.cast .double (.leaf .int s i)) (.ilit b) ∧ r.ty = .double ∧
      evalC env r.ce = some (.dbl (N.div (N.ofInt a) (N.ofInt b))) := by
  refine ⟨⟨.double, .bin "/" (.cast .double (.leaf .int s i)) (.ilit b)⟩, ?_, ?_, rfl, ?_⟩
  · rw [translate_bin rfl rfl, if_pos (by decide), emitBin_known (binaryOps_row .div)]; rfl
  · rfl
  · simp [evalC, leafVal, convert, cBin, CV.isFloating, CV.ctype, CT.isFloating, CV.toD, mkF, wider, hi]

/-- what the cast repairs: the same text without it truncates (`7/2 = 3`) -/
theorem intdiv_without_cast_truncates :
    evalC (N := N) (fun _ => ⟨7, N.ofInt 0, false⟩) (.bin "/" (.leaf .int "cnt" 1) (.ilit 2)) = some (.int 3) := by
  simp only [evalC, leafVal]
  exact div_nocast_truncates 7 2 (by decide)

example : (CE.bin "/" (.cast .double (.leaf .int "aggResult2" 1)) (.ilit 2)).render = "(static_cast<double>(aggResult2)/2)" := by
  decide

/-- **'**' is a real power**: for all operand kinds (booleans included) the emitted text is `std::pow(a, b)`,
declared `double`, and its value is the real power of the operands converted to double. -/
theorem pow_real (k₁ k₂ : Kind) (n₁ n₂ : Int) (s₁ s₂ : String) (i₁ i₂ : Nat) (env : Env N) :
    ∃ (r : Rep) (a b : CE) (ca cb : CV N),
      translate (.bin .pow (k₁.operand n₁ s₁ i₁) (k₂.operand n₂ s₂ i₂)) = .ok r ∧ r.ty = .double ∧
      r.ce = .pow a b ∧ evalC env a = some ca ∧ evalC env b = some cb ∧
      (evalC env r.ce).map CV.toPy = some (.float (N.pow ca.toD cb.toD)) := by
  obtain ⟨lr, cl, hl, hcl, _⟩ := operand_rep k₁ n₁ s₁ i₁ env
  obtain ⟨rr, cr, hr, hcr, _⟩ := operand_rep k₂ n₂ s₂ i₂ env
  refine ⟨⟨.double, .pow lr.ce rr.ce⟩, lr.ce, rr.ce, cl, cr, ?_, rfl, rfl, hcl, hcr, ?_⟩
  · rw [translate_bin hl hr, if_pos (by decide), emitBin_pow]
  · simp only [evalC, hcl, hcr, Option.map, (pow_sound cl cr).1]

/-- CPython gives an `int` for `int ** non-negative int`; the generated `double` is numerically that integer
whenever the library power is exact on the operands (explicit hypothesis; nothing about IEEE is assumed). The
property asks for a *real* power, so the `double` column is what it demands. -/
theorem pow_int_exact_partial (a : Int) (n : Nat) (hex : N.pow (N.ofInt a) (N.ofInt n) = N.ofInt (a ^ n)) :
    pyBin (N := N) false .pow (.int a) (.int n) = some (.int (a ^ n)) ∧
    numEq (cPow (N := N) (.int a) (.int n)) (.int (a ^ n)) := by
  constructor
  · simp [pyBin, PV.isFloat, PV.toI]
  · simp [numEq, cPow, CV.isFloating, CV.ctype, CT.isFloating, CV.toD, hex]

/-- **unary.** For every operator of the generated unary table and every operand kind: the translation succeeds
and the emitted `(op(x))` evaluates to Python's value (`+True` is 1, `-True` is −1, `not 2.5` is `False`). -/
theorem unary (op : PyUn) (hop : (lookup unaryOps op.astName).isSome = true) (k : Kind)
    (n : Int) (s : String) (i : Nat) (env : Env N) :
    ∃ r cv pv, translate (.un op (k.operand n s i)) = .ok r ∧ evalC env r.ce = some cv ∧
      evalPy true env (.un op (k.operand n s i)) = some pv ∧ cv.toPy = pv := by
  obtain ⟨txt, ht⟩ := Option.isSome_iff_exists.mp hop
  obtain ⟨er, c, he, hc, hp⟩ := operand_rep k n s i env
  obtain ⟨cv, h1, h2, _⟩ := un_sound ht c
  refine ⟨⟨if op = .not then .bool else er.ty, .un txt er.ce⟩, cv, cv.toPy, ?_, ?_, ?_, rfl⟩
  · rw [translate_un he, if_pos (show unHandled op = true from hop)]; simp only [emitUn, ht]
  · simp only [evalC, hc, h1]
  · simp only [evalPy, hp, h2]

/-- the declared type of a unary result (`visit_UnaryOp`): `bool` for `not`, the operand's for `+` and `-` -/
theorem unary_type (op : PyUn) (e : Expr) (r : Rep) (h : translate (.un op e) = .ok r) :
    ∃ er, translate e = .ok er ∧ r.ty = if op = .not then .bool else er.ty := by
  obtain ⟨er, he, hu⟩ := translate_un_ok h
  obtain ⟨txt, _, rfl⟩ := emitUn_ok hu
  exact ⟨er, he, rfl⟩

/-- **compare.** For each of the six comparisons of the generated table and every pair of operand kinds
(booleans included): the translation succeeds, is declared `bool`, and evaluates to Python's truth value. -/
theorem compare (op : PyCmp) (hop : (lookup compareOps op.astName).isSome = true) (k₁ k₂ : Kind)
    (n₁ n₂ : Int) (s₁ s₂ : String) (i₁ i₂ : Nat) (env : Env N) :
    ∃ r cv pv, translate (.cmp op (k₁.operand n₁ s₁ i₁) (k₂.operand n₂ s₂ i₂)) = .ok r ∧ r.ty = .bool ∧
      evalC env r.ce = some cv ∧
      evalPy true env (.cmp op (k₁.operand n₁ s₁ i₁) (k₂.operand n₂ s₂ i₂)) = some pv ∧ cv.toPy = pv := by
  obtain ⟨txt, ht⟩ := Option.isSome_iff_exists.mp hop
  obtain ⟨lr, cl, hl, hcl, hpl⟩ := operand_rep k₁ n₁ s₁ i₁ env
  obtain ⟨rr, cr, hr, hcr, hpr⟩ := operand_rep k₂ n₂ s₂ i₂ env
  obtain ⟨x, h1, h2⟩ := cmp_sound ht cl cr
  refine ⟨⟨.bool, .bin txt lr.ce rr.ce⟩, .bool x, .bool x, ?_, rfl, ?_, ?_, rfl⟩
  · rw [translate_cmp hl hr]; simp only [emitCmp, ht]
  · simp only [evalC, hcl, hcr, h1]
  · simp only [evalPy, hpl, hpr, h2]

/-- **bool_refused.** `+ - * / %` with a boolean-typed operand is *refused* — `most_accurate_type` raises
AssertionError, nothing is emitted — and with two non-boolean operands it is accepted.  (The property's "computes
what Python computes" is about generated jobs; a refusal generates none.  The exception class is C09's business.) -/
theorem bool_refused (op : PyBin) (hop : (lookup binaryOps op.astName).isSome = true) (l r : Rep) :
    (l.ty = .bool ∨ r.ty = .bool → emitBin op l r = .error .assertion) ∧
    (l.ty ≠ .bool → r.ty ≠ .bool → ∃ res, emitBin op l r = .ok res) := by
  obtain ⟨txt, ht⟩ := Option.isSome_iff_exists.mp hop
  exact ⟨fun h => by rw [emitBin_known ht, if_pos h], emitBin_accepts (by rw [binHandled, hop]; rfl)⟩

/-- every other Python operator (`//`, `@`, `<<`, `>>`, `|`, `^`, `&`, `~`, `is`, `in`, …) is refused -/
theorem other_operators_refused :
    (∀ op l r, (lookup binaryOps op.astName).isSome = false → op ≠ .pow → translate (.bin op l r) = .error .runtime) ∧
    (∀ op e, (lookup unaryOps op.astName).isSome = false → translate (.un op e) = .error .runtime) ∧
    (∀ op (l r : Rep), (lookup compareOps op.astName).isSome = false → emitCmp op l r = .error .keyError) := by
  refine ⟨?_, ?_, ?_⟩
  · intro op l r h hp
    have : binHandled op = false := by simp [binHandled, h, hp]
    simp [translate, this]
  · intro op e h
    have : unHandled op = false := by simp [unHandled, h]
    simp [translate, this]
  · intro op l r h
    unfold emitCmp
    cases hl : lookup compareOps op.astName with
    | none => rfl
    | some t => simp [hl] at h

/-- **const_typing.** `visit_Constant`: an `int` constant is typed `int` and written `str(n)` — in parentheses when
negative (`a--5` would be lexed as a decrement) —, a `float`
constant is typed `double` and written with the text it was given, `True`/`False` are `bool` `true`/`false`. -/
theorem const_typing (n : Int) (s : String) (i : Nat) (b : Bool) :
    (translate (.int n)).toOption.map (fun r => (r.ty, r.ce.render)) = some (.int, if n < 0 then "(" ++ toString n ++ ")" else toString n) ∧
    (translate (.flt s i)).toOption.map (fun r => (r.ty, r.ce.render)) = some (.double, s) ∧
    (translate (.bool b)).toOption.map (fun r => (r.ty, r.ce.render)) = some (.bool, if b then "true" else "false") := by
  refine ⟨rfl, rfl, rfl⟩

/-- The legacy `guess_type_from_number` (reached only through `visit_Num`, dead on Python ≥ 3.8) would type the
float constant `2.0` as `int`; `visit_Constant` does not. Recorded, not a finding: the path is unreachable. -/
theorem guess_type_legacy : guessTypeFromNumber true = .int ∧ guessTypeFromNumber false = .double := ⟨rfl, rfl⟩

/-- **set_var_cast.** After `T x; x = <rhs>;` with the right-hand side `set_var` emits, `x` holds the value
converted to `T` — whether or not the `static_cast` was written —, and the cast is written exactly when the
declared types differ. -/
theorem set_var_cast (t : CT) (v : Rep) (env : Env N) (c : CV N) (h : evalC env v.ce = some c) :
    (evalC env (setVarRhs t v)).map (convert t) = some (convert t c) ∧
    (setVarRhs t v).render = (if t ≠ v.ty then "static_cast<" ++ t.name ++ ">(" ++ v.ce.render ++ ")" else v.ce.render) := by
  obtain ⟨c', h1, h2⟩ := setVar_value t v env c h
  refine ⟨by rw [h1]; exact congrArg some h2, ?_⟩
  unfold setVarRhs
  split <;> simp_all [CE.render]

/-- **acc_wide_enough.** The accumulator's final type is the seed's or the update's, and is at least as wide as
both — so `acc = update` never narrows. -/
theorem acc_wide_enough (seed upd t : CT) (h : accType seed upd = .ok t) :
    (t = seed ∨ t = upd) ∧ seed.rank ≤ t.rank ∧ upd.rank ≤ t.rank := by
  unfold accType at h
  split at h
  · obtain ⟨hm, hall⟩ := widest _ _ h
    simp only [List.mem_cons, List.not_mem_nil, or_false] at hm
    exact ⟨hm, (hall seed (by simp)).2, (hall upd (by simp)).2⟩
  · rename_i hne
    simp only [ne_eq, Decidable.not_not] at hne
    simp only [Except.ok.injEq] at h
    subst h; subst hne
    exact ⟨Or.inl rfl, Nat.le_refl _, Nat.le_refl _⟩

/-- the `Aggregate` path refuses a boolean seed (ValueError) and a boolean update of another type (assertion) -/
theorem agg_refusals (nm : String) (ifs : Nat) (seed : Rep) (u : Upd) :
    (seed.ty = .bool → emitAgg nm ifs seed u = .error .valueError) ∧
    (∀ o, emitAgg nm ifs seed u = .ok o → o.accTy ≠ .bool) := by
  constructor
  · intro h; simp [emitAgg, accTypeOk, h]
  · intro o h
    unfold emitAgg at h
    split at h
    · rename_i hok
      cases hu : translateUpd nm ifs u with
      | error e => simp [hu] at h
      | ok cu =>
        obtain ⟨c, upd⟩ := cu
        simp only [hu] at h
        cases ha : accType seed.ty upd.ty with
        | error e => simp [ha] at h
        | ok t =>
          simp only [ha, Except.ok.injEq] at h
          subst h
          unfold accType at ha
          split at ha
          · exact ((widest _ _ ha).2 t (widest _ _ ha).1).1
          · cases ha; intro (hb : seed.ty = .bool); simp [accTypeOk, hb] at hok
    · simp at h

/-- **Count().** The generated loop counts: declared `int`, value = number of elements = Python's. -/
theorem count_correct (nm : String) (ifs : Nat) (elems : List (Env N)) :
    ∃ o, emitAgg nm ifs seed0 countUpd = .ok o ∧ o.accTy = .int ∧
      runAggC ifs o (.int 0) elems = some (.int elems.length) ∧
      runAggPy true countUpd (.int 0) elems = some (.int elems.length) := by
  have := count_run (N := N) ifs elems 0
  exact ⟨countOut, emitAgg_count nm ifs, rfl, by simpa using this.1, by simpa using this.2⟩

/-- **Sum().** Over values of declared type `k ∈ {int, float, double}`: the accumulator is declared `k` (seeded
with the int 0 and widened), and the generated loop computes, for every list of elements, a value numerically
equal to Python's `0 + v₁ + v₂ + …` — an `int` for `int`s. -/
theorem sum_correct (nm : String) (ifs : Nat) (k : CT) (hk : k ≠ .bool) (s : String) (slot : Nat)
    (hs : slot ≠ accSlot) (elems : List (Env N)) :
    ∃ o c p, emitAgg nm ifs seed0 (sumUpd k s slot) = .ok o ∧ o.accTy = k ∧
      runAggC ifs o (convert k (.int 0)) elems = some c ∧
      runAggPy true (sumUpd k s slot) (.int 0) elems = some p ∧ c.ctype = k ∧ numEq c p := by
  obtain ⟨c, p, h1, h2, h3, h4⟩ := runAgg_inv (fun c p => c.ctype = k ∧ numEq c p)
    (fun env ac ap h => sum_step ifs k hk s slot hs env ac ap h.1 h.2) elems (convert k (.int 0)) (.int 0)
    ⟨convert_ctype _ _, numEq_seed k hk 0⟩
  exact ⟨sumOut k s slot, c, p, emitAgg_sum nm ifs k hk s slot hs, rfl, h1, h2, h3, h4⟩

/-- **Max() / Min()** over `float`/`double` values: the accumulator is declared `double` (the conditional's
type), and the loop computes a value numerically equal to Python's fold of `acc if acc > v else v` from 0.
(Seeding with 0 is func_adl's definition and C01's concern, not a numeric one.) Partial: integer values are
exclusion E — see `max_int_counterexample`. -/
theorem maxmin_correct_partial (gt : Bool) (nm : String) (ifs : Nat) (hi : ifs ≠ accSlot) (k : CT)
    (hk : k = .float ∨ k = .double) (s : String) (slot : Nat) (hs : slot ≠ accSlot) (elems : List (Env N)) :
    ∃ o c p, emitAgg nm ifs seed0 (mmUpd gt k s slot) = .ok o ∧ o.accTy = .double ∧
      runAggC ifs o (.dbl (N.ofInt 0)) elems = some c ∧
      runAggPy true (mmUpd gt k s slot) (.int 0) elems = some p ∧ c.ctype = .double ∧ numEq c p := by
  obtain ⟨c, p, h1, h2, h3, h4⟩ := runAgg_inv (fun c p => c.ctype = .double ∧ numEq c p)
    (fun env ac ap h => mm_step gt nm ifs k hk s slot hs env ac ap h.1 h.2) elems (.dbl (N.ofInt 0)) (.int 0)
    ⟨rfl, numEq_seed .double (fun h => nomatch h) 0⟩
  exact ⟨_, c, p, emitAgg_mm gt nm ifs hi k s slot hs, rfl, h1, h2, h3, h4⟩

/-- the conditional against the arm Python selects: only the test and that arm need a Python value (the other arm is
evaluated on neither side) -/
theorem cond_arm_selected (nm : String) (slot : Nat) (t a b : Expr) (tr ar br : Rep)
    (ht : translate t = .ok tr) (ha : translate a = .ok ar) (hb : translate b = .ok br)
    (hd : t.noFloatMod = true ∧ a.noFloatMod = true ∧ b.noFloatMod = true)
    (env : Env N) (hm : t.modNonneg env = true ∧ a.modNonneg env = true ∧ b.modNonneg env = true)
    (pt pv : PV N) (hpt : evalPy true env t = some pt) (hpv : evalPy true env (if pt.truthy then a else b) = some pv) :
    ∃ cv, evalCondC env (emitCond nm slot tr ar br) = some cv ∧ cv.ctype = .double ∧ numEq cv pv := by
  obtain ⟨ct, h1, h2⟩ := expr_correct_partial t tr ht hd.1 env hm.1 pt hpt
  obtain ⟨c, h3, h4⟩ : ∃ c, evalC env (if ct.truthy then ar else br).ce = some c ∧ c.toPy = pv := by
    rw [← toPy_truthy, h2]
    revert hpv
    cases pt.truthy
    · exact expr_correct_partial b br hb hd.2.2 env hm.2.2 pv
    · exact expr_correct_partial a ar ha hd.2.1 env hm.2.1 pv
  exact ⟨_, cond_value env nm slot tr ar br ct c h1 h3, convert_ctype _ _, h4 ▸ numEq_toDouble c⟩

/-- **A conditional yields its arm's value.** For any test and arms the translator accepts (outside A): the generated `if (t) r = a; else r = b;` leaves in the `double` result variable a value numerically equal
to the value of the arm Python selects. -/
theorem cond_arm (nm : String) (slot : Nat) (t a b : Expr) (tr ar br : Rep)
    (ht : translate t = .ok tr) (ha : translate a = .ok ar) (hb : translate b = .ok br)
    (hd : t.noFloatMod = true ∧ a.noFloatMod = true ∧ b.noFloatMod = true)
    (env : Env N) (hm : t.modNonneg env = true ∧ a.modNonneg env = true ∧ b.modNonneg env = true)
    (pt pa pb : PV N) (hpt : evalPy true env t = some pt) (hpa : evalPy true env a = some pa)
    (hpb : evalPy true env b = some pb) :
    ∃ cv pv, evalCondC env (emitCond nm slot tr ar br) = some cv ∧ evalCondPy true env t a b = some pv ∧
      cv.ctype = .double ∧ numEq cv pv := by
  have hpv : evalPy true env (if pt.truthy then a else b) = some (if pt.truthy then pa else pb) := by
    split <;> assumption
  obtain ⟨cv, h1, h2, h3⟩ := cond_arm_selected nm slot t a b tr ar br ht ha hb hd env hm pt _ hpt hpv
  exact ⟨cv, _, h1, by simp only [evalCondPy, hpt]; split <;> assumption, h2, h3⟩

/-- the conditional's result is declared `double` whatever the arms are, and each arm is assigned through the
`set_var` rule -/
theorem cond_shape (nm : String) (slot : Nat) (tr ar br : Rep) :
    (emitCond nm slot tr ar br).result.ty = .double ∧
    condLines nm (emitCond nm slot tr ar br) =
      ["double " ++ nm ++ ";", "if (" ++ tr.ce.render ++ ")", nm ++ " = " ++ (setVarRhs .double ar).render ++ ";",
       "else", nm ++ " = " ++ (setVarRhs .double br).render ++ ";"] := ⟨rfl, rfl⟩

/-- **A conditional over the accumulator inside an `Aggregate` lambda, next to a real term** — `Aggregate(0, lambda
acc, j: (acc if acc > 0 else 0) + j.k())` with `k` float/double: the conditional is translated while the accumulator is
still an `int`, the accumulator is widened to `double` afterwards, and the emitted loop (result variable `double`, no
narrowing cast) computes for every list of elements exactly Python's fold.  The only fact about doubles used is
`¬ (0.0 < 0.0)`, an explicit hypothesis. -/
theorem clamp_sum_correct (nm : String) (ifs : Nat) (hi : ifs ≠ accSlot) (k : CT) (hk : k = .float ∨ k = .double)
    (s : String) (slot : Nat) (hs : slot ≠ accSlot) (hsi : slot ≠ ifs) (h0 : N.lt (N.ofInt 0) (N.ofInt 0) = false)
    (elems : List (Env N)) :
    ∃ o c p, emitAgg nm ifs seed0 (clampUpd nm ifs k s slot) = .ok o ∧ o.accTy = .double ∧
      (o.cond.map (·.result.ty)) = some .double ∧
      runAggC ifs o (.dbl (N.ofInt 0)) elems = some c ∧
      runAggPy true (clampUpd nm ifs k s slot) (.int 0) elems = some p ∧ numEq c p := by
  obtain ⟨_, p, h1, h2, y, rfl, h3⟩ := runAgg_inv (fun c p => ∃ x, c = .dbl x ∧ accInv x p)
    (fun env ac ap ⟨x, hx, h⟩ =>
      let ⟨x', hc, hp⟩ := clamp_step nm ifs hi k hk s slot hs hsi env x ap h0 h
      ⟨_, _, hx ▸ hc, hp, _, rfl, Or.inl rfl⟩)
    elems (.dbl (N.ofInt 0)) (.int 0) ⟨_, rfl, Or.inr ⟨rfl, rfl⟩⟩
  exact ⟨_, _, p, emitAgg_clamp nm ifs hi k hk s slot hs hsi, rfl, rfl, h1, h2, accInv_numEq h3⟩

/-- `visit_BoolOp` (two operands): the `bool` result variable holds the truth value of Python's `a and b` /
`a or b` (Python itself returns the deciding *operand*; the generated code its truth value — `and`/`or` are not among
the operators the property quantifies over). -/
theorem boolop_truth (isAnd : Bool) (a b : Expr) (ar br : Rep) (ha : translate a = .ok ar) (hb : translate b = .ok br)
    (hd : a.noFloatMod = true ∧ b.noFloatMod = true)
    (env : Env N) (hm : a.modNonneg env = true ∧ b.modNonneg env = true)
    (pa pb : PV N) (hpa : evalPy true env a = some pa) (hpb : evalPy true env b = some pb) :
    ∃ pv, evalBoolOpPy true isAnd env a b = some pv ∧
      evalBoolOpC isAnd env (setVarRhs .bool ar) (setVarRhs .bool br) = some pv.truthy := by
  obtain ⟨ca, h1, h2⟩ := expr_correct_partial a ar ha hd.1 env hm.1 pa hpa
  obtain ⟨cb, h3, h4⟩ := expr_correct_partial b br hb hd.2 env hm.2 pb hpb
  obtain ⟨v1, e1, s1⟩ := setVar_value .bool ar env ca h1
  obtain ⟨v2, e2, s2⟩ := setVar_value .bool br env cb h3
  have t1 : (convert CT.bool v1).truthy = pa.truthy := by rw [s1, truthy_convert_bool, ← h2, toPy_truthy]
  have t2 : (convert CT.bool v2).truthy = pb.truthy := by rw [s2, truthy_convert_bool, ← h4, toPy_truthy]
  simp only [evalBoolOpPy, evalBoolOpC, hpa, hpb, e1, e2, t1, t2]
  cases isAnd <;> cases h : pa.truthy <;> simp [h]

/-- **Exclusion A.** `j.d() % 2`: accepted, emitted as `(j->d()%2)` declared `double` — not C++ (`%` needs
integral operands): the generated job does not compile. -/
theorem mod_float_counterexample :
    ∃ r, translate (.bin .mod (.leaf .double "j->d()" 1) (.int 2)) = .ok r ∧ r.ce.render = "(j->d()%2)" ∧
      r.ty = .double ∧ ∀ env : Env N, evalC env r.ce = none := by
  refine ⟨⟨.double, .bin "%" (.leaf .double "j->d()" 1) (.ilit 2)⟩, by rfl, by decide, rfl, ?_⟩
  intro env
  simp only [evalC, leafVal]
  exact mod_float_illformed _ _ rfl

/-- **Exclusion B.** `-j.b()` with `b() == true`: declared `bool`; the C++ value −1 is stored as `true`, i.e. 1,
where Python gives −1. -/
theorem neg_bool_counterexample :
    ∃ r cv, translate (.un .usub (.leaf .bool "j->b()" 1)) = .ok r ∧ r.ty = .bool ∧
      evalC (N := N) (fun _ => ⟨0, N.ofInt 0, true⟩) r.ce = some cv ∧ cv.toPy = .int (-1) ∧
      convert r.ty cv = .bool true ∧ ¬ numEq (convert r.ty cv) (.int (-1) : PV N) := by
  refine ⟨⟨.bool, .un "-" (.leaf .bool "j->b()" 1)⟩, .int (-1), by rfl, rfl, ?_, rfl, ?_, ?_⟩
  · simp [evalC, leafVal, cUn, b2i]
  · simp [convert, CV.truthy]
  · simp [numEq, convert, CV.truthy, CV.isFloating, CV.ctype, CT.isFloating, CV.toI, b2i]

/-- **`not` on a real operand** (`visit_UnaryOp` types `not x` `bool`).
For an operand of any declared type the result is declared `bool` — the kind the property demands of a truth
value —, and `(!(x))` evaluates to Python's `not x` (`not 2.5` is `False`, `not 0.0` is `True`). -/
theorem not_real_is_bool (t : CT) (s : String) (i : Nat) (env : Env N) :
    ∃ r, translate (.un .not (.leaf t s i)) = .ok r ∧ r.ty = .bool ∧
      kindOk r.ty ((Expr.un .not (.leaf t s i)).pyKind true) (Expr.un .not (.leaf t s i)).width = true ∧
      (evalC env r.ce).map CV.toPy = evalPy true env (.un .not (.leaf t s i)) := by
  refine ⟨⟨.bool, .un "!" (.leaf t s i)⟩, ?_, rfl, ?_, ?_⟩
  · simp [translate, unHandled, unaryOps_row, emitUn]
  · simp [kindOk, Expr.pyKind, CT.isFloating]
  · cases t <;> simp [evalC, evalPy, leafVal, cUn, pyUn, CV.toPy, CV.truthy, PV.truthy]

/-- … and `(not j.d()) / 2`, which an `int`- or `double`-typed `not` would turn into the bool/int division
`((!(j->d()))/2)` without the cast (0 where Python computes 0.5), is not emitted: the `bool`-typed operand of `/` is refused by
`most_accurate_type`'s assertion like every other boolean operand of `+ - * / %` (theorem `bool_refused`) — a
refusal the property tolerates (`Expr.mustAccept` is false: no job is generated). -/
theorem not_real_then_div_refused :
    translate (.bin .div (.un .not (.leaf .double "j->d()" 1)) (.int 2)) = .error .assertion ∧
    (Expr.bin .div (.un .not (.leaf .double "j->d()" 1)) (.int 2)).mustAccept = false := by
  exact ⟨by rfl, by decide⟩

/-- **Exclusion E.** `j.i() if j.d() > 1 else 2`: both arms are integers, Python's result is an `int`; the result
variable — hence the column — is declared `double`: an integer-valued result does not remain an integer. -/
theorem cond_int_counterexample (nm : String) (slot : Nat) (tr : Rep) :
    condIntegral (.leaf .int "j->i()" 1) (.int 2) = true ∧
    (emitCond nm slot tr ⟨.int, .leaf .int "j->i()" 1⟩ ⟨.int, .ilit 2⟩).result.ty = .double ∧
    kindOk .double (condKind (.leaf .int "j->i()" 1) (.int 2)) (condWidth (.leaf .int "j->i()" 1) (.int 2)) = false := by
  refine ⟨by decide, rfl, by decide⟩

/-- the same through `Max()`: over `int` values the accumulator, hence the column, is `double` -/
theorem max_int_counterexample (nm : String) (ifs : Nat) (hi : ifs ≠ accSlot) (s : String) (slot : Nat)
    (hs : slot ≠ accSlot) :
    ∃ o, emitAgg nm ifs seed0 (maxUpd .int s slot) = .ok o ∧ o.accTy = .double ∧ kindOk o.accTy .int 0 = false :=
  ⟨_, emitAgg_mm true nm ifs hi .int s slot hs, rfl, rfl⟩

/-- outside the property's quantifier (it says non-negative operands for `%`), recorded for completeness:
C++ `%` truncates, Python's floors — `-7 % 2` is −1 in the generated code, 1 in Python. -/
theorem mod_negative_differs :
    cBin (N := N) "%" (.int (-7)) (.int 2) = some (.int (-1)) ∧
    pyBin (N := N) true .mod (.int (-7)) (.int 2) = some (.int 1) := by
  constructor
  · simp [cBin, CV.isFloating, CV.ctype, CT.isFloating, CV.toI]
  · simp [pyBin, PV.isFloat, PV.toI]

/-! An operand of an unsigned C++ type in the implementation's text (`evalX`, the oracle's reading of `std::size_t`) -/

/-- **The extended reading is conservative.** On text with no unsigned operand `evalX` is `evalC`: everything proved
about the model's emitted expressions under `evalC` is what the oracle computes for them. -/
theorem evalX_conservative (env : Env N) (e : CE) :
    evalX (fun _ => false) env e = (evalC env e).map XV.cv := by
  induction e with
  | leaf t s i => simp [evalX, evalC]
  | ilit n => simp [evalX, evalC]
  | blit b => simp [evalX, evalC]
  | bin op l r ihl ihr =>
    simp only [evalX, evalC, ihl, ihr]
    cases evalC env l <;> cases evalC env r <;> simp [xBin]
  | cast t e ih =>
    simp only [evalX, evalC, ih]
    cases evalC env e <;> simp [xConvert]
  | pow l r ihl ihr =>
    simp only [evalX, evalC, ihl, ihr]
    cases evalC env l <;> cases evalC env r <;> simp [XV.asCV]
  | un op e ih =>
    simp only [evalX, evalC, ih]
    cases evalC env e <;> simp [xUn]

/-- … for the value stored in a column and for the conditional alike -/
theorem storeX_conservative (env : Env N) (ty : CT) (e : CE) :
    storeX (fun _ => false) env ty e = (evalC env e).map (convert ty) := by
  simp only [storeX, evalX_conservative]
  cases evalC env e <;> simp [xConvert]

theorem evalCondX_conservative (env : Env N) (o : CondOut) :
    evalCondX (fun _ => false) env o = evalCondC env o := by
  have store : ∀ (ty : CT) (r : Option (CV N)),
      (match r.map XV.cv with | none => none | some v => some (xConvert ty v)) =
      (match r with | none => none | some v => some (convert ty v)) := by
    intro ty r; cases r <;> rfl
  simp only [evalCondX, evalCondC, evalX_conservative]
  cases evalC env o.test.ce with
  | none => rfl
  | some t => exact store _ _

/-- **A count taken from an unsigned expression is an integer count again once it is converted to `int`.**
`static_cast<int>(c->size())` — or storing the size in an `int` variable — has the value of the model's `int`
operand for every count below 2^31: that is the form in which a size may replace a counting loop. -/
theorem size_cast_int (uns : Nat → Bool) (env : Env N) (t : CT) (s : String) (i : Nat) (hu : uns i = true)
    (h0 : 0 ≤ (env i).i) (h1 : (env i).i < 2147483648) :
    evalX uns env (.cast .int (.leaf t s i)) = some (.cv (.int (env i).i)) := by
  have hw : wrapI32 (wrapU (env i).i) = (env i).i := by
    unfold wrapI32 wrapU two64
    omega
  simp only [evalX, hu, if_true, xConvert, hw]

/-- **Left unconverted it is not.** With three elements, `n - 5` computed on the `std::size_t` is
18446744073709551614 (so `(n - 5) / 2` and `(n - 5) * 0.5` are astronomically large where Python has −1.0), and
`n > -1` is *false* (−1 is converted to 2^64 − 1) where Python's comparison is true — whatever type the operand
was declared with.  The oracle therefore types such an operand by the C++ expression it is read from. -/
theorem unsigned_count_differs (env : Env N) (t : CT) (h : (env 11).i = 3) :
    evalX (· == 11) env (.bin "-" (.leaf t "c->size()" 11) (.ilit 5)) = some (.uns 18446744073709551614) ∧
    evalX (· == 11) env (.bin ">" (.leaf t "c->size()" 11) (.un "-" (.ilit 1))) = some (.cv (.bool false)) ∧
    evalPy true env (.cmp .gt (.leaf .int "n" 11) (.un .usub (.int 1))) = some (.bool true) := by
  refine ⟨?_, ?_, ?_⟩
  · simp [evalX, h, xBin, XV.isFloating, XV.toU, uBin, wrapU, two64, CV.toI, CV.isFloating, CV.ctype, CT.isFloating]
  · simp [evalX, h, xBin, xUn, cUn, XV.isFloating, XV.toU, uBin, wrapU, two64, CV.toI, CV.isFloating, CV.ctype, CT.isFloating]
  · simp [evalPy, leafVal, CV.toPy, pyUn, pyCmp, PV.isFloat, PV.toI, h]

example : wrapI32 18446744073709551614 = -2 := by decide
example : wrapU (-1) = 18446744073709551615 := by decide

end FaxVerif.C13
