/-
C13 — the lemmas behind Theorems.lean, expressions: each generated operator table as a `match` on the operator (`*_row`,
evaluated operator by operator; the lemmas below rewrite with them), the emitters and `translate` inverted once
(`*_ok`, `translate_induct`), C++ against Python operator by table row (`*_sound`), the inductions over source
expressions: type (`Typed`), value (`Sound`), truth values (`BoolInv`), acceptance (`accepts_in_scope`).  Statements and
aggregates: ProofsAgg.lean.
-/
import FaxVerif.C13.Spec
import FaxVerif.Common.Dict
namespace FaxVerif.C13
open FaxVerif.Generated.C13Tables
variable {N : Num}

theorem lookup_eq {β : Type} (t : List (String × β)) (k : String) : lookup t k = (Dict.firstBy (·.1) t k).map (·.2) := by
  induction t with
  | nil => rfl
  | cons a r ih => obtain ⟨a, b⟩ := a; rw [lookup, Dict.firstBy_cons, ih]; by_cases h : a = k <;> simp [h]

theorem lookup_all {β : Type} (P : β → Bool) (t : List (String × β)) (k : String) (v : β)
    (hall : t.all (fun p => P p.2) = true) (h : lookup t k = some v) : P v = true := by
  rw [lookup_eq, Option.map_eq_some_iff] at h
  obtain ⟨p, hp, rfl⟩ := h
  exact List.all_eq_true.1 hall p (Dict.firstBy_some _ hp).1

theorem binaryOps_row (op : PyBin) : lookup binaryOps op.astName =
    match op with
    | .add => some "+" | .sub => some "-" | .mult => some "*" | .div => some "/" | .mod => some "%"
    | _ => none := by
  cases op <;> decide

theorem binaryOps_ops {op : PyBin} {txt : String} (ht : lookup binaryOps op.astName = some txt) :
    op = .add ∨ op = .sub ∨ op = .mult ∨ op = .div ∨ op = .mod := by
  rw [binaryOps_row] at ht
  cases op <;> first | decide | cases ht

theorem unaryOps_row (op : PyUn) : lookup unaryOps op.astName =
    match op with
    | .uadd => some "+" | .usub => some "-" | .not => some "!" | .invert => none := by
  cases op <;> decide

theorem compareOps_row (op : PyCmp) : lookup compareOps op.astName =
    match op with
    | .lt => some "<" | .lte => some "<=" | .gt => some ">" | .gte => some ">=" | .eq => some "==" | .noteq => some "!="
    | _ => none := by
  cases op <;> decide

theorem prio_eq (t : CT) : prio t = if t = .bool then none else some t.rank := by
  cases t <;> decide

theorem firstMax_spec (b : CT × Nat) (l : List (CT × Nat)) :
    firstMax b l ∈ b :: l ∧ ∀ x ∈ b :: l, x.2 ≤ (firstMax b l).2 := by
  induction l generalizing b with
  | nil => simp [firstMax]
  | cons x xs ih =>
    simp only [firstMax]
    split
    · obtain ⟨h1, h2⟩ := ih x
      have := h2 x List.mem_cons_self
      simp only [List.mem_cons, forall_eq_or_imp] at h1 h2 ⊢
      exact ⟨.inr h1, by omega, h2⟩
    · obtain ⟨h1, h2⟩ := ih b
      have := h2 b List.mem_cons_self
      simp only [List.mem_cons, forall_eq_or_imp] at h1 h2 ⊢
      exact ⟨h1.imp id .inr, h2.1, by omega, h2.2⟩

theorem withPrio_spec (ts : List CT) (l : List (CT × Nat)) (h : withPrio ts = some l) :
    l.map (·.1) = ts ∧ ∀ x ∈ l, prio x.1 = some x.2 := by
  induction ts generalizing l with
  | nil => simp [withPrio] at h; subst h; simp
  | cons t ts ih =>
    simp only [withPrio] at h
    cases hp : prio t with
    | none => simp [hp] at h
    | some p =>
      cases hw : withPrio ts with
      | none => simp [hp, hw] at h
      | some r =>
        simp [hp, hw] at h
        subst h
        obtain ⟨h1, h2⟩ := ih r hw
        simpa [h1, hp] using h2

theorem withPrio_none (ts : List CT) (h : withPrio ts = none) : ∃ x ∈ ts, prio x = none := by
  induction ts with
  | nil => simp [withPrio] at h
  | cons t ts ih =>
    simp only [withPrio] at h
    cases hp : prio t with
    | none => exact ⟨t, by simp, hp⟩
    | some p =>
      cases hw : withPrio ts with
      | none => obtain ⟨x, hx, hx2⟩ := ih hw; exact ⟨x, by simp [hx], hx2⟩
      | some r => simp [hp, hw] at h

theorem mostAccurate_spec (ts : List CT) (t : CT) (h : mostAccurate ts = .ok t) :
    t ∈ ts ∧ ∃ pt, prio t = some pt ∧ ∀ x ∈ ts, ∃ px, prio x = some px ∧ px ≤ pt := by
  unfold mostAccurate at h
  cases hw : withPrio ts with
  | none => simp [hw] at h
  | some l =>
    cases l with
    | nil => simp [hw] at h
    | cons b l =>
      simp [hw] at h
      subst h
      obtain ⟨hmap, hpr⟩ := withPrio_spec ts _ hw
      obtain ⟨hmem, hmax⟩ := firstMax_spec b l
      refine ⟨hmap ▸ List.mem_map_of_mem hmem, _, hpr _ hmem, fun x hx => ?_⟩
      rw [← hmap] at hx
      obtain ⟨y, hy, rfl⟩ := List.mem_map.1 hx
      exact ⟨y.2, hpr y hy, hmax y hy⟩

theorem mostAccurate_error (ts : List CT) (e : Refusal) (h : mostAccurate ts = .error e) :
    e = .assertion ∧ (ts = [] ∨ ∃ x ∈ ts, prio x = none) := by
  unfold mostAccurate at h
  cases hw : withPrio ts with
  | none => simp [hw] at h; exact ⟨h.symm, Or.inr (withPrio_none ts hw)⟩
  | some l =>
    cases l with
    | nil =>
      simp [hw] at h
      refine ⟨h.symm, Or.inl ?_⟩
      have := (withPrio_spec ts _ hw).1; simpa using this.symm
    | cons b l => simp [hw] at h

theorem mostAccurate_pair (a b : CT) :
    mostAccurate [a, b] =
      (if a = .bool ∨ b = .bool then .error .assertion else .ok (if a.rank < b.rank then b else a)) := by
  cases a <;> cases b <;> rfl

theorem toPy_isFloat (c : CV N) : c.toPy.isFloat = c.isFloating := by cases c <;> rfl
theorem toPy_toF (c : CV N) : c.toPy.toF = c.toD := by cases c <;> rfl
theorem toPy_toI (c : CV N) (h : c.isFloating = false) : c.toPy.toI = c.toI := by
  cases c <;> first | rfl | cases h
theorem toPy_truthy (c : CV N) : c.toPy.truthy = c.truthy := by cases c <;> rfl
theorem toD_of_integral (c : CV N) (h : c.isFloating = false) : c.toD = N.ofInt c.toI := by
  cases c <;> first | rfl | cases h

theorem mkF_toPy (t : CT) (x : N.D) : (mkF t x : CV N).toPy = .float x := by
  unfold mkF; split <;> rfl
theorem mkF_isFloating (t : CT) (x : N.D) : (mkF t x : CV N).isFloating = true := by
  unfold mkF; split <;> rfl

theorem isFloating_of_ne_bool_false (t : CT) (h : t.isFloating = false) (hb : t ≠ .bool) : t = .int := by
  cases t <;> simp_all [CT.isFloating]

theorem isFloating_wider (a b : CT) (ha : a ≠ .bool) (hb : b ≠ .bool) :
    (if a.rank < b.rank then b else a).isFloating = (a.isFloating || b.isFloating) := by
  cases a <;> cases b <;> first | rfl | exact absurd rfl ha | exact absurd rfl hb

theorem not_floating {a b : CV N} (h : ¬ (a.isFloating || b.isFloating) = true) :
    a.isFloating = false ∧ b.isFloating = false := by
  simpa using h

theorem toPy_int (n : Int) : (CV.int n : CV N).toPy = .int n := rfl
theorem isFloating_int (n : Int) : (CV.int n : CV N).isFloating = false := rfl

/-! The C++ operator of a table row against Python's operator: on both sides the operands are first tested for a
floating one; `toPy_isFloat`, `toPy_toF`, `toPy_toI` turn Python's test and conversions into the C++ ones, after
which the two computations are the same term. -/

theorem arith_sound {op : PyBin} {txt : String} (hop : op = .add ∨ op = .sub ∨ op = .mult)
    (ht : lookup binaryOps op.astName = some txt) (rp : Bool) (a b : CV N) :
    ∃ cv, cBin txt a b = some cv ∧ pyBin rp op a.toPy b.toPy = some cv.toPy ∧
      cv.isFloating = (a.isFloating || b.isFloating) := by
  rw [binaryOps_row] at ht
  by_cases hf : (a.isFloating || b.isFloating) = true
  · rcases hop with rfl | rfl | rfl <;> cases ht <;>
      simp [cBin, pyBin, toPy_isFloat, toPy_toF, hf, mkF_toPy, mkF_isFloating]
  · obtain ⟨ha, hb⟩ := not_floating hf
    rcases hop with rfl | rfl | rfl <;> cases ht <;>
      simp [cBin, pyBin, toPy_isFloat, toPy_toI, ha, hb, toPy_int, isFloating_int]

theorem cmp_sound {op : PyCmp} {txt : String} (ht : lookup compareOps op.astName = some txt) (a b : CV N) :
    ∃ x, cBin txt a b = some (.bool x) ∧ pyCmp op a.toPy b.toPy = some (.bool x) := by
  rw [compareOps_row] at ht
  by_cases hf : (a.isFloating || b.isFloating) = true
  · cases op <;> cases ht <;> simp [cBin, pyCmp, toPy_isFloat, toPy_toF, hf]
  · obtain ⟨ha, hb⟩ := not_floating hf
    cases op <;> cases ht <;> simp [cBin, pyCmp, toPy_isFloat, toPy_toI, ha, hb, Decidable.em]

theorem un_sound {op : PyUn} {txt : String} (ht : lookup unaryOps op.astName = some txt) (a : CV N) :
    ∃ cv, cUn txt a = some cv ∧ pyUn op a.toPy = some cv.toPy ∧ cv.isFloating = (op != .not && a.isFloating) := by
  rw [unaryOps_row] at ht
  cases op <;> cases ht <;> cases a <;> exact ⟨_, rfl, rfl, rfl⟩

/-- `/` with the `static_cast<double>` on the left operand (both operands integral): real division -/
theorem div_cast_sound (rp : Bool) (a b : CV N) (ha : a.isFloating = false) (hb : b.isFloating = false)
    (pv : PV N) (h : pyBin rp .div a.toPy b.toPy = some pv) :
    ∃ cv, cBin "/" (convert .double a) b = some cv ∧ cv.toPy = pv ∧ cv.isFloating = true := by
  simp only [pyBin, toPy_isFloat, toPy_toI, ha, hb, Bool.or_self, Bool.false_eq_true, if_false] at h
  split at h
  · cases h
  · cases h
    refine ⟨.dbl (N.div (N.ofInt a.toI) (N.ofInt b.toI)), ?_, rfl, rfl⟩
    have hf : ((convert .double a).isFloating || b.isFloating) = true := rfl
    rw [← toD_of_integral a ha, ← toD_of_integral b hb]
    simp only [cBin, hf, if_true]
    simp [mkF, wider, convert, CV.ctype]
    rfl

/-- `/` without a cast when at least one operand is floating: C++ converts the other one -/
theorem div_nocast_sound (rp : Bool) (a b : CV N) (hf : (a.isFloating || b.isFloating) = true)
    (pv : PV N) (h : pyBin rp .div a.toPy b.toPy = some pv) :
    ∃ cv, cBin "/" a b = some cv ∧ cv.toPy = pv ∧ cv.isFloating = true := by
  simp only [pyBin, toPy_isFloat, toPy_toF, hf, if_true] at h
  split at h
  · cases h
  · cases h
    exact ⟨mkF (wider a.ctype b.ctype) (N.div a.toD b.toD), by simp [cBin, hf], mkF_toPy _ _, mkF_isFloating _ _⟩

/-- the defect `c100516` repaired: without the cast two integral operands are divided as integers -/
theorem div_nocast_truncates (a b : Int) (hb : b ≠ 0) :
    cBin (N := N) "/" (.int a) (.int b) = some (.int (Int.tdiv a b)) := by
  simp [cBin, CV.isFloating, CV.ctype, CT.isFloating, CV.toI, hb]

/-- `%` on integral operands: C++ truncates toward zero, Python floors; equal on `0 ≤ a ∧ 0 < b` -/
theorem mod_sound (rp : Bool) (a b : CV N) (ha : a.isFloating = false) (hb : b.isFloating = false)
    (h0 : 0 ≤ a.toI) (h1 : 0 < b.toI) :
    ∃ cv, cBin "%" a b = some cv ∧ pyBin rp .mod a.toPy b.toPy = some cv.toPy ∧ cv.isFloating = false := by
  have key : Int.tmod a.toI b.toI = Int.fmod a.toI b.toI := by
    rw [Int.tmod_eq_emod_of_nonneg h0, Int.fmod_eq_emod_of_nonneg _ (Int.le_of_lt h1)]
  have hne : b.toI ≠ 0 := by omega
  exact ⟨.int (Int.tmod a.toI b.toI), by simp [cBin, ha, hb, hne],
    by simp [pyBin, toPy_isFloat, toPy_toI, ha, hb, hne, toPy_int, key], rfl⟩

/-- `%` with a floating operand is not C++ -/
theorem mod_float_illformed (a b : CV N) (hf : (a.isFloating || b.isFloating) = true) :
    cBin "%" a b = none := by
  simp [cBin, hf]

theorem pow_sound (a b : CV N) :
    (cPow a b).toPy = .float (N.pow a.toD b.toD) ∧ (cPow a b).isFloating = true := by
  cases a <;> cases b <;> exact ⟨rfl, rfl⟩

theorem pyPow_real (a b : CV N) (pv : PV N) (h : pyBin true .pow a.toPy b.toPy = some pv) :
    pv = .float (N.pow a.toD b.toD) := by
  by_cases hf : (a.isFloating || b.isFloating) = true
  · simp only [pyBin, toPy_isFloat, toPy_toF, hf, if_true] at h
    split at h <;> cases h; rfl
  · obtain ⟨ha, hb⟩ := not_floating hf
    simp only [pyBin, toPy_isFloat, toPy_toI, ha, hb, Bool.or_self, Bool.false_eq_true, if_false, if_true] at h
    split at h <;> cases h
    rw [toD_of_integral _ ha, toD_of_integral _ hb]

theorem emitBin_known {op : PyBin} {txt : String} (ht : lookup binaryOps op.astName = some txt) (l r : Rep) :
    emitBin op l r =
      if l.ty = .bool ∨ r.ty = .bool then .error .assertion
      else if op = .div then
        .ok ⟨.double, .bin txt (if l.ty.isFloating || r.ty.isFloating then l.ce else .cast .double l.ce) r.ce⟩
      else .ok ⟨if l.ty.rank < r.ty.rank then r.ty else l.ty, .bin txt l.ce r.ce⟩ := by
  obtain ⟨lt, lc⟩ := l; obtain ⟨rt, rc⟩ := r
  simp only [emitBin, ht, emitKnownBin, mostAccurate_pair]
  cases lt <;> cases rt <;> simp [CT.rank, CT.isFloating]

theorem emitBin_pow (l r : Rep) : emitBin .pow l r = .ok ⟨.double, .pow l.ce r.ce⟩ := by
  simp [emitBin, binaryOps_row]

theorem emitBin_ok {op : PyBin} {l r res : Rep} (h : emitBin op l r = .ok res) :
    (op = .pow ∧ res = ⟨.double, .pow l.ce r.ce⟩) ∨
    ∃ txt, lookup binaryOps op.astName = some txt ∧ l.ty ≠ .bool ∧ r.ty ≠ .bool ∧
      res = if op = .div then
              ⟨.double, .bin txt (if l.ty.isFloating || r.ty.isFloating then l.ce else .cast .double l.ce) r.ce⟩
            else ⟨if l.ty.rank < r.ty.rank then r.ty else l.ty, .bin txt l.ce r.ce⟩ := by
  cases ht : lookup binaryOps op.astName with
  | none =>
    simp only [emitBin, ht] at h
    split at h
    · exact .inl ⟨‹_›, (Except.ok.inj h).symm⟩
    · cases h
  | some txt =>
    rw [emitBin_known ht] at h
    split at h
    · cases h
    · rename_i hb
      refine .inr ⟨txt, rfl, fun hl => hb (.inl hl), fun hr => hb (.inr hr), ?_⟩
      split at h <;> simp only [*, if_true, if_false] <;> exact (Except.ok.inj h).symm

theorem emitUn_ok {op : PyUn} {e res : Rep} (h : emitUn op e = .ok res) :
    ∃ txt, lookup unaryOps op.astName = some txt ∧ res = ⟨if op = .not then .bool else e.ty, .un txt e.ce⟩ := by
  unfold emitUn at h
  split at h
  · exact ⟨_, ‹_›, (Except.ok.inj h).symm⟩
  · cases h

theorem emitCmp_ok {op : PyCmp} {l r res : Rep} (h : emitCmp op l r = .ok res) :
    ∃ txt, lookup compareOps op.astName = some txt ∧ res = ⟨.bool, .bin txt l.ce r.ce⟩ := by
  unfold emitCmp at h
  split at h
  · exact ⟨_, ‹_›, (Except.ok.inj h).symm⟩
  · cases h

theorem translate_bin {op : PyBin} {l r : Expr} {lr rr : Rep} (hl : translate l = .ok lr) (hr : translate r = .ok rr) :
    translate (.bin op l r) = if binHandled op then emitBin op lr rr else .error .runtime := by
  simp only [translate, hl, hr]

theorem translate_un {op : PyUn} {e : Expr} {er : Rep} (he : translate e = .ok er) :
    translate (.un op e) = if unHandled op then emitUn op er else .error .runtime := by
  simp only [translate, he]

theorem translate_cmp {op : PyCmp} {l r : Expr} {lr rr : Rep} (hl : translate l = .ok lr) (hr : translate r = .ok rr) :
    translate (.cmp op l r) = emitCmp op lr rr := by
  simp only [translate, hl, hr]

theorem translate_bin_ok {op : PyBin} {l r : Expr} {res : Rep} (h : translate (.bin op l r) = .ok res) :
    ∃ lr rr, translate l = .ok lr ∧ translate r = .ok rr ∧ emitBin op lr rr = .ok res := by
  cases hl : translate l with
  | error x => simp only [translate, hl] at h; split at h <;> cases h
  | ok lr =>
    cases hr : translate r with
    | error x => simp only [translate, hl, hr] at h; split at h <;> cases h
    | ok rr =>
      rw [translate_bin hl hr] at h
      split at h
      · exact ⟨lr, rr, rfl, rfl, h⟩
      · cases h

theorem translate_un_ok {op : PyUn} {e : Expr} {res : Rep} (h : translate (.un op e) = .ok res) :
    ∃ er, translate e = .ok er ∧ emitUn op er = .ok res := by
  cases he : translate e with
  | error x => simp only [translate, he] at h; split at h <;> cases h
  | ok er =>
    rw [translate_un he] at h
    split at h
    · exact ⟨er, rfl, h⟩
    · cases h

theorem translate_cmp_ok {op : PyCmp} {l r : Expr} {res : Rep} (h : translate (.cmp op l r) = .ok res) :
    ∃ lr rr, translate l = .ok lr ∧ translate r = .ok rr ∧ emitCmp op lr rr = .ok res := by
  cases hl : translate l with
  | error x => simp [translate, hl] at h
  | ok lr =>
    cases hr : translate r with
    | error x => simp [translate, hl, hr] at h
    | ok rr => exact ⟨lr, rr, rfl, rfl, by rwa [translate_cmp hl hr] at h⟩

theorem translate_induct {P : Expr → Rep → Prop}
    (leaf : ∀ t s i, P (.leaf t s i) ⟨t, .leaf t s i⟩)
    (int : ∀ n, P (.int n) ⟨.int, .ilit n⟩)
    (flt : ∀ s i, P (.flt s i) ⟨.double, .leaf .double s i⟩)
    (bool : ∀ b, P (.bool b) ⟨.bool, .blit b⟩)
    (bin : ∀ op l r lr rr res, translate l = .ok lr → translate r = .ok rr → emitBin op lr rr = .ok res →
      P l lr → P r rr → P (.bin op l r) res)
    (un : ∀ op e er res, translate e = .ok er → emitUn op er = .ok res → P e er → P (.un op e) res)
    (cmp : ∀ op l r lr rr res, emitCmp op lr rr = .ok res → P l lr → P r rr → P (.cmp op l r) res) :
    ∀ e r, translate e = .ok r → P e r := by
  intro e
  induction e with
  | leaf t s i => intro r h; cases h; exact leaf t s i
  | int n => intro r h; cases h; exact int n
  | flt s i => intro r h; cases h; exact flt s i
  | bool b => intro r h; cases h; exact bool b
  | bin op l r ihl ihr =>
    intro res h
    obtain ⟨lr, rr, hl, hr, he⟩ := translate_bin_ok h
    exact bin op l r lr rr res hl hr he (ihl lr hl) (ihr rr hr)
  | un op e ih =>
    intro res h
    obtain ⟨er, he, hu⟩ := translate_un_ok h
    exact un op e er res he hu (ih er he)
  | cmp op l r ihl ihr =>
    intro res h
    obtain ⟨lr, rr, hl, hr, he⟩ := translate_cmp_ok h
    exact cmp op l r lr rr res he (ihl lr hl) (ihr rr hr)

theorem isFloatKind_bin (op : PyBin) (l r : Expr) :
    (Expr.bin op l r).isFloatKind = (op = .div || op = .pow || l.isFloatKind || r.isFloatKind) := by
  simp only [Expr.isFloatKind, Expr.pyKind]
  by_cases hd : op = .div <;> by_cases hp : op = .pow <;> simp [hd, hp]

theorem isFloatKind_un (op : PyUn) (e : Expr) :
    (Expr.un op e).isFloatKind = (op != .not && e.isFloatKind) := by
  simp only [Expr.isFloatKind, Expr.pyKind]
  by_cases hn : op = .not <;> simp [hn]

theorem rank_le_two (t : CT) : t.rank ≤ 2 := by cases t <;> decide

/-- the declared type against the source expression: floating exactly when Python's result is, at least as wide as every
operand that flows into the value, `bool` only for a truth value (possibly under unary `+`/`-`) -/
def Typed (e : Expr) (r : Rep) : Prop :=
  r.ty.isFloating = e.isFloatKind ∧ e.width ≤ r.ty.rank ∧ (r.ty = .bool → e.boolish = true)

theorem translate_typed (e : Expr) : ∀ r, translate e = .ok r → Typed e r := by
  refine translate_induct (P := Typed) ?_ ?_ ?_ ?_ ?_ ?_ ?_ e
  · exact fun t s i => ⟨by cases t <;> rfl, Nat.le_refl _, fun h => by cases h; rfl⟩
  · exact fun n => ⟨rfl, Nat.le_refl _, fun h => nomatch h⟩
  · exact fun s i => ⟨rfl, Nat.le_refl _, fun h => nomatch h⟩
  · exact fun b => ⟨rfl, Nat.le_refl _, fun _ => rfl⟩
  · intro op l r lr rr res _ _ he ⟨kl, wl, _⟩ ⟨kr, wr, _⟩
    have h2l := rank_le_two lr.ty
    have h2r := rank_le_two rr.ty
    simp only [Typed, isFloatKind_bin, ← kl, ← kr, Expr.width]
    rcases emitBin_ok he with ⟨rfl, rfl⟩ | ⟨txt, ht, hlb, hrb, rfl⟩
    · exact ⟨rfl, by show _ ≤ 2; omega, fun h => nomatch h⟩
    · have hty := isFloating_wider _ _ hlb hrb
      have hnp : op ≠ .pow := by rintro rfl; rw [binaryOps_row] at ht; cases ht
      by_cases hd : op = .div
      · subst hd; rw [if_pos rfl]; exact ⟨rfl, by show _ ≤ 2; omega, fun h => nomatch h⟩
      · rw [if_neg hd]
        refine ⟨by simpa [hd, hnp] using hty, ?_, ?_⟩
        · show _ ≤ (if lr.ty.rank < rr.ty.rank then rr.ty else lr.ty).rank; split <;> omega
        · show (if lr.ty.rank < rr.ty.rank then rr.ty else lr.ty) = CT.bool → _; split <;> intro h <;> contradiction
  · intro op e er res _ he ⟨k, w, b⟩
    obtain ⟨txt, ht, rfl⟩ := emitUn_ok he
    rw [unaryOps_row] at ht
    simp only [Typed, isFloatKind_un, ← k, Expr.width]
    cases op <;> cases ht
    · exact ⟨by simp, w, b⟩
    · exact ⟨by simp, w, b⟩
    · exact ⟨rfl, Nat.zero_le _, fun _ => rfl⟩
  · intro op l r lr rr res he _ _
    obtain ⟨txt, _, rfl⟩ := emitCmp_ok he
    exact ⟨rfl, Nat.zero_le _, fun _ => rfl⟩

/-- what `translate_sound` carries through the induction: on every sample the emitted expression evaluates to Python's
value, at a C++ type floating exactly when the declared type is -/
def Sound (N : Num) (e : Expr) (r : Rep) : Prop :=
  ∀ env : Env N, e.modNonneg env = true → ∀ pv, evalPy true env e = some pv →
    ∃ cv, evalC env r.ce = some cv ∧ cv.toPy = pv ∧ cv.isFloating = r.ty.isFloating

theorem modNonneg_bin {op : PyBin} {l r : Expr} {env : Env N} (hm : (Expr.bin op l r).modNonneg env = true) :
    l.modNonneg env = true ∧ r.modNonneg env = true := by
  simp only [Expr.modNonneg, Bool.and_eq_true] at hm; exact hm.1

theorem eval_two {l r : Expr} {lr rr : Rep} (hl : Sound N l lr) (hr : Sound N r rr) (env : Env N)
    (hml : l.modNonneg env = true) (hmr : r.modNonneg env = true) (f : PV N → PV N → Option (PV N)) (pv : PV N)
    (hpv : (match evalPy true env l, evalPy true env r with
            | some a, some b => f a b
            | _, _ => none) = some pv) :
    ∃ cl cr : CV N, evalC env lr.ce = some cl ∧ evalC env rr.ce = some cr ∧ f cl.toPy cr.toPy = some pv ∧
      cl.isFloating = lr.ty.isFloating ∧ cr.isFloating = rr.ty.isFloating ∧
      evalPy true env l = some cl.toPy ∧ evalPy true env r = some cr.toPy := by
  cases hpl : evalPy true env l with
  | none => simp [hpl] at hpv
  | some pl =>
    cases hpr : evalPy true env r with
    | none => simp [hpl, hpr] at hpv
    | some pr =>
      simp only [hpl, hpr] at hpv
      obtain ⟨cl, hcl, rfl, hcl3⟩ := hl env hml pl hpl
      obtain ⟨cr, hcr, rfl, hcr3⟩ := hr env hmr pr hpr
      exact ⟨cl, cr, hcl, hcr, hpv, hcl3, hcr3, rfl, rfl⟩

theorem sound_arith {op : PyBin} {txt : String} {l r : Expr} {lr rr : Rep}
    (hop : op = .add ∨ op = .sub ∨ op = .mult) (ht : lookup binaryOps op.astName = some txt)
    (hlb : lr.ty ≠ .bool) (hrb : rr.ty ≠ .bool) (hl : Sound N l lr) (hr : Sound N r rr) :
    Sound N (.bin op l r) ⟨if lr.ty.rank < rr.ty.rank then rr.ty else lr.ty, .bin txt lr.ce rr.ce⟩ := by
  intro env hm pv hpv
  obtain ⟨cl, cr, hcl, hcr, hf, hcl3, hcr3, _, _⟩ :=
    eval_two hl hr env (modNonneg_bin hm).1 (modNonneg_bin hm).2 _ pv hpv
  obtain ⟨cv, h1, h2, h3⟩ := arith_sound hop ht true cl cr
  rw [h2] at hf
  exact ⟨cv, by simp only [evalC, hcl, hcr, h1], (Option.some.inj hf),
    by rw [h3, isFloating_wider _ _ hlb hrb, hcl3, hcr3]⟩

theorem sound_div {txt : String} {l r : Expr} {lr rr : Rep} (ht : lookup binaryOps PyBin.div.astName = some txt)
    (hl : Sound N l lr) (hr : Sound N r rr) :
    Sound N (.bin .div l r)
      ⟨.double, .bin txt (if lr.ty.isFloating || rr.ty.isFloating then lr.ce else .cast .double lr.ce) rr.ce⟩ := by
  cases ht
  intro env hm pv hpv
  obtain ⟨cl, cr, hcl, hcr, hf, hcl3, hcr3, _, _⟩ :=
    eval_two hl hr env (modNonneg_bin hm).1 (modNonneg_bin hm).2 _ pv hpv
  rw [← hcl3, ← hcr3]
  by_cases hfl : (cl.isFloating || cr.isFloating) = true
  · obtain ⟨cv, h1, h2, h3⟩ := div_nocast_sound true cl cr hfl pv hf
    exact ⟨cv, by rw [if_pos hfl]; simp only [evalC, hcl, hcr, h1], h2, h3⟩
  · obtain ⟨ha, hb⟩ := not_floating hfl
    obtain ⟨cv, h1, h2, h3⟩ := div_cast_sound true cl cr ha hb pv hf
    exact ⟨cv, by rw [if_neg hfl]; simp only [evalC, hcl, hcr, h1], h2, h3⟩

theorem sound_pow {l r : Expr} {lr rr : Rep} (hl : Sound N l lr) (hr : Sound N r rr) :
    Sound N (.bin .pow l r) ⟨.double, .pow lr.ce rr.ce⟩ := by
  intro env hm pv hpv
  obtain ⟨cl, cr, hcl, hcr, hf, _, _, _, _⟩ :=
    eval_two hl hr env (modNonneg_bin hm).1 (modNonneg_bin hm).2 _ pv hpv
  cases pyPow_real cl cr pv hf
  exact ⟨cPow cl cr, by simp only [evalC, hcl, hcr], (pow_sound cl cr).1, (pow_sound cl cr).2⟩

theorem sound_mod {txt : String} {l r : Expr} {lr rr : Rep} (ht : lookup binaryOps PyBin.mod.astName = some txt)
    (hlb : lr.ty ≠ .bool) (hrb : rr.ty ≠ .bool) (hnf : (lr.ty.isFloating || rr.ty.isFloating) = false)
    (hl : Sound N l lr) (hr : Sound N r rr) :
    Sound N (.bin .mod l r) ⟨if lr.ty.rank < rr.ty.rank then rr.ty else lr.ty, .bin txt lr.ce rr.ce⟩ := by
  cases ht
  have hty := isFloating_wider _ _ hlb hrb
  rw [hnf] at hty
  intro env hm pv hpv
  obtain ⟨cl, cr, hcl, hcr, hf, hcl3, hcr3, hel, her⟩ :=
    eval_two hl hr env (modNonneg_bin hm).1 (modNonneg_bin hm).2 _ pv hpv
  have hcf : cl.isFloating = false ∧ cr.isFloating = false := by
    rw [hcl3, hcr3]; simpa using hnf
  simp only [Expr.modNonneg, hel, her, toPy_isFloat, toPy_toI, hcf.1, hcf.2, Bool.and_eq_true, bne_self_eq_false,
    Bool.false_or, Bool.or_self, Bool.false_eq_true, if_false, decide_eq_true_eq] at hm
  obtain ⟨cv, h1, h2, h3⟩ := mod_sound true cl cr hcf.1 hcf.2 hm.2.1 hm.2.2
  rw [h2] at hf
  exact ⟨cv, by simp only [evalC, hcl, hcr, h1], Option.some.inj hf, by rw [h3, hty]⟩

theorem sound_un {op : PyUn} {txt : String} {e : Expr} {er : Rep} (ht : lookup unaryOps op.astName = some txt)
    (he : Sound N e er) : Sound N (.un op e) ⟨if op = .not then .bool else er.ty, .un txt er.ce⟩ := by
  intro env hm pv hpv
  simp only [evalPy] at hpv
  cases hpe : evalPy true env e with
  | none => simp [hpe] at hpv
  | some pe =>
    simp only [hpe] at hpv
    obtain ⟨ce, h1, rfl, h3⟩ := he env hm pe hpe
    obtain ⟨cv, h4, h5, h6⟩ := un_sound ht ce
    rw [h5] at hpv
    refine ⟨cv, by simp only [evalC, h1, h4], Option.some.inj hpv, ?_⟩
    rw [h6, h3]
    by_cases hn : op = .not <;> simp [hn, CT.isFloating]

theorem sound_cmp {op : PyCmp} {txt : String} {l r : Expr} {lr rr : Rep}
    (ht : lookup compareOps op.astName = some txt) (hl : Sound N l lr) (hr : Sound N r rr) :
    Sound N (.cmp op l r) ⟨.bool, .bin txt lr.ce rr.ce⟩ := by
  intro env hm pv hpv
  simp only [Expr.modNonneg, Bool.and_eq_true] at hm
  obtain ⟨cl, cr, hcl, hcr, hf, _, _, _, _⟩ := eval_two hl hr env hm.1 hm.2 _ pv hpv
  obtain ⟨x, h1, h2⟩ := cmp_sound ht cl cr
  rw [h2] at hf
  exact ⟨.bool x, by simp only [evalC, hcl, hcr, h1], Option.some.inj hf, rfl⟩

theorem translate_sound (e : Expr) : ∀ r, translate e = .ok r → e.noFloatMod = true → Sound N e r := by
  refine translate_induct (P := fun e r => e.noFloatMod = true → Sound N e r) ?_ ?_ ?_ ?_ ?_ ?_ ?_ e
  · exact fun t s i _ env _ pv hpv => ⟨_, rfl, Option.some.inj hpv, by cases t <;> rfl⟩
  · exact fun n _ env _ pv hpv => ⟨_, rfl, Option.some.inj hpv, rfl⟩
  · exact fun s i _ env _ pv hpv => ⟨.dbl (env i).d, rfl, Option.some.inj hpv, rfl⟩
  · exact fun b _ env _ pv hpv => ⟨_, rfl, Option.some.inj hpv, rfl⟩
  · intro op l r lr rr res tl tr he sl sr hfm
    simp only [Expr.noFloatMod, Bool.and_eq_true] at hfm
    have sl := sl hfm.1.1
    have sr := sr hfm.1.2
    rcases emitBin_ok he with ⟨rfl, rfl⟩ | ⟨txt, ht, hlb, hrb, rfl⟩
    · exact sound_pow sl sr
    · rcases binaryOps_ops ht with rfl | rfl | rfl | rfl | rfl
      · exact sound_arith (.inl rfl) ht hlb hrb sl sr
      · exact sound_arith (.inr (.inl rfl)) ht hlb hrb sl sr
      · exact sound_arith (.inr (.inr rfl)) ht hlb hrb sl sr
      · exact sound_div ht sl sr
      · exact sound_mod ht hlb hrb
          (by rw [(translate_typed l lr tl).1, (translate_typed r rr tr).1]; simpa using hfm.2) sl sr
  · intro op e er res _ he se hfm
    obtain ⟨txt, ht, rfl⟩ := emitUn_ok he
    exact sound_un ht (se hfm)
  · intro op l r lr rr res he sl sr hfm
    simp only [Expr.noFloatMod, Bool.and_eq_true] at hfm
    obtain ⟨txt, ht, rfl⟩ := emitCmp_ok he
    exact sound_cmp ht (sl hfm.1) (sr hfm.2)

/-- storing a value whose static C++ type agrees in kind with the declared type keeps its Python value -/
theorem store_numEq (declared : CT) (cv : CV N) (hk : cv.isFloating = declared.isFloating)
    (hb : declared = .bool → cv.toI = 0 ∨ cv.toI = 1) : numEq (convert declared cv) cv.toPy := by
  cases declared <;> cases cv <;> simp [CV.isFloating, CV.ctype, CT.isFloating] at hk <;>
    simp [numEq, convert, CV.toPy, CV.isFloating, CV.ctype, CT.isFloating, CV.toI, CV.toD, CV.truthy, b2i]
  all_goals
    first
    | (rename_i n
       have := hb rfl
       simp [CV.toI] at this
       rcases this with h | h <;> subst h <;> simp)
    | (rename_i b; cases b <;> simp)

/-- a value the translator types `bool` is 0 or 1, outside exclusion B -/
def BoolInv (N : Num) (e : Expr) (r : Rep) : Prop :=
  r.ty = .bool → e.noNegBool = true →
    ∀ (env : Env N) cv, evalC env r.ce = some cv → cv.isFloating = false → (cv.toI = 0 ∨ cv.toI = 1)

theorem b2i_01 (b : Bool) : b2i b = 0 ∨ b2i b = 1 := by cases b <;> simp [b2i]

theorem evalC_un_ok {env : Env N} {txt : String} {e : CE} {cv : CV N} (h : evalC env (.un txt e) = some cv) :
    ∃ c, evalC env e = some c ∧ cUn txt c = some cv := by
  simp only [evalC] at h
  cases hc : evalC env e with
  | none => simp [hc] at h
  | some c => exact ⟨c, rfl, by simpa [hc] using h⟩

theorem evalC_bin_ok {env : Env N} {txt : String} {l r : CE} {cv : CV N} (h : evalC env (.bin txt l r) = some cv) :
    ∃ a b, evalC env l = some a ∧ evalC env r = some b ∧ cBin txt a b = some cv := by
  simp only [evalC] at h
  cases ha : evalC env l with
  | none => simp [ha] at h
  | some a =>
    cases hb : evalC env r with
    | none => simp [ha, hb] at h
    | some b => exact ⟨a, b, rfl, rfl, by simpa [ha, hb] using h⟩

theorem translate_boolInv (e : Expr) : ∀ r, translate e = .ok r → BoolInv N e r := by
  refine translate_induct (P := BoolInv N) ?_ ?_ ?_ ?_ ?_ ?_ ?_ e
  · rintro t s i (rfl : t = .bool) _ env cv hc _
    cases hc; exact b2i_01 _
  · exact fun n ht => nomatch ht
  · exact fun s i ht => nomatch ht
  · exact fun b _ _ env cv hc _ => by cases hc; exact b2i_01 _
  · -- the result of `+ - * / % **` is never typed `bool`
    intro op l r lr rr res _ _ he _ _ ht
    exfalso
    rcases emitBin_ok he with ⟨_, rfl⟩ | ⟨txt, _, hlb, hrb, rfl⟩
    · cases ht
    · split at ht
      · cases ht
      · simp only at ht; split at ht <;> contradiction
  · intro op e er res te he ih ht hn env cv hc hf
    obtain ⟨txt, htxt, rfl⟩ := emitUn_ok he
    rw [unaryOps_row] at htxt
    simp only [Expr.noNegBool, Bool.and_eq_true] at hn
    obtain ⟨c0, h0, h1⟩ := evalC_un_ok hc
    cases op <;> cases htxt
    · -- `+x` keeps the value of `x`
      have h01 := ih ht hn.1 env c0 h0
      cases c0 <;> cases h1 <;> first | exact h01 rfl | cases hf
    · -- `-x` on a boolean `x` is exclusion B
      simp [(translate_typed e er te).2.2 ht] at hn
    · cases h1; exact b2i_01 _
  · intro op l r lr rr res he _ _ _ _ env cv hc _
    obtain ⟨txt, ht, rfl⟩ := emitCmp_ok he
    obtain ⟨a, b, _, _, h⟩ := evalC_bin_ok hc
    obtain ⟨x, hx, _⟩ := cmp_sound ht a b
    rw [hx] at h; cases h; exact b2i_01 _

/-- the operators the property lists (`Expr.opsInScope`) are those of the generated tables, and `**` -/
theorem binHandled_eq (op : PyBin) :
    binHandled op = (op = .add || op = .sub || op = .mult || op = .div || op = .mod || op = .pow) := by
  simp only [binHandled, binaryOps_row]; cases op <;> rfl

theorem unHandled_eq (op : PyUn) : unHandled op = (op = .uadd || op = .usub || op = .not) := by
  simp only [unHandled, unaryOps_row]; cases op <;> rfl

theorem compareOps_isSome (op : PyCmp) : (lookup compareOps op.astName).isSome =
    (op = .lt || op = .lte || op = .gt || op = .gte || op = .eq || op = .noteq) := by
  simp only [compareOps_row]; cases op <;> rfl

theorem emitBin_accepts {op : PyBin} (hop : binHandled op = true) {l r : Rep} (hl : l.ty ≠ .bool) (hr : r.ty ≠ .bool) :
    ∃ res, emitBin op l r = .ok res := by
  cases ht : lookup binaryOps op.astName with
  | some txt => rw [emitBin_known ht, if_neg (fun h => h.elim hl hr)]; split <;> exact ⟨_, rfl⟩
  | none =>
    have : op = .pow := by simpa [binHandled, ht] using hop
    exact ⟨_, this ▸ emitBin_pow l r⟩

/-- **Acceptance.** Every expression built from the property's operators in which no `+ - * / %` has a boolean
operand is translated (no refusal). -/
theorem accepts_in_scope (e : Expr) (h : e.mustAccept = true) : ∃ r, translate e = .ok r := by
  revert h
  unfold Expr.mustAccept
  induction e with
  | leaf | int | flt | bool => exact fun _ => ⟨_, rfl⟩
  | bin op l r ihl ihr =>
    intro h
    simp only [Expr.opsInScope, Expr.noBoolArith, Bool.and_eq_true, Bool.not_eq_true', Bool.or_eq_false_iff,
      ← binHandled_eq] at h
    obtain ⟨⟨⟨hol, hor⟩, hop⟩, ⟨hbl, hbr⟩, hb⟩ := h
    obtain ⟨lr, hl⟩ := ihl (by rw [hol, hbl]; rfl)
    obtain ⟨rr, hr⟩ := ihr (by rw [hor, hbr]; rfl)
    have hnb : ∀ {e : Expr} {r : Rep}, translate e = .ok r → e.boolish = false → r.ty ≠ .bool := fun ht hb hty => by
      rw [(translate_typed _ _ ht).2.2 hty] at hb; cases hb
    rw [translate_bin hl hr, if_pos hop]
    exact emitBin_accepts hop (hnb hl hb.1) (hnb hr hb.2)
  | un op e ih =>
    intro h
    simp only [Expr.opsInScope, Expr.noBoolArith, Bool.and_eq_true, ← unHandled_eq] at h
    obtain ⟨er, he⟩ := ih (by rw [h.1.1, h.2]; rfl)
    obtain ⟨txt, ht⟩ := Option.isSome_iff_exists.mp h.1.2
    rw [translate_un he, if_pos h.1.2, emitUn, ht]
    exact ⟨_, rfl⟩
  | cmp op l r ihl ihr =>
    intro h
    simp only [Expr.opsInScope, Expr.noBoolArith, Bool.and_eq_true, ← compareOps_isSome] at h
    obtain ⟨lr, hl⟩ := ihl (by rw [h.1.1.1, h.2.1]; rfl)
    obtain ⟨rr, hr⟩ := ihr (by rw [h.1.1.2, h.2.2]; rfl)
    obtain ⟨txt, ht⟩ := Option.isSome_iff_exists.mp h.1.2
    rw [translate_cmp hl hr, emitCmp, ht]
    exact ⟨_, rfl⟩

end FaxVerif.C13
