/-
C13 — the lemmas behind Theorems.lean, statements: the conversion of a store (`set_var`), the conditional, and
`emitAgg`.  The C++ accumulator has a type, Python's is whatever value it holds; `numEq` relates them, and
`numEq_reads` / `pyBin_numEq` / `pyCmp_numEq` say that Python's operators cannot tell numerically equal values apart
(stated for the left operand, beside a right operand that is a float whenever the C++ accumulator is floating).
So one pass of the emitted loop keeps the relation, per form of the update lambda (`sum_step`, `mm_step`,
`clamp_step`), and `runAgg_inv` carries a relation kept by one pass through both loops (`Count()`: `count_run`).
-/
import FaxVerif.C13.ProofsExpr
namespace FaxVerif.C13
open FaxVerif.Generated.C13Tables
variable {N : Num}

theorem convert_ctype (t : CT) (c : CV N) : (convert t c).ctype = t := by cases t <;> rfl

theorem convert_idem (t : CT) (c : CV N) : convert t (convert t c) = convert t c := by
  cases t <;> cases c <;> simp [convert, CV.toI, CV.toD, CV.truthy]

theorem convert_self {c : CV N} {t : CT} (h : c.ctype = t) : convert t c = c := by
  subst h; cases c <;> rfl

theorem truthy_convert_bool (c : CV N) : (convert .bool c).truthy = c.truthy := by
  cases c <;> rfl

/-- what a variable of type `t` holds after `t x; x = <setVarRhs t v>;` -/
theorem setVar_value (t : CT) (v : Rep) (env : Env N) (c : CV N) (h : evalC env v.ce = some c) :
    ∃ c', evalC env (setVarRhs t v) = some c' ∧ convert t c' = convert t c := by
  unfold setVarRhs
  split
  · exact ⟨convert t c, by simp only [evalC, h], convert_idem t c⟩
  · exact ⟨c, h, rfl⟩

theorem numEq_toDouble (c : CV N) : numEq (convert .double c) c.toPy := by
  cases c <;> simp [numEq, convert, CV.toPy, CV.isFloating, CV.ctype, CT.isFloating, CV.toD]

/-- the conditional evaluates its test and the arm the test selects, and stores that arm's value in the `double` result -/
theorem cond_value (env : Env N) (name : String) (slot : Nat) (tr ar br : Rep) (ct c : CV N)
    (ht : evalC env tr.ce = some ct) (hc : evalC env (if ct.truthy then ar else br).ce = some c) :
    evalCondC env (emitCond name slot tr ar br) = some (convert .double c) := by
  simp only [evalCondC, emitCond, ht, condResultType]
  revert hc
  cases ct.truthy <;> intro hc <;> obtain ⟨c', h1, e1⟩ := setVar_value .double _ env c hc
  · simp only [Bool.false_eq_true, if_false] at h1 ⊢; simp only [h1, e1]
  · simp only [if_true] at h1 ⊢; simp only [h1, e1]

/-- what `numEq c p` says in the terms Python's operators read their operands through -/
theorem numEq_reads {c : CV N} {p : PV N} (h : numEq c p) :
    (c.isFloating = false → p.isFloat = false ∧ p.toI = c.toI) ∧ p.toF = c.toD := by
  cases p <;> cases hf : c.isFloating <;> simp [numEq, hf] at h <;>
    simp [PV.isFloat, PV.toI, PV.toF, h, toD_of_integral c, hf]

theorem pyBin_numEq (rp : Bool) (op : PyBin) {c : CV N} {p b : PV N} (h : numEq c p)
    (hb : c.isFloating = true → b.isFloat = true) : pyBin rp op p b = pyBin rp op c.toPy b := by
  obtain ⟨hi, hF⟩ := numEq_reads h
  cases hf : c.isFloating
  · obtain ⟨h1, h2⟩ := hi hf
    simp only [pyBin, toPy_isFloat, toPy_toF, toPy_toI c hf, hf, h1, h2, hF]
  · simp only [pyBin, toPy_toF, hb hf, hF, Bool.or_true, if_true]

theorem pyCmp_numEq (op : PyCmp) {c : CV N} {p b : PV N} (h : numEq c p)
    (hb : c.isFloating = true → b.isFloat = true) : pyCmp op p b = pyCmp op c.toPy b := by
  obtain ⟨hi, hF⟩ := numEq_reads h
  cases hf : c.isFloating
  · obtain ⟨h1, h2⟩ := hi hf
    simp only [pyCmp, toPy_isFloat, toPy_toF, toPy_toI c hf, hf, h1, h2, hF]
  · simp only [pyCmp, toPy_toF, hb hf, hF, Bool.or_true, if_true]

theorem numEq_seed (k : CT) (hk : k ≠ .bool) (n : Int) : numEq (convert k (.int n) : CV N) (.int n) := by
  cases k <;> first | rfl | exact absurd rfl hk

theorem emitAgg_plain {nm : String} {ifs : Nat} {seed r : Rep} {e : Expr} {t : CT} (hs : accTypeOk seed.ty = true)
    (he : translate e = .ok r) (ht : accType seed.ty r.ty = .ok t) :
    emitAgg nm ifs seed (.plain e) =
      .ok { accTy := t, seed := seed.ce, cond := none, updRhs := setVarRhs t (finalRep t r) } := by
  simp only [emitAgg, hs, translateUpd, he, ht, if_true, Option.map]

theorem emitAgg_cond {nm : String} {ifs : Nat} {seed tr ar br : Rep} {t a b : Expr} {ty : CT}
    (hs : accTypeOk seed.ty = true) (ht : translate t = .ok tr) (ha : translate a = .ok ar) (hb : translate b = .ok br)
    (hty : accType seed.ty condResultType = .ok ty) :
    emitAgg nm ifs seed (.cond t a b) =
      .ok { accTy := ty, seed := seed.ce,
            cond := some (emitCond nm ifs (finalRep ty tr) (finalRep ty ar) (finalRep ty br)),
            updRhs := setVarRhs ty (finalRep ty ⟨condResultType, .leaf condResultType nm ifs⟩) } := by
  simp only [emitAgg, hs, translateUpd, ht, ha, hb, hty, if_true, Option.map]

theorem emitAgg_condIn {nm : String} {ifs slot : Nat} {seed tr ar br r : Rep} {t a b body : Expr} {ty : CT}
    (hs : accTypeOk seed.ty = true) (ht : translate t = .ok tr) (ha : translate a = .ok ar) (hb : translate b = .ok br)
    (hr : translate (body.retypeAt slot condResultType) = .ok r) (hty : accType seed.ty r.ty = .ok ty) :
    emitAgg nm ifs seed (.condIn slot t a b body) =
      .ok { accTy := ty, seed := seed.ce,
            cond := some (emitCond nm ifs (finalRep ty tr) (finalRep ty ar) (finalRep ty br)),
            updRhs := setVarRhs ty (finalRep ty r) } := by
  simp only [emitAgg, hs, translateUpd, ht, ha, hb, hr, hty, if_true, Option.map]

theorem stepAggC_plain (ifs : Nat) (t : CT) (seed rhs : CE) (env : Env N) (ac : CV N) :
    stepAggC ifs ⟨t, seed, none, rhs⟩ env ac = (evalC (setAcc env ac) rhs).map (convert t) := by
  simp only [stepAggC]; cases evalC (setAcc env ac) rhs <;> rfl

theorem stepAggC_cond {ifs : Nat} {c : CondOut} {env : Env N} {ac r : CV N} (t : CT) (seed rhs : CE)
    (hc : evalCondC (setAcc env ac) c = some r) :
    stepAggC ifs ⟨t, seed, some c, rhs⟩ env ac =
      (evalC (fun i => if i = ifs then ⟨r.toI, r.toD, r.truthy⟩ else setAcc env ac i) rhs).map (convert t) := by
  simp only [stepAggC, hc]; cases evalC _ rhs <;> rfl

/-- the accumulator read at its own type is the accumulator — in C++ at its static type, in Python at the type of the
value it holds -/
theorem leafVal_setAcc (env : Env N) (c : CV N) : leafVal c.ctype (setAcc env c accSlot) = c := by cases c <;> rfl
theorem leafVal_setAccPy (env : Env N) (p : PV N) : (leafVal p.ct (setAccPy env p accSlot)).toPy = p := by cases p <;> rfl
theorem setAcc_ne (env : Env N) (c : CV N) {i : Nat} (h : i ≠ accSlot) : setAcc env c i = env i := if_neg h
theorem setAccPy_ne (env : Env N) (p : PV N) {i : Nat} (h : i ≠ accSlot) : setAccPy env p i = env i := if_neg h
theorem leafVal_isFloating (t : CT) (c : Cell N) : (leafVal t c).isFloating = t.isFloating := by cases t <;> rfl

/-- a Python value read back from the cell it was written to, at the type of the value -/
theorem leafVal_cellPy (p : PV N) : (leafVal p.ct ⟨p.toI, p.toF, p.truthy⟩).toPy = p := by cases p <;> rfl

/-- The rule for both loops at once: a relation `I` between the C++ and Python's accumulator that one pass keeps,
whatever the element, holds after the two runs over the same elements (and neither run gets stuck).  `Sum()` takes
`ctype = k ∧ numEq`, `Max()` / `Min()` the same at `.double`, the clamped sum `accInv`. -/
theorem runAgg_inv {ifs : Nat} {o : AggOut} {u : Upd} (I : CV N → PV N → Prop)
    (step : ∀ env ac ap, I ac ap →
      ∃ c' p', stepAggC ifs o env ac = some c' ∧ stepAggPy true u env ap = some p' ∧ I c' p')
    (elems : List (Env N)) : ∀ ac ap, I ac ap →
    ∃ c' p', runAggC ifs o ac elems = some c' ∧ runAggPy true u ap elems = some p' ∧ I c' p' := by
  induction elems with
  | nil => exact fun ac ap h => ⟨ac, ap, rfl, rfl, h⟩
  | cons env rest ih =>
    intro ac ap h
    obtain ⟨c1, p1, h1, h2, h3⟩ := step env ac ap h
    obtain ⟨c', p', h4, h5, h6⟩ := ih c1 p1 h3
    exact ⟨c', p', by simp only [runAggC, h1, h4], by simp only [runAggPy, h2, h5], h6⟩

def countOut : AggOut := { accTy := .int, seed := .ilit 0, cond := none, updRhs := .bin "+" (.leaf .int "acc" accSlot) (.ilit 1) }

theorem emitAgg_count (nm : String) (ifs : Nat) : emitAgg nm ifs seed0 countUpd = .ok countOut :=
  emitAgg_plain (r := ⟨.int, .bin "+" (.leaf .int "acc" accSlot) (.ilit 1)⟩) rfl rfl rfl

theorem count_run (ifs : Nat) (elems : List (Env N)) : ∀ n : Int,
    runAggC ifs countOut (.int n) elems = some (.int (n + elems.length)) ∧
    runAggPy true countUpd (.int n) elems = some (.int (n + elems.length)) := by
  induction elems with
  | nil => intro n; simp [runAggC, runAggPy]
  | cons env rest ih =>
    intro n
    have h1 : stepAggC ifs countOut env (.int n) = some (.int (n + 1)) := rfl
    have h2 : stepAggPy true countUpd env (.int n) = some (.int (n + 1)) := rfl
    obtain ⟨h3, h4⟩ := ih (n + 1)
    refine ⟨by simp only [runAggC, h1, h3]; simp; omega, by simp only [runAggPy, h2, h4]; simp; omega⟩

def sumOut (k : CT) (s : String) (slot : Nat) : AggOut :=
  { accTy := k, seed := .ilit 0, cond := none, updRhs := .bin "+" (.leaf k "acc" accSlot) (.leaf k s slot) }

theorem emitAgg_sum (nm : String) (ifs : Nat) (k : CT) (hk : k ≠ .bool) (s : String) (slot : Nat) (hs : slot ≠ accSlot) :
    emitAgg nm ifs seed0 (sumUpd k s slot) = .ok (sumOut k s slot) := by
  have he : translate (.bin .add (accLeaf .int) (.leaf k s slot)) =
      .ok ⟨k, .bin "+" (.leaf .int "acc" accSlot) (.leaf k s slot)⟩ := by
    rw [translate_bin rfl rfl, if_pos (by decide), emitBin_known (binaryOps_row .add)]
    cases k <;> first | rfl | exact absurd rfl hk
  have ht : accType .int k = .ok k := by cases k <;> first | rfl | exact absurd rfl hk
  rw [sumUpd, emitAgg_plain rfl he ht]
  simp [sumOut, setVarRhs, finalRep, CE.retype, hs, seed0]

theorem sum_stepC (ifs : Nat) (s : String) (slot : Nat) (hs : slot ≠ accSlot) (env : Env N) (ac : CV N) :
    stepAggC ifs (sumOut ac.ctype s slot) env ac =
      (cBin "+" ac (leafVal ac.ctype (env slot))).map (convert ac.ctype) := by
  rw [sumOut, stepAggC_plain]
  simp only [evalC, setAcc_ne _ _ hs]
  exact congrArg (fun c => (cBin "+" c _).map _) (leafVal_setAcc env ac)

theorem sum_stepPy (k : CT) (s : String) (slot : Nat) (hs : slot ≠ accSlot) (env : Env N) (ap : PV N) :
    stepAggPy true (sumUpd k s slot) env ap = pyBin true .add ap (leafVal k (env slot)).toPy := by
  simp only [stepAggPy, sumUpd, accLeaf, Expr.retype, if_true, if_neg hs, evalPy, leafVal_setAccPy, setAccPy_ne _ _ hs]

/-- `Sum()`: one pass is the `+` of the table row at the accumulator (`arith_sound`), stored at the accumulator's type -/
theorem sum_step (ifs : Nat) (k : CT) (hk : k ≠ .bool) (s : String) (slot : Nat) (hs : slot ≠ accSlot)
    (env : Env N) (ac : CV N) (ap : PV N) (hc : ac.ctype = k) (hn : numEq ac ap) :
    ∃ c' p', stepAggC ifs (sumOut k s slot) env ac = some c' ∧ stepAggPy true (sumUpd k s slot) env ap = some p' ∧
      c'.ctype = k ∧ numEq c' p' := by
  subst hc
  obtain ⟨cv, h1, h2, h3⟩ := arith_sound (.inl rfl) (binaryOps_row .add) true ac (leafVal ac.ctype (env slot))
  rw [leafVal_isFloating, ← CV.isFloating, Bool.or_self] at h3
  refine ⟨convert ac.ctype cv, cv.toPy, ?_, ?_, convert_ctype _ _, store_numEq _ cv h3 fun hb => absurd hb hk⟩
  · rw [sum_stepC ifs s slot hs, h1]; rfl
  · rw [sum_stepPy _ s slot hs, pyBin_numEq _ _ hn (fun hf => by rw [toPy_isFloat, leafVal_isFloating]; exact hf), h2]

def mmUpd (gt : Bool) (k : CT) (s : String) (slot : Nat) : Upd := if gt then maxUpd k s slot else minUpd k s slot

theorem mmUpd_eq (gt : Bool) (k : CT) (s : String) (slot : Nat) : mmUpd gt k s slot =
    .cond (.cmp (if gt then .gt else .lt) (accLeaf .int) (.leaf k s slot)) (accLeaf .int) (.leaf k s slot) := by
  cases gt <;> rfl

/-- what `Max()` (`gt = true`) / `Min()` become -/
def mmOut (gt : Bool) (nm : String) (ifs : Nat) (k : CT) (s : String) (slot : Nat) : AggOut :=
  { accTy := .double, seed := .ilit 0,
    cond := some (emitCond nm ifs ⟨.bool, .bin (if gt then ">" else "<") (.leaf .double "acc" accSlot) (.leaf k s slot)⟩
      ⟨.double, .leaf .double "acc" accSlot⟩ ⟨k, .leaf k s slot⟩),
    updRhs := .leaf .double nm ifs }

theorem emitAgg_mm (gt : Bool) (nm : String) (ifs : Nat) (hi : ifs ≠ accSlot) (k : CT) (s : String) (slot : Nat)
    (hs : slot ≠ accSlot) : emitAgg nm ifs seed0 (mmUpd gt k s slot) = .ok (mmOut gt nm ifs k s slot) := by
  have ht : translate (.cmp (if gt then .gt else .lt) (accLeaf .int) (.leaf k s slot)) =
      .ok ⟨.bool, .bin (if gt then ">" else "<") (.leaf .int "acc" accSlot) (.leaf k s slot)⟩ := by cases gt <;> rfl
  rw [mmUpd_eq, emitAgg_cond (ty := .double) rfl ht rfl rfl rfl]
  simp [mmOut, finalRep, CE.retype, hs, hi, setVarRhs, seed0, condResultType]

/-- `Max()` / `Min()`: the test of one pass is the comparison of the table row at the accumulator (`cmp_sound`); the arm
taken is the accumulator as it is, or the element stored in a `double` -/
theorem mm_step (gt : Bool) (nm : String) (ifs : Nat) (k : CT) (hk : k = .float ∨ k = .double) (s : String) (slot : Nat)
    (hs : slot ≠ accSlot) (env : Env N) (ac : CV N) (ap : PV N) (hc : ac.ctype = .double) (hn : numEq ac ap) :
    ∃ c' p', stepAggC ifs (mmOut gt nm ifs k s slot) env ac = some c' ∧
      stepAggPy true (mmUpd gt k s slot) env ap = some p' ∧ c'.ctype = .double ∧ numEq c' p' := by
  have hv : (leafVal k (env slot)).toPy.isFloat = true := by rcases hk with rfl | rfl <;> rfl
  obtain ⟨b, h1, h2⟩ := cmp_sound (op := if gt then .gt else .lt) (txt := if gt then ">" else "<")
    (by cases gt <;> rfl) ac (leafVal k (env slot))
  rw [← pyCmp_numEq _ hn fun _ => hv] at h2
  have ht : evalC (setAcc env ac) (.bin (if gt then ">" else "<") (.leaf .double "acc" accSlot) (.leaf k s slot)) =
      some (.bool b) := by
    simp only [evalC, setAcc_ne _ _ hs, ← h1]
    exact congrArg (fun c => cBin _ c _) (hc ▸ leafVal_setAcc env ac)
  have ha : evalC (setAcc env ac) (.leaf .double "acc" accSlot) = some ac := congrArg some (hc ▸ leafVal_setAcc env ac)
  have hb : evalC (setAcc env ac) (.leaf k s slot) = some (leafVal k (env slot)) := by
    simp only [evalC, setAcc_ne _ _ hs]
  refine ⟨convert .double (if b then ac else leafVal k (env slot)), if b then ap else (leafVal k (env slot)).toPy,
    ?_, ?_, convert_ctype _ _, ?_⟩
  · rw [mmOut, stepAggC_cond _ _ _ (cond_value _ nm ifs ⟨.bool, _⟩ ⟨.double, _⟩ ⟨k, _⟩ _
      (if b then ac else leafVal k (env slot)) ht (by cases b; exact hb; exact ha))]
    simp only [evalC, if_true, Option.map]
    cases b <;> rfl
  · rw [mmUpd_eq]
    simp only [stepAggPy, accLeaf, Expr.retype, if_true, if_neg hs, evalCondPy, evalPy, leafVal_setAccPy,
      setAccPy_ne _ _ hs, h2, PV.truthy]
    cases b <;> rfl
  · cases b
    · exact numEq_toDouble _
    · rw [if_pos rfl, if_pos rfl, convert_self hc]; exact hn

/-- `lambda acc, j: (acc if acc > 0 else 0) + j.k()`: a conditional over the accumulator inside the lambda, next to a
real term — the accumulator is widened after the conditional has been translated -/
def clampUpd (nm : String) (ifs : Nat) (k : CT) (s : String) (slot : Nat) : Upd :=
  .condIn ifs (.cmp .gt (accLeaf .int) (.int 0)) (accLeaf .int) (.int 0) (.bin .add (.leaf .double nm ifs) (.leaf k s slot))

def clampOut (nm : String) (ifs : Nat) (k : CT) (s : String) (slot : Nat) : AggOut :=
  { accTy := .double, seed := .ilit 0,
    cond := some (emitCond nm ifs ⟨.bool, .bin ">" (.leaf .double "acc" accSlot) (.ilit 0)⟩ ⟨.double, .leaf .double "acc" accSlot⟩
      ⟨.int, .ilit 0⟩),
    updRhs := .bin "+" (.leaf .double nm ifs) (.leaf k s slot) }

theorem emitAgg_clamp (nm : String) (ifs : Nat) (hi : ifs ≠ accSlot) (k : CT) (hk : k = .float ∨ k = .double) (s : String)
    (slot : Nat) (hs : slot ≠ accSlot) (hsi : slot ≠ ifs) :
    emitAgg nm ifs seed0 (clampUpd nm ifs k s slot) = .ok (clampOut nm ifs k s slot) := by
  have hr : translate ((Expr.bin .add (.leaf .double nm ifs) (.leaf k s slot)).retypeAt ifs condResultType) =
      .ok ⟨.double, .bin "+" (.leaf .double nm ifs) (.leaf k s slot)⟩ := by
    simp only [Expr.retypeAt, if_true, if_neg hsi]
    rw [translate_bin rfl rfl, if_pos (by decide), emitBin_known (binaryOps_row .add)]
    rcases hk with rfl | rfl <;> rfl
  rw [clampUpd, emitAgg_condIn (ty := .double) (tr := ⟨.bool, .bin ">" (.leaf .int "acc" accSlot) (.ilit 0)⟩) rfl rfl rfl rfl hr rfl]
  simp [clampOut, finalRep, CE.retype, hs, hi, setVarRhs, seed0]

/-- Python's accumulator over floating values: the int seed 0 before the first element, a float afterwards -/
def accInv (x : N.D) (ap : PV N) : Prop := ap = .float x ∨ (ap = .int 0 ∧ x = N.ofInt 0)

theorem accInv_numEq {x : N.D} {ap : PV N} (h : accInv x ap) : numEq (.dbl x : CV N) ap := by
  rcases h with rfl | ⟨rfl, rfl⟩ <;> simp [numEq, CV.isFloating, CV.ctype, CT.isFloating, CV.toD]

/-- `(acc if acc > 0 else 0) + v`: the test is the comparison of the table row (`cmp_sound`) once Python's accumulator is a
float, and `h0` on the freshly widened seed; the sum is `Sum()`'s -/
theorem clamp_step (nm : String) (ifs : Nat) (hi : ifs ≠ accSlot) (k : CT) (hk : k = .float ∨ k = .double)
    (s : String) (slot : Nat) (hs : slot ≠ accSlot) (hsi : slot ≠ ifs) (env : Env N) (x : N.D) (ap : PV N)
    (h0 : N.lt (N.ofInt 0) (N.ofInt 0) = false) (hinv : accInv x ap) :
    ∃ x', stepAggC ifs (clampOut nm ifs k s slot) env (.dbl x) = some (.dbl x') ∧
      stepAggPy true (clampUpd nm ifs k s slot) env ap = some (.float x') := by
  have hv : (leafVal k (env slot)).toPy.isFloat = true := by rcases hk with rfl | rfl <;> rfl
  obtain ⟨b, h1, h2⟩ : ∃ b, cBin ">" (.dbl x : CV N) (.int 0) = some (.bool b) ∧ pyCmp .gt ap (.int 0) = some (.bool b) := by
    rcases hinv with rfl | ⟨rfl, rfl⟩
    · exact cmp_sound (op := .gt) rfl (.dbl x) (.int 0)
    · exact ⟨false, by simp [cBin, CV.isFloating, CV.ctype, CT.isFloating, CV.toD, h0], rfl⟩
  have hr : numEq (convert .double (if b then .dbl x else .int 0) : CV N) (if b then ap else .int 0) := by
    cases b
    · exact numEq_seed .double (fun h => nomatch h) 0
    · exact accInv_numEq hinv
  obtain ⟨cv, h3, h4, h5⟩ := arith_sound (.inl rfl) (binaryOps_row .add) true
    (convert .double (if b then .dbl x else .int 0)) (leafVal k (env slot))
  rw [← pyBin_numEq _ _ hr fun _ => hv] at h4
  have ht : evalC (setAcc env (.dbl x)) (.bin ">" (.leaf .double "acc" accSlot) (.ilit 0)) = some (.bool b) := h1
  refine ⟨cv.toD, ?_, ?_⟩
  · rw [clampOut, stepAggC_cond _ _ _ (cond_value _ nm ifs ⟨.bool, _⟩ ⟨.double, _⟩ ⟨.int, _⟩ _
      (if b then .dbl x else .int 0) ht (by cases b <;> rfl))]
    simp only [evalC, if_true, if_neg hsi, setAcc_ne _ _ hs]
    exact (congrArg (Option.map (convert .double)) h3 :)
  · have hb : (PV.bool b : PV N).truthy = b := rfl
    have hf : cv.toPy = .float cv.toD := by
      cases cv <;> first | rfl | (cases b <;> cases h5)
    simp only [stepAggPy, clampUpd, accLeaf, Expr.retype, Expr.retypeAt, evalCondPy, evalPy, if_true, if_neg hs, if_neg hi,
      if_neg hsi, leafVal_setAccPy, setAccPy_ne _ _ hs, h2, hb]
    cases b <;> simp only [if_true, Bool.false_eq_true, if_false, leafVal_cellPy] <;>
      exact hf ▸ h4

end FaxVerif.C13
