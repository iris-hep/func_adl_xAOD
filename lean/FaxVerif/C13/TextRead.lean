/-
C13 — the read-back of `Text.lean` on the INTENDED tree of a rendering.

`toCE_toPT`: the intended tree reads back to `e.norm` when the operand table is consistent and no operand reads as
the name `true` / `false` (`noBoolNames`; `cex` below shows that the hypothesis cannot be dropped).  `toCE_toPT_gen`
is the same with the weakest hypothesis (`CE.boolsClear`: the boolean constants that occur in `e` are not shadowed)
and any table that contains the operands of `e`.  `read_toks` composes it with `parse_toks`.
-/
import FaxVerif.C13.TextParse
namespace FaxVerif.C13

/-- no operand of the list reads as the name `true` / `false` -/
def noBoolNames (ls : List (CT × String × Nat)) : Bool :=
  ls.all fun l => atomTree l.2.1 != some (.id "true".toList) && atomTree l.2.1 != some (.id "false".toList)

/-- the boolean constants of `e` are not shadowed by an operand of the table `ls` -/
def CE.boolsClear (ls : List (CT × String × Nat)) : CE → Bool
  | .leaf _ _ _ => true
  | .ilit _ => true
  | .blit b => (resolver ls (.id (if b then "true" else "false").toList)).isNone
  | .bin _ l r => l.boolsClear ls && r.boolsClear ls
  | .cast _ e => e.boolsClear ls
  | .pow l r => l.boolsClear ls && r.boolsClear ls
  | .un _ e => e.boolsClear ls

theorem isAtom_chainPT (chain : List Tok) : ∀ x : PT, x.isAtom = true → (chainPT x chain).isAtom = true := by
  induction chain using atomChain.induct with
  | case1 => intro x hx; simpa [chainPT] using hx
  | case2 n r ih => intro x hx; rw [chainPT.eq_1]; exact ih _ (by simpa [PT.isAtom] using hx)
  | case3 n r ih => intro x hx; rw [chainPT.eq_2]; exact ih _ (by simpa [PT.isAtom] using hx)
  | case4 r ih => intro x hx; rw [chainPT.eq_3]; exact ih _ (by simpa [PT.isAtom] using hx)
  | case5 t h1 h2 h3 h4 =>
    intro x hx
    rw [chainPT.eq_4]
    · exact hx
    · exact h2
    · exact h3
    · exact h4

theorem isAtom_atomTreeOf {toks : List Tok} (h : atomToksOk toks = true) : (atomTreeOf toks).isAtom = true := by
  unfold atomToksOk at h
  split at h
  · simpa [atomTreeOf, PT.isAtom] using h
  · next a chain => simp only [atomTreeOf]; exact isAtom_chainPT chain _ rfl
  · cases h

theorem isAtom_of_atomTree {s : String} {pt : PT} (h : atomTree s = some pt) : pt.isAtom = true := by
  unfold atomTree at h
  split at h
  · next hok => cases h; exact isAtom_atomTreeOf (atomToksOk_of_atomOk hok)
  · cases h

theorem resolver_none_of_not_atom (ls : List (CT × String × Nat)) (pt : PT) (h : pt.isAtom = false) :
    resolver ls pt = none := by
  unfold resolver
  rw [List.find?_eq_none]
  intro l _ hl
  have := isAtom_of_atomTree (beq_iff_eq.mp hl)
  rw [h] at this; cases this

theorem resolver_mem (ls : List (CT × String × Nat)) (hc : leavesConsistent ls = true) (l : CT × String × Nat)
    (hl : l ∈ ls) (pt : PT) (ht : atomTree l.2.1 = some pt) : resolver ls pt = some l := by
  unfold resolver
  cases hf : ls.find? (fun l => atomTree l.2.1 == some pt) with
  | none =>
    rw [List.find?_eq_none] at hf
    exact absurd (by simpa using ht) (hf l hl)
  | some x =>
    have hx := List.find?_some hf
    have hm := List.mem_of_find?_eq_some hf
    simp only [leavesConsistent, List.all_eq_true] at hc
    have := hc x hm l hl
    simp at hx
    simp [hx, ht] at this
    rw [this]

theorem toCE_atom (res : PT → Option (CT × String × Nat)) (pt : PT) (h : pt.isAtom = true) (l : CT × String × Nat)
    (hr : res pt = some l) : pt.toCE res = .ok (.leaf l.1 l.2.1 l.2.2) := by
  cases pt <;> simp [PT.isAtom] at h <;> simp [PT.toCE, hr]

theorem digitsVal_toDigits (k : Nat) : digitsVal (Nat.toDigits 10 k) = k :=
  Nat.ofDigitChars_ten_toDigits

theorem allDigits_toDigits (k : Nat) : (Nat.toDigits 10 k).all Char.isDigit = true := by
  rw [List.all_eq_true]
  intro c hc
  exact Nat.isDigit_of_mem_toDigits (by decide) (by decide) hc

theorem toCE_num (ls : List (CT × String × Nat)) (k : Nat) :
    (PT.num (Nat.toDigits 10 k)).toCE (resolver ls) = .ok (.ilit k) := by
  rw [PT.toCE, resolver_none_of_not_atom ls _ (by simp [PT.isAtom, allDigits_toDigits])]
  simp [allDigits_toDigits, digitsVal_toDigits]

theorem minus_iff (op : String) : op.toList = ['-'] ↔ op = "-" := by
  constructor
  · intro h; rw [← String.ofList_toList (s := op), h]
  · intro h; subst h; rfl

theorem ctOfChars_name (t : CT) : ctOfChars t.name.toList = some t := by
  cases t <;> rfl

theorem atomTree_of_atomOk {s : String} (h : atomOk s = true) : atomTree s = some (atomTreeOf (atomToks s)) := by
  simp [atomTree, h]

theorem toCE_toPT_gen (ls : List (CT × String × Nat)) (hc : leavesConsistent ls = true) (e : CE) :
    e.wf = true → (∀ l ∈ e.leaves, l ∈ ls) → e.boolsClear ls = true →
    e.toPT.toCE (resolver ls) = .ok e.norm := by
  induction e with
  | leaf t s i =>
    intro h hm _
    have ht := atomTree_of_atomOk (s := s) h
    have hr := resolver_mem ls hc (t, s, i) (hm _ (by simp [CE.leaves])) _ ht
    exact toCE_atom _ _ (isAtom_of_atomTree ht) _ hr
  | ilit n =>
    intro _ _ _
    by_cases hn : n < 0
    · simp only [CE.toPT, hn, if_true, CE.norm]
      rw [PT.toCE, toCE_num]
      have : -(n.natAbs : Int) = n := by omega
      simp [this]
    · simp only [CE.toPT, hn, if_false, CE.norm]
      rw [toCE_num]
      have : (n.toNat : Int) = n := by omega
      rw [this]
  | blit b =>
    intro _ _ hb
    simp only [CE.boolsClear, Option.isNone_iff_eq_none] at hb
    simp only [CE.toPT, CE.norm]
    rw [PT.toCE, hb]
    cases b <;> simp
  | bin op l r ihl ihr =>
    intro h hm hb
    simp only [CE.wf, Bool.and_eq_true] at h
    simp only [CE.boolsClear, Bool.and_eq_true] at hb
    simp only [CE.leaves, List.mem_append] at hm
    simp only [CE.toPT, CE.norm]
    rw [PT.toCE, ihl h.1.2 (fun x hx => hm x (Or.inl hx)) hb.1, ihr h.2 (fun x hx => hm x (Or.inr hx)) hb.2]
    simp [String.ofList_toList]
  | cast t e ih =>
    intro h hm hb
    simp only [CE.toPT, CE.norm]
    rw [PT.toCE, ctOfChars_name, ih h hm hb]
  | pow l r ihl ihr =>
    intro h hm hb
    simp only [CE.wf, Bool.and_eq_true] at h
    simp only [CE.boolsClear, Bool.and_eq_true] at hb
    simp only [CE.leaves, List.mem_append] at hm
    simp only [CE.toPT, CE.norm]
    rw [PT.toCE, ihl h.1 (fun x hx => hm x (Or.inl hx)) hb.1, ihr h.2 (fun x hx => hm x (Or.inr hx)) hb.2]
    simp
  | un op e ih =>
    intro h hm hb
    simp only [CE.wf, Bool.and_eq_true] at h
    simp only [CE.toPT, CE.norm]
    rw [PT.toCE, ih h.2 hm hb]
    cases hn : e.norm <;> simp [String.ofList_toList, minus_iff]
    split <;> rfl

theorem resolver_bool_none (ls : List (CT × String × Nat)) (h : noBoolNames ls = true) (b : Bool) :
    resolver ls (.id (if b then "true" else "false").toList) = none := by
  unfold resolver
  rw [List.find?_eq_none]
  intro l hl
  simp only [noBoolNames, List.all_eq_true, Bool.and_eq_true, bne_iff_ne, ne_eq] at h
  have := h l hl
  cases b
  · simpa using this.2
  · simpa using this.1

theorem boolsClear_of_noBoolNames (ls : List (CT × String × Nat)) (h : noBoolNames ls = true) (e : CE) :
    e.boolsClear ls = true := by
  induction e with
  | blit b => simp [CE.boolsClear, resolver_bool_none ls h b]
  | bin op l r ihl ihr => simp [CE.boolsClear, ihl, ihr]
  | pow l r ihl ihr => simp [CE.boolsClear, ihl, ihr]
  | cast t e ih => simpa [CE.boolsClear] using ih
  | un op e ih => simpa [CE.boolsClear] using ih
  | _ => rfl

theorem toCE_toPT (e : CE) (h : e.wf = true) (hc : leavesConsistent e.leaves = true)
    (hb : noBoolNames e.leaves = true) : e.toPT.toCE (resolver e.leaves) = .ok e.norm :=
  toCE_toPT_gen e.leaves hc e h (fun _ hl => hl) (boolsClear_of_noBoolNames _ hb e)


example : exP.toPT.toCE (resolver exP.leaves) = .ok exP.norm :=
  toCE_toPT exP exP_wf (by decide +kernel) (by decide +kernel)
/-- `(-(5))` and `(-5)`: different tokens, the same tree, the same constant -/
example : (CE.un "-" (.ilit 5)).norm = .ilit (-5) ∧ (CE.un "-" (.ilit 5)).toks ≠ (CE.ilit (-5)).toks ∧
    (CE.un "-" (.ilit 5)).toPT = (CE.ilit (-5)).toPT := by decide +kernel

theorem read_toks (e : CE) (h : e.wf = true) (hc : leavesConsistent e.leaves = true)
    (hb : noBoolNames e.leaves = true) :
    (match pExpr e.toks with
     | .ok pt => pt.toCE (resolver e.leaves)
     | .ill w => .ill w
     | .unk w => .unk w) = .ok e.norm := by
  rw [parse_toks e h]
  exact toCE_toPT e h hc hb

/-- without `noBoolNames`: an operand whose text is `true` shadows the constant -/
def cex : CE := .bin "+" (.leaf .bool "true" 0) (.blit true)
example : cex.wf = true ∧ leavesConsistent cex.leaves = true ∧
    (match cex.toPT.toCE (resolver cex.leaves) with | .ok x => x == cex.norm | _ => false) = false := by
  decide +kernel

end FaxVerif.C13
