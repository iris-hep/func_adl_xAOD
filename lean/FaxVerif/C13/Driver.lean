/-
C13 driver: one JSON request per line on stdin, one JSON answer per line on stdout.

Expr JSON: {"leaf":[ty,text,slot]} | {"int":n} | {"flt":[text,slot]} | {"bool":b} | {"bin":[op,l,r]} |
           {"un":[op,e]} | {"cmp":[op,l,r]}              (op = Python AST class name)
Form JSON: {"form":"plain","e":E} | {"form":"cond","t":E,"a":E,"b":E} |
           {"form":"agg","seed":E,"upd":{"plain":E} | {"cond":[t,a,b]}}
Env  JSON: {"<slot>":{"i":n,"d":"<bits of the double, decimal>","b":bool}, …}
           a sample is one Env (plain, cond) or [base Env, element Env, …] (agg: the seed is evaluated in `base`)

  {"op":"emit", form}                    -> {"ok":{"ty":T,"lines":[…]}} | {"err":"AssertionError"|…}
       plain: lines = [expr]; cond: the 5 lines of `condLines "R"`; agg: `aggLines "A" "R"`
  {"op":"spec", form, "impl":{"ty":T, "expr":text | "test","then","else" | "seed","accTy","upd",("test","then","else")},
        "leaves":[[text,ty,slot],…] (ty "size_t": an operand whose C++ type is unsigned, see Spec.lean `evalX`), "samples":[env…] (agg: [[env…]…]), optional "observed":[value…]}
       -> {"holds":bool|null,"why":…,"mustAccept":bool,"excluded":bool,"rows":[{"c":V,"py":V,"cpy":V,"model":V,"inq":bool}…]}
     the Spec evaluated on what the IMPLEMENTATION emitted (its text parsed here and run under `evalC`), or, when
     "observed" is given, on the values the compiled job printed.
  {"op":"spec","impl":{"err":cls}, form} -> whether the property tolerates the refusal
Run: lake env lean --run FaxVerif/C13/Driver.lean
-/
import Lean.Data.Json
import FaxVerif.C13.Spec
import FaxVerif.C13.Text
open Lean FaxVerif.C13

/-- −0.0 and +0.0 are the same number for Python's `==` (and no operator of the subset tells them apart where Python
is defined: division by either raises): one representative, so that equality of bit patterns is numeric equality -/
def normZ (b : UInt64) : UInt64 := if b == 0x8000000000000000 then 0 else b

/-- IEEE binary64 through Lean's `Float`, carried as bit patterns so that equality is decidable -/
def fbin (f : Float → Float → Float) (a b : UInt64) : UInt64 := normZ (f (Float.ofBits a) (Float.ofBits b)).toBits

def pyFloatMod (x y : Float) : Float :=
  -- CPython float_rem: fmod, then adjusted to the sign of the divisor (fmod via truncation: exact on the dyadic samples used)
  let q := x / y
  let t := if q < 0 then Float.ceil q else Float.floor q
  let m := x - t * y
  if m != 0 && ((y < 0) != (m < 0)) then m + y else m

def F : Num :=
  { D := UInt64
    add := fbin (· + ·), sub := fbin (· - ·), mul := fbin (· * ·), div := fbin (· / ·)
    pow := fbin Float.pow, pymod := fbin pyFloatMod
    neg := fun a => normZ (-(Float.ofBits a)).toBits
    lt := fun a b => Float.ofBits a < Float.ofBits b
    le := fun a b => Float.ofBits a ≤ Float.ofBits b
    eq := fun a b => Float.ofBits a == Float.ofBits b
    ofInt := fun n => normZ (Float.ofInt n).toBits
    toInt := fun a => (Float.ofBits a).toInt64.toInt }

instance : DecidableEq F.D := inferInstanceAs (DecidableEq UInt64)

def ctOf (s : String) : Except String CT :=
  match s with
  | "int" => pure .int | "float" => pure .float | "double" => pure .double | "bool" => pure .bool
  | _ => throw s!"unknown type {s}"

def binOf (s : String) : Except String PyBin :=
  match [PyBin.add, .sub, .mult, .div, .mod, .pow, .floordiv, .matmult, .lshift, .rshift, .bitor, .bitxor, .bitand].find? (·.astName == s) with
  | some o => pure o | none => throw s!"unknown binary operator {s}"
def unOf (s : String) : Except String PyUn :=
  match [PyUn.uadd, .usub, .not, .invert].find? (·.astName == s) with
  | some o => pure o | none => throw s!"unknown unary operator {s}"
def cmpOf (s : String) : Except String PyCmp :=
  match [PyCmp.lt, .lte, .gt, .gte, .eq, .noteq, .is, .isNot, .isIn, .notIn].find? (·.astName == s) with
  | some o => pure o | none => throw s!"unknown comparison {s}"

partial def exprOf (j : Json) : Except String Expr := do
  if let .ok a := j.getObjVal? "leaf" then
    let a ← a.getArr?
    return .leaf (← ctOf (← a[0]!.getStr?)) (← a[1]!.getStr?) (← a[2]!.getNat?)
  if let .ok n := j.getObjVal? "int" then return .int (← n.getInt?)
  if let .ok a := j.getObjVal? "flt" then
    let a ← a.getArr?
    return .flt (← a[0]!.getStr?) (← a[1]!.getNat?)
  if let .ok b := j.getObjVal? "bool" then return .bool (← b.getBool?)
  if let .ok a := j.getObjVal? "bin" then
    let a ← a.getArr?
    return .bin (← binOf (← a[0]!.getStr?)) (← exprOf a[1]!) (← exprOf a[2]!)
  if let .ok a := j.getObjVal? "un" then
    let a ← a.getArr?
    return .un (← unOf (← a[0]!.getStr?)) (← exprOf a[1]!)
  if let .ok a := j.getObjVal? "cmp" then
    let a ← a.getArr?
    return .cmp (← cmpOf (← a[0]!.getStr?)) (← exprOf a[1]!) (← exprOf a[2]!)
  throw s!"bad expression {j.compress}"

def updOf (j : Json) : Except String Upd := do
  if let .ok e := j.getObjVal? "plain" then return .plain (← exprOf e)
  if let .ok a := j.getObjVal? "condIn" then
    let a ← a.getArr?
    return .condIn 99 (← exprOf a[0]!) (← exprOf a[1]!) (← exprOf a[2]!) (← exprOf a[3]!)
  let a ← (← j.getObjVal? "cond").getArr?
  return .cond (← exprOf a[0]!) (← exprOf a[1]!) (← exprOf a[2]!)

def bitsOf (j : Json) : Except String UInt64 := do
  match (← j.getStr?).toNat? with
  | some n => pure (normZ n.toUInt64)
  | none => throw "bad bits"

def envOf (j : Json) : Except String (Env F) := do
  let o ← j.getObj?
  let cells ← o.toList.mapM fun (k, v) => do
    let slot ← match k.toNat? with | some n => pure n | none => throw "bad slot"
    let c : Cell F := ⟨← (← v.getObjVal? "i").getInt?, ← bitsOf (← v.getObjVal? "d"), ← (← v.getObjVal? "b").getBool?⟩
    pure (slot, c)
  pure fun i => match cells.find? (·.1 == i) with
    | some (_, c) => c
    | none => ⟨0, (0 : UInt64), false⟩

def cvJson : CV F → Json
  | .int n => Json.mkObj [("k", "int"), ("v", toString n)]
  | .flt x => Json.mkObj [("k", "float"), ("v", toString x.toNat)]
  | .dbl x => Json.mkObj [("k", "double"), ("v", toString x.toNat)]
  | .bool b => Json.mkObj [("k", "bool"), ("v", if b then "1" else "0")]

def pvJson : PV F → Json
  | .int n => Json.mkObj [("k", "int"), ("v", toString n)]
  | .float x => Json.mkObj [("k", "float"), ("v", toString x.toNat)]
  | .bool b => Json.mkObj [("k", "bool"), ("v", if b then "1" else "0")]

def optJson {α} (f : α → Json) : Option α → Json
  | some a => f a
  | none => Json.null

def cvOf (j : Json) : Except String (CV F) := do
  let k ← (← j.getObjVal? "k").getStr?
  let v ← (← j.getObjVal? "v").getStr?
  match k with
  | "int" => match v.toInt? with | some n => pure (.int n) | none => throw "bad int"
  | "float" => match v.toNat? with | some n => pure (.flt (normZ n.toUInt64)) | none => throw "bad bits"
  | "double" => match v.toNat? with | some n => pure (.dbl (normZ n.toUInt64)) | none => throw "bad bits"
  | "bool" => pure (.bool (v == "1"))
  | _ => throw s!"bad value kind {k}"

/-! ### a parser for the emitted expression language (Lean owns the meaning of the text) -/

structure LeafInfo where
  text : String
  ty : CT
  slot : Nat
  /-- the operand's C++ type is `std::size_t` (the implementation took the value from an unsigned expression);
  `ty` is then what it *declared* the value as -/
  uns : Bool := false

/-- The text is read the way a C++ compiler reads it (`readCpp`, Text.lean: maximal-munch tokens, C++ precedence).
`ill`: the text is not the expression somebody meant (a `--` token where two signs were meant, a syntax error) — it
is given a meaning without value (`evalC … = none`: ill-formed C++), the reason is kept in the operator text.
`unk`: outside the subset the reader knows — no verdict. -/
def illPrefix : String := "ill-formed: "

def parseText (leaves : List LeafInfo) (t : String) : Except String CE :=
  match readCpp (leaves.map fun l => (l.ty, l.text, l.slot)) t with
  | .ok e => pure e
  | .ill w => pure (.un (illPrefix ++ w ++ " in '" ++ t ++ "'") (.ilit 0))
  | .unk w => throw s!"cannot read '{t}': {w}"

def FaxVerif.C13.CE.illNote : CE → Option String
  | .leaf _ _ _ => none
  | .ilit _ => none
  | .blit _ => none
  | .bin _ l r => match l.illNote with | some w => some w | none => r.illNote
  | .cast _ e => e.illNote
  | .pow l r => match l.illNote with | some w => some w | none => r.illNote
  | .un op e => if op.startsWith illPrefix then some op else e.illNote

def leavesOf (j : Json) : Except String (List LeafInfo) := do
  let a ← j.getArr?
  let l ← a.toList.mapM fun x => do
    let x ← x.getArr?
    let tn ← x[1]!.getStr?
    if tn == "size_t" then
      pure ({ text := ← x[0]!.getStr?, ty := .int, slot := ← x[2]!.getNat?, uns := true } : LeafInfo)
    else
      pure ({ text := ← x[0]!.getStr?, ty := ← ctOf tn, slot := ← x[2]!.getNat? } : LeafInfo)
  pure (l.toArray.qsort (fun a b => a.text.length > b.text.length)).toList

inductive FormE
  | plain (e : Expr)
  | cond (t a b : Expr)
  | agg (seed : Expr) (u : Upd)
  /-- a conditional used INSIDE arithmetic: `body` refers to the value of `a if t else b` through the operand in slot `ifSlot` -/
  | condx (t a b body : Expr)

def formOf (j : Json) : Except String FormE := do
  match ← (← j.getObjVal? "form").getStr? with
  | "plain" => return .plain (← exprOf (← j.getObjVal? "e"))
  | "cond" => return .cond (← exprOf (← j.getObjVal? "t")) (← exprOf (← j.getObjVal? "a")) (← exprOf (← j.getObjVal? "b"))
  | "agg" => return .agg (← exprOf (← j.getObjVal? "seed")) (← updOf (← j.getObjVal? "upd"))
  | "condx" => return .condx (← exprOf (← j.getObjVal? "t")) (← exprOf (← j.getObjVal? "a")) (← exprOf (← j.getObjVal? "b")) (← exprOf (← j.getObjVal? "body"))
  | f => throw s!"unknown form {f}"

def ifSlot : Nat := 99
def ifName : String := "R"
def accName : String := "A"

def jstrs (l : List String) : Json := Json.arr (l.map Json.str).toArray

/-- the hypotheses of theorem `text_denotes` / `text_read`, evaluated on the operand texts of all expressions of a form
together (they give those of `text_read_in` for each; `noBoolNames` is defined beside the proofs: spelled out here) -/
def operandsUsable (es : List CE) : Bool :=
  let ls := es.flatMap CE.leaves
  (ls.all fun l => atomOk l.2.1) && leavesConsistent ls
    && (ls.all fun l => atomTree l.2.1 != some (.id "true".toList) && atomTree l.2.1 != some (.id "false".toList))

/-- the trees of a list of emitted expressions, in normal form, as text -/
def treesOf (es : List CE) : Json := jstrs (es.map fun e => e.norm.render)

def withTrees (es : List CE) (j : List (String × Json)) : Json :=
  Json.mkObj (j ++ [("trees", treesOf es), ("operandsUsable", operandsUsable es),
    -- the conclusion of `text_read_in` for the operand table of the whole form, re-run on the model's own text
    ("readsBack", es.all fun e => match readCpp (es.flatMap CE.leaves) e.render with | .ok c => c == e.norm | _ => false)])

def condCEs (o : CondOut) : List CE := [o.test.ce, o.thenRhs, o.elseRhs]

def emitForm (f : FormE) : Json :=
  let err (e : Refusal) := Json.mkObj [("err", e.name)]
  match f with
  | .plain e =>
    match translate e with
    | .ok r => withTrees [r.ce] [("ok", Json.mkObj [("ty", r.ty.name), ("lines", jstrs [r.ce.render])])]
    | .error x => err x
  | .cond t a b =>
    match translate t, translate a, translate b with
    | .ok tr, .ok ar, .ok br =>
      let o := emitCond ifName ifSlot tr ar br
      withTrees (condCEs o) [("ok", Json.mkObj [("ty", o.result.ty.name), ("lines", jstrs (condLines ifName o))])]
    | .error x, _, _ => err x
    | _, .error x, _ => err x
    | _, _, .error x => err x
  | .agg seed u =>
    match translate seed with
    | .error x => err x
    | .ok sr =>
      match emitAgg ifName ifSlot sr u with
      | .ok o => withTrees ([o.seed] ++ (match o.cond with | some c => condCEs c | none => []) ++ [o.updRhs])
          [("ok", Json.mkObj [("ty", o.accTy.name), ("lines", jstrs (aggLines accName ifName o))])]
      | .error x => err x
  | .condx t a b body =>
    match translate t, translate a, translate b, translate (body.retypeAt ifSlot condResultType) with
    | .ok tr, .ok ar, .ok br, .ok r =>
      let o := emitCond ifName ifSlot tr ar br
      withTrees (condCEs o ++ [r.ce]) [("ok", Json.mkObj [("ty", r.ty.name), ("lines", jstrs (condLines ifName o ++ [r.ce.render]))])]
    | .error x, _, _, _ => err x
    | _, .error x, _, _ => err x
    | _, _, .error x, _ => err x
    | _, _, _, .error x => err x

/-! ### the Spec, evaluated on the implementation's output -/

/-- static facts the Spec needs about a form: kind and width demanded, scope and exclusions -/
structure FormFacts where
  kind : PK
  width : Nat
  mustAccept : Bool
  excluded : Bool      -- inside a defect exclusion (A, B, E)

def updExprs : Upd → List Expr
  | .plain e => [e]
  | .cond t a b => [t, a, b]
  | .condIn _ t a b body => [t, a, b, body]

/-- static Python kind of the fold: iterate the kind of the update from the seed's kind to a fixed point -/
def condKindR (rp : Bool) (a b : Expr) : PK := if a.pyKind rp = .float || b.pyKind rp = .float then .float else .int

def aggKind (seed : Expr) (u : Upd) (rp : Bool := true) : PK × Nat :=
  let kindOf (acc : CT) : PK :=
    match u with
    | .plain e => (e.retype acc).pyKind rp
    | .cond _ a b => condKindR rp (a.retype acc) (b.retype acc)
    | .condIn slot _ a b body =>
      let ck := condKindR rp (a.retype acc) (b.retype acc)
      ((body.retype acc).retypeAt slot (match ck with | .float => .double | _ => .int)).pyKind rp
  -- "at least as wide as every value folded in": the accumulator itself is not one of them
  let w : Nat :=
    match u with
    | .plain e => (e.retype .int).width
    | .cond _ a b => condWidth (a.retype .int) (b.retype .int)
    | .condIn slot _ a b body =>
      let cw := condWidth (a.retype .int) (b.retype .int)
      ((body.retype .int).retypeAt slot (match cw with | 0 => .int | 1 => .float | _ => .double)).width
  let k0 := seed.pyKind rp
  let ct (k : PK) : CT := match k with | .int => .int | .bool => .bool | .float => .double
  let k1 := kindOf (ct k0)
  let j1 := if k0 = .float || k1 = .float then PK.float else PK.int
  let k2 := kindOf (ct j1)
  let j2 := if j1 = .float || k2 = .float then PK.float else PK.int
  (j2, max seed.width w)

def factsOf : FormE → FormFacts
  | .plain e => { kind := e.pyKind true, width := e.width, mustAccept := e.mustAccept, excluded := !e.noDefect }
  | .cond t a b =>
    { kind := condKind a b, width := condWidth a b,
      mustAccept := t.mustAccept && a.mustAccept && b.mustAccept,
      excluded := !(t.noFloatMod && a.noFloatMod && b.noFloatMod)
                  || condIntegral a b }
  | .agg seed u =>
    let (k, w) := aggKind seed u
    let es := updExprs u
    { kind := k, width := w,
      mustAccept := seed.mustAccept && es.all (·.mustAccept) && seed.pyKind true != .bool,
      excluded := !(seed.noDefect && es.all (fun e => (e.retype .int).noFloatMod && (e.retype .double).noFloatMod
                        && e.noNegBool))
                  || (match u with
                      | .cond _ a b => condIntegral (a.retype (if k = .float then .double else .int)) (b.retype (if k = .float then .double else .int))
                                       || (k != .float)
                      -- an integer-valued fold that goes through the always-double conditional (exclusion E)
                      | .condIn _ _ _ _ _ => k != .float
                      | .plain _ => false) }
  | .condx _ _ _ _ => { kind := .float, width := 2, mustAccept := false, excluded := true }   -- see factsOfAll

def factsOfCondx (t a b body : Expr) : FormFacts :=
  let ck := condKind a b
  let cw := condWidth a b
  { kind := (body.retypeAt ifSlot (match ck with | .float => .double | _ => .int)).pyKind true,
    width := (body.retypeAt ifSlot (match cw with | 0 => .int | 1 => .float | _ => .double)).width,
    mustAccept := t.mustAccept && a.mustAccept && b.mustAccept && (body.retypeAt ifSlot .double).mustAccept,
    -- integer-valued arms go through the always-double result variable (exclusion E)
    excluded := !(t.noDefect && a.noDefect && b.noDefect && (body.retypeAt ifSlot .double).noDefect) || condIntegral a b }

def factsOfAll : FormE → FormFacts
  | .condx t a b body => factsOfCondx t a b body
  | f => factsOf f

def modNonnegForm (f : FormE) (envs : List (Env F)) : Bool :=
  match f, envs with
  | .plain e, [env] => e.modNonneg env
  | .cond t a b, [env] => t.modNonneg env && a.modNonneg env && b.modNonneg env
  | _, _ => true

/-- reference value: what Python computes -/
def refValue (rp : Bool) (f : FormE) (envs : List (Env F)) : Option (PV F) :=
  match f, envs with
  | .plain e, [env] => evalPy rp env e
  | .cond t a b, [env] => evalCondPy rp env t a b
  | .agg seed u, base :: elems =>
    match evalPy rp base seed with
    | some s => runAggPy rp u s elems
    | none => none
  | .condx t a b body, [env] =>
    match evalCondPy rp env t a b with
    | none => none
    | some r =>
      let env2 : Env F := fun i => if i = ifSlot then ⟨r.toI, r.toF, r.truthy⟩ else env i
      evalPy rp env2 (body.retypeAt ifSlot r.ct)
  | _, _ => none

/-- the implementation's emitted code, parsed -/
inductive ImplCode
  | plain (ty : CT) (e : CE)
  | cond (ty : CT) (c : CondOut)
  | agg (o : AggOut)
  | condx (ty : CT) (c : CondOut) (body : CE)

def implOf (leaves : List LeafInfo) (f : FormE) (j : Json) : Except String ImplCode := do
  let ty ← ctOf (← (← j.getObjVal? "ty").getStr?)
  let txt (k : String) : Except String CE := do parseText leaves (← (← j.getObjVal? k).getStr?)
  let condOut : Except String CondOut := do
    let rty ← ctOf (← (← j.getObjVal? "resTy").getStr?)
    pure { test := ⟨.bool, ← txt "test"⟩, thenRhs := ← txt "then", elseRhs := ← txt "else",
           result := ⟨rty, .leaf rty ifName ifSlot⟩ }
  match f with
  | .plain _ => return .plain ty (← txt "expr")
  | .cond _ _ _ => return .cond ty (← condOut)
  | .condx _ _ _ _ => return .condx ty (← condOut) (← txt "expr")
  | .agg _ _ =>
    let accTy ← ctOf (← (← j.getObjVal? "accTy").getStr?)
    let c ← match j.getObjVal? "test" with
      | .ok _ => do pure (some (← condOut))
      | .error _ => pure none
    return .agg { accTy := accTy, seed := ← txt "seed", cond := c, updRhs := ← txt "upd" }

/-- what the emitted code leaves in the column (declared `ty`) -/
def runImpl (uns : Nat → Bool) (anyUns : Bool) (c : ImplCode) (envs : List (Env F)) : Option (CV F) :=
  match c, envs with
  | .plain ty e, [env] => storeX uns env ty e
  | .cond ty o, [env] => (evalCondX uns env o).map (convert ty)
  | .agg o, base :: elems =>
    -- the operands of an update lambda are element accessors and the accumulator: no unsigned operand is read there
    if anyUns then none else
    match initAggC o base with
    | some a => runAggC ifSlot o a elems
    | none => none
  | .condx ty o body, [env] =>
    match evalCondX uns env o with
    | none => none
    | some r =>
      let env2 : Env F := fun i => if i = ifSlot then ⟨r.toI, r.toD, r.truthy⟩ else env i
      storeX uns env2 ty body
  | _, _ => none

def ImplCode.ces : ImplCode → List CE
  | .plain _ e => [e]
  | .cond _ c => condCEs c
  | .condx _ c b => condCEs c ++ [b]
  | .agg o => [o.seed] ++ (match o.cond with | some c => condCEs c | none => []) ++ [o.updRhs]

def implTy : ImplCode → CT
  | .plain ty _ => ty | .cond ty _ => ty | .agg o => o.accTy | .condx ty _ _ => ty

def ImplCode.illNote : ImplCode → Option String
  | .plain _ e => e.illNote
  | .cond _ c => [c.test.ce, c.thenRhs, c.elseRhs].findSome? CE.illNote
  | .condx _ c b => [c.test.ce, c.thenRhs, c.elseRhs, b].findSome? CE.illNote
  | .agg o => ([o.seed, o.updRhs] ++ (match o.cond with | some c => [c.test.ce, c.thenRhs, c.elseRhs] | none => [])).findSome? CE.illNote

/-- the model's own prediction of the stored value (for the tie with the compiled job) -/
def runModel (f : FormE) (envs : List (Env F)) : Option (CV F) :=
  match f, envs with
  | .plain e, [env] =>
    match translate e with
    | .ok r => (evalC env r.ce).map (convert r.ty)
    | .error _ => none
  | .cond t a b, [env] =>
    match translate t, translate a, translate b with
    | .ok tr, .ok ar, .ok br => evalCondC env (emitCond ifName ifSlot tr ar br)
    | _, _, _ => none
  | .agg seed u, base :: elems =>
    match translate seed with
    | .ok sr =>
      match emitAgg ifName ifSlot sr u with
      | .ok o =>
        match initAggC o base with
        | some a => runAggC ifSlot o a elems
        | none => none
      | .error _ => none
    | .error _ => none
  | .condx t a b body, [env] =>
    match translate t, translate a, translate b, translate (body.retypeAt ifSlot condResultType) with
    | .ok tr, .ok ar, .ok br, .ok r =>
      match evalCondC env (emitCond ifName ifSlot tr ar br) with
      | none => none
      | some v =>
        let env2 : Env F := fun i => if i = ifSlot then ⟨v.toI, v.toD, v.truthy⟩ else env i
        (evalC env2 r.ce).map (convert r.ty)
    | _, _, _, _ => none
  | _, _ => none

def sampleEnvs (f : FormE) (j : Json) : Except String (List (Env F)) := do
  match f with
  | .agg _ _ => (← j.getArr?).toList.mapM envOf
  | _ => return [← envOf j]

def specOn (j : Json) : Except String Json := do
  let f ← formOf j
  let facts := factsOfAll f
  let impl ← j.getObjVal? "impl"
  if let .ok cls := impl.getObjVal? "err" then
    let cls ← cls.getStr?
    -- a refusal generates no job; the property tolerates it only outside the expressions it obliges to accept
    return Json.mkObj [("holds", !facts.mustAccept), ("why", if facts.mustAccept then s!"refused ({cls}) although every operator and operand kind is in the property's scope" else ""),
      ("mustAccept", facts.mustAccept), ("excluded", facts.excluded), ("rows", Json.arr #[])]
  let leaves ← leavesOf (← j.getObjVal? "leaves")
  let samples ← (← j.getObjVal? "samples").getArr?
  let observed : Option (Array Json) := match j.getObjVal? "observed" with | .ok o => o.getArr?.toOption | .error _ => none
  let code : Except String ImplCode := implOf leaves f impl
  let declared ← match code with
    | .ok c => pure (implTy c)
    | .error _ => ctOf (← (← impl.getObjVal? "ty").getStr?)
  let mut rows : Array Json := #[]
  let mut holds : Option Bool := some true
  let mut why := ""
  let kindName := match facts.kind with | .int => "int" | .bool => "bool" | .float => "float"
  let widthName := match facts.width with | 0 => "int" | 1 => "float" | _ => "double"
  let kindWhy := s!"column declared {declared.name} where Python's result is {kindName}-valued and the widest operand folded in is {widthName}"
  let kindBad := !(kindOk declared facts.kind facts.width)
  let mut valueBad := false
  if kindBad then
    holds := some false
    why := kindWhy
  -- the other reading of `**` (CPython: int ** non-negative int is an int): an implementation that keeps such a
  -- power an exact int is not reported either
  let altKind : Option PK := match f with
    | .plain e => some (e.pyKind false)
    | .cond _ a b => some (condKindR false a b)
    | .agg seed u => some (aggKind seed u false).1
    | .condx _ a b body => some ((body.retypeAt ifSlot (match condKindR false a b with | .float => .double | _ => .int)).pyKind false)
  let mut altOk : Bool := match altKind with | some k => kindOk declared k facts.width | none => false
  let mut idx := 0
  for s in samples do
    let envs ← sampleEnvs f s
    -- a sample the compiled job was not run on (null in "observed") is not judged
    let skipped : Bool := match observed with
      | some obs => match obs[idx]? with | some o => o.isNull | none => true
      | none => false
    let inq := modNonnegForm f envs && !skipped
    let py := refValue true f envs
    let cpy := refValue false f envs
    let model := runModel f envs
    let c : Option (CV F) ← match observed with
      | some obs => match obs[idx]? with
        | some o => if o.isNull then pure none else do pure (some (← cvOf o))
        | none => pure none
      | none => match code with
        | .ok c => pure (runImpl (fun i => leaves.any (fun l => l.uns && l.slot == i)) (leaves.any (·.uns)) c envs)
        | .error _ => pure none
    rows := rows.push (Json.mkObj [("c", optJson cvJson c), ("py", optJson pvJson py), ("cpy", optJson pvJson cpy),
      ("model", optJson cvJson model), ("inq", inq)])
    if inq && altOk then
      match cpy, c with
      | some p, some cv => if !(decide (numEq cv p)) || cv.ctype != declared then altOk := false
      | some _, none => altOk := false
      | none, _ => pure ()
    if inq then
      match py with
      | none => pure ()      -- Python raises (ZeroDivisionError): nothing is demanded
      | some p =>
        match c with
        | none =>
          if !valueBad then
            match code, observed with
            | .error e, none => if holds != some false then holds := none; why := s!"emitted text not interpretable: {e}"
            | _, _ =>
              valueBad := true; holds := some false
              let note := match code with | .ok cd => (match cd.illNote with | some w => " [" ++ w ++ "]" | none => "") | .error _ => ""
              why := s!"sample {idx}: the emitted code has no value (ill-formed C++ or undefined behaviour) where Python computes {(pvJson p).compress}" ++ note ++ (if kindBad then "; " ++ kindWhy else "")
        | some cv =>
          if !(decide (ColOk declared facts.kind facts.width cv p)) && !valueBad && (!(decide (numEq cv p)) || cv.ctype != declared) then
            valueBad := true; holds := some false
            why := s!"sample {idx}: column holds {(cvJson cv).compress} (declared {declared.name}), Python computes {(pvJson p).compress}" ++ (if kindBad then "; " ++ kindWhy else "")
    idx := idx + 1
  if holds == some false && altOk then
    holds := some true
    why := "accepted under CPython's reading of ** (int ** non-negative int is an int): " ++ why
  return Json.mkObj [("holds", match holds with | some b => Json.bool b | none => Json.null), ("why", why),
    ("mustAccept", facts.mustAccept), ("excluded", facts.excluded), ("rows", Json.arr rows),
    ("kind", toString (repr facts.kind)), ("width", facts.width),
    ("trees", match code with | .ok c => (match c.illNote with | none => treesOf c.ces | some _ => Json.null) | .error _ => Json.null)]

def handle (line : String) : String :=
  match Json.parse line with
  | .error e => (Json.mkObj [("bad", e)]).compress
  | .ok j =>
    let r : Except String Json := do
      let op ← (← j.getObjVal? "op").getStr?
      if op == "emit" then pure (emitForm (← formOf j))
      else if op == "spec" then specOn j
      else if op == "facts" then
        let f := factsOfAll (← formOf j)
        pure (Json.mkObj [("mustAccept", f.mustAccept), ("excluded", f.excluded), ("kind", toString (repr f.kind)), ("width", f.width)])
      else throw s!"unknown op {op}"
    match r with
    | .ok j => j.compress
    | .error e => (Json.mkObj [("bad", e)]).compress

partial def loopIO (h : IO.FS.Stream) (out : IO.FS.Stream) : IO Unit := do
  let line ← h.getLine
  if line.isEmpty then return ()
  let t := line.trimAscii.toString
  if !t.isEmpty then out.putStrLn (handle t)
  loopIO h out

def main : IO Unit := do
  let out ← IO.getStdout
  loopIO (← IO.getStdin) out
  out.flush
