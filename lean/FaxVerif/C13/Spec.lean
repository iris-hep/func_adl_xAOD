/-
C13 — the property as decidable predicates over (source expression, sample values, observed column type
and stored value).  Nothing here mentions the translator: the reference value is `evalPy true` ("what Python
computes", with the property's own clause "`**` is a real power"), the observed side is the declared
column type and the value found in the column.

The same predicates are (a) the statements proved of the model in Theorems.lean and (b) the oracle the
harness evaluates, through the driver, on what the IMPLEMENTATION emitted (parsed text in the quick tier,
values printed by the compiled job in the thorough tier).
-/
import FaxVerif.C13.Model
namespace FaxVerif.C13
variable {N : Num}

/-! ### static Python kind of an expression -/

inductive PK | int | bool | float
  deriving DecidableEq, Repr

def CT.pk : CT → PK
  | .int => .int | .bool => .bool | .float => .float | .double => .float

/-- `rp`: int ** int counts as real (the property's reading) -/
def Expr.pyKind (rp : Bool) : Expr → PK
  | .leaf t _ _ => t.pk
  | .int _ => .int
  | .flt _ _ => .float
  | .bool _ => .bool
  | .bin op l r =>
    if op = .div then .float
    else if op = .pow && rp then .float
    else if l.pyKind rp = .float || r.pyKind rp = .float then .float else .int
  | .un op e => if op = .not then .bool else if e.pyKind rp = .float then .float else .int
  | .cmp _ _ _ => .bool

/-- fixed width order of the Spec (independent of the implementation's `_type_priority`) -/
def CT.rank : CT → Nat
  | .bool => 0 | .int => 0 | .float => 1 | .double => 2

/-- the widest operand type that flows into the value ("mixed operands promote to the wider type") -/
def Expr.width : Expr → Nat
  | .leaf t _ _ => t.rank
  | .int _ => 0
  | .flt _ _ => CT.double.rank
  | .bool _ => 0
  | .bin _ l r => max l.width r.width
  | .un op e => if op = .not then 0 else e.width
  | .cmp _ _ _ => 0

/-! ### what must hold of a column -/

/-- numerically equal in Python's sense (`==` across int / bool / float); the integer ↔ double embedding is
`Num.ofInt` -/
def numEq (c : CV N) (p : PV N) : Prop :=
  match p with
  | .float x => c.isFloating = true ∧ c.toD = x
  | .int n => if c.isFloating then c.toD = N.ofInt n else c.toI = n
  | .bool b => if c.isFloating then c.toD = N.ofInt (b2i b) else c.toI = b2i b

instance [DecidableEq N.D] (c : CV N) (p : PV N) : Decidable (numEq c p) := by
  unfold numEq; cases p <;> exact inferInstance

/-- "integer-valued results remain integers in the output", and real-valued results are stored in a
floating type at least as wide as every operand -/
def kindOk (declared : CT) (k : PK) (width : Nat) : Bool :=
  if k = .float then declared.isFloating && decide (width ≤ declared.rank) else !declared.isFloating

/-- The column clause of the property for one sample: `declared` is the type of the column, `stored` the
value found in it, `ref` what Python computes. -/
def ColOk (declared : CT) (k : PK) (width : Nat) (stored : CV N) (ref : PV N) : Prop :=
  stored.ctype = declared ∧ numEq stored ref ∧ kindOk declared k width = true

instance [DecidableEq N.D] (d : CT) (k : PK) (w : Nat) (s : CV N) (r : PV N) : Decidable (ColOk d k w s r) := by
  unfold ColOk; exact inferInstance

/-! ### the part of the input space where the code is known to violate the property (defect exclusions)

Each predicate below is the hypothesis of a `_partial` theorem and comes with a `_counterexample` theorem and an
entry of known_findings.jsonl.  They are written on the *source* expression and the *declared operand types*
only (`Expr.pyKind`, the kind the property's operand kinds have), never on the translator's output. -/

/-- declared type of the value an expression denotes, as the *property* sees operand kinds: literals and
declared leaves; a compound expression is floating iff Python's result is (static kind) -/
def Expr.isFloatKind (e : Expr) : Bool := e.pyKind true = .float

/-- static kind `bool`, possibly under unary `+`/`-` (which the translator keeps typed `bool`) -/
def Expr.boolish : Expr → Bool
  | .un op e => if op = .uadd || op = .usub then e.boolish else op = .not
  | e => e.pyKind true = .bool

/-- exclusion A: `%` with a real-valued operand — the emitted `(a%b)` is not C++ -/
def Expr.noFloatMod : Expr → Bool
  | .bin op l r => l.noFloatMod && r.noFloatMod && !(op = .mod && (l.isFloatKind || r.isFloatKind))
  | .un _ e => e.noFloatMod
  | .cmp _ l r => l.noFloatMod && r.noFloatMod
  | _ => true

/-- exclusion B: unary `-` on a bool-typed operand — the result is declared `bool`, −1 is stored as `true` -/
def Expr.noNegBool : Expr → Bool
  | .bin _ l r => l.noNegBool && r.noNegBool
  | .un op e => e.noNegBool && !(op = .usub && e.boolish)
  | .cmp _ l r => l.noNegBool && r.noNegBool
  | _ => true

/-- every operator is one of the property's list -/
def Expr.opsInScope : Expr → Bool
  | .bin op l r => l.opsInScope && r.opsInScope && (op = .add || op = .sub || op = .mult || op = .div || op = .mod || op = .pow)
  | .un op e => e.opsInScope && (op = .uadd || op = .usub || op = .not)
  | .cmp op l r => l.opsInScope && r.opsInScope && (op = .lt || op = .lte || op = .gt || op = .gte || op = .eq || op = .noteq)
  | _ => true

/-- no binary arithmetic on a boolean operand (`+ - * / %` on one are refused with an assertion, theorem
`bool_refused`; `**` on one is accepted today, but a refusal there would be tolerated alike) -/
def Expr.noBoolArith : Expr → Bool
  | .bin _ l r => l.noBoolArith && r.noBoolArith && !(l.boolish || r.boolish)
  | .un _ e => e.noBoolArith
  | .cmp _ l r => l.noBoolArith && r.noBoolArith
  | _ => true

/-- the expressions the property obliges the translator to accept -/
def Expr.mustAccept (e : Expr) : Bool := e.opsInScope && e.noBoolArith

/-- outside every defect exclusion -/
def Expr.noDefect (e : Expr) : Bool := e.noFloatMod && e.noNegBool

/-- `%` is only quantified over non-negative operands: at every `%` node Python's operands satisfy
`0 ≤ a ∧ 0 < b` (evaluated on the sample) -/
def Expr.modNonneg (env : Env N) : Expr → Bool
  | .bin op l r =>
    l.modNonneg env && r.modNonneg env &&
      (op != .mod ||
        match evalPy true env l, evalPy true env r with
        | some a, some b =>
          if a.isFloat || b.isFloat then N.le (N.ofInt 0) a.toF && N.lt (N.ofInt 0) b.toF
          else decide (0 ≤ a.toI) && decide (0 < b.toI)
        | _, _ => false)
  | .un _ e => e.modNonneg env
  | .cmp _ l r => l.modNonneg env && r.modNonneg env
  | _ => true

/-- exclusion E: a conditional whose arms are both integer-valued is stored in a `double` -/
def condIntegral (a b : Expr) : Bool := !a.isFloatKind && !b.isFloatKind

/-- kind and width the property demands of `a if t else b` -/
def condKind (a b : Expr) : PK := if a.isFloatKind || b.isFloatKind then .float else .int
def condWidth (a b : Expr) : Nat := max a.width b.width

/-! ### C++ meaning of an operand type the translator's own tables do not have: `std::size_t`

The model only ever declares `int` / `float` / `double` / `bool`, and `evalC` gives those their C++ meaning.  The
oracle, however, reads the IMPLEMENTATION's text, and an implementation may take an integer count from an
expression whose C++ type is *unsigned* (`container->size()` is a `std::size_t`) while declaring it `int`.  The
declared type does not change what the compiler does: the usual arithmetic conversions turn every integral
operation with a `std::size_t` operand into arithmetic modulo 2^64 (`3 - 5` is 18446744073709551614, `-1` compared
with a count is 2^64 − 1), and only a conversion back to `int` brings the value into the signed range again.
`evalX` is `evalC` extended by that operand type: `uns i` says which slots hold unsigned operands.  With no
unsigned operand it *is* `evalC` (theorem `evalX_conservative`). -/

/-- a C++ value: one of the model's four types, or a `std::size_t` (64 bit, `n < 2^64`) -/
inductive XV (N : Num)
  | cv (v : CV N)
  | uns (n : Nat)

def two64 : Nat := 18446744073709551616

/-- conversion of an integer to `std::size_t`: modulo 2^64 -/
def wrapU (i : Int) : Nat := (i % (two64 : Int)).toNat

/-- conversion of a `std::size_t` to a 32 bit `int` (modular: implementation-defined before C++20, what every
supported compiler does, required since) -/
def wrapI32 (n : Nat) : Int := (((n + 2147483648) % 4294967296 : Nat) : Int) - 2147483648

def XV.isFloating : XV N → Bool
  | .cv v => v.isFloating
  | .uns _ => false

/-- the number an `XV` denotes, as a value of the model's types (an unsigned number as an integer: used where the
other operand is floating, or as argument of `std::pow`, both of which convert it to the floating type exactly as
they convert an `int` of that value) -/
def XV.asCV : XV N → CV N
  | .cv v => v
  | .uns n => .int n

/-- an integral operand converted to `std::size_t` -/
def XV.toU : XV N → Nat
  | .uns n => n
  | .cv v => wrapU v.toI

def XV.truthy : XV N → Bool
  | .cv v => v.truthy
  | .uns n => n != 0

/-- `static_cast<t>(v)` / conversion on assignment to a variable or column declared `t` -/
def xConvert (t : CT) : XV N → CV N
  | .cv v => convert t v
  | .uns n =>
    match t with
    | .int => .int (wrapI32 n)
    | _ => convert t (.int n)

/-- binary operator with at least one `std::size_t` operand and no floating one: computed in `std::size_t` -/
def uBin (op : String) (x y : Nat) : Option (XV N) :=
  if op == "+" then some (.uns ((x + y) % two64))
  else if op == "-" then some (.uns ((x + two64 - y) % two64))
  else if op == "*" then some (.uns ((x * y) % two64))
  else if op == "/" then (if y = 0 then none else some (.uns (x / y)))
  else if op == "%" then (if y = 0 then none else some (.uns (x % y)))
  else if op == "<" then some (.cv (.bool (decide (x < y))))
  else if op == "<=" then some (.cv (.bool (decide (x ≤ y))))
  else if op == ">" then some (.cv (.bool (decide (y < x))))
  else if op == ">=" then some (.cv (.bool (decide (y ≤ x))))
  else if op == "==" then some (.cv (.bool (decide (x = y))))
  else if op == "!=" then some (.cv (.bool (decide (x ≠ y))))
  else none

def xBin (op : String) (a b : XV N) : Option (XV N) :=
  match a, b with
  | .cv x, .cv y => (cBin op x y).map .cv
  | _, _ =>
    if a.isFloating || b.isFloating then (cBin op a.asCV b.asCV).map .cv
    else uBin op a.toU b.toU

def xUn (op : String) (a : XV N) : Option (XV N) :=
  match a with
  | .cv x => (cUn op x).map .cv
  | .uns n =>
    if op == "+" then some (.uns n)
    else if op == "-" then some (.uns ((two64 - n) % two64))
    else if op == "!" then some (.cv (.bool (n == 0)))
    else none

/-- `evalC` with unsigned operands: the slots `uns` hold `std::size_t` values -/
def evalX (uns : Nat → Bool) (env : Env N) : CE → Option (XV N)
  | .leaf t _ i => if uns i then some (.uns (wrapU (env i).i)) else some (.cv (leafVal t (env i)))
  | .ilit n => some (.cv (.int n))
  | .blit b => some (.cv (.bool b))
  | .bin op l r =>
    match evalX uns env l, evalX uns env r with
    | some a, some b => xBin op a b
    | _, _ => none
  | .cast t e =>
    match evalX uns env e with
    | some a => some (.cv (xConvert t a))
    | none => none
  | .pow l r =>
    match evalX uns env l, evalX uns env r with
    | some a, some b => some (.cv (cPow a.asCV b.asCV))
    | _, _ => none
  | .un op e =>
    match evalX uns env e with
    | some a => xUn op a
    | none => none

/-- what a plain column declared `ty` holds after `col = e;` -/
def storeX (uns : Nat → Bool) (env : Env N) (ty : CT) (e : CE) : Option (CV N) :=
  (evalX uns env e).map (xConvert ty)

/-- `evalCondC` with unsigned operands -/
def evalCondX (uns : Nat → Bool) (env : Env N) (o : CondOut) : Option (CV N) :=
  match evalX uns env o.test.ce with
  | none => none
  | some t =>
    match evalX uns env (if t.truthy then o.thenRhs else o.elseRhs) with
    | none => none
    | some v => some (xConvert o.result.ty v)

/-! ### the operand kinds of the property -/

inductive Kind | intLit | intCount | float | double | bool
  deriving DecidableEq, Repr

/-- an operand of kind `k`: the literal `n`, or an operand whose C++ text is `text` and whose value is in slot `slot` -/
def Kind.operand (k : Kind) (n : Int) (text : String) (slot : Nat) : Expr :=
  match k with
  | .intLit => .int n
  | .intCount => .leaf .int text slot
  | .float => .leaf .float text slot
  | .double => .leaf .double text slot
  | .bool => .leaf .bool text slot

def Kind.isReal : Kind → Bool
  | .float | .double => true
  | _ => false

end FaxVerif.C13
