/-
Gen — the fault direction, rows level: one column by cases (`compCol_fault_tok`, `ColFaultRel`), and the two package
statements `eventRows_fault` / `elemRows_fault`: where `denoteRows` of the query is a fault `f`, `runEvent` of the
compiled package is a fault `f'` of the same class, on all three backends (`BackendBase`). Event-level rows go through
`eventRows_col_fault` of `FirstFault` (the columns before the failing one run); element-level rows are `chain_sim`
with the row code `setCols … ++ [fill]` as consumer (`rowsG` on the query side).
-/
import FaxVerif.Gen.FaultCorrectCols
import FaxVerif.Gen.FirstFault
namespace FaxVerif.Gen
open FaxVerif.Cpp FaxVerif.Linq
variable {D : Type}

def chainsCol : Col → List Chain
  | .scalar e => chainsEE e
  | .seq c => [c]
  | .first c => [c]

/-- what the fault direction assumes of a column beyond `ColHyp`: every bank, if present, is typed
(`BankTyped`), and every chain is `strictSteps` for its consumer — `Sum` / a vector column evaluate
the value of every kept element (`true`); `Count` never does and `First` only for the first kept
element (`false`: the body of the first `Select` must be forced by a later `Where`). -/
def ColFaultHyp (QC : QCtx D) : Col → Prop
  | .scalar e => eeStrict e = true ∧ ∀ c ∈ chainsEE e, BankTyped QC c
  | .seq c => strictSteps true c.steps = true ∧ BankTyped QC c
  | .first c => strictSteps false c.steps = true ∧ BankTyped QC c

/-- the query's fault `f` and the code's fault `f'` on a column: both come from the same chain of the
column (`ChainFaultRel`: `retrieveFailed` of its missing bank, or member faults of its bank's
elements), or the column is a `First()` over a sequence that is empty after its filters and both
are the loud "First of an empty sequence" (each side with its own message text). -/
def ColFaultRel (QC : QCtx D) (col : Col) (f f' : Fault) : Prop :=
  (∃ c ∈ chainsCol col, ChainFaultRel QC c f f') ∨
  (∃ c, col = .first c ∧ f = .loud "First of an empty sequence" ∧ f' = .loud firstMsg)

theorem colFaultRel_eq_of_uniform {QC : QCtx D} {col : Col} {f f' : Fault} (h : ColFaultRel QC col f f')
    (huni : ∀ c ∈ chainsCol col, ∀ cty l, QC.ev.find c.bank = some (cty, .vec l) → ∀ f1 f2,
        ListFault l (methsSteps c.steps) f1 → ListFault l (methsSteps c.steps) f2 → f1 = f2) :
    f' = f ∨ (f = .loud "First of an empty sequence" ∧ f' = .loud firstMsg) := by
  rcases h with ⟨c, hc, hrel⟩ | ⟨c, _, h1, h2⟩
  · exact Or.inl (hrel.eq_of_uniform (huni c hc))
  · exact Or.inr ⟨h1, h2⟩

theorem compCol_fault_tok (C : Ctx D) (QC : QCtx D) (hN : QC.N = C.N) (hev : QC.ev = C.ev)
    (B : Backend) (hB : BackendBase B) (nm cn : Nat → String)
    (hinj : ∀ i j, nm i = nm j → i = j) (hres : ∀ j, nm j ≠ "result")
    (hcres : ∀ k, cn k ≠ "result") (hdisj : ∀ j k, nm j ≠ cn k)
    (hcollT : ∀ name, B.collType name = QC.collType name)
    (col : Col) (idx n : Nat) (htok : TokCol B nm C col n) (s : St D) (f : Fault)
    (hdone : DeclsDone C.N (compCol B nm cn idx col n).decls s.env)
    (hpre : ColPre col (cn idx) s.env) (hhyp : ColHyp QC col) (hfh : ColFaultHyp QC col)
    (hden : denote QC [("e", evtVal)] (colQ "e" col) = .error f) :
    ∃ f', execs C (compCol B nm cn idx col n).stmts s = .error f' ∧ ColFaultRel QC col f f' := by
  cases col with
  | scalar e =>
    obtain ⟨hwt, hct, hsn⟩ := hhyp
    obtain ⟨hst, hbt⟩ := hfh
    obtain ⟨f', h1, c, hc, h2⟩ := compEE_fault_tok C QC hN hev B hB nm hinj hres hcollT e n s f htok
      (by simpa [compCol] using hdone) hwt hct hsn hbt hst (by simpa [colQ] using hden)
    exact ⟨f', by simpa [compCol] using h1, Or.inl ⟨c, by simpa [chainsCol] using hc, h2⟩⟩
  | seq c =>
    obtain ⟨hwt, hct, _⟩ := hhyp
    obtain ⟨hst, hbt⟩ := hfh
    obtain ⟨f', h1, h2⟩ := seq_fault_tok C QC hN hev B hB nm cn hinj hres hcres hdisj hcollT c idx n htok s f hdone hpre
      hwt hst hct hbt (by simpa [colQ] using hden)
    exact ⟨f', h1, Or.inl ⟨c, by simp [chainsCol], h2⟩⟩
  | first c =>
    obtain ⟨hwt, hct, hbv⟩ := hhyp
    obtain ⟨hst, hbt⟩ := hfh
    simp only [colQ, denote] at hden
    cases hc : denote QC [("e", evtVal)] (chainQ "e" c) with
    | error e =>
      rw [hc] at hden; simp only [Except.error.injEq] at hden; subst hden
      obtain ⟨f', h1, h2⟩ := first_chain_fault_tok C QC hN hev B hB nm cn hinj hres hcres hdisj hcollT c idx n htok s e hdone hpre
        hwt hst hct hbt hc
      exact ⟨f', h1, Or.inl ⟨c, by simp [chainsCol], h2⟩⟩
    | ok cv =>
      obtain ⟨ws, rfl⟩ := chainQ_ok_vec QC c hbt cv hc
      rw [hc] at hden
      cases ws with
      | cons w rest => simp at hden
      | nil =>
        simp only [Except.error.injEq] at hden
        exact ⟨_, compCol_first_fault_tok C QC hN hev B hB nm cn hinj hres hcres hdisj hcollT c idx n htok s hdone hpre
          ⟨hwt, hct, hbv⟩ hc, Or.inr ⟨c, rfl, hden.symm, rfl⟩⟩

theorem denotes_map_error_split (QC : QCtx D) (ρ : LEnv D) (q : Col → Query) : ∀ (cs : List Col) (f : Fault),
    denotes QC ρ (cs.map q) = .error f →
    ∃ pre col post vs, cs = pre ++ col :: post ∧ denotes QC ρ (pre.map q) = .ok vs ∧ denote QC ρ (q col) = .error f
  | [], f, h => by simp [denotes] at h
  | c :: cs, f, h => by
    simp only [List.map_cons, denotes] at h
    cases h1 : denote QC ρ (q c) with
    | error e =>
      rw [h1] at h; simp only [Except.error.injEq] at h; subst h
      exact ⟨[], c, cs, [], rfl, rfl, h1⟩
    | ok v =>
      rw [h1] at h; simp only [] at h
      cases h2 : denotes QC ρ (cs.map q) with
      | ok vs => rw [h2] at h; simp at h
      | error e =>
        rw [h2] at h; simp only [Except.error.injEq] at h; subst h
        obtain ⟨pre, col, post, vs, hcs, hp, hc⟩ := denotes_map_error_split QC ρ q cs e h2
        exact ⟨c :: pre, col, post, v :: vs, by rw [hcs]; rfl, by simp [denotes, h1, hp], hc⟩

theorem eventRows_denote_error (QC : QCtx D) (cols : List (String × Col)) (f : Fault)
    (h : denoteRows QC (FQ.toQuery (.eventRows cols)) = .error f) :
    denotes QC [("e", evtVal)] ((cols.map (·.2)).map (colQ "e")) = .error f := by
  simp only [denoteRows, FQ.toQuery] at h
  rw [denote_select] at h
  simp only [denote, mapE] at h
  have hmap : cols.map (fun p => colQ "e" p.2) = (cols.map (·.2)).map (colQ "e") := by simp [List.map_map]
  rw [hmap] at h
  cases hd : denotes QC [("e", Val.obj "__event__" [])] ((cols.map (·.2)).map (colQ "e")) with
  | ok vs => rw [hd] at h; simp at h
  | error e =>
    rw [hd] at h
    simp only [Except.error.injEq] at h
    subst h
    simpa [evtVal] using hd

/-- **event-level rows, fault direction** — if the query is undefined on the event with fault `f`,
the emitted package fails on it with a fault `f'` of the same class (`ColFaultRel`, for the first
undefined column: on BOTH sides the columns are evaluated in order and arithmetic on numbers cannot
fault, so it is the same column and the same chain; within that chain the query meets member faults
step by step over the whole list, the loop element by element, so which member fault is reported
may differ). No row is written. -/
theorem eventRows_fault (B : Backend) (hB : BackendBase B) (nm cn : Nat → String) (hsup : Supply nm cn)
    (QC : QCtx D) (hcollT : ∀ name, B.collType name = QC.collType name)
    (cols : List (String × Col)) (hhyp : ∀ p ∈ cols, ColHyp QC p.2) (hfh : ∀ p ∈ cols, ColFaultHyp QC p.2)
    (σc : Env D) (hσ : ColsPre cn (cols.map (·.2)) 0 σc) (f : Fault)
    (hden : denoteRows QC (FQ.toQuery (.eventRows cols)) = .error f) :
    ∃ f', runEvent (compile B nm cn (.eventRows cols)) QC.N σc QC.ev = .error f' ∧
      ∃ pre col post vs, cols.map (·.2) = pre ++ col :: post ∧
        denotes QC [("e", evtVal)] (pre.map (colQ "e")) = .ok vs ∧
        denote QC [("e", evtVal)] (colQ "e" col) = .error f ∧ ColFaultRel QC col f f' := by
  obtain ⟨pre, col, post, vs, hcs, hpre, hcolden⟩ :=
    denotes_map_error_split QC _ (colQ "e") (cols.map (·.2)) f (eventRows_denote_error QC cols f hden)
  have hmem : ∀ q ∈ pre ++ col :: post, ∃ p ∈ cols, p.2 = q := fun q hq => List.mem_map.1 (hcs ▸ hq)
  obtain ⟨p0, hp0, rfl⟩ := hmem col (by simp)
  obtain ⟨f', hrun, hrel⟩ := eventRows_col_fault B hB nm cn hsup QC hcollT cols pre p0.2 post hcs
    (fun q hq => by obtain ⟨p, hp, rfl⟩ := hmem q (by simp [hq]); exact hhyp p hp) σc hσ vs hpre (ColFaultRel QC p0.2 f)
    (fun C hN hev idx n s htk hdone hpre1 => compCol_fault_tok C QC hN hev B hB nm cn hsup.inj hsup.res hsup.cres hsup.disj hcollT
      p0.2 idx n htk s f hdone hpre1 (hhyp p0 hp0) (hfh p0 hp0) hcolden)
  exact ⟨f', hrun, pre, p0.2, post, vs, hcs, hpre, hcolden, hrel⟩

theorem eventRows_fault_mem (B : Backend) (hB : BackendBase B) (nm cn : Nat → String) (hsup : Supply nm cn)
    (QC : QCtx D) (hcollT : ∀ name, B.collType name = QC.collType name)
    (cols : List (String × Col)) (hhyp : ∀ p ∈ cols, ColHyp QC p.2) (hfh : ∀ p ∈ cols, ColFaultHyp QC p.2)
    (σc : Env D) (hσ : ColsPre cn (cols.map (·.2)) 0 σc) (f : Fault)
    (hden : denoteRows QC (FQ.toQuery (.eventRows cols)) = .error f) :
    ∃ f', runEvent (compile B nm cn (.eventRows cols)) QC.N σc QC.ev = .error f' ∧
      ∃ p ∈ cols, ColFaultRel QC p.2 f f' := by
  obtain ⟨f', hrun, pre, col, post, vs, hcs, _, _, hrel⟩ :=
    eventRows_fault B hB nm cn hsup QC hcollT cols hhyp hfh σc hσ f hden
  have hmem : col ∈ cols.map (·.2) := by rw [hcs]; simp
  obtain ⟨p0, hp0, hp0e⟩ := List.mem_map.1 hmem
  exact ⟨f', hrun, p0, hp0, by rw [hp0e]; exact hrel⟩

theorem pesSem_error (QC : QCtx D) (w : Val D) : ∀ (pes : List PE) (e : Fault), pesSem QC w pes = .error e →
    ∃ pre pe post, pes = pre ++ pe :: post ∧ (∀ q ∈ pre, ∃ v, peSem QC w q = .ok v) ∧ peSem QC w pe = .error e
  | [], e, h => by simp [pesSem] at h
  | pe :: rest, e, h => by
    simp only [pesSem] at h
    cases h1 : peSem QC w pe with
    | error e' => rw [h1] at h; simp only [Except.error.injEq] at h; subst h; exact ⟨[], pe, rest, rfl, by simp, h1⟩
    | ok v =>
      rw [h1] at h; simp only [] at h
      cases h2 : pesSem QC w rest with
      | ok vs => rw [h2] at h; simp at h
      | error e' =>
        rw [h2] at h; simp only [Except.error.injEq] at h; subst h
        obtain ⟨pre, q, post, rfl, hpre, hq⟩ := pesSem_error QC w rest e' h2
        exact ⟨pe :: pre, q, post, rfl, List.forall_mem_cons.2 ⟨⟨v, h1⟩, hpre⟩, hq⟩

theorem pesSem_total (QC : QCtx D) (t : Ty) (w : Val D) (hw : HasTy w t) : ∀ (pes : List PE),
    (∀ pe ∈ pes, wtPE (some t) pe = true) → ∃ vs, pesSem QC w pes = .ok vs
  | [], _ => ⟨[], rfl⟩
  | pe :: rest, h => by
    obtain ⟨v, hv⟩ := peQ_total QC t w "x" [] hw pe (h pe (by simp))
    obtain ⟨vs, hvs⟩ := pesSem_total QC t w hw rest (fun q hq => h q (by simp [hq]))
    exact ⟨v :: vs, by simp [pesSem, peSem, hv, hvs]⟩

theorem setCols_stops (C : Ctx D) (cn : Nat → String) (hcinj : ∀ i j, cn i = cn j → i = j) (ptr : Bool) (cur : CExpr)
    (ty : Option Ty) (hcv : ∀ x ∈ vars cur, ∀ k, x ≠ cn k) (tail : List Stmt) (pe : PE) (post : List PE) (e : Fault) :
    ∀ (pre : List PE) (idx : Nat) (s : St D),
      (∀ q ∈ pre, ∃ v, evalE C.N s.env (compPE (ptr && ty.isNone) cur (ty.getD .double) q) = .ok v) →
      evalE C.N s.env (compPE (ptr && ty.isNone) cur (ty.getD .double) pe) = .error e →
      (∀ k, idx ≤ k → k < idx + (pre ++ pe :: post).length → (s.env (cn k)).isSome = true) →
      execs C (setCols cn ptr cur ty (pre ++ pe :: post) idx ++ tail) s = .error e
  | [], idx, s, _, hpe, hdecl => by
    have hd := hdecl idx (Nat.le_refl _) (by simp)
    simp only [List.nil_append, setCols, List.cons_append, execs, exec]
    cases hs : s.env (cn idx) with
    | none => rw [hs] at hd; simp at hd
    | some sl => simp only [hpe]
  | q :: pre, idx, s, hpre, hpe, hdecl => by
    have hd := hdecl idx (Nat.le_refl _) (by simp)
    obtain ⟨v, hv⟩ := hpre q (by simp)
    have hsame : ∀ p : PE, evalE C.N (s.env.set (cn idx) v) (compPE (ptr && ty.isNone) cur (ty.getD .double) p) =
        evalE C.N s.env (compPE (ptr && ty.isNone) cur (ty.getD .double) p) := fun p =>
      evalE_congr _ _ _ _ fun x hx => by simp [Env.set, hcv x (vars_compPE _ _ _ p x hx) idx]
    have ih := setCols_stops C cn hcinj ptr cur ty hcv tail pe post e pre (idx + 1) { s with env := s.env.set (cn idx) v }
      (fun p hp => by rw [hsame]; exact hpre p (by simp [hp])) (by rw [hsame]; exact hpe)
      (fun k hk1 hk2 => by
        have hne : cn k ≠ cn idx := fun e => by have := hcinj _ _ e; omega
        simp only [Env.set, hne, if_false]
        exact hdecl k (by omega) (by simp only [List.cons_append, List.length_cons] at hk2 ⊢; omega))
    simp only [List.cons_append, setCols, execs, exec]
    cases hs : s.env (cn idx) with
    | none => rw [hs] at hd; simp at hd
    | some sl => simp only [hv]; exact ih

theorem setCols_fault (C : Ctx D) (QC : QCtx D) (hN : QC.N = C.N) (cn : Nat → String)
    (hcinj : ∀ i j, cn i = cn j → i = j) (ptr : Bool) (cur : CExpr) (ty : Option Ty) (w : Val D)
    (hcv : ∀ x ∈ vars cur, ∀ k, x ≠ cn k) (hty : ∀ t, ty = some t → HasTy w t) (tail : List Stmt) :
    ∀ (pes : List PE) (idx : Nat) (s : St D) (e : Fault),
      evalE C.N s.env cur = .ok w →
      (∀ pe ∈ pes, wtPE ty pe = true) → (∀ pe ∈ pes, MethTyped w (methsPE pe)) →
      (∀ k, idx ≤ k → k < idx + pes.length → (s.env (cn k)).isSome = true) →
      pesSem QC w pes = .error e →
      execs C (setCols cn ptr cur ty pes idx ++ tail) s = .error e := by
  intro pes idx s e hcur hwt hmt hdecl hr
  obtain ⟨pre, pe, post, rfl, hpre, hpe⟩ := pesSem_error QC w pes e hr
  have hev : ∀ q ∈ pre ++ pe :: post,
      evalE C.N s.env (compPE (ptr && ty.isNone) cur (ty.getD .double) q) = peSem QC w q := by
    intro q hq
    rw [← hN]
    exact (pe_correct QC s.env cur ty (ptr && ty.isNone) w "x" [] (by rw [hN]; exact hcur) hty q (hwt q hq) (hmt q hq)).1
  exact setCols_stops C cn hcinj ptr cur ty hcv tail pe post e pre idx s
    (fun q hq => by obtain ⟨v, hv⟩ := hpre q hq; exact ⟨v, by rw [hev q (by simp [hq]), hv]⟩)
    (by rw [hev pe (by simp), hpe]) hdecl

theorem exists_first_usesIt : ∀ pes : List PE, (∃ pe ∈ pes, usesIt pe = true) →
    ∃ pre pe post, pes = pre ++ pe :: post ∧ (∀ q ∈ pre, usesIt q = false) ∧ usesIt pe = true
  | [], h => by obtain ⟨_, h, _⟩ := h; simp at h
  | p :: rest, h => by
    cases hu : usesIt p with
    | true => exact ⟨[], p, rest, rfl, by simp, hu⟩
    | false =>
      obtain ⟨pre, q, post, rfl, hpre, hq⟩ := exists_first_usesIt rest (by
        obtain ⟨q, hq, hqu⟩ := h
        rcases List.mem_cons.1 hq with rfl | hq
        · rw [hu] at hqu; simp at hqu
        · exact ⟨q, hq, hqu⟩)
      exact ⟨p :: pre, q, post, rfl, List.forall_mem_cons.2 ⟨hu, hpre⟩, hq⟩

/-- the closed columns before it are assigned, the first column that mentions the value raises the fault -/
theorem setCols_forced (C : Ctx D) (QC : QCtx D) (hN : QC.N = C.N) (cn : Nat → String)
    (hcinj : ∀ i j, cn i = cn j → i = j) (ptr : Bool) (cur : CExpr) (t : Ty) (e : Fault)
    (hcv : ∀ x ∈ vars cur, ∀ k, x ≠ cn k) (tail : List Stmt) :
    ∀ (pes : List PE) (idx : Nat) (s : St D),
      evalE C.N s.env cur = .error e →
      (∀ pe ∈ pes, wtPE (some t) pe = true) →
      (∀ k, idx ≤ k → k < idx + pes.length → (s.env (cn k)).isSome = true) →
      (∃ pe ∈ pes, usesIt pe = true) →
      execs C (setCols cn ptr cur (some t) pes idx ++ tail) s = .error e := by
  intro pes idx s hcur hwt hdecl hex
  obtain ⟨pre, pe, post, rfl, hpre, hu⟩ := exists_first_usesIt pes hex
  refine setCols_stops C cn hcinj ptr cur (some t) hcv tail pe post e pre idx s (fun q hq => ?_) ?_ hdecl
  · obtain ⟨v, hv, _⟩ := compPE_closed_ok QC s.env (ptr && (some t).isNone) cur t q (hwt q (by simp [hq])) (hpre q hq)
    exact ⟨v, by rw [← hN]; exact hv⟩
  · rw [← hN]
    exact compPE_cur_error QC s.env (ptr && (some t).isNone) cur t e (by rw [hN]; exact hcur) pe (hwt pe (by simp)) hu

theorem chainTy_some (steps : List Step) : ∀ t : Ty, ∃ t', chainTy (some t) steps = some t' := by
  induction steps with
  | nil => intro t; exact ⟨t, rfl⟩
  | cons st rest ih =>
    intro t
    cases st with
    | sel g => simp only [chainTy]; exact ih _
    | whr c => simp only [chainTy]; exact ih _

/-- the consumer of element-level rows: one more row -/
def rowsG (QC : QCtx D) (pes : List PE) : List (List (Val D)) → Val D → Except Fault (List (List (Val D))) :=
  fun a w => match pesSem QC w pes with
    | .ok row => .ok (a ++ [row])
    | .error e => .error e

theorem mapE_rows_error (QC : QCtx D) (names : List String) (pes : List PE) : ∀ (ws : List (Val D)) (f : Fault),
    mapE (fun v => denote QC [("r", v)] (.dict names (pes.map (peQ "r")))) ws = .error f →
    ∀ acc, foldG (rowsG QC pes) ws acc = .error f
  | [], f, h, _ => by simp [mapE] at h
  | w :: ws, f, h, acc => by
    rw [mapE, dict_denote] at h
    simp only [foldG, rowsG]
    cases h1 : pesSem QC w pes with
    | error e => rw [h1] at h; simp only [Except.error.injEq] at h; subst h; rfl
    | ok vs =>
      rw [h1] at h; simp only [] at h ⊢
      cases h2 : mapE (fun v => denote QC [("r", v)] (.dict names (pes.map (peQ "r")))) ws with
      | ok r => rw [h2] at h; simp at h
      | error e =>
        rw [h2] at h; simp only [Except.error.injEq] at h; subst h
        exact mapE_rows_error QC names pes ws e h2 _

theorem elemRows_denote_error (QC : QCtx D) (c : Chain) (cols : List (String × PE)) (hbt : BankTyped QC c) (f : Fault)
    (h : denoteRows QC (FQ.toQuery (.elemRows c cols)) = .error f) :
    denote QC [("e", evtVal)] (chainQ "e" c) = .error f ∨
    ∃ ws, denote QC [("e", evtVal)] (chainQ "e" c) = .ok (.vec ws) ∧
      foldG (rowsG QC (cols.map (·.2))) ws [] = .error f := by
  simp only [denoteRows, FQ.toQuery] at h
  have hmap : cols.map (fun p => peQ "r" p.2) = (cols.map (·.2)).map (peQ "r") := by simp [List.map_map]
  rw [hmap, denote_select, denote_selectMany_ds] at h
  cases hc : denote QC [("e", evtVal)] (chainQ "e" c) with
  | error e => rw [hc] at h; simp only [Except.error.injEq] at h; subst h; exact Or.inl rfl
  | ok cv =>
    obtain ⟨ws, rfl⟩ := chainQ_ok_vec QC c hbt cv hc
    rw [hc] at h
    simp only [List.append_nil] at h
    right
    refine ⟨ws, rfl, ?_⟩
    cases hm : mapE (fun v => denote QC [("r", v)] (.dict (cols.map (·.1)) ((cols.map (·.2)).map (peQ "r")))) ws with
    | ok r => rw [hm] at h; simp at h
    | error e =>
      rw [hm] at h; simp only [Except.error.injEq] at h; subst h
      exact mapE_rows_error QC _ _ ws e hm []

def methsCols (cols : List (String × PE)) : List (String × Ty) := cols.flatMap (fun p => methsPE p.2)

/-- **element-level rows, fault direction** — if the query is undefined on the event with fault `f`
(missing bank; a member call faults on some element in a `Where` condition, a `Select` body or a
column), the emitted package fails on the event with a fault `f'` of the same class; the rows of
the elements before the faulting one are not returned. `hst`: the chain's first `Select` is forced
by what follows it — ultimately by a column that mentions the value. -/
theorem elemRows_fault (B : Backend) (hB : BackendBase B) (nm cn : Nat → String) (hsup : Supply nm cn)
    (QC : QCtx D) (hcollT : ∀ name, B.collType name = QC.collType name)
    (c : Chain) (cols : List (String × PE))
    (hwt : wtSteps none c.steps = true)
    (hwtc : ∀ p ∈ cols, wtPE (chainTy none c.steps) p.2 = true)
    (hmt : ∀ cty l, QC.ev.find c.bank = some (cty, .vec l) →
        ∀ v ∈ l, MethTyped v (methsSteps c.steps) ∧ ∀ p ∈ cols, MethTyped v (methsPE p.2))
    (hbt : BankTyped QC c)
    (hst : strictSteps (cols.any (fun p => usesIt p.2)) c.steps = true)
    (σc : Env D) (hσ : ∀ k, k < cols.length → (σc (cn k)).isSome = true) (f : Fault)
    (hden : denoteRows QC (FQ.toQuery (.elemRows c cols)) = .error f) :
    ∃ f', runEvent (compile B nm cn (.elemRows c cols)) QC.N σc QC.ev = .error f' ∧
      ChainFaultRelM QC c (methsSteps c.steps ++ methsCols cols) f f' := by
  have hf := elemRows_denote_error QC c cols hbt f hden
  have hmsub : ∀ p ∈ cols, ∀ q ∈ methsPE p.2, q ∈ methsSteps c.steps ++ methsCols cols := by
    intro p hp q hq
    simp only [List.mem_append, methsCols, List.mem_flatMap]
    exact Or.inr ⟨p, hp, hq⟩
  let pes := cols.map (·.2)
  let m := cols.length
  let K : CExpr → Option Ty → List Stmt := fun cur ty => setCols cn B.elemPtr cur ty pes 0 ++ [.fill (B.fillTree B.treeName)]
  let P := compile B nm cn (.elemRows c cols)
  let C := P.ctx QC.N QC.ev
  have hCcols : C.cols = colNames cn m 0 := by
    simpa only [List.length_map] using (compile_elemRows_books B nm cn c cols).cols QC.N QC.ev
  have hbody : P.body = .block ((compChain B nm c 0 K).decls ++ (compChain B nm c 0 K).stmts) := rfl
  let s1 : St D := ⟨σc.declare (nm 0), []⟩
  have hdecl : execs C (compChain B nm c 0 K).decls ⟨σc, []⟩ = .ok s1 := by
    simp [compChain, execs, exec, hB.handleNotVec, s1]
  let Pinv : St D → List (List (Val D)) → Prop := fun s _ => ∀ k, k < m → (s.env (cn k)).isSome = true
  have htok : TokChain B nm C c 0 := tokChain_elemRows B nm cn c cols QC.N QC.ev K rfl
  have htyeq : (chainVal B nm c 0).2 = chainTy none c.steps := stepConds_ty B.elemPtr c.steps (.var (nm 1)) none
  have hcurv : ∀ x ∈ vars (chainVal B nm c 0).1, ∀ k, x ≠ cn k := by
    intro x hx k
    have := (stepConds_vars B.elemPtr c.steps (.var (nm (0 + 1))) none).2 x hx
    simp only [vars, List.mem_singleton] at this
    rw [this]; exact hsup.disj _ k
  have hwtpes : ∀ pe ∈ pes, wtPE (chainVal B nm c 0).2 pe = true := by
    intro pe hpe
    simp only [pes, List.mem_map] at hpe
    obtain ⟨p, hp, rfl⟩ := hpe
    rw [htyeq]; exact hwtc p hp
  have hmtpes : ∀ w : Val D,
      (∀ t, (chainVal B nm c 0).2 = some t → HasTy w t) →
      ((chainVal B nm c 0).2 = none → ∀ p ∈ cols, MethTyped w (methsPE p.2)) →
      ∀ pe ∈ pes, MethTyped w (methsPE pe) := by
    intro w hty hobj pe hpe
    simp only [pes, List.mem_map] at hpe
    obtain ⟨p, hp, rfl⟩ := hpe
    cases hty' : (chainVal B nm c 0).2 with
    | some t => exact methTyped_of_hasTy (hty t hty') _
    | none => exact hobj hty' p hp
  have hq : onSeq (denote QC [("e", evtVal)] (chainQ "e" c)) "" (fun ws => foldG (rowsG QC pes) ws []) = .error f := by
    rcases hf with h | ⟨ws, h, h'⟩
    · rw [h]; rfl
    · rw [h]; exact h'
  obtain ⟨f', hex, hrel⟩ := (chain_sim (β := List (List (Val D))) C QC rfl rfl B hB nm hsup.inj hsup.res hcollT c 0 htok K True
    (cols.any (fun p => usesIt p.2)) hwt (fun _ => hst) (fun cty l hf v hv => (hmt cty l hf v hv).1) (fun _ => hbt)
    Pinv (rowsG QC pes) (fun v => ∀ p ∈ cols, MethTyped v (methsPE p.2)) (fun cty l hf v hv => (hmt cty l hf v hv).2)
    (by
      intro s t acc hPs _ hfr k hk
      rw [hfr (cn k) (not_touch_of_ne (fun j h => hsup.disj j k h.symm) (hsup.cres k) _ _)]
      exact hPs k hk)
    (.of_parts (by
      intro s acc acc' w hPs hg hev hty hobj
      simp only [rowsG] at hg
      cases hrow : pesSem QC w pes with
      | error e => rw [hrow] at hg; simp at hg
      | ok row =>
        rw [hrow] at hg; simp only [Except.ok.injEq] at hg; subst hg
        obtain ⟨s2, hex2, hrows2, hread2, _, hmono2⟩ := setCols_correct C QC rfl cn hsup.cinj B.elemPtr
          (chainVal B nm c 0).1 (chainVal B nm c 0).2 w
          hcurv hty pes 0 s row hev hwtpes (hmtpes w hty hobj)
          (by intro k _ hk; exact hPs k (by simpa [pes, m] using hk))
          hrow
        refine ⟨⟨s2.env, s2.rows ++ [row]⟩, ?_, ?_⟩
        · simp only [K]
          rw [execs_append, hex2]
          simp only [execs, exec, hCcols]
          have : readCols s2.env (colNames cn m 0) = .ok row := by simpa [pes, m] using hread2
          rw [this]
        · intro k hk; exact hmono2 _ (hPs k hk))
     (by
      intro s acc e w hPs hg hev hty hobj
      simp only [rowsG] at hg
      cases hrow : pesSem QC w pes with
      | ok row => rw [hrow] at hg; simp at hg
      | error e' =>
        rw [hrow] at hg; simp only [Except.error.injEq] at hg; subst hg
        exact setCols_fault C QC rfl cn hsup.cinj B.elemPtr _ _ w hcurv hty [.fill (B.fillTree B.treeName)] pes 0 s e' hev hwtpes
          (hmtpes w hty hobj) (by intro k _ hk; exact hPs k (by simpa [pes, m] using hk)) hrow)
     (by
      intro hcons hne s acc e hPs hev
      cases hty' : (chainVal B nm c 0).2 with
      | none => exact absurd hty' hne
      | some t =>
        have hany : ∃ pe ∈ pes, usesIt pe = true := by
          simp only [List.any_eq_true] at hcons
          obtain ⟨p, hp, hu⟩ := hcons
          exact ⟨p.2, by simp only [pes, List.mem_map]; exact ⟨p, hp, rfl⟩, hu⟩
        have := setCols_forced C QC rfl cn hsup.cinj B.elemPtr (chainVal B nm c 0).1 t e hcurv
          [.fill (B.fillTree B.treeName)] pes 0 s hev (by intro pe hpe; rw [← hty']; exact hwtpes pe hpe)
          (by intro k _ hk; exact hPs k (by simpa [pes, m] using hk)) hany
        simp only [K]
        exact this))
    (methsSteps c.steps ++ methsCols cols) (fun p hp => by simp [hp]) (fun _ => True) (fun _ _ _ _ _ _ _ _ _ => trivial)
    -- a column that faults on the kept value `w` is a member fault of the bank element `v`: a `w` of a base type cannot
    -- fault (`peQ_total`); a chain of type `none` has no `Select`, so `w` is `v` itself
    (by
      intro v w b0 e _ hQv hmv hel hg
      simp only [rowsG] at hg
      cases hrow : pesSem QC w pes with
      | ok row => rw [hrow] at hg; simp at hg
      | error e' =>
        rw [hrow] at hg; simp only [Except.error.injEq] at hg; subst hg
        obtain ⟨pre, pe, post, hsplit, _, hpf⟩ := pesSem_error QC w pes e' hrow
        have hpe : pe ∈ pes := by rw [hsplit]; simp
        simp only [pes, List.mem_map] at hpe
        obtain ⟨p, hp, rfl⟩ := hpe
        cases hct : chainTy none c.steps with
        | some t =>
          have hw := elemSem_typed QC c.steps v w t hwt hmv hel hct
          obtain ⟨u, hu⟩ := peQ_total QC t w "x" [] hw p.2 (by rw [← hct]; exact hwtc p hp)
          unfold peSem at hpf; rw [hu] at hpf; simp at hpf
        | none =>
          have hwv : w = v := by
            let σ : Env D := fun _ => some (.val v)
            have := (elem_correct QC σ false c.steps (.var "z") none v (some w) (by simp [evalE, σ]) (by simp) hwt hmv hel).2 w rfl
            exact (this.2.2.2 (by rw [stepConds_ty]; exact hct)).1
          subst hwv
          exact ((peQ_fault QC none w "x" [] (by simp) p.2 (by rw [← hct]; exact hwtc p hp) (hQv p hp) e' hpf).1).mono (hmsub p hp))
    "" s1 [] (by simp [s1, Env.declare])
    (by
      intro k hk
      have : cn k ≠ nm 0 := fun e => hsup.disj 0 k e.symm
      simp only [s1, Env.declare, this, if_false]; exact hσ k hk) trivial).error trivial hq
  refine ⟨f', ?_, hrel⟩
  show runEvent P QC.N σc QC.ev = _
  simp only [runEvent]
  rw [hbody]
  simp only [exec]
  rw [execs_append, hdecl]
  simp only []
  rw [hex]

end FaxVerif.Gen
