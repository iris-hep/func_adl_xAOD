/-
Gen — one element of a chain, both directions: what the emitted conditions and value expression do, given what the
query does to the element (`elem_sim`: dropped, kept, or a fault).

The fault half needs the chain to be `strictSteps`: the body of a `Select` is inlined into what follows it, so the
emitted code evaluates it only where a later `Where` condition or the consumer mentions the value (C++ is lazier than
the query's eager `Select`: `jets.Select(j → j.pt()).Count()` never calls `pt()`). A well-typed expression faults only
with a member fault of the object it is applied to (`peQ_fault`, `elemSem_fault`).
-/
import FaxVerif.Gen.ChainCorrect
namespace FaxVerif.Gen
open FaxVerif.Cpp FaxVerif.Linq
variable {D : Type}

theorem peQ_typed (QC : QCtx D) (curTy : Option Ty) (v : Val D) (x : String) (ρ : LEnv D)
    (hty : ∀ t, curTy = some t → HasTy v t) (pe : PE) (hwt : wtPE curTy pe = true) (hmt : MethTyped v (methsPE pe))
    (w : Val D) (h : denote QC ((x, v) :: ρ) (peQ x pe) = .ok w) : HasTy w (tyPE (curT curTy) pe) :=
  (pe_correct QC (fun _ => some (.val v)) (.var "z") curTy false v x ρ (by simp [evalE]) hty pe hwt hmt).2 w h

/-- `f` is the fault of a call, on the element `v`, of one of the methods `ms` (the methods the query
itself calls: on a bank of good objects and null links the only such fault is `nullDeref`) -/
def MethFault (v : Val D) (ms : List (String × Ty)) (f : Fault) : Prop := ∃ p ∈ ms, member v p.1 [] = .error f

theorem MethFault.mono {v : Val D} {ms ms' : List (String × Ty)} {f : Fault} (h : MethFault v ms f)
    (hsub : ∀ p ∈ ms, p ∈ ms') : MethFault v ms' f := by
  obtain ⟨p, hp, hf⟩ := h; exact ⟨p, hsub p hp, hf⟩

/-- the faults an element-level expression can raise: a member call on the element failed -/
def ElemFault (v : Val D) (f : Fault) : Prop := ∃ name, member v name [] = .error f

theorem MethFault.elemFault {v : Val D} {ms : List (String × Ty)} {f : Fault} (h : MethFault v ms f) : ElemFault v f := by
  obtain ⟨p, _, hf⟩ := h; exact ⟨p.1, hf⟩

theorem methTyped_null (ms : List (String × Ty)) : MethTyped (.null : Val D) ms := by
  intro p _ w hw; simp [member] at hw

theorem elemFault_null {f : Fault} (h : ElemFault (.null : Val D) f) : f = .nullDeref := by
  obtain ⟨_, h⟩ := h
  simp only [member, Except.error.injEq] at h; exact h.symm

/-- **the outcome of a well-typed expression**: a value of the static type, or a member fault of the element — the
latter only while the current value is the object itself (on numbers nothing can fault: int/int division is real
division, there is no modulo in the fragment). `ms`: any list containing the methods the expression calls. -/
theorem peQ_out (QC : QCtx D) (curTy : Option Ty) (v : Val D) (x : String) (ρ : LEnv D)
    (hty : ∀ t, curTy = some t → HasTy v t) (ms : List (String × Ty)) :
    ∀ (pe : PE), wtPE curTy pe = true → MethTyped v (methsPE pe) → (∀ p ∈ methsPE pe, p ∈ ms) →
      Out (fun f => MethFault v ms f ∧ curTy = none) (fun w => HasTy w (tyPE (curT curTy) pe))
        (denote QC ((x, v) :: ρ) (peQ x pe))
  | .int _, _, _, _ | .dbl _ _, _, _, _ | .bool _, _, _, _ => by simp [Out, peQ, denote, tyPE, HasTy]
  | .it, hwt, hmt, _ => ⟨peQ_typed QC curTy v x ρ hty .it hwt hmt, by simp [peQ, denote, LEnv.get]⟩
  | .meth name ty, hwt, hmt, hs => by
    refine ⟨peQ_typed QC curTy v x ρ hty _ hwt hmt, fun f h => ?_⟩
    simp only [peQ, denote, LEnv.get, if_true] at h
    simp only [wtPE, Option.isNone_iff_eq_none] at hwt
    exact ⟨⟨(name, ty), hs _ (by simp [methsPE]), h⟩, hwt⟩
  | .bin op a b, hwt, hmt, hs => by
    refine ⟨peQ_typed QC curTy v x ρ hty _ hwt hmt, ?_⟩
    simp only [wtPE, Bool.and_eq_true] at hwt
    obtain ⟨⟨⟨hwa, hwb⟩, hna⟩, hnb⟩ := hwt
    rw [peQ, denote_bin]
    exact ((peQ_out QC curTy v x ρ hty ms a hwa (methTyped_left hmt) fun p hp => hs p (List.mem_append_left _ hp)).strict2
      (peQ_out QC curTy v x ρ hty ms b hwb (methTyped_right hmt) fun p hp => hs p (List.mem_append_right _ hp))
      (Q := fun _ => True) fun wa wb ha hb => (pyArith_total QC.N op wa wb _ _ ha hb hna hnb).imp fun _ h => ⟨h, trivial⟩).2
  | .cmp op a b, hwt, hmt, hs => by
    refine ⟨peQ_typed QC curTy v x ρ hty _ hwt hmt, ?_⟩
    simp only [wtPE, Bool.and_eq_true] at hwt
    obtain ⟨⟨⟨hwa, hwb⟩, hna⟩, hnb⟩ := hwt
    rw [peQ, denote_cmp]
    exact ((peQ_out QC curTy v x ρ hty ms a hwa (methTyped_left hmt) fun p hp => hs p (List.mem_append_left _ hp)).strict2
      (peQ_out QC curTy v x ρ hty ms b hwb (methTyped_right hmt) fun p hp => hs p (List.mem_append_right _ hp))
      (Q := fun _ => True) fun wa wb ha hb => (cmp_total QC.N op wa wb _ _ ha hb hna hnb).imp fun _ h => ⟨h, trivial⟩).2
  | .neg a, hwt, hmt, hs => by
    refine ⟨peQ_typed QC curTy v x ρ hty _ hwt hmt, ?_⟩
    simp only [wtPE, Bool.and_eq_true] at hwt
    rw [peQ, denote_neg]
    exact ((peQ_out QC curTy v x ρ hty ms a hwt.1 hmt hs).strict1 (Q := fun _ => True) fun wa ha =>
      (neg_total QC.N wa _ ha hwt.2).imp fun _ h => ⟨h.1, trivial⟩).2
  | .not a, hwt, hmt, hs => by
    refine ⟨peQ_typed QC curTy v x ρ hty _ hwt hmt, ?_⟩
    simp only [wtPE, Bool.and_eq_true, beq_iff_eq] at hwt
    rw [peQ, denote_not]
    exact ((peQ_out QC curTy v x ρ hty ms a hwt.1 hmt hs).strict1 (Q := fun _ => True) fun wa ha =>
      (not_total QC.N wa (hwt.2 ▸ ha)).imp fun _ h => ⟨h.1, trivial⟩).2

theorem peQ_fault (QC : QCtx D) (curTy : Option Ty) (v : Val D) (x : String) (ρ : LEnv D)
    (hty : ∀ t, curTy = some t → HasTy v t) (pe : PE) (hwt : wtPE curTy pe = true) (hmt : MethTyped v (methsPE pe))
    (f : Fault) (h : denote QC ((x, v) :: ρ) (peQ x pe) = .error f) : MethFault v (methsPE pe) f ∧ curTy = none :=
  (peQ_out QC curTy v x ρ hty _ pe hwt hmt fun _ h => h).2 f h

theorem peQ_total (QC : QCtx D) (t : Ty) (v : Val D) (x : String) (ρ : LEnv D) (hv : HasTy v t)
    (pe : PE) (hwt : wtPE (some t) pe = true) : ∃ w, denote QC ((x, v) :: ρ) (peQ x pe) = .ok w := by
  cases h : denote QC ((x, v) :: ρ) (peQ x pe) with
  | ok w => exact ⟨w, rfl⟩
  | error f =>
    have := (peQ_fault QC (some t) v x ρ (fun t' ht => by cases ht; exact hv) pe hwt (methTyped_of_hasTy hv _) f h).2
    simp at this

/-- an element can only fault, going through the steps of a well-typed chain, with a member fault of
itself — and only before the first `Select` (after it the current value is a number) -/
theorem elemSem_fault (QC : QCtx D) : ∀ (steps : List Step) (curTy : Option Ty) (v : Val D) (f : Fault),
    (∀ t, curTy = some t → HasTy v t) → wtSteps curTy steps = true → MethTyped v (methsSteps steps) →
    elemSem QC steps v = .error f → MethFault v (methsSteps steps) f ∧ curTy = none
  | [], _, _, f, _, _, _, h => by simp [elemSem] at h
  | .sel g :: rest, curTy, v, f, hty, hwt, hm, h => by
    simp only [wtSteps, Bool.and_eq_true] at hwt
    simp only [elemSem] at h
    have hmg : MethTyped v (methsPE g) := fun p hp => hm p (by simp [methsSteps, hp])
    cases hd : peSem QC v g with
    | error e =>
      rw [hd] at h; simp only [Except.error.injEq] at h; subst h
      have ih := peQ_fault QC curTy v "x" [] hty g hwt.1 hmg e hd
      exact ⟨ih.1.mono (fun p hp => by simp [methsSteps, hp]), ih.2⟩
    | ok w =>
      rw [hd] at h; simp only [] at h
      have hw := peQ_typed QC curTy v "x" [] hty g hwt.1 hmg w hd
      have := (elemSem_fault QC rest (some (tyPE (curT curTy) g)) w f
        (fun t ht => by simp only [Option.some.injEq] at ht; subst ht; exact hw) hwt.2 (methTyped_of_hasTy hw _) h).2
      simp at this
  | .whr c :: rest, curTy, v, f, hty, hwt, hm, h => by
    simp only [wtSteps, Bool.and_eq_true, beq_iff_eq] at hwt
    simp only [elemSem] at h
    have hmc : MethTyped v (methsPE c) := fun p hp => hm p (by simp [methsSteps, hp])
    cases hd : peSem QC v c with
    | error e =>
      rw [hd] at h; simp only [Except.error.injEq] at h; subst h
      have ih := peQ_fault QC curTy v "x" [] hty c hwt.1.1 hmc e hd
      exact ⟨ih.1.mono (fun p hp => by simp [methsSteps, hp]), ih.2⟩
    | ok r =>
      rw [hd] at h; simp only [] at h
      have hr := peQ_typed QC curTy v "x" [] hty c hwt.1.1 hmc r hd
      obtain ⟨b, hb⟩ := hasTy_asBool QC.N hr
      rw [hb] at h
      cases b with
      | false => simp at h
      | true =>
        simp only [] at h
        have ih := elemSem_fault QC rest curTy v f hty hwt.2 (fun p hp => hm p (by simp [methsSteps, hp])) h
        exact ⟨ih.1.mono (fun p hp => by simp [methsSteps, hp]), ih.2⟩

def usesIt : PE → Bool
  | .it => true
  | .meth _ _ => true
  | .bin _ a b => usesIt a || usesIt b
  | .cmp _ a b => usesIt a || usesIt b
  | .neg a => usesIt a
  | .not a => usesIt a
  | _ => false

/-- after a `Select` whose body may fault: the emitted code is certain to evaluate the (inlined)
body — the next `Where` condition mentions the value, or every later `Select` passes it on and the
consumer evaluates it (`cons`) -/
def forcedSteps (cons : Bool) : List Step → Bool
  | [] => cons
  | .sel g :: rest => usesIt g && forcedSteps cons rest
  | .whr c :: _ => usesIt c

/-- the chain's first `Select` (the only one applied to objects, hence the only one whose body can
fault) is `forcedSteps`. `cons`: the consumer of the chain's value evaluates it for every kept element
(`Sum`, a vector column, the columns of element-level rows: yes; `Count`, `First`: no). -/
def strictSteps (cons : Bool) : List Step → Bool
  | [] => true
  | .whr _ :: rest => strictSteps cons rest
  | .sel _ :: rest => forcedSteps cons rest

-- a literal of type `t` to put for the current value: a sub-expression that does not mention it (`usesIt = false`) is
-- the same C++ whatever `cur` is (`compPE_closed`), so `pe_correct` AT THIS LITERAL shows that it evaluates, in a state
-- where `cur` itself faults (`compPE_closed_ok`)
def litCur : Ty → CExpr
  | .int => .int 0
  | .bool => .bool false
  | _ => .dbl "0" 0 0

def litVal (N : Num D) : Ty → Val D
  | .int => .int 0
  | .bool => .bool false
  | _ => .dbl (N.ofDec 0 0)

theorem litCur_eval (N : Num D) (σ : Env D) (t : Ty) : evalE N σ (litCur t) = .ok (litVal N t) := by
  cases t <;> simp [litCur, litVal, evalE]

theorem litVal_ty (N : Num D) (t : Ty) : HasTy (litVal N t) t := by
  cases t <;> simp [litVal, HasTy]

theorem compPE_closed (ptr : Bool) (cur cur' : CExpr) (t : Ty) :
    ∀ pe : PE, usesIt pe = false → compPE ptr cur t pe = compPE ptr cur' t pe
  | .int _, _ => rfl
  | .dbl _ _, _ => rfl
  | .bool _, _ => rfl
  | .it, h => by simp [usesIt] at h
  | .meth _ _, h => by simp [usesIt] at h
  | .bin op a b, h => by
    simp only [usesIt, Bool.or_eq_false_iff] at h
    simp only [compPE, compPE_closed ptr cur cur' t a h.1, compPE_closed ptr cur cur' t b h.2]
  | .cmp op a b, h => by
    simp only [usesIt, Bool.or_eq_false_iff] at h
    simp only [compPE, compPE_closed ptr cur cur' t a h.1, compPE_closed ptr cur cur' t b h.2]
  | .neg a, h => by
    simp only [usesIt] at h
    simp only [compPE, compPE_closed ptr cur cur' t a h]
  | .not a, h => by
    simp only [usesIt] at h
    simp only [compPE, compPE_closed ptr cur cur' t a h]

theorem compPE_closed_ok (QC : QCtx D) (σ : Env D) (ptr : Bool) (cur : CExpr) (t : Ty) (pe : PE)
    (hwt : wtPE (some t) pe = true) (hc : usesIt pe = false) :
    ∃ w, evalE QC.N σ (compPE ptr cur t pe) = .ok w ∧ HasTy w (tyPE t pe) := by
  rw [compPE_closed ptr cur (litCur t) t pe hc]
  have hpe := pe_correct QC σ (litCur t) (some t) ptr (litVal QC.N t) "x" [] (litCur_eval QC.N σ t)
    (fun t' ht => by simp only [Option.some.injEq] at ht; subst ht; exact litVal_ty QC.N t) pe hwt
    (methTyped_of_hasTy (litVal_ty QC.N t) _)
  obtain ⟨w, hw⟩ := peQ_total QC t (litVal QC.N t) "x" [] (litVal_ty QC.N t) pe hwt
  have h1 : evalE QC.N σ (compPE ptr (litCur t) t pe) = denote QC [("x", litVal QC.N t)] (peQ "x" pe) := hpe.1
  exact ⟨w, by rw [h1]; exact hw, hpe.2 w hw⟩

theorem compPE_bin_binV (ptr : Bool) (cur : CExpr) (t : Ty) (op : AOp) (a b : PE) :
    compPE ptr cur t (.bin op a b) = binV op (tyPE t a) (tyPE t b) (compPE ptr cur t a) (compPE ptr cur t b) := by
  simp only [compPE, binV]

/-- what is evaluated before the first mention of the current value is closed, hence cannot fault -/
theorem compPE_cur_error (QC : QCtx D) (σ : Env D) (ptr : Bool) (cur : CExpr) (t : Ty) (e : Fault)
    (hcur : evalE QC.N σ cur = .error e) :
    ∀ pe : PE, wtPE (some t) pe = true → usesIt pe = true → evalE QC.N σ (compPE ptr cur t pe) = .error e
  | .int _, _, h => by simp [usesIt] at h
  | .dbl _ _, _, h => by simp [usesIt] at h
  | .bool _, _, h => by simp [usesIt] at h
  | .it, _, _ => by simpa [compPE] using hcur
  | .meth _ _, hwt, _ => by simp [wtPE] at hwt
  | .bin op a b, hwt, h => by
    simp only [wtPE, Bool.and_eq_true] at hwt
    obtain ⟨⟨⟨hwa, hwb⟩, hna⟩, hnb⟩ := hwt
    rw [compPE_bin_binV]
    by_cases hua : usesIt a = true
    · exact binV_err_a _ _ _ _ _ _ _ _ (compPE_cur_error QC σ ptr cur t e hcur a hwa hua)
    · have hua' : usesIt a = false := by simpa using hua
      have hub : usesIt b = true := by simpa [usesIt, hua'] using h
      obtain ⟨wa, hwa1, hwa2⟩ := compPE_closed_ok QC σ ptr cur t a hwa hua'
      exact binV_err_b _ _ _ _ _ _ _ wa _ hwa2 hna hwa1 (compPE_cur_error QC σ ptr cur t e hcur b hwb hub)
  | .cmp op a b, hwt, h => by
    simp only [wtPE, Bool.and_eq_true] at hwt
    obtain ⟨⟨⟨hwa, hwb⟩, hna⟩, hnb⟩ := hwt
    simp only [compPE]
    rw [evalE_bin_arith _ _ _ (cop_not_logic op).1 (cop_not_logic op).2]
    by_cases hua : usesIt a = true
    · rw [compPE_cur_error QC σ ptr cur t e hcur a hwa hua]
    · have hua' : usesIt a = false := by simpa using hua
      have hub : usesIt b = true := by simpa [usesIt, hua'] using h
      obtain ⟨wa, hwa1, _⟩ := compPE_closed_ok QC σ ptr cur t a hwa hua'
      rw [hwa1, compPE_cur_error QC σ ptr cur t e hcur b hwb hub]
  | .neg a, hwt, h => by
    simp only [wtPE, Bool.and_eq_true] at hwt
    simp only [usesIt] at h
    simp only [compPE, evalE, compPE_cur_error QC σ ptr cur t e hcur a hwt.1 h]
  | .not a, hwt, h => by
    simp only [wtPE, Bool.and_eq_true] at hwt
    simp only [usesIt] at h
    simp only [compPE, evalE, compPE_cur_error QC σ ptr cur t e hcur a hwt.1 h]

theorem forced_fault (QC : QCtx D) (σ : Env D) (ptr : Bool) (cons : Bool) (e : Fault) :
    ∀ (steps : List Step) (cur : CExpr) (t : Ty), evalE QC.N σ cur = .error e →
      wtSteps (some t) steps = true → forcedSteps cons steps = true →
      condsF QC.N σ (stepConds ptr cur (some t) steps).1 = .error e ∨
      (cons = true ∧ condsF QC.N σ (stepConds ptr cur (some t) steps).1 = .ok true ∧
        evalE QC.N σ (stepConds ptr cur (some t) steps).2.1 = .error e ∧
        (stepConds ptr cur (some t) steps).2.2 ≠ none)
  | [], cur, t, hcur, _, hf =>
    Or.inr ⟨by simpa [forcedSteps] using hf, by simp [stepConds, condsF], by simpa [stepConds] using hcur,
      by simp [stepConds]⟩
  | .sel g :: rest, cur, t, hcur, hwt, hf => by
    simp only [wtSteps, Bool.and_eq_true] at hwt
    simp only [forcedSteps, Bool.and_eq_true] at hf
    simp only [stepConds]
    exact forced_fault QC σ ptr cons e rest _ (tyPE t g)
      (compPE_cur_error QC σ _ cur t e hcur g hwt.1 hf.1) hwt.2 hf.2
  | .whr c :: rest, cur, t, hcur, hwt, hf => by
    simp only [wtSteps, Bool.and_eq_true] at hwt
    simp only [forcedSteps] at hf
    left
    have hc := compPE_cur_error QC σ (ptr && (some t).isNone) cur t e hcur c hwt.1.1 hf
    simp only [stepConds, condsF, evalB, Option.getD_some, hc]

/-- what the emitted conditions `conds` and value expression `fin` (of static type `fty`) do, given what the query does to
the element: dropped — the conjunction is false; kept as `w` — it is true and `fin` evaluates to `w`; a fault — the
conjunction raises it, or (`cons`) it is true and `fin` raises it. -/
def ElemOut (N : Num D) (σ : Env D) (strict : Prop) (cons : Bool) (conds : List CExpr) (fin : CExpr) (fty curTy : Option Ty)
    (v : Val D) : Except Fault (Option (Val D)) → Prop
  | .ok none => condsF N σ conds = .ok false
  | .ok (some w) => condsF N σ conds = .ok true ∧ evalE N σ fin = .ok w ∧ (∀ t, fty = some t → HasTy w t) ∧
      (fty = none → w = v ∧ curTy = none)
  | .error f => strict → condsF N σ conds = .error f ∨
      (cons = true ∧ condsF N σ conds = .ok true ∧ evalE N σ fin = .error f ∧ fty ≠ none)

theorem elem_sim (C : QCtx D) (σ : Env D) (ptr : Bool) (cons : Bool) :
    ∀ (steps : List Step) (strict : Prop) (cur : CExpr) (curTy : Option Ty) (v : Val D),
      evalE C.N σ cur = .ok v → (∀ t, curTy = some t → HasTy v t) →
      wtSteps curTy steps = true → MethTyped v (methsSteps steps) → (strict → strictSteps cons steps = true) →
      ElemOut C.N σ strict cons (stepConds ptr cur curTy steps).1 (stepConds ptr cur curTy steps).2.1
        (stepConds ptr cur curTy steps).2.2 curTy v (elemSem C steps v)
  | [], _, cur, curTy, v, hcur, hty, _, _, _ => ⟨rfl, hcur, hty, fun h => ⟨rfl, h⟩⟩
  | .sel f :: rest, strict, cur, curTy, v, hcur, hty, hwt, hm, hst => by
    simp only [wtSteps, Bool.and_eq_true] at hwt
    have hpe := pe_correct C σ cur curTy (ptr && curTy.isNone) v "x" [] hcur hty f hwt.1
      (fun p hp => hm p (by simp [methsSteps, hp]))
    simp only [elemSem, peSem, stepConds]
    cases hd : denote C [("x", v)] (peQ "x" f) with
    | error e =>
      -- the inlined body faults: it is met where the value is first used
      exact fun hs => forced_fault C σ ptr cons e rest _ (tyPE (curT curTy) f) (hpe.1.trans hd) hwt.2
        (by simpa [strictSteps] using hst hs)
    | ok w' =>
      have hw'ty := hpe.2 w' hd
      have hw'T : ∀ t, some (tyPE (curT curTy) f) = some t → HasTy w' t := fun t ht => by
        simp only [Option.some.injEq] at ht; subst ht; exact hw'ty
      have ih := elem_sim C σ ptr cons rest False (compPE (ptr && curTy.isNone) cur (curT curTy) f) (some (tyPE (curT curTy) f)) w'
        (by rw [hpe.1]; exact hd) hw'T hwt.2 (methTyped_of_hasTy hw'ty _) False.elim
      simp only []
      cases ho : elemSem C rest w' with
      | error e =>
        -- after a `Select` the value is a number: nothing can fault
        have := (elemSem_fault C rest _ w' e hw'T hwt.2 (methTyped_of_hasTy hw'ty _) ho).2
        simp at this
      | ok o =>
        rw [ho] at ih
        cases o with
        | none => exact ih
        | some w =>
          obtain ⟨h1, h2, h3, h4⟩ := ih
          exact ⟨h1, h2, h3, fun hn => by have := (h4 hn).2; simp at this⟩
  | .whr c :: rest, strict, cur, curTy, v, hcur, hty, hwt, hm, hst => by
    simp only [wtSteps, Bool.and_eq_true, beq_iff_eq] at hwt
    have hpe := pe_correct C σ cur curTy (ptr && curTy.isNone) v "x" [] hcur hty c hwt.1.1
      (fun p hp => hm p (by simp [methsSteps, hp]))
    have ih := elem_sim C σ ptr cons rest strict cur curTy v hcur hty hwt.2 (fun p hp => hm p (by simp [methsSteps, hp]))
      (fun hs => by simpa [strictSteps] using hst hs)
    simp only [elemSem, peSem, stepConds]
    have hE : evalE C.N σ (compPE (ptr && curTy.isNone) cur (curTy.getD .double) c) = denote C [("x", v)] (peQ "x" c) := hpe.1
    cases hd : denote C [("x", v)] (peQ "x" c) with
    | error e =>
      rw [hd] at hE
      exact fun _ => Or.inl (by simp only [condsF, evalB, hE])
    | ok r =>
      rw [hd] at hE
      obtain ⟨b, hb⟩ := hasTy_asBool C.N (hpe.2 r hd)
      have hB := evalB_of _ _ _ _ _ hE hb
      simp only [hb]
      cases b with
      | false => show condsF _ _ _ = _; simp only [condsF, hB]
      | true =>
        -- a true condition drops out of the conjunction
        have hc : ∀ cs, condsF C.N σ (compPE (ptr && curTy.isNone) cur (curTy.getD .double) c :: cs) = condsF C.N σ cs :=
          fun cs => by simp only [condsF, hB]
        simp only []
        cases ho : elemSem C rest v with
        | error e => rw [ho] at ih; simpa only [ElemOut, hc] using ih
        | ok o => rw [ho] at ih; cases o <;> simpa only [ElemOut, hc] using ih

theorem elem_correct (C : QCtx D) (σ : Env D) (ptr : Bool)
    (steps : List Step) (cur : CExpr) (curTy : Option Ty) (v : Val D) (o : Option (Val D))
    (hcur : evalE C.N σ cur = .ok v) (hty : ∀ t, curTy = some t → HasTy v t)
    (hwt : wtSteps curTy steps = true) (hm : MethTyped v (methsSteps steps))
    (hs : elemSem C steps v = .ok o) :
    (o = none → condsF C.N σ (stepConds ptr cur curTy steps).1 = .ok false) ∧
    (∀ w, o = some w → condsF C.N σ (stepConds ptr cur curTy steps).1 = .ok true ∧
        evalE C.N σ (stepConds ptr cur curTy steps).2.1 = .ok w ∧
        (∀ t, (stepConds ptr cur curTy steps).2.2 = some t → HasTy w t) ∧
        ((stepConds ptr cur curTy steps).2.2 = none → w = v ∧ curTy = none)) := by
  have h := elem_sim C σ ptr false steps False cur curTy v hcur hty hwt hm False.elim
  rw [hs] at h
  cases o with
  | none => exact ⟨fun _ => h, nofun⟩
  | some w => exact ⟨nofun, fun w' hw => by cases hw; exact h⟩

end FaxVerif.Gen
