/-
Gen — the loop emitted for a chain, each level ONE statement for both directions. Below `Sim`: `guardBody_sim` (the
conditions' conjunction lowered, then `if`) and `chainBodyT_sim` (the body on one element, from `elem_sim`, concluding
`BodyOut`; stated for `chainBodyT`, the body for elements of an arbitrary declared kind `curTy`, which Gen/Nested.lean —
the model of the nested extension — defines, so that the loops over a collection-valued method of an element are
instances; `chainBody` of Gen/Lite.lean is `chainBodyT … none`, by `rfl`). At `Sim strict R P r q`: `iter_sim` (an
iteration whose every step simulates a step on a ghost state simulates the fold `foldG` of that step), `chainBody_sim`
(the body with its consumer is one step of `keptG sem g`: a dropped element is a no-op), `loop_sim`, `compChain_sim`
(retrieval + loop). The continuation `K` (what is done with each kept element) is characterised by an invariant `P` and a
step function `g` on the ghost state (`ConsumerSim`); with `strict := False` all of it is the success direction alone
(Gen/IsFold.lean states that as `IsFold`; of one pass of the body it is `BodyStep`); the fault direction is read off in
Gen/FaultCorrectChain.lean. In front, what every later file assumes of a backend record (`BackendBase`, `BackendOK`)
and of the token table (`TokChain`).
-/
import FaxVerif.Gen.Forced
import FaxVerif.Gen.Nested
namespace FaxVerif.Gen
open FaxVerif.Cpp FaxVerif.Linq
variable {D : Type}

/-- what the theorems assume of a backend record whatever its retrieval idiom (ATLAS, CMS AOD and
CMS miniAOD satisfy it): the variable holding a collection is not a `std::vector` and not of an
arithmetic type (its declaration neither creates an empty vector nor converts what is assigned),
and `result` is declared without initialiser or with `0`. -/
structure BackendBase (B : Backend) : Prop where
  handleNotVec : ∀ t, isVecType (B.handleTy t) = false
  handlePlain : ∀ t, B.handleTy t ≠ "double" ∧ B.handleTy t ≠ "float" ∧ B.handleTy t ≠ "int" ∧ B.handleTy t ≠ "bool"
  resultInit : B.resultInit = none ∨ B.resultInit = some (.int 0)

/-- a backend that retrieves by bank name (ATLAS, CMS AOD): `BackendBase` and not the token idiom.
Statements about code that is run WITHOUT a token table (an arbitrary `Ctx`, or a package whose
`tokens` list is empty) need this; the end-to-end theorems about `compile` hold under `BackendBase` alone
(their `_tok` / `*_miniaod_partial` forms), because `compile` emits the token table itself. -/
structure BackendOK (B : Backend) : Prop where
  notToken : B.how ≠ "token"
  handleNotVec : ∀ t, isVecType (B.handleTy t) = false
  handlePlain : ∀ t, B.handleTy t ≠ "double" ∧ B.handleTy t ≠ "float" ∧ B.handleTy t ≠ "int" ∧ B.handleTy t ≠ "bool"
  resultInit : B.resultInit = none ∨ B.resultInit = some (.int 0)

theorem BackendOK.base {B : Backend} (h : BackendOK B) : BackendBase B := ⟨h.handleNotVec, h.handlePlain, h.resultInit⟩

/-- **what a retrieval by token needs**: the token the chain compiled at supply position `n` uses
(`nm (n + 2)`) was initialised, in the run's token table, with the container type and the bank of
that chain. Vacuous for the backends that retrieve by bank name. `compile` emits exactly such a
table (`tokCols_eventRows` in Gen/TokenTable.lean, `tokChain_elemRows` in Gen/ElemRowsCorrect.lean). -/
def TokChain (B : Backend) (nm : Nat → String) (C : Ctx D) (c : Chain) (n : Nat) : Prop :=
  B.how = "token" → C.tokenBank (nm (n + 2)) = some ((B.collType c.coll).getD "?", c.bank)

theorem tokChain_of_notToken {B : Backend} (h : B.how ≠ "token") (nm : Nat → String) (C : Ctx D) (c : Chain) (n : Nat) :
    TokChain B nm C c n := fun e => absurd e h

/-- the table entry `TokChain` asks for, as `compile` emits it -/
def chainToks (B : Backend) (nm : Nat → String) (c : Chain) (n : Nat) : List (String × String × String) :=
  [(nm (n + 2), (B.collType c.coll).getD "?", c.bank)]

/-- the outcome `r` of emitted code simulates the query-side outcome `q`: where `q` is a value the code completes with
a result related to it by `P`; where `q` is a fault — and the code is certain to evaluate what faults (`strict`) — the
code raises a fault related to it by `R`. With `strict := False` this is the success direction alone. As in `ElemOut`
(Gen/Forced.lean), `strict` travels below with `cons : Bool` (the consumer evaluates the chain's value for every kept
element): `strict` is only ever assumed, `cons` is computed with (`forcedSteps`), hence a `Prop` beside a `Bool`. -/
def Sim {α β : Type} (strict : Prop) (R : Fault → Fault → Prop) (P : α → β → Prop) (r : Except Fault α) :
    Except Fault β → Prop
  | .ok b => ∃ a, r = .ok a ∧ P a b
  | .error f => strict → ∃ f', r = .error f' ∧ R f f'

namespace Sim
variable {α β : Type} {strict : Prop} {R : Fault → Fault → Prop} {P : α → β → Prop} {r : Except Fault α}
  {q : Except Fault β}

theorem of_cases (hok : ∀ b, q = .ok b → ∃ a, r = .ok a ∧ P a b)
    (herr : ∀ f, q = .error f → strict → ∃ f', r = .error f' ∧ R f f') : Sim strict R P r q := by
  cases q with
  | ok b => exact hok b rfl
  | error f => exact herr f rfl

theorem ok (h : Sim strict R P r q) {b : β} (hq : q = .ok b) : ∃ a, r = .ok a ∧ P a b := by
  subst hq; exact h

theorem error (h : Sim strict R P r q) (hs : strict) {f : Fault} (hq : q = .error f) : ∃ f', r = .error f' ∧ R f f' := by
  subst hq; exact h hs

theorem error_eq (h : Sim strict Eq P r q) (hs : strict) {f : Fault} (hq : q = .error f) : r = .error f := by
  obtain ⟨f', hr, rfl⟩ := h.error hs hq; exact hr

theorem mono {strict' : Prop} {R' : Fault → Fault → Prop} {P' : α → β → Prop} (h : Sim strict R P r q)
    (hs : strict' → strict) (hR : ∀ f f', q = .error f → R f f' → R' f f') (hP : ∀ a b, q = .ok b → P a b → P' a b) :
    Sim strict' R' P' r q := by
  cases q with
  | ok b => obtain ⟨a, ha, hp⟩ := h; exact ⟨a, ha, hP a b rfl hp⟩
  | error f => intro hs'; obtain ⟨f', hr, hf⟩ := h (hs hs'); exact ⟨f', hr, hR f f' rfl hf⟩

end Sim

/-- the query side of every loop statement: a fold in `Except` over a ghost state `β` (an accumulator, the rows so far,
the state of `First`), which the first fault ends -/
def foldG {β : Type} (g : β → Val D → Except Fault β) : List (Val D) → β → Except Fault β
  | [], b => .ok b
  | w :: ws, b => match g b w with
    | .error e => .error e
    | .ok b' => foldG g ws b'

theorem foldE_eq_foldG (f : Val D → Val D → Except Fault (Val D)) : ∀ (l : List (Val D)) (a : Val D),
    foldE f l a = foldG f l a
  | [], a => rfl
  | v :: vs, a => by
    simp only [foldE, foldG]
    cases f a v with
    | error e => rfl
    | ok a' => exact foldE_eq_foldG f vs a'

theorem foldG_append {β : Type} (g : β → Val D → Except Fault β) : ∀ (l₁ l₂ : List (Val D)) (b : β),
    foldG g (l₁ ++ l₂) b = (match foldG g l₁ b with
      | .error e => .error e
      | .ok b' => foldG g l₂ b')
  | [], l₂, b => by simp [foldG]
  | w :: ws, l₂, b => by
    simp only [List.cons_append, foldG]
    cases g b w with
    | error e => rfl
    | ok b' => simp only []; exact foldG_append g ws l₂ b'

theorem foldG_push : ∀ (ws l0 : List (Val D)),
    foldG (fun (a : List (Val D)) w => (.ok (a ++ [w]) : Except Fault _)) ws l0 = .ok (l0 ++ ws)
  | [], l0 => by simp [foldG]
  | w :: ws, l0 => by simp [foldG, foldG_push ws (l0 ++ [w])]

/-- a fold `g` over the kept elements as a fold over the whole collection: a dropped element leaves the state as it is -/
def keptG {β : Type} (sem : Val D → Except Fault (Option (Val D))) (g : β → Val D → Except Fault β) (b : β) (v : Val D) :
    Except Fault β :=
  match sem v with
  | .error e => .error e
  | .ok none => .ok b
  | .ok (some w) => g b w

theorem foldG_keptG {β : Type} (sem : Val D → Except Fault (Option (Val D))) (g : β → Val D → Except Fault β) :
    ∀ (l ws : List (Val D)) (b : β), optsE sem l = .ok ws → foldG (keptG sem g) l b = foldG g ws b
  | [], ws, b, he => by
    simp only [optsE, Except.ok.injEq] at he; subst he; rfl
  | v :: vs, ws, b, he => by
    obtain ⟨o, rs, ho, hrs, rfl⟩ := optsE_cons_ok.1 he
    cases o with
    | none =>
      simp only [foldG, keptG, ho, Option.toList, List.nil_append]
      exact foldG_keptG sem g vs rs b hrs
    | some u =>
      simp only [foldG, keptG, ho, Option.toList, List.cons_append, List.nil_append]
      cases g b u with
      | error e => rfl
      | ok b' => exact foldG_keptG sem g vs rs b' hrs

-- `chainBodyT` with the conditions and the continuation's statements as arguments (`chainBodyT_eq_guard`, by `rfl`).
-- `andLower` takes the conditions last first, hence `conds.reverse`; the statements below speak of `condsF` over the
-- written order and cross by `condsF_eq_condsR`.
def guardBody (nm : Nat → String) (conds : List CExpr) (n : Nat) (K : List Stmt) : List Stmt × Nat :=
  match conds with
  | [] => (K, n)
  | conds =>
    let cf := andLower nm conds.reverse n
    (cf.decls ++ cf.stmts ++ [.ite cf.val K []], cf.next)

theorem guardBody_next_ge (nm : Nat → String) (conds : List CExpr) (n : Nat) (K : List Stmt) :
    n ≤ (guardBody nm conds n K).2 := by
  cases conds with
  | nil => exact Nat.le_refl n
  | cons c cs => exact andLower_next_ge nm _ n

theorem guardBody_next_indep (nm : Nat → String) (conds : List CExpr) (n : Nat) (K K' : List Stmt) :
    (guardBody nm conds n K).2 = (guardBody nm conds n K').2 := by
  cases conds <;> rfl

theorem execs_guard (C : Ctx D) (pre : List Stmt) (c : CExpr) (K : List Stmt) (s : St D) (σ' : Env D) (v : Val D)
    (b : Bool) (hrun : execs C pre s = .ok ⟨σ', s.rows⟩) (hc : evalE C.N σ' c = .ok v) (hb : asBool C.N v = some b) :
    execs C (pre ++ [.ite c K []]) s = if b then execs C K ⟨σ', s.rows⟩ else .ok ⟨σ', s.rows⟩ := by
  rw [execs_append, hrun]
  simp only [execs, exec_ite_of C ⟨σ', s.rows⟩ c K [] v b hc hb]
  cases b
  · rfl
  · simp only [if_true]; cases execs C K ⟨σ', s.rows⟩ <;> rfl

theorem exec_ite_evalB_error (C : Ctx D) (s : St D) (c : CExpr) (t e : List Stmt) (f : Fault)
    (h : evalB C.N s.env c = .error f) : exec C (.ite c t e) s = .error f := by
  unfold evalB at h
  simp only [exec]
  cases hc : evalE C.N s.env c with
  | error f' => rw [hc] at h; simpa using h
  | ok v =>
    rw [hc] at h; simp only [] at h ⊢
    cases hb : asBool C.N v with
    | none => rw [hb] at h; simp only [Except.error.injEq] at h; subst h; rfl
    | some b => rw [hb] at h; simp at h

/-- **the guard, both directions** — the lowered conjunction, then `if`: a fault of the conjunction is raised; otherwise
the guard completes in a state `s1` that differs in fresh names only, and runs `K` there iff the conjunction is true. -/
theorem guardBody_sim (C : Ctx D) (nm : Nat → String) (hinj : ∀ i j, nm i = nm j → i = j)
    (conds : List CExpr) (n : Nat) (K : List Stmt) (s : St D)
    (hfresh : ∀ c ∈ conds, OutOfReach (InRange nm) n c) :
    match condsF C.N s.env conds with
    | .error f => execs C (guardBody nm conds n K).1 s = .error f
    | .ok b => ∃ s1 : St D, s1.rows = s.rows ∧ (∀ y, ¬ InRange nm n (guardBody nm conds n K).2 y → s1.env y = s.env y) ∧
        execs C (guardBody nm conds n K).1 s = if b then execs C K s1 else .ok s1 := by
  cases conds with
  | nil => exact ⟨s, rfl, fun _ _ => rfl, rfl⟩
  | cons c0 cs =>
    rw [condsF_eq_condsR]
    rcases andLower_sim C nm hinj (c0 :: cs).reverse n s.env s.rows
      (fun c hc => hfresh c (List.mem_reverse.1 hc)) with ⟨f, hex, hr⟩ | ⟨σ', hex, hval, hfr⟩
    · rw [hr]
      show execs C (_ ++ [Stmt.ite _ K []]) s = _
      rw [execs_append, hex]
    · cases hr : condsR C.N s.env (c0 :: cs).reverse with
      | error f =>
        show execs C (_ ++ [Stmt.ite _ K []]) s = _
        rw [execs_append, hex]
        simp only [execs, exec_ite_evalB_error C ⟨σ', s.rows⟩ _ K [] f (hval.trans hr)]
      | ok b =>
        obtain ⟨vb, hvb, hbb⟩ := evalB_ok _ _ _ _ (hval.trans hr)
        exact ⟨⟨σ', s.rows⟩, rfl, hfr, execs_guard C _ _ K s σ' vb b hex hvb hbb⟩

theorem guardBody_correct (C : Ctx D) (nm : Nat → String) (hinj : ∀ i j, nm i = nm j → i = j)
    (conds : List CExpr) (n : Nat) (K : List Stmt) (s : St D) (b : Bool)
    (hfresh : ∀ c ∈ conds, OutOfReach (InRange nm) n c) (hb : condsF C.N s.env conds = .ok b) :
    ∃ s1 : St D, s1.rows = s.rows ∧ (∀ y, ¬ InRange nm n (guardBody nm conds n K).2 y → s1.env y = s.env y) ∧
      execs C (guardBody nm conds n K).1 s = if b then execs C K s1 else .ok s1 := by
  have h := guardBody_sim C nm hinj conds n K s hfresh
  rwa [hb] at h

theorem chainBodyT_eq_guard (nm : Nat → String) (ptr : Bool) (it : CExpr) (curTy : Option Ty) (steps : List Step) (n : Nat)
    (K : CExpr → Option Ty → List Stmt) :
    chainBodyT nm ptr it curTy steps n K = guardBody nm (stepConds ptr it curTy steps).1 n
      (K (stepConds ptr it curTy steps).2.1 (stepConds ptr it curTy steps).2.2) := rfl

theorem chainBodyT_next_ge (nm : Nat → String) (ptr : Bool) (it : CExpr) (curTy : Option Ty) (steps : List Step) (n : Nat)
    (K : CExpr → Option Ty → List Stmt) : n ≤ (chainBodyT nm ptr it curTy steps n K).2 :=
  guardBody_next_ge nm _ n _

theorem chainBodyT_next_indep (nm : Nat → String) (ptr : Bool) (it : CExpr) (curTy : Option Ty) (steps : List Step) (n : Nat)
    (K K' : CExpr → Option Ty → List Stmt) :
    (chainBodyT nm ptr it curTy steps n K).2 = (chainBodyT nm ptr it curTy steps n K').2 :=
  guardBody_next_indep nm _ n _ _

/-- what one pass of a loop body does with an element whose meaning is `o`: dropped (`none`) — only the frame
changes; kept with value `w` — the frame changes, then `Kc` runs in a state where `cur` evaluates to `w` -/
def BodyStep (C : Ctx D) (body Kc : List Stmt) (frame : String → Prop) (cur : CExpr) (Qw : Val D → Prop)
    (o : Option (Val D)) (t : St D) : Prop :=
  ∃ t1 : St D, t1.rows = t.rows ∧ (∀ y, ¬ frame y → t1.env y = t.env y) ∧
    (o = none → execs C body t = .ok t1) ∧
    (∀ w, o = some w → execs C body t = execs C Kc t1 ∧ evalE C.N t1.env cur = .ok w ∧ Qw w)

theorem BodyStep.mono {C : Ctx D} {body Kc : List Stmt} {frame frame' : String → Prop} {cur : CExpr}
    {Qw Qw' : Val D → Prop} {o : Option (Val D)} {t : St D} (h : BodyStep C body Kc frame cur Qw o t)
    (hf : ∀ y, frame y → frame' y) (hQ : ∀ w, Qw w → Qw' w) : BodyStep C body Kc frame' cur Qw' o t :=
  let ⟨t1, hr, hfr, hnone, hsome⟩ := h
  ⟨t1, hr, fun y hy => hfr y fun hy' => hy (hf y hy'), hnone,
    fun w hw => ⟨(hsome w hw).1, (hsome w hw).2.1, hQ w (hsome w hw).2.2⟩⟩

/-- what the loop body does on an element, given what the query does to it (the `ElemOut` of the statements): a
`BodyStep` where the query succeeds, and the fault raised where it faults -/
def BodyOut (C : Ctx D) (nm : Nat → String) (n n' : Nat) (strict : Prop) (cons : Bool) (body ks : List Stmt) (fin : CExpr)
    (fty : Option Ty) (s : St D) (v : Val D) : Except Fault (Option (Val D)) → Prop
  | .ok o => BodyStep C body ks (InRange nm n n') fin (fun w => (∀ t, fty = some t → HasTy w t) ∧ (fty = none → w = v)) o s
  | .error f => strict → execs C body s = .error f ∨ (cons = true ∧ fty ≠ none ∧
      ∃ s1 : St D, s1.rows = s.rows ∧ (∀ y, ¬ InRange nm n n' y → s1.env y = s.env y) ∧
        execs C body s = execs C ks s1 ∧ evalE C.N s1.env fin = .error f)

theorem chainBodyT_sim (C : Ctx D) (QC : QCtx D) (hN : QC.N = C.N) (nm : Nat → String)
    (hinj : ∀ i j, nm i = nm j → i = j) (ptr : Bool) (i : String) (curTy : Option Ty) (steps : List Step) (n : Nat)
    (hi : ∀ j, n ≤ j → i ≠ nm j) (K : CExpr → Option Ty → List Stmt) (strict : Prop) (cons : Bool)
    (s : St D) (v : Val D)
    (hiv : s.env i = some (.val v)) (hty : ∀ t, curTy = some t → HasTy v t) (hwt : wtSteps curTy steps = true)
    (hm : MethTyped v (methsSteps steps)) (hst : strict → strictSteps cons steps = true) :
    BodyOut C nm n (chainBodyT nm ptr (.var i) curTy steps n K).2 strict cons (chainBodyT nm ptr (.var i) curTy steps n K).1
      (K (stepConds ptr (.var i) curTy steps).2.1 (stepConds ptr (.var i) curTy steps).2.2)
      (stepConds ptr (.var i) curTy steps).2.1 (stepConds ptr (.var i) curTy steps).2.2 s v (elemSem QC steps v) := by
  have hel := elem_sim QC s.env ptr cons steps strict (.var i) curTy v (by simp [evalE, hiv]) hty hwt hm hst
  have hvars := stepConds_vars ptr steps (.var i) curTy
  have hfr : OutOfReach (InRange nm) n (.var i) := .var hi
  have hg := guardBody_sim C nm hinj (stepConds ptr (.var i) curTy steps).1 n
    (K (stepConds ptr (.var i) curTy steps).2.1 (stepConds ptr (.var i) curTy steps).2.2) s
    (fun c hc => hfr.vars_sub (hvars.1 c hc))
  -- the value expression mentions the loop variable only: the guard's fresh names do not disturb it
  have hcur : ∀ s1 : St D, (∀ y, ¬ InRange nm n (chainBodyT nm ptr (.var i) curTy steps n K).2 y → s1.env y = s.env y) →
      evalE C.N s1.env (stepConds ptr (.var i) curTy steps).2.1 = evalE QC.N s.env (stepConds ptr (.var i) curTy steps).2.1 :=
    fun s1 h => by
      rw [(hfr.vars_sub hvars.2).evalE (Nat.le_refl _) C.N h, hN]
  rw [chainBodyT_eq_guard]
  rw [← hN] at hg
  cases ho : elemSem QC steps v with
  | error f =>
    rw [ho] at hel
    intro hs
    rcases hel hs with h1 | ⟨hc, h2, h3, h4⟩
    · rw [h1] at hg; exact Or.inl hg
    · rw [h2] at hg
      obtain ⟨s1, hr1, hfr1, hex⟩ := hg
      exact Or.inr ⟨hc, h4, s1, hr1, hfr1, hex, (hcur s1 hfr1).trans h3⟩
  | ok o =>
    rw [ho] at hel
    cases o with
    | none =>
      rw [show condsF QC.N s.env _ = .ok false from hel] at hg
      obtain ⟨s1, hr1, hfr1, hex⟩ := hg
      exact ⟨s1, hr1, hfr1, fun _ => hex, nofun⟩
    | some w =>
      obtain ⟨h1, h2, h3, h4⟩ := hel
      rw [h1] at hg
      obtain ⟨s1, hr1, hfr1, hex⟩ := hg
      exact ⟨s1, hr1, hfr1, nofun, fun w' hw => by
        cases hw; exact ⟨hex, (hcur s1 hfr1).trans h2, h3, fun h => (h4 h).1⟩⟩

theorem chainBodyT_correct (C : Ctx D) (QC : QCtx D) (hN : QC.N = C.N) (nm : Nat → String)
    (hinj : ∀ i j, nm i = nm j → i = j) (ptr : Bool) (i : String) (curTy : Option Ty) (steps : List Step) (n : Nat)
    (hi : ∀ j, n ≤ j → i ≠ nm j) (K : CExpr → Option Ty → List Stmt)
    (s : St D) (v : Val D) (o : Option (Val D))
    (hiv : s.env i = some (.val v)) (hty : ∀ t, curTy = some t → HasTy v t) (hwt : wtSteps curTy steps = true)
    (hm : MethTyped v (methsSteps steps)) (hs : elemSem QC steps v = .ok o) :
    let r := stepConds ptr (.var i) curTy steps
    BodyStep C (chainBodyT nm ptr (.var i) curTy steps n K).1 (K r.2.1 r.2.2)
      (InRange nm n (chainBodyT nm ptr (.var i) curTy steps n K).2) r.2.1
      (fun w => (∀ t, r.2.2 = some t → HasTy w t) ∧ (r.2.2 = none → w = v)) o s := by
  have h := chainBodyT_sim C QC hN nm hinj ptr i curTy steps n hi K False false s v hiv hty hwt hm False.elim
  rw [hs] at h
  exact h

/-- **iteration, both directions** — `iter` is a fold in `Except`; if every step of it simulates the step `h` on the ghost
state, the iteration simulates the fold of `h` -/
theorem iter_sim {β : Type} (strict : Prop) (f : St D → Val D → Except Fault (St D)) (h : β → Val D → Except Fault β)
    (P : St D → β → Prop) : ∀ (l : List (Val D)) (s : St D) (b : β),
      (∀ v ∈ l, ∀ s b, P s b → Sim strict Eq P (f s v) (h b v)) → P s b → Sim strict Eq P (iter f l s) (foldG h l b)
  | [], s, b, _, hP => ⟨s, rfl, hP⟩
  | v :: vs, s, b, hstep, hP => by
    have h1 := hstep v (by simp) s b hP
    simp only [foldG, iter]
    cases hq : h b v with
    | error e =>
      rw [hq] at h1
      intro hs
      obtain ⟨f', hr, rfl⟩ := h1 hs
      exact ⟨e, by rw [hr], rfl⟩
    | ok b1 =>
      rw [hq] at h1
      obtain ⟨s1, hf, hP1⟩ := h1
      rw [hf]
      exact iter_sim strict f h P vs s1 b1 (fun u hu => hstep u (by simp [hu])) hP1

theorem chainBody_next_ge (nm : Nat → String) (ptr : Bool) (it : CExpr) (steps : List Step) (n : Nat)
    (K : CExpr → Option Ty → List Stmt) : n ≤ (chainBody nm ptr it steps n K).2 :=
  chainBodyT_next_ge nm ptr it none steps n K

theorem chainBody_correct (C : Ctx D) (QC : QCtx D) (hN : QC.N = C.N) (nm : Nat → String)
    (hinj : ∀ i j, nm i = nm j → i = j) (ptr : Bool) (i : String) (steps : List Step) (n : Nat)
    (hi : ∀ j, n ≤ j → i ≠ nm j) (K : CExpr → Option Ty → List Stmt)
    (s : St D) (v : Val D) (o : Option (Val D))
    (hiv : s.env i = some (.val v)) (hwt : wtSteps none steps = true)
    (hm : MethTyped v (methsSteps steps)) (hs : elemSem QC steps v = .ok o) :
    let r := stepConds ptr (.var i) none steps
    BodyStep C (chainBody nm ptr (.var i) steps n K).1 (K r.2.1 r.2.2)
      (InRange nm n (chainBody nm ptr (.var i) steps n K).2) r.2.1
      (fun w => (∀ t, r.2.2 = some t → HasTy w t) ∧ (r.2.2 = none → w = v)) o s :=
  chainBodyT_correct C QC hN nm hinj ptr i none steps n hi K s v o hiv nofun hwt hm hs

/-- the statements `ks` implement the consumer `g` of a chain whose value expression is `cur` of static type `ty`
under the invariant `P`: where `cur` has a value `w` (typed if the chain has a `Select`, the element itself with what is
known of it, `Q`, otherwise) they simulate the step of `g`; where `cur` itself faults and the consumer evaluates it
(`cons`), they raise its fault. `strict := False` asks for the success half only: the third premise of `IsFold`
(Gen/IsFold.lean). -/
structure ConsumerSim {β : Type} (C : Ctx D) (cur : CExpr) (ty : Option Ty) (ks : List Stmt) (strict : Prop) (cons : Bool)
    (P : St D → β → Prop) (g : β → Val D → Except Fault β) (Q : Val D → Prop) : Prop where
  step : ∀ (s : St D) b w, P s b → evalE C.N s.env cur = .ok w →
    (∀ t, ty = some t → HasTy w t) → (ty = none → Q w) → Sim strict Eq P (execs C ks s) (g b w)
  forced : strict → cons = true → ty ≠ none → ∀ (s : St D) b e, P s b → evalE C.N s.env cur = .error e →
    execs C ks s = .error e

theorem ConsumerSim.of_step {β : Type} {C : Ctx D} {cur : CExpr} {ty : Option Ty} {ks : List Stmt}
    {P : St D → β → Prop} {g : β → Val D → Except Fault β} {Q : Val D → Prop}
    (hK : ∀ (s : St D) b b' w, P s b → g b w = .ok b' → evalE C.N s.env cur = .ok w →
      (∀ t, ty = some t → HasTy w t) ∧ (ty = none → Q w) → ∃ s', execs C ks s = .ok s' ∧ P s' b') :
    ConsumerSim C cur ty ks False false P g Q :=
  ⟨fun s b w hP hev hty hobj => Sim.of_cases (fun b' hg => hK s b b' w hP hg hev ⟨hty, hobj⟩) (fun _ _ => False.elim),
   False.elim⟩

/-- a consumer given by its three parts: a step of `g` that succeeds is performed, one that faults raises its fault, and
— when the consumer evaluates the value (`cons`) — a fault of `cur` itself is raised -/
theorem ConsumerSim.of_parts {β : Type} {C : Ctx D} {cur : CExpr} {ty : Option Ty} {ks : List Stmt} {cons : Bool}
    {P : St D → β → Prop} {g : β → Val D → Except Fault β} {Q : Val D → Prop}
    (step : ∀ (s : St D) b b' w, P s b → g b w = .ok b' → evalE C.N s.env cur = .ok w →
      (∀ t, ty = some t → HasTy w t) → (ty = none → Q w) → ∃ s', execs C ks s = .ok s' ∧ P s' b')
    (fault : ∀ (s : St D) b e w, P s b → g b w = .error e → evalE C.N s.env cur = .ok w →
      (∀ t, ty = some t → HasTy w t) → (ty = none → Q w) → execs C ks s = .error e)
    (forced : cons = true → ty ≠ none → ∀ (s : St D) b e, P s b → evalE C.N s.env cur = .error e →
      execs C ks s = .error e) : ConsumerSim C cur ty ks True cons P g Q :=
  ⟨fun s b w hP hev hty hobj => Sim.of_cases (fun b' hg => step s b b' w hP hg hev hty hobj)
      (fun e hg _ => ⟨e, fault s b e w hP hg hev hty hobj, rfl⟩),
   fun _ => forced⟩

/-- the invariant `P` survives any change of variables inside `frame` that keeps the rows: what a consumer owes for the
loop's own names -/
def FrameStable {β : Type} (frame : String → Prop) (P : St D → β → Prop) : Prop :=
  ∀ (s s' : St D) b, P s b → s'.rows = s.rows → (∀ y, ¬ frame y → s'.env y = s.env y) → P s' b

theorem FrameStable.mono {β : Type} {frame frame' : String → Prop} {P : St D → β → Prop} (h : FrameStable frame' P)
    (hf : ∀ y, frame y → frame' y) : FrameStable frame P :=
  fun s s' b hP hr hfr => h s s' b hP hr fun y hy => hfr y fun hy' => hy (hf y hy')

theorem chainBody_sim {β : Type} (C : Ctx D) (QC : QCtx D) (hN : QC.N = C.N) (nm : Nat → String)
    (hinj : ∀ i j, nm i = nm j → i = j) (ptr : Bool) (i : String) (steps : List Step) (n : Nat)
    (hi : ∀ j, n ≤ j → i ≠ nm j) (K : CExpr → Option Ty → List Stmt) (strict : Prop) (cons : Bool)
    (hwt : wtSteps none steps = true) (hst : strict → strictSteps cons steps = true)
    (P : St D → β → Prop) (g : β → Val D → Except Fault β) (Q : Val D → Prop)
    (hstable : FrameStable (fun y => y = i ∨ InRange nm n (chainBody nm ptr (.var i) steps n K).2 y) P)
    (hK : ConsumerSim C (stepConds ptr (.var i) none steps).2.1 (stepConds ptr (.var i) none steps).2.2
      (K (stepConds ptr (.var i) none steps).2.1 (stepConds ptr (.var i) none steps).2.2) strict cons P g Q)
    (s : St D) (b : β) (v : Val D) (hiv : s.env i = some (.val v)) (hm : MethTyped v (methsSteps steps)) (hQ : Q v)
    (hP : P s b) :
    Sim strict Eq P (execs C (chainBody nm ptr (.var i) steps n K).1 s) (keptG (elemSem QC steps) g b v) := by
  have h := chainBodyT_sim C QC hN nm hinj ptr i none steps n hi K strict cons s v hiv nofun hwt hm hst
  have hP1 : ∀ s1 : St D, s1.rows = s.rows →
      (∀ y, ¬ InRange nm n (chainBodyT nm ptr (.var i) none steps n K).2 y → s1.env y = s.env y) → P s1 b :=
    fun s1 hr hfr => hstable s s1 b hP hr (fun y hy => hfr y fun h => hy (Or.inr h))
  unfold keptG
  cases ho : elemSem QC steps v with
  | error f =>
    rw [ho] at h
    intro hs
    rcases h hs with h1 | ⟨hc, hn, s1, hr1, hfr1, hex, hev⟩
    · exact ⟨f, h1, rfl⟩
    · exact ⟨f, hex.trans (hK.forced hs hc hn s1 b f (hP1 s1 hr1 hfr1) hev), rfl⟩
  | ok o =>
    rw [ho] at h
    obtain ⟨s1, hr1, hfr1, hnone, hsome⟩ := h
    cases o with
    | none => exact ⟨s1, hnone rfl, hP1 s1 hr1 hfr1⟩
    | some w =>
      obtain ⟨hex, hev, hty, hobj⟩ := hsome w rfl
      show Sim strict Eq P (execs C (chainBodyT nm ptr (.var i) none steps n K).1 s) (g b w)
      rw [hex]
      exact hK.step s1 b w (hP1 s1 hr1 hfr1) hev hty (fun hn => hobj hn ▸ hQ)

/-- **the loop, both directions** — iterating the emitted body simulates the interleaved evaluation "each element through
the steps and, if kept, into the consumer". -/
theorem loop_sim {β : Type} (C : Ctx D) (QC : QCtx D) (hN : QC.N = C.N) (nm : Nat → String)
    (hinj : ∀ i j, nm i = nm j → i = j) (ptr : Bool) (i : String) (steps : List Step) (n : Nat)
    (hi : ∀ j, n ≤ j → i ≠ nm j) (K : CExpr → Option Ty → List Stmt) (strict : Prop) (cons : Bool)
    (hwt : wtSteps none steps = true) (hst : strict → strictSteps cons steps = true)
    (P : St D → β → Prop) (g : β → Val D → Except Fault β) (Q : Val D → Prop)
    (hstable : FrameStable (fun y => y = i ∨ InRange nm n (chainBody nm ptr (.var i) steps n K).2 y) P)
    (hK : ConsumerSim C (stepConds ptr (.var i) none steps).2.1 (stepConds ptr (.var i) none steps).2.2
      (K (stepConds ptr (.var i) none steps).2.1 (stepConds ptr (.var i) none steps).2.2) strict cons P g Q)
    (l : List (Val D)) (s : St D) (b : β)
    (hmt : ∀ v ∈ l, MethTyped v (methsSteps steps)) (hQ : ∀ v ∈ l, Q v) (hP : P s b) :
    Sim strict Eq P (iter (fun s v => execs C (chainBody nm ptr (.var i) steps n K).1 { s with env := s.env.set i v }) l s)
      (foldG (keptG (elemSem QC steps) g) l b) :=
  iter_sim strict _ _ P l s b (fun v hv s b hP =>
    chainBody_sim C QC hN nm hinj ptr i steps n hi K strict cons hwt hst P g Q hstable hK _ b v (by simp [Env.set])
      (hmt v hv) (hQ v hv) (hstable s _ b hP rfl (fun y hy => by
        have : y ≠ i := fun e => hy (Or.inl e)
        simp [Env.set, this]))) hP

theorem castTo_plain (N : Num D) (ty : String) (v : Val D)
    (h : ty ≠ "double" ∧ ty ≠ "float" ∧ ty ≠ "int" ∧ ty ≠ "bool") : castTo N ty v = .ok v := by
  simp [castTo, h.1, h.2.1, h.2.2.1, h.2.2.2]

/-- the retrieval block `{ T result[ = init]; <retrieve into result>; x = result; }` for a declared handle variable `x`:
afterwards `x` holds the bank's list, and nothing but `x` and `result` has changed -/
theorem retrieveBlock_correct (C : Ctx D) (B : Backend) (hB : BackendBase B) (coll bank x tok cty : String) (l : List (Val D))
    (htok : B.how = "token" → C.tokenBank tok = some ((B.collType coll).getD "?", bank))
    (hcoll : B.collType coll = some cty) (hfind : C.ev.find bank = some (cty, .vec l))
    (s : St D) (hxr : x ≠ "result") (hx : (s.env x).isSome = true) :
    ∃ σ2 : Env D, exec C (.block [.decl (B.handleTy cty) "result" B.resultInit,
        .retrieve B.how cty "result" (if B.how = "token" then .opaque "" else .str bank) (if B.how = "token" then tok else ""),
        .set x (.var "result")]) s = .ok ⟨σ2, s.rows⟩ ∧
      σ2 x = some (.val (.vec l)) ∧ ∀ y, y ≠ "result" → y ≠ x → σ2 y = s.env y := by
  refine ⟨((match B.resultInit with
      | none => s.env.declare "result"
      | some _ => s.env.set "result" (.int 0)).set "result" (.vec l)).set x (.vec l), ?_, by simp [Env.set], fun y h1 h2 => ?_⟩
  · have hreq : ∀ σ : Env D, retrReq C σ B.how cty (if B.how = "token" then .opaque "" else .str bank)
        (if B.how = "token" then tok else "") = .ok (.vec l) := by
      intro σ
      by_cases ht : B.how = "token"
      · have := htok ht
        rw [hcoll] at this
        simp [retrReq, ht, this, hfind]
      · simp [retrReq, ht, evalE, hfind]
    obtain ⟨sx, hsx⟩ := Option.isSome_iff_exists.1 hx
    rcases hB.resultInit with hi | hi
    · simp only [exec, execs, hi, hB.handleNotVec]
      simp [Env.declare, Env.set, hreq, evalE, hxr, hsx]
    · simp only [exec, execs, hi, evalE, castTo_plain C.N _ _ (hB.handlePlain cty)]
      simp [Env.set, hreq, hxr, hsx]
  · simp only [Env.set, h2, if_false, h1]
    cases B.resultInit <;> simp [Env.declare, Env.set, h1]

/-- the final value and element type the continuation of `compChain … c n` receives. `compChain … n` takes `nm n` for
the handle, `nm (n + 1)` for the loop variable (hence the `n + 1` here), `nm (n + 2)` for the token (`TokChain`), and
lays the body out from `n + 3` (`compChain_next`) -/
def chainVal (B : Backend) (nm : Nat → String) (c : Chain) (n : Nat) : CExpr × Option Ty :=
  (stepConds B.elemPtr (.var (nm (n + 1))) none c.steps).2

theorem compChain_next (B : Backend) (nm : Nat → String) (c : Chain) (n : Nat) (K : CExpr → Option Ty → List Stmt) :
    n + 3 ≤ (compChain B nm c n K).next := by
  simp only [compChain]
  exact chainBody_next_ge nm B.elemPtr _ c.steps (n + 3) K

-- The OUTER chain of a vector column (`wtOuter`, `condNext`, `outerNext`, `outerIt` of Gen/Nested.lean): a chain that keeps
-- objects, over whose kept elements an inner chain or aggregate runs. Used from Gen/PushColsCorrect.lean on.
theorem condNext_ge (nm : Nat → String) (ptr : Bool) (it : CExpr) (steps : List Step) (n : Nat) :
    n ≤ condNext nm ptr it steps n := chainBody_next_ge nm ptr it steps n _

theorem outerNext_ge (B : Backend) (nm : Nat → String) (c : Chain) (n : Nat) : n + 3 ≤ outerNext B nm c n :=
  condNext_ge nm B.elemPtr _ c.steps (n + 3)

/-- the value the outer chain hands to its continuation is the loop variable itself, an object -/
theorem wtOuter_ty {c : Chain} (h : wtOuter c = true) (ptr : Bool) (cur : CExpr) :
    (stepConds ptr cur none c.steps).2.2 = none := by
  simp only [wtOuter, Bool.and_eq_true, Option.isNone_iff_eq_none] at h
  rw [stepConds_ty]; exact h.2

theorem wtOuter_steps {c : Chain} (h : wtOuter c = true) : wtSteps none c.steps = true := by
  simp only [wtOuter, Bool.and_eq_true] at h; exact h.1

theorem outerCur_vars (B : Backend) (nm : Nat → String) (c : Chain) (n : Nat) :
    ∀ x ∈ vars (chainVal B nm c n).1, x = nm (n + 1) := by
  intro x hx
  have := (stepConds_vars B.elemPtr c.steps (outerIt nm n) none).2 x hx
  simpa [outerIt, vars] using this

/-- **retrieval + loop, both directions**, the bank present (`hfind`); what a missing bank does is added at `chain_sim`,
Gen/FaultCorrectChain.lean -/
theorem compChain_sim {β : Type} (C : Ctx D) (QC : QCtx D) (hN : QC.N = C.N)
    (B : Backend) (hB : BackendBase B) (nm : Nat → String)
    (hinj : ∀ i j, nm i = nm j → i = j) (hres : ∀ j, nm j ≠ "result")
    (c : Chain) (n : Nat) (htok : TokChain B nm C c n) (K : CExpr → Option Ty → List Stmt) (strict : Prop) (cons : Bool)
    (cty : String) (l : List (Val D))
    (hcoll : B.collType c.coll = some cty) (hfind : C.ev.find c.bank = some (cty, .vec l))
    (hwt : wtSteps none c.steps = true) (hst : strict → strictSteps cons c.steps = true)
    (hmt : ∀ v ∈ l, MethTyped v (methsSteps c.steps))
    (P : St D → β → Prop) (g : β → Val D → Except Fault β) (Q : Val D → Prop) (hQ : ∀ v ∈ l, Q v)
    (hstable : FrameStable (Touch nm n (compChain B nm c n K).next) P)
    (hK : ConsumerSim C (chainVal B nm c n).1 (chainVal B nm c n).2
      (K (chainVal B nm c n).1 (chainVal B nm c n).2) strict cons P g Q)
    (s : St D) (b : β) (hx : (s.env (nm n)).isSome = true) (hP : P s b) :
    Sim strict Eq P (execs C (compChain B nm c n K).stmts s) (foldG (keptG (elemSem QC c.steps) g) l b) := by
  have hnext := compChain_next B nm c n K
  have hnext' : (compChain B nm c n K).next = (chainBody nm B.elemPtr (.var (nm (n + 1))) c.steps (n + 3) K).2 := rfl
  obtain ⟨σ2, hblock, hσx, hσfr⟩ := retrieveBlock_correct C B hB c.coll c.bank (nm n) (nm (n + 2)) cty l htok hcoll hfind s
    (hres n) hx
  have hσ2 : ∀ y, ¬ Touch nm n (compChain B nm c n K).next y → σ2 y = s.env y :=
    fun y hy => hσfr y (fun e => hy (Or.inr e)) (fun e => hy (Or.inl ⟨n, Nat.le_refl n, by omega, e⟩))
  have hcoll' : evalE C.N σ2 (.deref (.var (nm n))) = .ok (.vec l) := by simp [evalE, hσx]
  have hi : ∀ j, n + 3 ≤ j → nm (n + 1) ≠ nm j := fun j hj e => by have := hinj _ _ e; omega
  have hrun : execs C (compChain B nm c n K).stmts s =
      iter (fun s v => execs C (chainBody nm B.elemPtr (.var (nm (n + 1))) c.steps (n + 3) K).1
        { s with env := s.env.set (nm (n + 1)) v }) l ⟨σ2, s.rows⟩ := by
    simp only [compChain, hcoll, Option.getD_some, execs]
    rw [hblock]
    simp only [exec, hcoll']
    cases iter _ l _ <;> rfl
  rw [hrun]
  exact loop_sim C QC hN nm hinj B.elemPtr (nm (n + 1)) c.steps (n + 3) hi K strict cons hwt hst P g Q
    (hstable.mono fun y hy => hy.elim (fun e => Or.inl ⟨n + 1, by omega, by omega, e⟩)
      fun ⟨j, hj1, hj2, hj3⟩ => Or.inl ⟨j, by omega, hnext' ▸ hj2, hj3⟩)
    hK l ⟨σ2, s.rows⟩ b hmt hQ (hstable s ⟨σ2, s.rows⟩ b hP rfl hσ2)

end FaxVerif.Gen
