/-
Gen — the FAULT direction of the translator model: where the query faults, the emitted code faults.
Here: the query side of one chain. The emitted loop evaluates "each element through the steps, then — if kept — into
the consumer" (`foldG (keptG …)`, which `compChain_sim` shows the code to simulate exactly). That is defined iff the
query's list-at-a-time meaning is (`foldG_keptG_ok`, `elemsSem_chainList`), but the REPORTED fault may differ: the query
meets the faults step by step over the whole list, the loop element by element. Either way it is a fault some element
meets (`ListFault`): going through the steps alone on the query side (`chainList_error_elem`), in the steps or in the
consumer for the loop (`keptG_listFault`).
-/
import FaxVerif.Gen.LoopCorrect
import FaxVerif.Gen.Forced
import FaxVerif.Gen.QueryLemmas
namespace FaxVerif.Gen
open FaxVerif.Cpp FaxVerif.Linq
variable {D : Type}

/-- the converse of `foldG_keptG`: where the interleaved evaluation "each element through `sem`, then — if kept — into
the consumer `g`" (what the emitted loop does) is defined, so is "all elements through `sem`, then the fold of `g`" -/
theorem foldG_keptG_ok {β : Type} (sem : Val D → Except Fault (Option (Val D))) (g : β → Val D → Except Fault β) :
    ∀ (l : List (Val D)) (b b' : β), foldG (keptG sem g) l b = .ok b' →
      ∃ ws, optsE sem l = .ok ws ∧ foldG g ws b = .ok b'
  | [], b, b', h => by
    simp only [foldG, Except.ok.injEq] at h; subst h
    exact ⟨[], rfl, rfl⟩
  | v :: vs, b, b', h => by
    simp only [foldG, keptG] at h
    cases ho : sem v with
    | error e => rw [ho] at h; cases h
    | ok o =>
      rw [ho] at h
      cases o with
      | none =>
        obtain ⟨ws, h1, h2⟩ := foldG_keptG_ok sem g vs b b' h
        exact ⟨ws, by simp [optsE, ho, h1], h2⟩
      | some w =>
        simp only [] at h
        cases hg : g b w with
        | error e => rw [hg] at h; cases h
        | ok b1 =>
          rw [hg] at h
          obtain ⟨ws, h1, h2⟩ := foldG_keptG_ok sem g vs b1 b' h
          exact ⟨w :: ws, by simp [optsE, ho, h1], by simp [foldG, hg, h2]⟩

def ListFault (l : List (Val D)) (ms : List (String × Ty)) (f : Fault) : Prop := ∃ v ∈ l, MethFault v ms f

theorem ListFault.mono {l : List (Val D)} {ms ms' : List (String × Ty)} {f : Fault} (h : ListFault l ms f)
    (hsub : ∀ p ∈ ms, p ∈ ms') : ListFault l ms' f := by
  obtain ⟨u, hu, hf⟩ := h; exact ⟨u, hu, hf.mono hsub⟩

theorem foldG_error {β : Type} (g : β → Val D → Except Fault β) (I : β → Prop) :
    ∀ (ws : List (Val D)) (b : β) (f : Fault), (∀ w ∈ ws, ∀ b b', I b → g b w = .ok b' → I b') →
      foldG g ws b = .error f → I b → ∃ w ∈ ws, ∃ b0, I b0 ∧ g b0 w = .error f
  | [], b, f, _, h, _ => by simp [foldG] at h
  | w :: ws, b, f, hI, h, hb => by
    simp only [foldG] at h
    cases hgw : g b w with
    | error e => rw [hgw] at h; exact ⟨w, by simp, b, hb, hgw.trans h⟩
    | ok b' =>
      rw [hgw] at h
      obtain ⟨u, hu, hf⟩ := foldG_error g I ws b' f (fun u hu => hI u (by simp [hu])) h (hI w (by simp) b b' hb hgw)
      exact ⟨u, by simp [hu], hf⟩

/-- a fault of the interleaved evaluation is a member fault of some element: met in the steps, or in the consumer
(`I`: what is known of the ghost state along the fold, e.g. the typing of an accumulator) -/
theorem keptG_listFault {β : Type} (QC : QCtx D) (steps : List Step) (g : β → Val D → Except Fault β)
    (hwt : wtSteps none steps = true) (ms : List (String × Ty)) (hms : ∀ p ∈ methsSteps steps, p ∈ ms)
    (l : List (Val D)) (b : β) (e : Fault) (hmt : ∀ v ∈ l, MethTyped v (methsSteps steps)) (I : β → Prop)
    (hI : ∀ v ∈ l, ∀ w b b', elemSem QC steps v = .ok (some w) → I b → g b w = .ok b' → I b')
    (hg : ∀ v ∈ l, ∀ w b0 e, I b0 → elemSem QC steps v = .ok (some w) → g b0 w = .error e → MethFault v ms e)
    (h : foldG (keptG (elemSem QC steps) g) l b = .error e) (hb : I b) : ListFault l ms e := by
  obtain ⟨v, hv, b0, hb0, hf⟩ := foldG_error _ I l b e (fun v hv b b' hb h => by
    unfold keptG at h
    cases ho : elemSem QC steps v with
    | error e => rw [ho] at h; cases h
    | ok o =>
      rw [ho] at h
      cases o with
      | none => cases h; exact hb
      | some w => exact hI v hv w b b' ho hb h) h hb
  refine ⟨v, hv, ?_⟩
  unfold keptG at hf
  cases ho : elemSem QC steps v with
  | error e' =>
    rw [ho] at hf; cases hf
    exact (elemSem_fault QC steps none v e (by simp) hwt (hmt v hv) ho).1.mono hms
  | ok o =>
    rw [ho] at hf
    cases o with
    | none => cases hf
    | some w => exact hg v hv w b0 e hb0 ho hf

theorem chainList_error_elem (QC : QCtx D) : ∀ (steps : List Step) (l : List (Val D)) (f : Fault),
    chainList QC steps l = .error f → ∃ v ∈ l, elemSem QC steps v = .error f
  | [], _, f, h => by simp [chainList] at h
  | .sel g :: rest, l, f, h => by
    simp only [chainList] at h
    cases hd : mapE (fun v => peSem QC v g) l with
    | error e =>
      rw [hd] at h; simp only [Except.error.injEq] at h; subst h
      obtain ⟨v, hv, hf⟩ := mapE_error _ l e hd
      exact ⟨v, hv, by simp only [elemSem, hf]⟩
    | ok l1 =>
      rw [hd] at h
      obtain ⟨w, hw, hf⟩ := chainList_error_elem QC rest l1 f h
      obtain ⟨v, hv, hvw⟩ := mapE_ok_mem _ l l1 hd w hw
      exact ⟨v, hv, by simp only [elemSem, hvw, hf]⟩
  | .whr c :: rest, l, f, h => by
    simp only [chainList] at h
    cases hd : filterE QC.N (fun v => peSem QC v c) l with
    | error e =>
      rw [hd] at h; simp only [Except.error.injEq] at h; subst h
      obtain ⟨v, hv, hf | ⟨r, hr, hb, rfl⟩⟩ := filterE_error QC.N _ l e hd
      · exact ⟨v, hv, by simp only [elemSem, hf]⟩
      · exact ⟨v, hv, by simp only [elemSem, hr, hb]⟩
    | ok l1 =>
      rw [hd] at h
      obtain ⟨w, hw, hf⟩ := chainList_error_elem QC rest l1 f h
      obtain ⟨hwl, r, hr, hb⟩ := filterE_ok_mem QC.N _ l l1 hd w hw
      exact ⟨w, hwl, by simp only [elemSem, hr, hb, hf]⟩

theorem elemsSem_ok_elem (QC : QCtx D) (steps : List Step) : ∀ (l ws : List (Val D)),
    elemsSem QC steps l = .ok ws → ∀ v ∈ l, ∃ o, elemSem QC steps v = .ok o
  | [], _, _, v, hv => by simp at hv
  | u :: us, ws, h, v, hv => by
    obtain ⟨o, rs, ho, hr, _⟩ := elemsSem_cons_ok.1 h
    rcases List.mem_cons.1 hv with rfl | hv
    · exact ⟨o, ho⟩
    · exact elemsSem_ok_elem QC steps us rs hr v hv

/-- the converse of `chainList_elems` -/
theorem elemsSem_chainList (QC : QCtx D) (steps : List Step) (l ws : List (Val D))
    (h : elemsSem QC steps l = .ok ws) : chainList QC steps l = .ok ws := by
  cases hc : chainList QC steps l with
  | ok r => rw [chainList_elems QC steps l r hc] at h; exact h
  | error f =>
    obtain ⟨v, hv, hf⟩ := chainList_error_elem QC steps l f hc
    obtain ⟨o, ho⟩ := elemsSem_ok_elem QC steps l ws h v hv
    rw [ho] at hf; cases hf

end FaxVerif.Gen
