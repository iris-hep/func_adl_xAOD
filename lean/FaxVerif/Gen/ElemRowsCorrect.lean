/-
Gen — end-to-end correctness of per-element rows:
    ds.SelectMany(e -> coll(bank).{Select|Where}*).Select(r -> {name: column, …})
The package is proved once (`rowPackageF_correct_post`), for any chain fragment whose statements are a fold (`IsFold`) of
the row continuation over the elements the query's chain denotes (`rowsQ`: the rows the query denotes, element by element),
and any continuation that writes one row per element (`RowSpecT`). `rowPackageT_correct_post` is the instance for
`compChainN`, the chain whose continuation is told the kind of the element and where to draw names (`KN`);
`rowPackage_correct_post` the one for a chain that hands on the object itself. `compChainN`, with `outerIt`, `outerNext`,
`wtOuter`, is defined in Gen/Nested.lean, the model of the nested extension, and `setsOf` in Gen/Lazy.lean: the core is
stated for them so that the extensions are instances.

One row: the branch assignments (`setsOf_correct`), then declarations, the columns' code, assignments and fill
(`rowOfCols_correct`, which the lazy rows use as it is). Where the columns are expression fragments laid out one after the
other (`fragsRow`), their `FragShape` and `FragSpec` give the continuation's `RowSpecT` (`RowSpecT.of_frags`) and with it
the package (`fragRows_correct_post`): the nested and the deep element rows.

The fragment's own columns are pure expressions over the element (`pesSem`), assigned by `setCols` with no code of their
own (`setCols_correct`): `elemRows_correct_post`.
-/
import FaxVerif.Gen.IsFold
import FaxVerif.Gen.QueryLemmas
import FaxVerif.Gen.Toks
import FaxVerif.Gen.Booking
namespace FaxVerif.Gen
open FaxVerif.Cpp FaxVerif.Linq
variable {D : Type}

def rowsQ (QC : QCtx D) (x : String) (qs : List Query) : List (Val D) → Except Fault (List (List (Val D)))
  | [] => .ok []
  | w :: ws => match denotes QC [(x, w)] qs with
    | .error e => .error e
    | .ok row => match rowsQ QC x qs ws with
      | .error e => .error e
      | .ok rs => .ok (row :: rs)

theorem rowsQ_cons_ok {QC : QCtx D} {x : String} {qs : List Query} {w : Val D} {ws : List (Val D)} {rows : List (List (Val D))} :
    rowsQ QC x qs (w :: ws) = .ok rows ↔
      ∃ row rs, denotes QC [(x, w)] qs = .ok row ∧ rowsQ QC x qs ws = .ok rs ∧ rows = row :: rs := by
  simp only [rowsQ]
  cases denotes QC [(x, w)] qs <;> cases rowsQ QC x qs ws <;> simp [eq_comm]

theorem mapE_rowsQ (QC : QCtx D) (x : String) (names : List String) (qs : List Query) (hlen : names.length = qs.length) :
    ∀ (ws r : List (Val D)),
      mapE (fun v => denote QC [(x, v)] (.dict names qs)) ws = .ok r → rowsQ QC x qs ws = .ok (r.map rowOf)
  | [], r, h => by simp only [mapE, Except.ok.injEq] at h; subst h; rfl
  | w :: ws, r, h => by
    obtain ⟨u, r', h1, h2, rfl⟩ := mapE_cons_ok.1 h
    rw [dictQ_denote] at h1
    cases hd : denotes QC [(x, w)] qs with
    | error e => rw [hd] at h1; simp at h1
    | ok vs =>
      rw [hd] at h1; simp only [Except.ok.injEq] at h1; subst h1
      have hl := denotes_length QC _ qs vs hd
      simp only [rowsQ, hd, mapE_rowsQ QC x names qs hlen ws r' h2, List.map_cons, rowOf, tupleVal]
      rw [List.map_snd_zip (by omega)]

theorem selectManyRows_denote (QC : QCtx D) (cq : Query) (x : String) (names : List String) (qs : List Query)
    (hlen : names.length = qs.length) (rows : List (List (Val D)))
    (h : denoteRows QC (.select (.selectMany .ds "e" cq) x (.dict names qs)) = .ok rows) :
    ∃ ws, denote QC [("e", evtVal)] cq = .ok (.vec ws) ∧ rowsQ QC x qs ws = .ok rows := by
  simp only [denoteRows] at h
  rw [denote_select, denote_selectMany_ds] at h
  cases hc : denote QC [("e", evtVal)] cq with
  | error e => rw [hc] at h; simp at h
  | ok cv =>
    rw [hc] at h
    cases cv with
    | vec ws =>
      simp only [List.append_nil] at h
      refine ⟨ws, rfl, ?_⟩
      cases hm : mapE (fun v => denote QC [(x, v)] (.dict names qs)) ws with
      | error e => rw [hm] at h; simp at h
      | ok r =>
        rw [hm] at h
        simp only [Except.ok.injEq] at h; subst h
        exact mapE_rowsQ QC x names qs hlen ws r hm
    | _ => simp at h

theorem foldG_rowsQ (QC : QCtx D) (x : String) (qs : List Query) : ∀ (ws : List (Val D)) (acc rows : List (List (Val D))),
    rowsQ QC x qs ws = .ok rows →
    foldG (fun (a : List (List (Val D))) w => match denotes QC [(x, w)] qs with
      | .ok row => .ok (a ++ [row])
      | .error e => .error e) ws acc = .ok (acc ++ rows)
  | [], acc, rows, h => by simp only [rowsQ, Except.ok.injEq] at h; subst h; simp [foldG]
  | w :: ws, acc, rows, h => by
    obtain ⟨row, rs, h1, h2, rfl⟩ := rowsQ_cons_ok.1 h
    simp only [foldG, h1]
    rw [foldG_rowsQ QC x qs ws (acc ++ [row]) rs h2]
    simp

/-- the package whose event body is the declarations and statements of ONE chain fragment `f` -/
def rowPackageF (B : Backend) (names : List String) (f : Frag) (bank : String) (cvs : List (String × String)) : Package :=
  let toks := banksOf B f.stmts [bank]
  { body := .block (f.decls ++ f.stmts),
    classVars := toks.map (fun t => ("edm::EDGetTokenT<" ++ t.2.1 ++ ">", t.1)) ++ cvs,
    branches := names.zip (cvs.map (·.2)),
    tree := B.treeName,
    tokens := toks }

def rowPackage (B : Backend) (nm : Nat → String) (names : List String) (c : Chain) (k : KN)
    (cvs : List (String × String)) : Package :=
  rowPackageF B names (compChainN B nm c 0 k) c.bank cvs

theorem rowPackageF_books (B : Backend) (names : List String) (f : Frag) (bank : String) {cvs : List (String × String)}
    {cn : Nat → String} (hcv : cvs.map (·.2) = colNames cn names.length 0) :
    Books (rowPackageF B names f bank cvs) cn names (cvs.map (·.1)) :=
  .of_cvs cvs rfl rfl hcv rfl

theorem tokChain_of_tokens (B : Backend) (nm : Nat → String) (c : Chain) (n : Nat) (K : CExpr → Option Ty → List Stmt)
    (C : Ctx D) (hK : C.tokens = banksOf B (compChain B nm c n K).stmts [c.bank]) : TokChain B nm C c n :=
  (Toks.chain B nm c n K).ok_of_nodup (by simp [chainToks]) C hK

theorem rowPackageF_tokens_names (B : Backend) (nm : Nat → String) (names : List String) (f : Frag) (c : Chain) (n : Nat)
    (K : CExpr → Option Ty → List Stmt) (hf : f.stmts = (compChain B nm c n K).stmts) (cvs : List (String × String)) :
    ∀ t ∈ (rowPackageF B names f c.bank cvs).tokens, ∃ j, t.1 = nm j := by
  show ∀ t ∈ banksOf B f.stmts [c.bank], _
  rw [hf]; exact (Toks.chain B nm c n K).tokens_names

/-- what the outer loop needs of the row continuation `k` over `m` column variables, the chain handing it values
of kind `ty` (`none`: the object itself, which then satisfies `Q`): from ANY state in which `cur` evaluates to the
chain's value `v` for an element and the column variables are declared, exactly one row — `f v` — is appended; the
column variables stay declared -/
def RowSpecT (C : Ctx D) (nm cn : Nat → String) (m : Nat) (k : KN) (ty : Option Ty)
    (f : Val D → Except Fault (List (Val D))) (Q : Val D → Prop) : Prop :=
  C.cols = colNames cn m 0 → ∀ (cur : CExpr) (n : Nat) (s : St D) (v : Val D) (row : List (Val D)),
    (∀ y ∈ vars cur, (∀ j, n ≤ j → y ≠ nm j) ∧ ∀ k, y ≠ cn k) → evalE C.N s.env cur = .ok v →
    (∀ t, ty = some t → HasTy v t) → (ty = none → Q v) → f v = .ok row →
    (∀ k, k < m → (s.env (cn k)).isSome = true) →
    ∃ s', execs C (k cur ty n).1 s = .ok s' ∧ s'.rows = s.rows ++ [row] ∧ ∀ k, k < m → (s'.env (cn k)).isSome = true

/-- **element-level rows** `ds.SelectMany(e → cq).Select(r → {names: qs})` over ANY chain fragment `f` (its one
declaration: the handle `nm 0`) whose statements are a fold of the row continuation over the elements `cq` denotes,
and ANY row continuation `k` with a `RowSpecT`. -/
theorem rowPackageF_correct_post (B : Backend) (nm cn : Nat → String) (hcres : ∀ k, cn k ≠ "result")
    (hdisj : ∀ j k, nm j ≠ cn k) (QC : QCtx D) (names : List String) (f : Frag) (bank : String) (k : KN)
    (cvs : List (String × String)) (qs : List Query) (cq : Query)
    (hlen : names.length = qs.length) (hcv : cvs.map (·.2) = colNames cn qs.length 0)
    (hty : String) (hnv : isVecType hty = false) (hdecls : f.decls = [.decl hty (nm 0) none])
    (cur : CExpr) (ty : Option Ty) (m : Nat) (Q : Val D → Prop)
    (hcur : ∀ y ∈ vars cur, (∀ j, m ≤ j → y ≠ nm j) ∧ ∀ k, y ≠ cn k)
    (hloop : ∀ ws, denote QC [("e", evtVal)] cq = .ok (.vec ws) → ∀ s : St D, (s.env (nm 0)).isSome = true →
      ∃ hi, IsFold ((rowPackageF B names f bank cvs).ctx QC.N QC.ev) f.stmts (Touch nm 0 hi) (fun _ => True)
        (k cur ty m).1 cur (fun w => (∀ t, ty = some t → HasTy w t) ∧ (ty = none → Q w)) ws s)
    (hspec : RowSpecT ((rowPackageF B names f bank cvs).ctx QC.N QC.ev) nm cn qs.length k ty
      (fun w => denotes QC [("r", w)] qs) Q)
    (σc : Env D) (hσ : ∀ k, k < qs.length → (σc (cn k)).isSome = true) (rows : List (List (Val D)))
    (hden : denoteRows QC (.select (.selectMany .ds "e" cq) "r" (.dict names qs)) = .ok rows) :
    ∃ σ', runEvent (rowPackageF B names f bank cvs) QC.N σc QC.ev = .ok (rows, σ') ∧
      ∀ k, k < qs.length → (σ' (cn k)).isSome = true := by
  obtain ⟨ws, hchain, hrows⟩ := selectManyRows_denote QC cq "r" _ _ hlen rows hden
  let P := rowPackageF B names f bank cvs
  let C := P.ctx QC.N QC.ev
  have hCcols : C.cols = colNames cn qs.length 0 := by
    rw [← hlen] at hcv ⊢; exact (rowPackageF_books B names f bank hcv).cols _ _
  let s1 : St D := ⟨σc.declare (nm 0), []⟩
  have hdecl : execs C f.decls ⟨σc, []⟩ = .ok s1 := by
    rw [hdecls]; simp [execs, exec, hnv, s1]
  obtain ⟨hi, hfold⟩ := hloop ws hchain s1 (by simp [s1, Env.declare])
  obtain ⟨s', hex, hP'⟩ := hfold
    (fun s (acc : List (List (Val D))) => s.rows = acc ∧ ∀ k, k < qs.length → (s.env (cn k)).isSome = true)
    (fun a w => match denotes QC [("r", w)] qs with
      | .ok row => .ok (a ++ [row])
      | .error e => .error e)
    (fun _ _ _ => trivial)
    (fun s t acc hPs hr hfr => ⟨by rw [hr]; exact hPs.1, fun k hk => by
      rw [hfr (cn k) (not_touch_of_ne (fun j e => hdisj j k e.symm) (hcres k) _ _)]; exact hPs.2 k hk⟩)
    (fun s acc acc' w hPs hg hev hq => by
      cases hrow : denotes QC [("r", w)] qs with
      | error e => rw [hrow] at hg; simp at hg
      | ok row =>
        rw [hrow] at hg; simp only [Except.ok.injEq] at hg; subst hg
        obtain ⟨s2, hex2, hrows2, hdecl2⟩ := hspec hCcols cur m s w row hcur hev hq.1 hq.2 hrow hPs.2
        exact ⟨s2, hex2, by rw [hrows2, hPs.1], hdecl2⟩)
    [] ([] ++ rows) (foldG_rowsQ QC "r" qs ws [] rows hrows)
    ⟨rfl, fun k hk => by
      have : cn k ≠ nm 0 := fun e => hdisj 0 k e.symm
      simp only [s1, Env.declare, this, if_false]; exact hσ k hk⟩
  have hexec : exec C P.body ⟨σc, []⟩ = .ok s' := by
    show exec C (.block (f.decls ++ f.stmts)) _ = _
    simp only [exec]
    rw [execs_append, hdecl]; exact hex
  refine ⟨_, by rw [runEvent_of_exec hexec, hP'.1]; rfl, fun k hk => ?_⟩
  rw [keepClass_of_mem ((rowPackageF_books B names f bank (hlen ▸ hcv)).mem_classNames (hlen ▸ hk))]
  exact hP'.2 k hk

theorem rowPackageT_correct_post (B : Backend) (hB : BackendBase B) (nm cn : Nat → String)
    (hinj : ∀ i j, nm i = nm j → i = j) (hres : ∀ j, nm j ≠ "result") (hcres : ∀ k, cn k ≠ "result")
    (hdisj : ∀ j k, nm j ≠ cn k) (QC : QCtx D) (hcollT : ∀ name, B.collType name = QC.collType name)
    (names : List String) (c : Chain) (k : KN) (cvs : List (String × String)) (qs : List Query)
    (hlen : names.length = qs.length) (hcv : cvs.map (·.2) = colNames cn qs.length 0)
    (hwt : wtSteps none c.steps = true) (Q : Val D → Prop)
    (hmt : ∀ cty l, QC.ev.find c.bank = some (cty, .vec l) → ∀ v ∈ l, MethTyped v (methsSteps c.steps) ∧ Q v)
    (hspec : RowSpecT ((rowPackage B nm names c k cvs).ctx QC.N QC.ev) nm cn qs.length k (chainTy none c.steps)
      (fun w => denotes QC [("r", w)] qs) Q)
    (σc : Env D) (hσ : ∀ k, k < qs.length → (σc (cn k)).isSome = true) (rows : List (List (Val D)))
    (hden : denoteRows QC (.select (.selectMany .ds "e" (chainQ "e" c)) "r" (.dict names qs)) = .ok rows) :
    ∃ σ', runEvent (rowPackage B nm names c k cvs) QC.N σc QC.ev = .ok (rows, σ') ∧
      ∀ k, k < qs.length → (σ' (cn k)).isSome = true := by
  rw [← stepConds_ty B.elemPtr c.steps (.var (nm (0 + 1))) none] at hspec
  refine rowPackageF_correct_post B nm cn hcres hdisj QC names (compChainN B nm c 0 k) c.bank k cvs qs (chainQ "e" c)
    hlen hcv _ (hB.handleNotVec _) rfl _ _ (outerNext B nm c 0) Q
    (fun y hy => by
      rw [outerCur_vars B nm c 0 y hy]
      exact ⟨fun j hj e => by have := hinj _ _ e; have := outerNext_ge B nm c 0; omega, fun k => hdisj _ k⟩)
    (fun ws hchain s hx => ?_) hspec σc hσ rows hden
  obtain ⟨cty, l, hct, hfind, hel⟩ := chainQ_ok QC _ "e" c ws hchain
  have hmt' := hmt cty l hfind
  exact ⟨_, compChain_isFold ((rowPackage B nm names c k cvs).ctx QC.N QC.ev) QC rfl B hB nm hinj hres c 0
    (tokChain_of_tokens B nm c 0 _ _ rfl) (fun cur ty => (k cur ty (outerNext B nm c 0)).1) cty l ws
    (by rw [hcollT]; exact hct) hfind hwt (fun v hv => (hmt' v hv).1) Q (fun v hv => (hmt' v hv).2) hel s hx⟩

/-- `rowPackageT_correct_post` for an outer chain that hands on the object itself -/
theorem rowPackage_correct_post (B : Backend) (hB : BackendBase B) (nm cn : Nat → String)
    (hinj : ∀ i j, nm i = nm j → i = j) (hres : ∀ j, nm j ≠ "result") (hcres : ∀ k, cn k ≠ "result")
    (hdisj : ∀ j k, nm j ≠ cn k) (QC : QCtx D) (hcollT : ∀ name, B.collType name = QC.collType name)
    (names : List String) (c : Chain) (k : KN) (cvs : List (String × String)) (qs : List Query)
    (hlen : names.length = qs.length) (hcv : cvs.map (·.2) = colNames cn qs.length 0)
    (hwo : wtOuter c = true) (Q : Val D → Prop)
    (hmt : ∀ cty l, QC.ev.find c.bank = some (cty, .vec l) → ∀ v ∈ l, MethTyped v (methsSteps c.steps) ∧ Q v)
    (hspec : RowSpecT ((rowPackage B nm names c k cvs).ctx QC.N QC.ev) nm cn qs.length k none
      (fun w => denotes QC [("r", w)] qs) Q)
    (σc : Env D) (hσ : ∀ k, k < qs.length → (σc (cn k)).isSome = true) (rows : List (List (Val D)))
    (hden : denoteRows QC (.select (.selectMany .ds "e" (chainQ "e" c)) "r" (.dict names qs)) = .ok rows) :
    ∃ σ', runEvent (rowPackage B nm names c k cvs) QC.N σc QC.ev = .ok (rows, σ') ∧
      ∀ k, k < qs.length → (σ' (cn k)).isSome = true :=
  rowPackageT_correct_post B hB nm cn hinj hres hcres hdisj QC hcollT names c k cvs qs hlen hcv (wtOuter_steps hwo) Q hmt
    (by rw [← stepConds_ty B.elemPtr c.steps (.var (nm 0)) none, wtOuter_ty hwo]; exact hspec) σc hσ rows hden

def evalsTo (N : Num D) (σ : Env D) : List CExpr → List (Val D) → Prop
  | [], [] => True
  | e :: es, v :: vs => evalE N σ e = .ok v ∧ evalsTo N σ es vs
  | _, _ => False

theorem evalsTo_congr (N : Num D) (σ σ' : Env D) : ∀ (es : List CExpr) (vs : List (Val D)),
    (∀ e ∈ es, evalE N σ' e = evalE N σ e) → evalsTo N σ es vs → evalsTo N σ' es vs
  | [], [], _, _ => trivial
  | [], _ :: _, _, h => h
  | _ :: _, [], _, h => h
  | e :: es, v :: vs, hc, h => by
    simp only [evalsTo] at h ⊢
    exact ⟨by rw [hc e (by simp)]; exact h.1, evalsTo_congr N σ σ' es vs (fun e' he' => hc e' (by simp [he'])) h.2⟩

/-- the branch assignments `setsOf` of value expressions that evaluate to `row` (every column's statements have run):
afterwards the column variables hold `row` -/
theorem setsOf_correct (C : Ctx D) (cn : Nat → String) (hcinj : ∀ i j, cn i = cn j → i = j) :
    ∀ (vals : List CExpr) (row : List (Val D)) (idx : Nat) (σ : Env D) (rows : List (List (Val D))),
      evalsTo C.N σ vals row → (∀ e ∈ vals, ∀ y ∈ vars e, ∀ k, y ≠ cn k) →
      (∀ k, idx ≤ k → k < idx + vals.length → (σ (cn k)).isSome = true) →
      ∃ σ', execs C (setsOf cn vals idx) ⟨σ, rows⟩ = .ok ⟨σ', rows⟩ ∧
        readCols σ' (colNames cn vals.length idx) = .ok row ∧
        (∀ y, (∀ k, idx ≤ k → y ≠ cn k) → σ' y = σ y) ∧
        (∀ y, (σ y).isSome = true → (σ' y).isSome = true)
  | [], [], idx, σ, rows, _, _, _ => ⟨σ, by simp [setsOf, execs], by simp [colNames, readCols], fun _ _ => rfl, fun _ h => h⟩
  | [], _ :: _, _, _, _, h, _, _ => by simp [evalsTo] at h
  | _ :: _, [], _, _, _, h, _, _ => by simp [evalsTo] at h
  | e :: es, v :: vs, idx, σ, rows, h, hv, hd => by
    simp only [evalsTo] at h
    have hd0 := hd idx (Nat.le_refl _) (by simp)
    have hcong : ∀ e' ∈ es, evalE C.N (σ.set (cn idx) v) e' = evalE C.N σ e' := by
      intro e' he'
      apply evalE_congr
      intro y hy
      simp [Env.set, hv e' (by simp [he']) y hy idx]
    obtain ⟨σ', hex, hread, hfr, hmo⟩ := setsOf_correct C cn hcinj es vs (idx + 1) (σ.set (cn idx) v) rows
      (evalsTo_congr C.N σ _ es vs hcong h.2) (fun e' he' => hv e' (by simp [he']))
      (fun k hk1 hk2 => by
        have hne : cn k ≠ cn idx := fun e => by have := hcinj _ _ e; omega
        simp only [Env.set, hne, if_false]
        exact hd k (by omega) (by simp only [List.length_cons]; omega))
    refine ⟨σ', ?_, ?_, ?_, fun y hy => hmo y ?_⟩
    · simp only [setsOf, execs]
      rw [exec_set_ok C ⟨σ, rows⟩ (cn idx) e v hd0 h.1]
      exact hex
    · simp only [List.length_cons, colNames, readCols]
      have : σ' (cn idx) = some (.val v) := by
        rw [hfr (cn idx) (fun k hk e => by have := hcinj _ _ e; omega)]
        simp [Env.set]
      rw [this, hread]
    · intro y hy
      rw [hfr y (fun k hk => hy k (by omega))]
      simp [Env.set, hy idx (Nat.le_refl _)]
    · by_cases e : y = cn idx <;> simp [Env.set, e, hy]

/-- **one row** — the declarations of the row expressions' code `F`, that code, the branch assignments, the fill: from
ANY state in which the current-value expression evaluates to the outer element and the column variables are
declared, exactly one row is appended, the values that `F.vals` evaluate to once `F.stmts` have run; the column
variables stay declared. `Dn`: what executing the declarations establishes and the statements start from (`DeclsDone`
by `exec_decls`; for declarations without initialiser, that the names are declared). -/
theorem rowOfCols_correct (C : Ctx D) (B : Backend) {nm cn : Nat → String} (hcinj : ∀ i j, cn i = cn j → i = j)
    (hdisj : ∀ j k, nm j ≠ cn k) (F : ColsFrag) (cur : CExpr) (v : Val D) (n len : Nat)
    (hcols : C.cols = colNames cn len 0)
    (hcv : ∀ y ∈ vars cur, (∀ j, n ≤ j → y ≠ nm j) ∧ ∀ k, y ≠ cn k) (Dn : Env D → Prop)
    (hdecls : ∀ s : St D, ∃ sD, execs C F.decls s = .ok sD ∧ sD.rows = s.rows ∧ Dn sD.env ∧
      ∀ y, ¬ InRange nm n F.next y → sD.env y = s.env y)
    (hvv : ∀ e ∈ F.vals, ∀ x ∈ vars e, x ∈ vars cur ∨ InRange nm n F.next x) (hlen : F.vals.length = len)
    (row : List (Val D))
    (hstmts : ∀ s : St D, evalE C.N s.env cur = .ok v → Dn s.env →
      ∃ s', execs C F.stmts s = .ok s' ∧ s'.rows = s.rows ∧ evalsTo C.N s'.env F.vals row ∧
        ∀ y, ¬ InRange nm n F.next y → s'.env y = s.env y)
    (s : St D) (hcur : evalE C.N s.env cur = .ok v) (hdecl : ∀ k, k < len → (s.env (cn k)).isSome = true) :
    ∃ s', execs C (F.decls ++ F.stmts ++ setsOf cn F.vals 0 ++ [.fill (B.fillTree B.treeName)]) s = .ok s' ∧
      s'.rows = s.rows ++ [row] ∧ (∀ k, k < len → (s'.env (cn k)).isSome = true) := by
  obtain ⟨sD, hexD, hrD, hdone, hfrD'⟩ := hdecls s
  have hcurD : evalE C.N sD.env cur = .ok v := by
    rw [(OutOfReach.inRange fun y hy => (hcv y hy).1).evalE (Nat.le_refl _) C.N hfrD']; exact hcur
  obtain ⟨s1, hex1, hr1, hvals, hf1⟩ := hstmts sD hcurD hdone
  have hcn1 : ∀ k, s1.env (cn k) = s.env (cn k) := by
    intro k
    have hnr : ¬ InRange nm n F.next (cn k) := by rintro ⟨j, _, _, hj⟩; exact hdisj j k hj.symm
    rw [hf1 _ hnr, hfrD' _ hnr]
  obtain ⟨σ2, hex2, hread, _, hmo2⟩ := setsOf_correct C cn hcinj F.vals row 0 s1.env s1.rows hvals
    (by
      intro e he y hy k
      rcases hvv e he y hy with h | ⟨j, _, _, hj⟩
      · exact (hcv y h).2 k
      · rw [hj]; exact hdisj j k)
    (by
      intro k _ hk
      rw [hcn1 k]
      exact hdecl k (by rw [hlen] at hk; omega))
  refine ⟨⟨σ2, s.rows ++ [row]⟩, ?_, rfl, fun k hk => hmo2 _ (by rw [hcn1 k]; exact hdecl k hk)⟩
  rw [execs_append, execs_append, execs_append, hexD]
  simp only []
  rw [hex1]
  simp only []
  rw [show s1 = ⟨s1.env, s1.rows⟩ from rfl, hex2]
  simp only [execs, exec, hcols]
  rw [← hlen, hread, hr1, hrD]

/-- the code of a row's columns: the column expressions' fragments (`comp`) one after the other, each drawing its names
where the one before stopped -/
def fragsRow {α : Type} (comp : α → Nat → EFrag) : List α → Nat → ColsFrag
  | [], n => ⟨[], [], [], n⟩
  | e :: rest, n =>
    let f := comp e n
    let r := fragsRow comp rest f.next
    ⟨f.decls ++ r.decls, f.stmts ++ r.stmts, f.val :: r.vals, r.next⟩

section
variable {nm : Nat → String} {cur : CExpr} {α : Type} {comp : α → Nat → EFrag}

theorem fragsRow_shape {N : Num D} (hinj : ∀ i j, nm i = nm j → i = j) (hsh : ∀ e n, FragShape N nm cur n (comp e n)) : ∀ (es : List α) (n : Nat),
    n ≤ (fragsRow comp es n).next ∧ DeclsIn nm n (fragsRow comp es n).next (fragsRow comp es n).decls ∧
    (∀ d ∈ (fragsRow comp es n).decls, SimpleDecl N d) ∧ ((fragsRow comp es n).decls.map declName).Nodup ∧
    (∀ e ∈ (fragsRow comp es n).vals, ∀ x ∈ vars e, x ∈ vars cur ∨ InRange nm n (fragsRow comp es n).next x) ∧
    (fragsRow comp es n).vals.length = es.length
  | [], n => ⟨Nat.le_refl n, nofun, nofun, List.nodup_nil, nofun, rfl⟩
  | e :: rest, n => by
    have ha := hsh e n
    obtain ⟨h1, h2, h3, h4, h5, h6⟩ := fragsRow_shape hinj hsh rest (comp e n).next
    refine ⟨Nat.le_trans ha.ge h1, (ha.declsIn.mono (Nat.le_refl _) h1).append (h2.mono ha.ge (Nat.le_refl _)),
      (declsOK_append hinj ⟨ha.simple, ha.nodup⟩ ⟨h3, h4⟩ ha.declsIn h2).1,
      (declsOK_append hinj ⟨ha.simple, ha.nodup⟩ ⟨h3, h4⟩ ha.declsIn h2).2, fun e' he' x hx => ?_, congrArg (· + 1) h6⟩
    rcases List.mem_cons.1 he' with rfl | he'
    · exact (ha.valVars x hx).imp id (·.mono (Nat.le_refl _) h1)
    · exact (h5 e' he' x hx).imp id (·.mono ha.ge (Nat.le_refl _))

/-- **the columns of a row** — every column's statements in order; afterwards every column's value expression evaluates
to the value the query's column expression (`q`) denotes -/
theorem fragsRow_correct (C : Ctx D) (QC : QCtx D) (hinj : ∀ i j, nm i = nm j → i = j) {v : Val D} {ρ : LEnv D} (q : α → Query)
    (hsh : ∀ e n, FragShape C.N nm cur n (comp e n)) :
    ∀ (es : List α) (n : Nat) (row : List (Val D)), OutOfReach (InRange nm) n cur →
      (∀ e ∈ es, ∀ n w, OutOfReach (InRange nm) n cur → denote QC ρ (q e) = .ok w →
        FragSpec C (InRange nm) (DeclsDone C.N) (comp e n) n cur v (· = w)) →
      denotes QC ρ (es.map q) = .ok row →
      ∀ s : St D, evalE C.N s.env cur = .ok v → DeclsDone C.N (fragsRow comp es n).decls s.env →
      ∃ s', execs C (fragsRow comp es n).stmts s = .ok s' ∧ s'.rows = s.rows ∧
        evalsTo C.N s'.env (fragsRow comp es n).vals row ∧
        ∀ y, ¬ InRange nm n (fragsRow comp es n).next y → s'.env y = s.env y
  | [], n, row, _, _, hrow, s, _, _ => by
    cases hrow
    exact ⟨s, rfl, rfl, trivial, fun _ _ => rfl⟩
  | e :: rest, n, row, hfr, hspec, hrow, s, hcur, hdone => by
    obtain ⟨w, ws, h1, h2, rfl⟩ := denotes_cons_ok.1 hrow
    have ha := hsh e n
    obtain ⟨hge, hdin, -⟩ := fragsRow_shape hinj hsh rest (comp e n).next
    obtain ⟨s1, hex1, hr1, ⟨_, hv1, rfl⟩, hf1⟩ := hspec e (List.mem_cons_self ..) n w hfr h1 s hcur
      fun d hd => hdone d (List.mem_append_left _ hd)
    -- as in `FragSpec.seq2`: the later columns leave the first value in place, the first leaves the element in scope
    -- and the later declarations done
    obtain ⟨s2, hex, hr, hv, -, hvs, hf⟩ := frag_seq C (Frames.inRange hinj) ha.ge hge (comp e n).val
      (fun x hx => (ha.valVars x hx).elim (fun hc => hfr x hc _ _ ha.ge) ((Frames.inRange hinj).disj (Or.inl (Nat.le_refl _))))
      (comp e n).stmts (fragsRow comp rest (comp e n).next).stmts s _ True
      (fun s2 => evalsTo C.N s2.env (fragsRow comp rest (comp e n).next).vals ws)
      (fun σ => evalE C.N σ cur = .ok v ∧ DeclsDone C.N (fragsRow comp rest (comp e n).next).decls σ)
      (fun σ' hag => ⟨(hfr.evalE (Nat.le_refl _) C.N hag).trans hcur,
        DeclsDone.transport (fun d hd => hdone d (List.mem_append_right _ hd)) hdin fun y hy => hag y (inRange_disjoint hinj hy)⟩)
      ⟨s1, hex1, hr1, hv1, trivial, hf1⟩
      (fun s1 hI => fragsRow_correct C QC hinj q hsh rest _ ws (hfr.mono ha.ge)
        (fun e' he' => hspec e' (List.mem_cons_of_mem _ he')) h2 s1 hI.1 hI.2)
    exact ⟨s2, hex, hr, ⟨hv, hvs⟩, hf⟩

end

/-- a row continuation that is the row code (`rowOfCols_correct`) of a list of expression fragments has a `RowSpecT`: from the
fragments' shapes and specifications -/
theorem RowSpecT.of_frags (C : Ctx D) (QC : QCtx D) (B : Backend) {nm cn : Nat → String} (hsup : Supply nm cn) {α : Type}
    (comp : CExpr → α → Nat → EFrag) (q : α → Query) (es : List α) {k : KN} {ty : Option Ty} {Q : Val D → Prop}
    (hk : ∀ cur n, (k cur ty n).1 = (fragsRow (comp cur) es n).decls ++ (fragsRow (comp cur) es n).stmts ++
      setsOf cn (fragsRow (comp cur) es n).vals 0 ++ [.fill (B.fillTree B.treeName)])
    (hsh : ∀ cur e n, FragShape C.N nm cur n (comp cur e n))
    (hspec : ∀ cur v, (∀ t, ty = some t → HasTy v t) → (ty = none → Q v) → ∀ e ∈ es, ∀ n w, OutOfReach (InRange nm) n cur →
      denote QC [("r", v)] (q e) = .ok w → FragSpec C (InRange nm) (DeclsDone C.N) (comp cur e n) n cur v (· = w)) :
    RowSpecT C nm cn (es.map q).length k ty (fun w => denotes QC [("r", w)] (es.map q)) Q := by
  intro hC cur n s v row hcv hcur hty hQ hrow hdecl
  rw [List.length_map] at hC hdecl ⊢
  obtain ⟨-, hdin, hsimple, hnodup, hvv, hlen⟩ := fragsRow_shape hsup.inj (hsh cur) es n
  rw [hk]
  exact rowOfCols_correct C B hsup.cinj hsup.disj _ cur v n es.length hC hcv (DeclsDone C.N (fragsRow (comp cur) es n).decls)
    (fun s => let ⟨sD, h1, h2, h3, h4⟩ := exec_decls C _ s hsimple hnodup
      ⟨sD, h1, h2, h3, fun y hy => h4 y fun hm => hy (declsIn_names hdin y hm)⟩)
    hvv hlen row
    (fragsRow_correct C QC hsup.inj q (hsh cur) es n row (.inRange fun y hy => (hcv y hy).1) (hspec cur v hty hQ) hrow)
    s hcur hdecl

/-- **element-level rows whose columns are expression fragments** — `rowPackage_correct_post` with `RowSpecT.of_frags`, for a
list of named columns -/
theorem fragRows_correct_post (B : Backend) (hB : BackendBase B) {nm cn : Nat → String} (hsup : Supply nm cn)
    (QC : QCtx D) (hcollT : ∀ name, B.collType name = QC.collType name) {α : Type}
    (comp : CExpr → α → Nat → EFrag) (q : α → Query) (c : Chain) (cols : List (String × α)) (k : KN)
    (cvs : List (String × String))
    (hk : ∀ cur n, (k cur none n).1 = (fragsRow (comp cur) (cols.map (·.2)) n).decls ++
      (fragsRow (comp cur) (cols.map (·.2)) n).stmts ++ setsOf cn (fragsRow (comp cur) (cols.map (·.2)) n).vals 0 ++
      [.fill (B.fillTree B.treeName)])
    (hcv : cvs.map (·.2) = colNames cn cols.length 0) (hwo : wtOuter c = true) (Q : Val D → Prop)
    (hmt : ∀ cty l, QC.ev.find c.bank = some (cty, .vec l) → ∀ v ∈ l, MethTyped v (methsSteps c.steps) ∧ Q v)
    (hsh : ∀ cur e n, FragShape QC.N nm cur n (comp cur e n))
    (hspec : ∀ cur v, Q v → ∀ p ∈ cols, ∀ n w, OutOfReach (InRange nm) n cur → denote QC [("r", v)] (q p.2) = .ok w →
      FragSpec ((rowPackage B nm (cols.map (·.1)) c k cvs).ctx QC.N QC.ev) (InRange nm) (DeclsDone QC.N) (comp cur p.2 n) n cur v
        (· = w))
    (σc : Env D) (hσ : ∀ k, k < cols.length → (σc (cn k)).isSome = true) (rows : List (List (Val D)))
    (hden : denoteRows QC (.select (.selectMany .ds "e" (chainQ "e" c)) "r"
      (.dict (cols.map (·.1)) (cols.map fun p => q p.2))) = .ok rows) :
    ∃ σ', runEvent (rowPackage B nm (cols.map (·.1)) c k cvs) QC.N σc QC.ev = .ok (rows, σ') ∧
      ∀ k, k < cols.length → (σ' (cn k)).isSome = true := by
  have hl : ((cols.map Prod.snd).map q).length = cols.length := by rw [List.length_map, List.length_map]
  have h := rowPackage_correct_post B hB nm cn hsup.inj hsup.res hsup.cres hsup.disj QC hcollT (cols.map Prod.fst) c k cvs
    ((cols.map Prod.snd).map q) (by rw [hl, List.length_map]) (by rw [hl]; exact hcv) hwo Q hmt
    (.of_frags _ QC B hsup comp q _ hk hsh fun cur v _ hQ e he n w hfr hden => by
      obtain ⟨p, hp, rfl⟩ := List.mem_map.1 he
      exact hspec cur v (hQ rfl) p hp n w hfr hden)
    σc (by rw [hl]; exact hσ) rows (by rw [List.map_map]; exact hden)
  rwa [hl] at h

def pesSem (QC : QCtx D) (w : Val D) : List PE → Except Fault (List (Val D))
  | [] => .ok []
  | pe :: rest => match peSem QC w pe with
    | .error e => .error e
    | .ok v => match pesSem QC w rest with
      | .error e => .error e
      | .ok vs => .ok (v :: vs)

theorem pesSem_cons_ok {QC : QCtx D} {w : Val D} {pe : PE} {rest : List PE} {r : List (Val D)} :
    pesSem QC w (pe :: rest) = .ok r ↔ ∃ v vs, peSem QC w pe = .ok v ∧ pesSem QC w rest = .ok vs ∧ r = v :: vs := by
  simp only [pesSem]
  cases peSem QC w pe <;> cases pesSem QC w rest <;> simp [eq_comm]

theorem pesSem_length (QC : QCtx D) (w : Val D) : ∀ (pes : List PE) (vs : List (Val D)),
    pesSem QC w pes = .ok vs → vs.length = pes.length
  | [], vs, h => by cases h; rfl
  | pe :: rest, vs, h => by
    obtain ⟨v, vs', _, h2, rfl⟩ := pesSem_cons_ok.1 h
    simp [pesSem_length QC w rest vs' h2]

theorem denotes_pes (QC : QCtx D) (w : Val D) (ρ : LEnv D) : ∀ pes : List PE,
    denotes QC (("r", w) :: ρ) (pes.map (peQ "r")) = pesSem QC w pes
  | [] => by simp [denotes, pesSem]
  | pe :: rest => by
    simp only [List.map_cons, denotes, pesSem, peSem, denotes_pes QC w ρ rest,
      peQ_indep QC w "r" "x" ρ [] pe]
    cases denote QC [("x", w)] (peQ "x" pe) with
    | error e => rfl
    | ok v => cases pesSem QC w rest <;> rfl

theorem dict_denote (QC : QCtx D) (names : List String) (pes : List PE) (v : Val D) :
    denote QC [("r", v)] (.dict names (pes.map (peQ "r"))) = (match pesSem QC v pes with
      | .error e => .error e
      | .ok vs => .ok (tupleVal (names.zip vs))) := by
  rw [dictQ_denote, denotes_pes]; rfl

theorem colVars_names (cn : Nat → String) (t : Option Ty) : ∀ (pes : List PE) (idx : Nat),
    (colVars cn t pes idx).map (·.2) = colNames cn pes.length idx
  | [], _ => rfl
  | pe :: rest, idx => by simp [colVars, colNames, colVars_names cn t rest (idx + 1)]

theorem setCols_eq_setsOf (cn : Nat → String) (ptr : Bool) (cur : CExpr) (ty : Option Ty) : ∀ (pes : List PE) (idx : Nat),
    setCols cn ptr cur ty pes idx = setsOf cn (pes.map (compPE (ptr && ty.isNone) cur (ty.getD .double))) idx
  | [], _ => rfl
  | _ :: rest, idx => by simp only [setCols, List.map_cons, setsOf, setCols_eq_setsOf cn ptr cur ty rest (idx + 1)]

theorem evalsTo_compPE (C : Ctx D) (QC : QCtx D) (hN : QC.N = C.N) (ptr : Bool) (cur : CExpr) (ty : Option Ty) (w : Val D)
    (hty : ∀ t, ty = some t → HasTy w t) (σ : Env D) (hcur : evalE C.N σ cur = .ok w) :
    ∀ (pes : List PE) (row : List (Val D)), (∀ pe ∈ pes, wtPE ty pe = true) → (∀ pe ∈ pes, MethTyped w (methsPE pe)) →
      pesSem QC w pes = .ok row → evalsTo C.N σ (pes.map (compPE (ptr && ty.isNone) cur (ty.getD .double))) row
  | [], row, _, _, hr => by simp only [pesSem, Except.ok.injEq] at hr; subst hr; trivial
  | pe :: rest, row, hwt, hmt, hr => by
    obtain ⟨v, vs, h1, h2, rfl⟩ := pesSem_cons_ok.1 hr
    have hpe := pe_correct QC σ cur ty (ptr && ty.isNone) w "x" [] (by rw [hN]; exact hcur) hty pe
      (hwt pe (by simp)) (hmt pe (by simp))
    exact ⟨by rw [← hN]; rw [show ty.getD .double = curT ty from rfl, hpe.1]; exact h1,
      evalsTo_compPE C QC hN ptr cur ty w hty σ hcur rest vs (fun p hp => hwt p (by simp [hp])) (fun p hp => hmt p (by simp [hp])) h2⟩

theorem setCols_correct (C : Ctx D) (QC : QCtx D) (hN : QC.N = C.N) (cn : Nat → String)
    (hcinj : ∀ i j, cn i = cn j → i = j) (ptr : Bool) (cur : CExpr) (ty : Option Ty) (w : Val D)
    (hcv : ∀ x ∈ vars cur, ∀ k, x ≠ cn k)
    (hty : ∀ t, ty = some t → HasTy w t) :
    ∀ (pes : List PE) (idx : Nat) (s : St D) (row : List (Val D)),
      evalE C.N s.env cur = .ok w →
      (∀ pe ∈ pes, wtPE ty pe = true) → (∀ pe ∈ pes, MethTyped w (methsPE pe)) →
      (∀ k, idx ≤ k → k < idx + pes.length → (s.env (cn k)).isSome = true) →
      pesSem QC w pes = .ok row →
      ∃ s', execs C (setCols cn ptr cur ty pes idx) s = .ok s' ∧ s'.rows = s.rows ∧
        readCols s'.env (colNames cn pes.length idx) = .ok row ∧
        (∀ y, (∀ k, idx ≤ k → y ≠ cn k) → s'.env y = s.env y) ∧
        (∀ y, (s.env y).isSome = true → (s'.env y).isSome = true) := by
  intro pes idx s row hcur hwt hmt hdecl hr
  obtain ⟨σ', hex, hread, hfr, hmo⟩ := setsOf_correct C cn hcinj _ row idx s.env s.rows
    (evalsTo_compPE C QC hN ptr cur ty w hty s.env hcur pes row hwt hmt hr)
    (fun e he y hy => by
      obtain ⟨pe, _, rfl⟩ := List.mem_map.1 he
      exact hcv y (vars_compPE _ cur _ pe y hy))
    (by rw [List.length_map]; exact hdecl)
  rw [List.length_map] at hread
  exact ⟨⟨σ', s.rows⟩, by rw [setCols_eq_setsOf]; exact hex, rfl, hread, hfr, hmo⟩

theorem tokChain_elemRows (B : Backend) (nm cn : Nat → String) (c : Chain) (cols : List (String × PE))
    (N : Num D) (ev : Event D) (K : CExpr → Option Ty → List Stmt)
    (hK : (compile B nm cn (.elemRows c cols)).tokens = banksOf B (compChain B nm c 0 K).stmts [c.bank]) :
    TokChain B nm ((compile B nm cn (.elemRows c cols)).ctx N ev) c 0 :=
  tokChain_of_tokens B nm c 0 K _ hK

theorem tokens_names_elemRows (B : Backend) (nm cn : Nat → String) (c : Chain) (cols : List (String × PE)) :
    ∀ t ∈ (compile B nm cn (.elemRows c cols)).tokens, ∃ j, t.1 = nm j :=
  rowPackageF_tokens_names B nm _ _ c 0 _ rfl _

theorem compile_elemRows_books (B : Backend) (nm cn : Nat → String) (c : Chain) (cols : List (String × PE)) :
    Books (compile B nm cn (.elemRows c cols)) cn (cols.map (·.1))
      ((colVars cn (chainTy none c.steps) (cols.map (·.2)) 0).map (·.1)) :=
  rowPackageF_books B _ _ _ (by rw [colVars_names]; simp)

/-- **C01 (element-level rows)** — for every chain, every list of pure column expressions, every
event and every class state in which the column variables are declared: if the query denotes
`rows` on the event, the package the translator model emits writes exactly `rows`, and the class
state it leaves behind again has the column variables declared (the precondition of the next
event). All three backends: on the token idiom the table `compile` emits binds the chain's token. -/
theorem elemRows_correct_post (B : Backend) (hB : BackendBase B) (nm cn : Nat → String)
    (hinj : ∀ i j, nm i = nm j → i = j) (hcinj : ∀ i j, cn i = cn j → i = j)
    (hres : ∀ j, nm j ≠ "result") (hcres : ∀ k, cn k ≠ "result") (hdisj : ∀ j k, nm j ≠ cn k)
    (QC : QCtx D) (hcollT : ∀ name, B.collType name = QC.collType name)
    (c : Chain) (cols : List (String × PE))
    (hwt : wtSteps none c.steps = true)
    (hwtc : ∀ p ∈ cols, wtPE (chainTy none c.steps) p.2 = true)
    (hmt : ∀ cty l, QC.ev.find c.bank = some (cty, .vec l) →
        ∀ v ∈ l, MethTyped v (methsSteps c.steps) ∧ ∀ p ∈ cols, MethTyped v (methsPE p.2))
    (σc : Env D) (hσ : ∀ k, k < cols.length → (σc (cn k)).isSome = true)
    (rows : List (List (Val D)))
    (hden : denoteRows QC (FQ.toQuery (.elemRows c cols)) = .ok rows) :
    ∃ σ', runEvent (compile B nm cn (.elemRows c cols)) QC.N σc QC.ev = .ok (rows, σ') ∧
      ∀ k, k < cols.length → (σ' (cn k)).isSome = true := by
  let pes := cols.map (·.2)
  have hq : FQ.toQuery (.elemRows c cols) = .select (.selectMany .ds "e" (chainQ "e" c)) "r"
      (.dict (cols.map (·.1)) (pes.map (peQ "r"))) := by
    simp only [FQ.toQuery, pes, List.map_map]; rfl
  rw [hq] at hden
  rw [show compile B nm cn (.elemRows c cols) = rowPackage B nm (cols.map (·.1)) c
    (fun cur ty n => (setCols cn B.elemPtr cur ty pes 0 ++ [.fill (B.fillTree B.treeName)], n))
    (colVars cn (chainTy none c.steps) pes 0) from rfl]
  have h := rowPackageT_correct_post B hB nm cn hinj hres hcres hdisj QC hcollT (cols.map (·.1)) c
    (fun cur ty n => (setCols cn B.elemPtr cur ty pes 0 ++ [.fill (B.fillTree B.treeName)], n))
    (colVars cn (chainTy none c.steps) pes 0) (pes.map (peQ "r")) (by simp [pes]) (by rw [colVars_names]; simp) hwt
    (fun v => ∀ p ∈ cols, MethTyped v (methsPE p.2)) hmt
    (fun hC cur n s w row hcv hcur hty hQ hrow hdecl => by
      replace hrow : pesSem QC w pes = .ok row := (denotes_pes QC w [] pes).symm.trans hrow
      obtain ⟨s2, hex2, hrows2, hread2, _, hmono2⟩ := setCols_correct _ QC rfl cn hcinj B.elemPtr cur
        (chainTy none c.steps) w (fun x hx k => (hcv x hx).2 k) hty pes 0 s row hcur
        (fun pe hpe => by obtain ⟨p, hp, rfl⟩ := List.mem_map.1 hpe; exact hwtc p hp)
        (fun pe hpe => by
          obtain ⟨p, hp, rfl⟩ := List.mem_map.1 hpe
          cases hty' : chainTy none c.steps with
          | some t => exact methTyped_of_hasTy (hty t hty') _
          | none => exact hQ hty' p hp)
        (fun k _ hk => hdecl k (by simpa using hk)) hrow
      refine ⟨⟨s2.env, s2.rows ++ [row]⟩, ?_, by simp [hrows2], fun k hk => hmono2 _ (hdecl k hk)⟩
      rw [execs_append, hex2]
      simp only [execs, exec, hC]
      rw [show readCols s2.env (colNames cn (pes.map (peQ "r")).length 0) = .ok row by simpa using hread2])
    σc (by simpa [pes] using hσ) rows hden
  simpa [pes] using h

/-- `elemRows_correct_post` without the post-state (the statement `C01.elemRows_correct_partial` wraps). -/
theorem elemRows_correct (B : Backend) (hB : BackendOK B) (nm cn : Nat → String)
    (hinj : ∀ i j, nm i = nm j → i = j) (hcinj : ∀ i j, cn i = cn j → i = j)
    (hres : ∀ j, nm j ≠ "result") (hcres : ∀ k, cn k ≠ "result") (hdisj : ∀ j k, nm j ≠ cn k)
    (QC : QCtx D) (hcollT : ∀ name, B.collType name = QC.collType name)
    (c : Chain) (cols : List (String × PE))
    (hwt : wtSteps none c.steps = true)
    (hwtc : ∀ p ∈ cols, wtPE (chainTy none c.steps) p.2 = true)
    (hmt : ∀ cty l, QC.ev.find c.bank = some (cty, .vec l) →
        ∀ v ∈ l, MethTyped v (methsSteps c.steps) ∧ ∀ p ∈ cols, MethTyped v (methsPE p.2))
    (σc : Env D) (hσ : ∀ k, k < cols.length → (σc (cn k)).isSome = true)
    (rows : List (List (Val D)))
    (hden : denoteRows QC (FQ.toQuery (.elemRows c cols)) = .ok rows) :
    ∃ σ', runEvent (compile B nm cn (.elemRows c cols)) QC.N σc QC.ev = .ok (rows, σ') := by
  obtain ⟨σ', h, _⟩ := elemRows_correct_post B hB.base nm cn hinj hcinj hres hcres hdisj QC hcollT c cols hwt hwtc hmt σc hσ rows hden
  exact ⟨σ', h⟩

end FaxVerif.Gen
