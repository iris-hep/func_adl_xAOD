/-
Gen — the event-level package of ANY list of column fragments.

`Cols S idx n fs bs`: `fs` is a threaded list of column fragments — the fragment at position `i` belongs to column
`idx + i` and draws its local names where its predecessor stopped — related pointwise to `bs` by `S`. What a column
fragment owes is `ColVar` (how it treats its column variable), `ColShape` (its declarations) and `ColSpec` (its loops
leave the column's value ready). Columns are independent of each other (`Cols.phase`, from `Supply nm cn`), so a package
laid out as `eventPackage` — all declarations, all loops, all assignments, the fill, all clears — writes the row of the
columns' values and restores every column's precondition (`eventPackage_correct`); it books its columns
(`eventPackage_books`). A column whose loops fault stops the package before any assignment or fill (`Cols.run_fault`,
`eventPackage_fault`). `compile`, `compileN/C/D` (through `pushPackage` of Gen/PushColsCorrect.lean) and `compileA` emit such packages; at the end,
what they share when they meet the hypotheses: what a dictionary of columns denotes (`eventDict_denote`), the initial
class state past the token members (`classInit_skip_tokens`), `isVecType_vector`.
-/
import FaxVerif.Gen.FragSpec
import FaxVerif.Gen.QueryLemmas
import FaxVerif.Gen.Booking
namespace FaxVerif.Gen
open FaxVerif.Cpp FaxVerif.Linq
variable {D : Type}

inductive Cols {β : Type} (S : Nat → Nat → ColFrag → β → Prop) : Nat → Nat → List ColFrag → List β → Prop
  | nil {idx n : Nat} : Cols S idx n [] []
  | cons {idx n : Nat} {f : ColFrag} {b : β} {fs : List ColFrag} {bs : List β} :
      S idx n f b → Cols S (idx + 1) f.next fs bs → Cols S idx n (f :: fs) (b :: bs)

/-- where the name supply stands after the fragments `fs`, started at `n` -/
def colsEnd : Nat → List ColFrag → Nat
  | n, [] => n
  | _, f :: fs => colsEnd f.next fs

namespace Cols
variable {β : Type} {S T : Nat → Nat → ColFrag → β → Prop} {idx n : Nat} {fs : List ColFrag} {bs : List β}

theorem imp (h : Cols S idx n fs bs) (hST : ∀ i m f b, f ∈ fs → b ∈ bs → S i m f b → T i m f b) : Cols T idx n fs bs := by
  induction h with
  | nil => exact .nil
  | cons h1 _ ih =>
    exact .cons (hST _ _ _ _ (List.mem_cons_self ..) (List.mem_cons_self ..) h1)
      (ih fun i m f b hf hb => hST i m f b (List.mem_cons_of_mem _ hf) (List.mem_cons_of_mem _ hb))

theorem length (h : Cols S idx n fs bs) : fs.length = bs.length := by
  induction h with
  | nil => rfl
  | cons _ _ ih => simp [ih]

theorem end_ge (h : Cols S idx n fs bs) (hge : ∀ i m f b, S i m f b → m ≤ f.next) : n ≤ colsEnd n fs := by
  induction h with
  | nil => exact Nat.le_refl _
  | cons h1 _ ih => exact Nat.le_trans (hge _ _ _ _ h1) ih

theorem mem (h : Cols S idx n fs bs) {f : ColFrag} (hf : f ∈ fs) :
    ∃ i m b, idx ≤ i ∧ i < idx + fs.length ∧ b ∈ bs ∧ S i m f b := by
  induction h with
  | nil => cases hf
  | cons h1 _ ih =>
    rcases List.mem_cons.1 hf with rfl | hf
    · exact ⟨_, _, _, Nat.le_refl _, by simp, List.mem_cons_self .., h1⟩
    · obtain ⟨i, m, b, hi1, hi2, hb, hS⟩ := ih hf
      exact ⟨i, m, b, by omega, by simp only [List.length_cons]; omega, List.mem_cons_of_mem _ hb, hS⟩

theorem map_eq {γ : Type} (g : ColFrag → γ) (h : β → γ) (hS : ∀ i m f b, S i m f b → g f = h b) (hc : Cols S idx n fs bs) :
    fs.map g = bs.map h := by
  induction hc with
  | nil => rfl
  | cons h1 _ ih => rw [List.map_cons, List.map_cons, hS _ _ _ _ h1, ih]

/-- the values a list of sources denotes, in place of the sources -/
theorem withDen {α : Type} {S : Nat → Nat → ColFrag → α → Prop} {T : Nat → Nat → ColFrag → Val D → Prop}
    (QC : QCtx D) (ρ : LEnv D) (q : α → Query) {cs : List α} (h : Cols S idx n fs cs) :
    ∀ vs, denotes QC ρ (cs.map q) = .ok vs →
      (∀ i m f c v, c ∈ cs → S i m f c → denote QC ρ (q c) = .ok v → T i m f v) → Cols T idx n fs vs := by
  induction h with
  | nil => intro vs hd _; cases hd; exact .nil
  | cons h1 _ ih =>
    intro vs hd hST
    obtain ⟨v, vs', hd1, hd2, rfl⟩ := denotes_cons_ok.1 hd
    exact .cons (hST _ _ _ _ _ (List.mem_cons_self ..) h1 hd1)
      (ih vs' hd2 fun i m f c v hc => hST i m f c v (List.mem_cons_of_mem _ hc))

end Cols

/-- a property of the environment that looks only at the local names `[m, f.next)` and the column variable `cn i` -/
def Local {β : Type} (nm cn : Nat → String) (S : Nat → Nat → ColFrag → β → Prop)
    (P : Nat → Nat → ColFrag → β → Env D → Prop) : Prop :=
  ∀ i m f b (σ σ' : Env D), S i m f b → (∀ y, InRange nm m f.next y ∨ y = cn i → σ' y = σ y) → P i m f b σ → P i m f b σ'

section phases
variable {β : Type} {nm cn : Nat → String} {S : Nat → Nat → ColFrag → β → Prop}

theorem Cols.transport {P : Nat → Nat → ColFrag → β → Env D → Prop} (hP : Local nm cn S P)
    (hge : ∀ i m f b, S i m f b → m ≤ f.next) {idx n : Nat} {fs : List ColFrag} {bs : List β}
    (h : Cols S idx n fs bs) {σ σ' : Env D}
    (hag : ∀ y, (InRange nm n (colsEnd n fs) y ∨ ∃ k, idx ≤ k ∧ y = cn k) → σ' y = σ y)
    (hσ : Cols (fun i m f b => P i m f b σ) idx n fs bs) : Cols (fun i m f b => P i m f b σ') idx n fs bs := by
  induction h with
  | nil => cases hσ; exact .nil
  | cons h1 h2 ih =>
    cases hσ with
    | cons p1 p2 =>
      have g1 := hge _ _ _ _ h1
      have g2 := h2.end_ge hge
      refine .cons (hP _ _ _ _ σ σ' h1 (fun y hy => hag y ?_) p1) (ih (fun y hy => hag y ?_) p2)
      · exact hy.imp (fun r => r.mono (Nat.le_refl _) g2) (fun e => ⟨_, Nat.le_refl _, e⟩)
      · exact hy.imp (fun r => r.mono g1 (Nat.le_refl _)) (fun ⟨k, hk, e⟩ => ⟨k, by omega, e⟩)

/-- **independent columns compose**: every column's piece of code `code f` takes `P` to `Q` and changes nothing but its own
local names, its own column variable and `result`; `P` and `Q` look at nothing else. Then the pieces in sequence take
`P` of all columns to `Q` of all columns. The loops, the assignments and the clears are the three instances. -/
theorem Cols.phase (C : Ctx D) (hsup : Supply nm cn)
    (code : ColFrag → List Stmt) {P Q : Nat → Nat → ColFrag → β → Env D → Prop} (hP : Local nm cn S P) (hQ : Local nm cn S Q)
    (hge : ∀ i m f b, S i m f b → m ≤ f.next)
    (hstep : ∀ i m f b, S i m f b → ∀ s : St D, P i m f b s.env →
      ∃ s', execs C (code f) s = .ok s' ∧ s'.rows = s.rows ∧ Q i m f b s'.env ∧
        ∀ y, y ≠ cn i → ¬ Touch nm m f.next y → s'.env y = s.env y)
    {idx n : Nat} {fs : List ColFrag} {bs : List β} (h : Cols S idx n fs bs) :
    ∀ s : St D, Cols (fun i m f b => P i m f b s.env) idx n fs bs →
      ∃ s', execs C (fs.flatMap code) s = .ok s' ∧ s'.rows = s.rows ∧ Cols (fun i m f b => Q i m f b s'.env) idx n fs bs ∧
        ∀ y, (∀ k, idx ≤ k → y ≠ cn k) → ¬ Touch nm n (colsEnd n fs) y → s'.env y = s.env y := by
  have hcnT : ∀ k lo hi, ¬ Touch nm lo hi (cn k) := fun k => not_touch_of_ne (fun j e => hsup.disj j k e.symm) (hsup.cres k)
  induction h with
  | nil => exact fun s _ => ⟨s, rfl, rfl, .nil, fun _ _ _ => rfl⟩
  | @cons idx n f b fs bs h1 h2 ih =>
    intro s hPs
    cases hPs with
    | cons p1 p2 =>
      have g1 := hge _ _ _ _ h1
      have g2 := h2.end_ge hge
      obtain ⟨s1, hex1, hr1, hq1, hfr1⟩ := hstep _ _ _ _ h1 s p1
      have hp2 : Cols (fun i m f b => P i m f b s1.env) (idx + 1) f.next fs bs := by
        refine h2.transport hP hge (fun y hy => hfr1 y ?_ ?_) p2
        · rcases hy with ⟨j, _, _, rfl⟩ | ⟨k, hk, rfl⟩
          · exact hsup.disj j idx
          · intro e; have := hsup.cinj _ _ e; omega
        · rcases hy with hy | ⟨k, _, rfl⟩
          · exact (Frames.touch hsup.inj hsup.res).disj (.inr (Nat.le_refl _)) hy
          · exact hcnT k _ _
      obtain ⟨s', hex2, hr2, hq2, hfr2⟩ := ih s1 hp2
      refine ⟨s', by rw [List.flatMap_cons, execs_append, hex1]; exact hex2, by rw [hr2, hr1],
        .cons (hQ _ _ _ _ s1.env s'.env h1 (fun y hy => hfr2 y ?_ ?_) hq1) hq2, fun y hy1 hy2 => ?_⟩
      · intro k hk
        rcases hy with ⟨j, _, _, rfl⟩ | rfl
        · exact hsup.disj j k
        · intro e; have := hsup.cinj _ _ e; omega
      · rcases hy with hy | rfl
        · exact (Frames.touch hsup.inj hsup.res).disj (.inl (Nat.le_refl _)) hy
        · exact hcnT idx _ _
      · rw [hfr2 y (fun k hk => hy1 k (by omega)) (fun h => hy2 (h.mono g1 (Nat.le_refl _))),
          hfr1 y (hy1 idx (Nat.le_refl _)) (fun h => hy2 (h.mono (Nat.le_refl _) g2))]

end phases

/-- how the fragment of column `idx` (local names from `n`) treats its column variable: the class variable is `cn idx`; the
column is assigned after the loops (a scalar: `sets` is one assignment reading the fragment's own names) or filled inside
them; it is cleared after the fill (a vector) or not -/
structure ColVar (nm cn : Nat → String) (idx n : Nat) (f : ColFrag) : Prop where
  var : f.classVar.2 = cn idx
  sets : f.sets = [] ∨ ∃ e, f.sets = [.set (cn idx) e] ∧ ∀ x ∈ vars e, InRange nm n f.next x
  clears : f.clears = [] ∨ (f.clears = [.clear (cn idx)] ∧ isVecType f.classVar.1 = true)

/-- the static shape of the fragment of column `idx` compiled at supply position `n`: `ColVar`, and its declarations are
simple, distinct, of its own names `[n, f.next)` -/
structure ColShape (N : Num D) (nm cn : Nat → String) (idx n : Nat) (f : ColFrag) : Prop extends ColVar nm cn idx n f where
  ge : n ≤ f.next
  declsIn : DeclsIn nm n f.next f.decls
  simple : ∀ d ∈ f.decls, SimpleDeclA N d
  nodup : (f.decls.map declName).Nodup

/-- what the class state owes a column when the per-event method is entered: a cleared column is empty, any other declared -/
def ColFrag.Pre (f : ColFrag) (σ : Env D) : Prop :=
  match f.clears with
  | [] => (σ f.classVar.2).isSome = true
  | _ => σ f.classVar.2 = some (.val (.vec []))

/-- after a column's loops: its value is available — as the expression the later assignment
evaluates (scalar) or already in the column variable (vector, First) -/
def ColReady (N : Num D) (f : ColFrag) (v : Val D) (σ : Env D) : Prop :=
  match f.sets with
  | [.set x e] => evalE N σ e = .ok v ∧ (σ x).isSome = true
  | _ => σ f.classVar.2 = some (.val v)

/-- `ColShape`, and from `DeclsDoneA` and `Pre` the loops leave the value `v` ready (`ColReady`) -/
structure ColSpec (C : Ctx D) (nm cn : Nat → String) (idx n : Nat) (f : ColFrag) (v : Val D) : Prop where
  shape : ColShape C.N nm cn idx n f
  run : ∀ s : St D, DeclsDoneA C.N f.decls s.env → f.Pre s.env →
    ∃ s', execs C f.stmts s = .ok s' ∧ s'.rows = s.rows ∧ ColReady C.N f v s'.env ∧
      ∀ y, y ≠ cn idx → ¬ Touch nm n f.next y → s'.env y = s.env y
  vec : f.clears ≠ [] → ∃ l, v = .vec l

namespace ColVar
variable {N : Num D} {nm cn : Nat → String} {idx n : Nat} {f : ColFrag}

theorem pre_congr (h : ColVar nm cn idx n f) {σ σ' : Env D} (hag : σ' (cn idx) = σ (cn idx)) (hp : f.Pre σ) : f.Pre σ' := by
  unfold ColFrag.Pre at hp ⊢
  rw [h.var, hag]; rw [h.var] at hp; exact hp

theorem ready_congr (h : ColVar nm cn idx n f) {v : Val D} {σ σ' : Env D}
    (hag : ∀ y, InRange nm n f.next y ∨ y = cn idx → σ' y = σ y) (hr : ColReady N f v σ) : ColReady N f v σ' := by
  rcases h.sets with hs | ⟨e, hs, hv⟩ <;> simp only [ColReady, hs] at hr ⊢
  · rw [h.var, hag _ (Or.inr rfl)]; rw [h.var] at hr; exact hr
  · exact ⟨by rw [← hr.1]; exact evalE_congr N σ' σ e fun x hx => hag x (Or.inl (hv x hx)), by rw [hag _ (Or.inr rfl)]; exact hr.2⟩

theorem sets_ok (C : Ctx D) (h : ColVar nm cn idx n f) {v : Val D} (s : St D) (hr : ColReady C.N f v s.env) :
    ∃ s', execs C f.sets s = .ok s' ∧ s'.rows = s.rows ∧ s'.env (cn idx) = some (.val v) ∧
      ∀ y, y ≠ cn idx → s'.env y = s.env y := by
  rcases h.sets with hs | ⟨e, hs, _⟩ <;> simp only [ColReady, hs] at hr ⊢
  · exact ⟨s, rfl, rfl, h.var ▸ hr, fun _ _ => rfl⟩
  · exact ⟨{ s with env := s.env.set (cn idx) v }, by rw [execs, exec_set_ok C s _ _ v hr.2 hr.1]; rfl, rfl, by simp [Env.set],
      fun y hy => by simp [Env.set, hy]⟩

theorem clears_ok (C : Ctx D) (h : ColVar nm cn idx n f) {v : Val D} (hv : f.clears ≠ [] → ∃ l, v = .vec l) (s : St D)
    (hs : s.env (cn idx) = some (.val v)) :
    ∃ s', execs C f.clears s = .ok s' ∧ s'.rows = s.rows ∧ f.Pre s'.env ∧ ∀ y, y ≠ cn idx → s'.env y = s.env y := by
  rcases h.clears with hc | ⟨hc, _⟩
  · refine ⟨s, by rw [hc]; rfl, rfl, ?_, fun _ _ => rfl⟩
    simp only [ColFrag.Pre, hc, h.var, hs]; rfl
  · obtain ⟨l, rfl⟩ := hv (by rw [hc]; exact List.cons_ne_nil _ _)
    refine ⟨{ s with env := s.env.set (cn idx) (.vec []) }, by simp only [hc, execs, exec, hs], rfl, ?_,
      fun y hy => by simp [Env.set, hy]⟩
    simp only [ColFrag.Pre, hc, h.var, Env.set, if_true]

theorem pre_classInit (h : ColVar nm cn idx n f) (rest : List (String × String)) :
    f.Pre (classInit (f.classVar :: rest) : Env D) := by
  have hcv : f.classVar = (f.classVar.1, cn idx) := by rw [← h.var]
  rw [hcv]
  rcases h.clears with hc | ⟨hc, hvec⟩ <;> simp only [ColFrag.Pre, hc, h.var, classInit_cons_self]
  · split <;> rfl
  · rw [if_pos hvec]

end ColVar

section lists
variable {β : Type} {S : Nat → Nat → ColFrag → β → Prop} {N : Num D} {nm cn : Nat → String} {idx n : Nat}
  {fs : List ColFrag} {bs : List β}

theorem Cols.declsIn (hS : ∀ i m f b, S i m f b → ColShape N nm cn i m f) (h : Cols S idx n fs bs) :
    DeclsIn nm n (colsEnd n fs) (fs.flatMap (·.decls)) := by
  induction h with
  | nil => intro d hd; cases hd
  | cons h1 h2 ih =>
    rw [List.flatMap_cons]
    exact ((hS _ _ _ _ h1).declsIn.mono (Nat.le_refl _) (h2.end_ge fun i m f b hs => (hS i m f b hs).ge)).append
      (ih.mono (hS _ _ _ _ h1).ge (Nat.le_refl _))

theorem Cols.declsOK (hinj : ∀ i j, nm i = nm j → i = j) (hS : ∀ i m f b, S i m f b → ColShape N nm cn i m f)
    (h : Cols S idx n fs bs) :
    (∀ d ∈ fs.flatMap (·.decls), SimpleDeclA N d) ∧ ((fs.flatMap (·.decls)).map declName).Nodup := by
  induction h with
  | nil => simp
  | cons h1 h2 ih =>
    have s1 := hS _ _ _ _ h1
    rw [List.flatMap_cons, List.map_append]
    exact ⟨fun d hd => (List.mem_append.1 hd).elim (s1.simple d) (ih.1 d),
      nodup_append_ranges hinj s1.nodup ih.2 (declsIn_names s1.declsIn) (declsIn_names (h2.declsIn hS))⟩

theorem Cols.vars (hS : ∀ i m f b, S i m f b → ColVar nm cn i m f) (h : Cols S idx n fs bs) :
    fs.map (·.classVar.2) = colNames cn fs.length idx := by
  induction h with
  | nil => rfl
  | cons h1 _ ih => simp only [List.map_cons, List.length_cons, colNames, (hS _ _ _ _ h1).var, ih]

theorem Cols.pre_classInit (hcinj : ∀ i j, cn i = cn j → i = j) (hS : ∀ i m f b, S i m f b → ColVar nm cn i m f)
    (h : Cols S idx n fs bs) : ∀ f ∈ fs, f.Pre (classInit (fs.map (·.classVar)) : Env D) := by
  induction h with
  | nil => exact fun _ hf => nomatch hf
  | @cons idx n f b fs bs h1 h2 ih =>
    intro g hg
    rcases List.mem_cons.1 hg with rfl | hg
    · exact (hS _ _ _ _ h1).pre_classInit _
    · obtain ⟨i, m, b', hi, _, _, hs⟩ := h2.mem hg
      have hne : cn i ≠ cn idx := fun e => by have := hcinj _ _ e; omega
      refine (hS _ _ _ _ hs).pre_congr ?_ (ih g hg)
      rw [List.map_cons, show f.classVar = (f.classVar.1, cn idx) by rw [← (hS _ _ _ _ h1).var]]
      exact classInit_cons_ne _ _ _ hne

end lists

theorem Cols.run {C : Ctx D} {nm cn : Nat → String} (hsup : Supply nm cn)
    {idx n : Nat} {fs : List ColFrag} {vs : List (Val D)} (h : Cols (ColSpec C nm cn) idx n fs vs) (s : St D)
    (hdone : DeclsDoneA C.N (fs.flatMap (·.decls)) s.env) (hpre : ∀ f ∈ fs, f.Pre s.env) :
    ∃ s', execs C (fs.flatMap (·.stmts)) s = .ok s' ∧ s'.rows = s.rows ∧
      Cols (fun _ _ f v => ColReady C.N f v s'.env) idx n fs vs ∧
      ∀ y, (∀ k, idx ≤ k → y ≠ cn k) → ¬ Touch nm n (colsEnd n fs) y → s'.env y = s.env y :=
  h.phase C hsup (·.stmts)
    (P := fun _ _ f _ σ => DeclsDoneA C.N f.decls σ ∧ f.Pre σ) (Q := fun _ _ f v σ => ColReady C.N f v σ)
    (fun _ _ _ _ _ _ h hag hp => ⟨hp.1.transport h.shape.declsIn fun y hy => hag y (Or.inl hy),
      h.shape.pre_congr (hag _ (Or.inr rfl)) hp.2⟩)
    (fun _ _ _ _ _ _ h hag hp => h.shape.ready_congr hag hp) (fun _ _ _ _ h => h.shape.ge)
    (fun _ _ _ _ h s hp => h.run s hp.1 hp.2) s
    (h.imp fun _ _ f _ hf _ _ => ⟨fun d hd => hdone d (List.mem_flatMap.2 ⟨f, hf, hd⟩), hpre f hf⟩)

/-- the package every event-level `compile*` emits for the column fragments `fs` and the token table `toks` -/
def eventPackage (B : Backend) (names : List String) (toks : List (String × String × String)) (fs : List ColFrag) : Package :=
  { body := .block (fs.flatMap (·.decls) ++ fs.flatMap (·.stmts) ++ fs.flatMap (·.sets) ++
      [.fill (B.fillTree B.treeName)] ++ fs.flatMap (·.clears)),
    classVars := toks.map (fun t => ("edm::EDGetTokenT<" ++ t.2.1 ++ ">", t.1)) ++ fs.map (·.classVar),
    branches := names.zip (fs.map (·.classVar.2)),
    tree := B.treeName,
    tokens := toks }

theorem eventPackage_books (B : Backend) {nm cn : Nat → String} (names : List String) (toks : List (String × String × String))
    {β : Type} {S : Nat → Nat → ColFrag → β → Prop} {fs : List ColFrag} {bs : List β} (h : Cols S 0 0 fs bs)
    (hS : ∀ i m f b, S i m f b → ColVar nm cn i m f) (hlen : names.length = fs.length) :
    Books (eventPackage B names toks fs) cn names (fs.map (·.classVar.1)) :=
  .of_cvs (fs.map (·.classVar)) rfl (by simp only [eventPackage, List.map_map]; rfl)
    (by rw [List.map_map, hlen]; exact h.vars hS) (by rw [List.map_map]; rfl)

def VarsHold (cn : Nat → String) : Nat → List (Val D) → Env D → Prop
  | _, [], _ => True
  | idx, v :: vs, σ => σ (cn idx) = some (.val v) ∧ VarsHold cn (idx + 1) vs σ

theorem readCols_of_varsHold (cn : Nat → String) : ∀ (vs : List (Val D)) (idx : Nat) (σ : Env D),
    VarsHold cn idx vs σ → readCols σ (colNames cn vs.length idx) = .ok vs
  | [], _, _, _ => rfl
  | v :: vs, idx, σ, h => by
    simp only [List.length_cons, colNames, readCols, h.1, readCols_of_varsHold cn vs (idx + 1) σ h.2]

theorem exec_block5 (C : Ctx D) (Ds Ss Ts Cl : List Stmt) (t : String) (s0 sD sS sT sF : St D) (vs : List (Val D))
    (h1 : execs C Ds s0 = .ok sD) (h2 : execs C Ss sD = .ok sS) (h3 : execs C Ts sS = .ok sT)
    (h4 : readCols sT.env C.cols = .ok vs) (h5 : execs C Cl ⟨sT.env, sT.rows ++ [vs]⟩ = .ok sF) :
    exec C (.block (Ds ++ Ss ++ Ts ++ [.fill t] ++ Cl)) s0 = .ok sF := by
  simp only [exec]
  rw [execs_append, execs_append, execs_append, execs_append, h1]
  simp only []
  rw [h2]
  simp only []
  rw [h3]
  simp only [execs, exec, h4]
  rw [h5]

theorem varsHold_of_cols {cn : Nat → String} {idx n : Nat} {fs : List ColFrag} {vs : List (Val D)} {σ : Env D}
    (h : Cols (fun i _ _ v => σ (cn i) = some (.val v)) idx n fs vs) : VarsHold cn idx vs σ := by
  induction h with
  | nil => trivial
  | cons h1 _ ih => exact ⟨h1, ih⟩

/-- **one event of an event-level package** — columns with `ColSpec` for the values `vs`, entered in a class state with every
column's `Pre`: the package writes the one row `vs` and leaves a class state with every column's `Pre` again -/
theorem eventPackage_correct (B : Backend) (nm cn : Nat → String) (hsup : Supply nm cn)
    (N : Num D) (ev : Event D) (names : List String) (toks : List (String × String × String)) (fs : List ColFrag)
    (vs : List (Val D)) (hlen : names.length = fs.length)
    (hspec : Cols (ColSpec ((eventPackage B names toks fs).ctx N ev) nm cn) 0 0 fs vs)
    (σc : Env D) (hσ : ∀ f ∈ fs, f.Pre σc) :
    ∃ σ', runEvent (eventPackage B names toks fs) N σc ev = .ok ([vs], σ') ∧ ∀ f ∈ fs, f.Pre σ' := by
  let P := eventPackage B names toks fs
  let C := P.ctx N ev
  have hsh : ∀ i m f v, ColSpec C nm cn i m f v → ColShape C.N nm cn i m f := fun _ _ _ _ h => h.shape
  have hge : ∀ i m f v, ColSpec C nm cn i m f v → m ≤ f.next := fun _ _ _ _ h => h.shape.ge
  have hCcols : C.cols = colNames cn vs.length 0 := by
    rw [← hspec.length, ← hlen]
    exact (eventPackage_books B names toks hspec (fun i m f v h => (hsh i m f v h).toColVar) hlen).cols _ _
  -- the five phases of the body (`exec_block5`): the declarations (`exec_declsA`), the loops (`Cols.run`), then `Cols.phase`
  -- twice more: the assignments take `ColReady` to "`cn i` holds `v`", and after the fill the clears take that to `Pre`
  obtain ⟨hsimple, hnodup⟩ := hspec.declsOK hsup.inj hsh
  obtain ⟨sD, hexD, hrD, hdone, hfrD⟩ := exec_declsA C _ ⟨σc, []⟩ hsimple hnodup
  have hcnD : ∀ k, sD.env (cn k) = σc (cn k) := fun k => hfrD _ fun hm => by
    obtain ⟨j, _, _, hj⟩ := declsIn_names (hspec.declsIn hsh) _ hm
    exact hsup.disj j k hj.symm
  obtain ⟨sS, hexS, hrS, hready, _⟩ := hspec.run hsup sD hdone fun f hf =>
    let ⟨_, _, _, _, _, _, h⟩ := hspec.mem hf
    h.shape.pre_congr (hcnD _) (hσ f hf)
  obtain ⟨sT, hexT, hrT, hvars', _⟩ := hspec.phase C hsup (·.sets)
    (P := fun _ _ f v σ => ColReady C.N f v σ) (Q := fun i _ _ v σ => σ (cn i) = some (.val v))
    (fun _ _ _ _ _ _ h hag hp => h.shape.ready_congr hag hp)
    (fun i m f v σ σ' h hag hp => (hag _ (Or.inr rfl)).trans hp) hge
    (fun i m f v h s hp => by
      obtain ⟨s', h1, h2, h3, h4⟩ := h.shape.sets_ok C s hp
      exact ⟨s', h1, h2, h3, fun y hy _ => h4 y hy⟩) sS hready
  have hread : readCols sT.env C.cols = .ok vs := by
    rw [hCcols]; exact readCols_of_varsHold cn vs 0 sT.env (varsHold_of_cols hvars')
  obtain ⟨sF, hexF, hrF, hpreF, _⟩ := hspec.phase C hsup (·.clears)
    (P := fun i _ _ v σ => σ (cn i) = some (.val v)) (Q := fun _ _ f _ σ => f.Pre σ)
    (fun i m f v σ σ' h hag hp => (hag _ (Or.inr rfl)).trans hp)
    (fun i m f v σ σ' h hag hp => h.shape.pre_congr (hag _ (Or.inr rfl)) hp) hge
    (fun i m f v h s hp => by
      obtain ⟨s', h1, h2, h3, h4⟩ := h.shape.clears_ok C h.vec s hp
      exact ⟨s', h1, h2, h3, fun y hy _ => h4 y hy⟩) ⟨sT.env, sT.rows ++ [vs]⟩ hvars'
  have hblock : exec C P.body ⟨σc, []⟩ = .ok sF := exec_block5 C _ _ _ _ _ ⟨σc, []⟩ sD sS sT sF vs hexD hexS hexT hread hexF
  have hrows : sF.rows = [vs] := by rw [hrF]; show sT.rows ++ [vs] = [vs]; rw [hrT, hrS, hrD]; rfl
  refine ⟨keepClass P.classVars sF.env, by rw [runEvent_of_exec hblock, hrows], fun f hf => ?_⟩
  obtain ⟨i, m, v, _, _, _, hs⟩ := hspec.mem hf
  obtain ⟨i', m', v', _, _, _, hq⟩ := hpreF.mem hf
  refine hs.shape.pre_congr (keepClass_of_mem ?_ _) hq
  rw [← hs.shape.var]
  exact List.mem_map.2 ⟨f.classVar, List.mem_append_right _ (List.mem_map.2 ⟨f, hf, rfl⟩), rfl⟩

/-- **the fault direction of `Cols.run`**: the columns in front of the one related to `b` have `ColSpec`, and the loops of
`b`'s fragment fault (with `R`) wherever its declarations are done and its precondition holds. Then the loops of the whole
list raise such a fault: the earlier columns' loops run, nothing after the failing one does. -/
theorem Cols.run_fault {C : Ctx D} {nm cn : Nat → String} (hsup : Supply nm cn) {β : Type} {S : Nat → Nat → ColFrag → β → Prop}
    (hS : ∀ i m f b, S i m f b → ColShape C.N nm cn i m f) (R : Fault → Prop) (b : β) (post : List β)
    (hb : ∀ i m f, S i m f b → ∀ s : St D, DeclsDoneA C.N f.decls s.env → f.Pre s.env →
      ∃ f', execs C f.stmts s = .error f' ∧ R f') :
    ∀ (pre : List β) {idx n : Nat} {fs : List ColFrag}, Cols S idx n fs (pre ++ b :: post) →
      (∀ i m f a, a ∈ pre → S i m f a → ∃ v, ColSpec C nm cn i m f v) →
      ∀ s : St D, DeclsDoneA C.N (fs.flatMap (·.decls)) s.env → (∀ f ∈ fs, f.Pre s.env) →
      ∃ f', execs C (fs.flatMap (·.stmts)) s = .error f' ∧ R f'
  | [], _, _, _, .cons h1 _, _, s, hdone, hpre => by
    obtain ⟨f', h, hR⟩ := hb _ _ _ h1 s (fun d hd => hdone d (by simp [hd])) (hpre _ (List.mem_cons_self ..))
    exact ⟨f', by rw [List.flatMap_cons, execs_append, h], hR⟩
  | a :: pre, idx, n, _, .cons (f := f) (fs := fs) h1 h2, hok, s, hdone, hpre => by
    obtain ⟨v, hspec⟩ := hok _ _ _ a (List.mem_cons_self ..) h1
    obtain ⟨s1, hex1, _, _, hfr1⟩ := hspec.run s (fun d hd => hdone d (by simp [hd])) (hpre _ (List.mem_cons_self ..))
    obtain ⟨f', h, hR⟩ := Cols.run_fault hsup hS R b post hb pre h2
      (fun i m g a' ha => hok i m g a' (List.mem_cons_of_mem _ ha)) s1
      (DeclsDoneA.transport (fun d hd => hdone d (by simp [hd])) (h2.declsIn hS) fun y hy => hfr1 y
        (by obtain ⟨j, _, _, rfl⟩ := hy; exact hsup.disj j idx)
        (by
          rintro (hr | hr)
          · exact inRange_disjoint hsup.inj hy (hr.mono (Nat.le_refl _) (Nat.le_refl _))
          · obtain ⟨j, _, _, rfl⟩ := hy; exact hsup.res j hr))
      (fun g hg => by
        obtain ⟨i, m, b', hi, _, _, hs⟩ := h2.mem hg
        exact (hS _ _ _ _ hs).pre_congr (hfr1 _ (fun e => by have := hsup.cinj _ _ e; omega)
          (not_touch_of_ne (fun j e => hsup.disj j i e.symm) (hsup.cres i) _ _)) (hpre g (List.mem_cons_of_mem _ hg)))
    exact ⟨f', by rw [List.flatMap_cons, execs_append, hex1]; exact h, hR⟩

/-- **one event of an event-level package, a failing column**: the declarations and the loops of the earlier columns
run, then the fault: the assignments, the `Fill` and the clears are not reached, no row is written -/
theorem eventPackage_fault (B : Backend) (nm cn : Nat → String) (hsup : Supply nm cn)
    (N : Num D) (ev : Event D) (names : List String) (toks : List (String × String × String)) (fs : List ColFrag)
    {β : Type} {S : Nat → Nat → ColFrag → β → Prop}
    (hS : ∀ i m f b, S i m f b → ColShape ((eventPackage B names toks fs).ctx N ev).N nm cn i m f) (R : Fault → Prop)
    (pre : List β) (b : β) (post : List β) (h : Cols S 0 0 fs (pre ++ b :: post))
    (hok : ∀ i m f a, a ∈ pre → S i m f a → ∃ v, ColSpec ((eventPackage B names toks fs).ctx N ev) nm cn i m f v)
    (hb : ∀ i m f, S i m f b → ∀ s : St D, DeclsDoneA ((eventPackage B names toks fs).ctx N ev).N f.decls s.env → f.Pre s.env →
      ∃ f', execs ((eventPackage B names toks fs).ctx N ev) f.stmts s = .error f' ∧ R f')
    (σc : Env D) (hσ : ∀ f ∈ fs, f.Pre σc) :
    ∃ f', runEvent (eventPackage B names toks fs) N σc ev = .error f' ∧ R f' := by
  obtain ⟨hsimple, hnodup⟩ := h.declsOK hsup.inj hS
  obtain ⟨sD, hexD, _, hdone, hfrD⟩ := exec_declsA ((eventPackage B names toks fs).ctx N ev) _ ⟨σc, []⟩ hsimple hnodup
  have hcnD : ∀ k, sD.env (cn k) = σc (cn k) := fun k => hfrD _ fun hm => by
    obtain ⟨j, _, _, hj⟩ := declsIn_names (h.declsIn hS) _ hm
    exact hsup.disj j k hj.symm
  obtain ⟨f', hfault, hR⟩ := Cols.run_fault hsup hS R b post hb pre h hok sD hdone fun f hf =>
    let ⟨_, _, _, _, _, _, hs⟩ := h.mem hf
    (hS _ _ _ _ hs).pre_congr (hcnD _) (hσ f hf)
  refine ⟨f', ?_, hR⟩
  have hexec : exec ((eventPackage B names toks fs).ctx N ev) (eventPackage B names toks fs).body ⟨σc, []⟩ = .error f' := by
    show exec _ (.block (fs.flatMap (·.decls) ++ fs.flatMap (·.stmts) ++ fs.flatMap (·.sets) ++
      [.fill (B.fillTree B.treeName)] ++ fs.flatMap (·.clears))) ⟨σc, []⟩ = _
    simp only [exec]
    rw [execs_append, execs_append, execs_append, execs_append, hexD]
    simp only []
    rw [hfault]
  simp only [runEvent, hexec]

theorem eventDict_denote (QC : QCtx D) (names : List String) (qs : List Query) (hlen : names.length = qs.length)
    (rows : List (List (Val D)))
    (h : denoteRows QC (.select .ds "e" (.dict names qs)) = .ok rows) :
    ∃ vs, denotes QC [("e", evtVal)] qs = .ok vs ∧ rows = [vs] := by
  simp only [denoteRows] at h
  rw [denote_select] at h
  simp only [denote, mapE] at h
  cases hd : denotes QC [("e", Val.obj "__event__" [])] qs with
  | error e => rw [hd] at h; simp at h
  | ok vs =>
    rw [hd] at h
    simp only [Except.ok.injEq] at h
    refine ⟨vs, by simpa [evtVal] using hd, ?_⟩
    have hl := denotes_length QC _ _ vs hd
    rw [← h]
    simp only [List.map_cons, List.map_nil, rowOf, tupleVal]
    rw [List.map_snd_zip (by omega)]

theorem classInit_skip : ∀ (a b : List (String × String)) (x : String), x ∉ a.map (·.2) →
    (classInit (a ++ b) : Env D) x = (classInit b : Env D) x
  | [], _, _, _ => rfl
  | (ty, n) :: rest, b, x, h => by
    simp only [List.map_cons, List.mem_cons, not_or] at h
    rw [List.cons_append, classInit_cons_ne ty n _ h.1]
    exact classInit_skip rest b x h.2

theorem classInit_skip_tokens (nm cn : Nat → String) (hdisj : ∀ j k, nm j ≠ cn k) (toks : List (String × String × String))
    (htn : ∀ t ∈ toks, ∃ j, t.1 = nm j) (cvs : List (String × String)) (k : Nat) :
    (classInit (toks.map (fun t => ("edm::EDGetTokenT<" ++ t.2.1 ++ ">", t.1)) ++ cvs) : Env D) (cn k) =
      (classInit cvs : Env D) (cn k) :=
  classInit_skip _ _ _ (by
    rw [List.map_map]; exact token_ne_col hdisj htn (mem_colNames cn (k + 1) 0 k (Nat.zero_le _) (by omega)))

theorem isVecType_vector (t : String) : isVecType ("std::vector<" ++ t ++ ">") = true := by
  simp [isVecType, String.toList_append]

end FaxVerif.Gen
