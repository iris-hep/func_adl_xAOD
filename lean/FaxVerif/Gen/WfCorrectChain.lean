/-
What the definite-assignment checker `da` computes on the building blocks the translator model emits for
ONE chain `coll(bank).{Select|Where}*`: the lowered conjunction of fused `Where`s; the loop body
(`chainBody` is `guardBody` of Gen/LoopCorrect.lean, `chainBodyT_eq_guard`: the conjunction, then the guarded continuation — `guardBody_da`);
the retrieval block (`result` declared in its own block, the handle assigned); then retrieval + loop, after which the
checker's state extends the one before (`Ext`, Gen/WfCorrectBase.lean)
  * `chain_plain`: with a continuation that assigns no guard (Count / Sum / vector column / row fill);
  * `chain_first`: with the `First()` capture `if (is_first) { is_first = false; v = cur; }` —
    the candidate facts `(is_first, y)` the body keeps are exactly those with `y` initialised at the head
    (or `y ∈ {is_first, v}`), they are an invariant, and `(is_first, v)` is among them.
-/
import FaxVerif.Gen.TokenTable
import FaxVerif.Gen.WfCorrectBase
namespace FaxVerif.Gen.Wf
open FaxVerif.Cpp FaxVerif.Gen

theorem isVec_cpp (t : Ty) : isVecType t.cpp = false := by cases t <;> decide

theorem clean_compPE (ptr : Bool) (cur : CExpr) (t : Ty) (hc : clean cur = true) :
    ∀ pe : PE, clean (compPE ptr cur t pe) = true
  | .int _ => by simp [compPE, clean]
  | .dbl _ _ => by simp [compPE, clean]
  | .bool _ => by simp [compPE, clean]
  | .it => by simpa [compPE] using hc
  | .meth _ _ => by simp [compPE, clean, cleanL, hc]
  | .bin op a b => by
    have ha := clean_compPE ptr cur t hc a
    have hb := clean_compPE ptr cur t hc b
    simp only [compPE]
    split <;> simp [clean, ha, hb]
  | .cmp _ a b => by simp [compPE, clean, clean_compPE ptr cur t hc a, clean_compPE ptr cur t hc b]
  | .neg a => by simp [compPE, clean, clean_compPE ptr cur t hc a]
  | .not a => by simp [compPE, clean, clean_compPE ptr cur t hc a]

theorem stepConds_clean (ptr : Bool) : ∀ (steps : List Step) (cur : CExpr) (curTy : Option Ty), clean cur = true →
    (∀ c ∈ (stepConds ptr cur curTy steps).1, clean c = true) ∧ clean (stepConds ptr cur curTy steps).2.1 = true
  | [], cur, curTy, hc => by simp [stepConds, hc]
  | .sel f :: rest, cur, curTy, hc => by
    simp only [stepConds]
    exact stepConds_clean ptr rest _ _ (clean_compPE _ _ _ hc f)
  | .whr c :: rest, cur, curTy, hc => by
    have ih := stepConds_clean ptr rest cur curTy hc
    simp only [stepConds]
    refine ⟨?_, ih.2⟩
    intro c' hc'
    rcases List.mem_cons.1 hc' with rfl | hc'
    · exact clean_compPE _ _ _ hc c
    · exact ih.1 c' hc'

theorem andLower_cons (nm : Nat → String) (c c2 : CExpr) (rest : List CExpr) (n : Nat) :
    andLower nm (c :: c2 :: rest) n =
      ⟨.decl "bool" (nm n) none :: (andLower nm (c2 :: rest) (n + 1)).decls,
       (andLower nm (c2 :: rest) (n + 1)).stmts ++
         [.set (nm n) (andLower nm (c2 :: rest) (n + 1)).val, .ite (.var (nm n)) [.set (nm n) c] []],
       .var (nm n), (andLower nm (c2 :: rest) (n + 1)).next⟩ := rfl

theorem andLower_decls_da (C : DACtx) (nm : Nat → String) (hinj : ∀ i j, nm i = nm j → i = j) :
    ∀ (rc : List CExpr) (n : Nat) (s : DA),
      (∀ k, n ≤ k → k < (andLower nm rc n).next → nm k ∉ s.D) →
      ∃ t, das C (andLower nm rc n).decls s = some t ∧ t.A = s.A ∧ (∀ y ∈ s.D, y ∈ t.D) ∧
        (∀ k, n ≤ k → k < (andLower nm rc n).next → nm k ∈ t.D)
  | [], n, s, _ => ⟨s, by simp [andLower, das], rfl, fun _ h => h, by simp only [andLower]; omega⟩
  | [c], n, s, _ => ⟨s, by simp [andLower, das], rfl, fun _ h => h, by simp only [andLower]; omega⟩
  | c :: c2 :: rest, n, s, hf => by
    have hge := andLower_next_ge nm (c2 :: rest) (n + 1)
    simp only [andLower_cons] at hf ⊢
    have hb : nm n ∉ s.D := hf n (Nat.le_refl _) (by omega)
    have h1 := da_decl_none (C := C) hb (isVec_cpp .bool)
    obtain ⟨t, ht, hA, hD, hR⟩ := andLower_decls_da C nm hinj (c2 :: rest) (n + 1)
      { D := nm n :: s.D, A := s.A, T := (s.fresh (nm n)).T, G := (s.fresh (nm n)).G } (by
      intro k hk1 hk2 hm
      rcases List.mem_cons.1 hm with e | hm
      · have := hinj _ _ e; omega
      · exact hf k (by omega) hk2 hm)
    refine ⟨t, das_cons h1 ht, hA, fun y hy => hD y (List.mem_cons_of_mem _ hy), fun k hk1 hk2 => ?_⟩
    by_cases hk : k = n
    · subst hk; exact hD _ (List.mem_cons_self ..)
    · exact hR k (by omega) hk2

theorem andLower_stmts_da (C : DACtx) (nm : Nat → String) :
    ∀ (rc : List CExpr) (n : Nat) (s : DA), AsubD s →
      (∀ c ∈ rc, okE s c = true) →
      (∀ k, n ≤ k → k < (andLower nm rc n).next → nm k ∈ s.D) →
      ∃ t, das C (andLower nm rc n).stmts s = some t ∧ t.D = s.D ∧ AsubD t ∧ (∀ y ∈ s.A, y ∈ t.A) ∧
        (∀ y ∈ t.A, y ∈ s.A ∨ InRange nm n (andLower nm rc n).next y) ∧ okE t (andLower nm rc n).val = true
  | [], n, s, hs, _, _ => ⟨s, by simp [andLower, das], rfl, hs, fun _ h => h, fun _ h => Or.inl h,
      by simp [andLower, okE, clean, vars, subset]⟩
  | [c], n, s, hs, hok, _ => ⟨s, by simp [andLower, das], rfl, hs, fun _ h => h, fun _ h => Or.inl h,
      by simpa [andLower] using hok c (by simp)⟩
  | c :: c2 :: rest, n, s, hs, hok, hin => by
    have hge := andLower_next_ge nm (c2 :: rest) (n + 1)
    simp only [andLower_cons] at hin ⊢
    obtain ⟨t1, h1, hD1, hs1, hA1, hU1, hv1⟩ := andLower_stmts_da C nm (c2 :: rest) (n + 1) s hs
      (fun c' hc' => hok c' (List.mem_cons_of_mem _ hc')) (fun k hk1 hk2 => hin k (by omega) hk2)
    have hb : nm n ∈ t1.D := by rw [hD1]; exact hin n (Nat.le_refl _) (by omega)
    have e2 := da_set (C := C) hb hv1
    have hbA : nm n ∈ (t1.assign (nm n)).A := List.mem_cons_self ..
    have hcc : okE (t1.assign (nm n)) c = true :=
      okE_mono (hok c (by simp)) (fun y hy => List.mem_cons_of_mem _ (hA1 y hy))
    have e3 := da_ite (C := C) (s := t1.assign (nm n)) (c := .var (nm n)) (thn := [.set (nm n) c]) (els := [])
      (st := (t1.assign (nm n)).assign (nm n)) (se := (t1.assign (nm n)).knowFalse (.var (nm n))) (okE_var hbA)
      (by rw [das_single]; exact da_set hb hcc) rfl rfl
    have hall := das_append_some C h1 (das_cons e2 (by rw [das_single]; exact e3))
    obtain ⟨hsT, hAT⟩ := das_mono C _ s _ hall hs
    refine ⟨_, hall, by simpa [DA.join, DA.assign] using hD1, hsT, hAT, ?_, ?_⟩
    · intro y hy
      have hy' := ((mem_join_A _ _ _ _).1 hy).1.1
      simp only [DA.assign, List.mem_cons] at hy'
      rcases hy' with e | e | hy'
      · exact Or.inr ⟨n, Nat.le_refl _, by omega, e⟩
      · exact Or.inr ⟨n, Nat.le_refl _, by omega, e⟩
      · rcases hU1 y hy' with h | ⟨j, a, b, e⟩
        · exact Or.inl h
        · exact Or.inr ⟨j, by omega, b, e⟩
    · refine okE_var ((mem_join_A _ _ _ _).2 ⟨⟨List.mem_cons_of_mem _ hbA, knowFalse_A _ _ _ hbA⟩, ?_⟩)
      simpa [DA.assign] using hb

theorem andLower_asg (nm : Nat → String) : ∀ (rc : List CExpr) (n : Nat),
    C03.writesL (andLower nm rc n).decls = [] ∧ ∀ y ∈ C03.writesL (andLower nm rc n).stmts, InRange nm n (andLower nm rc n).next y
  | [], n => by simp [andLower, C03.writesL]
  | [c], n => by simp [andLower, C03.writesL]
  | c :: c2 :: rest, n => by
    have ih := andLower_asg nm (c2 :: rest) (n + 1)
    have hge := andLower_next_ge nm (c2 :: rest) (n + 1)
    constructor
    · simp only [andLower, C03.writesL, C03.writes, ih.1, List.append_nil]
    · intro y hy
      simp only [andLower, writesL_append, C03.writesL, C03.writes, List.mem_append, List.mem_cons, List.not_mem_nil, or_false,
        List.append_nil] at hy ⊢
      rcases hy with hy | hy | hy
      · obtain ⟨j, a, b, e⟩ := ih.2 y hy; exact ⟨j, by omega, b, e⟩
      · exact ⟨n, Nat.le_refl _, by omega, hy⟩
      · exact ⟨n, Nat.le_refl _, by omega, hy⟩

def cbNext (nm : Nat → String) (ptr : Bool) (it : CExpr) (steps : List Step) (n : Nat) : Nat :=
  match (stepConds ptr it none steps).1 with
  | [] => n
  | c :: cs => (andLower nm (c :: cs).reverse n).next

theorem cbNext_ge (nm : Nat → String) (ptr : Bool) (it : CExpr) (steps : List Step) (n : Nat) :
    n ≤ cbNext nm ptr it steps n := by
  unfold cbNext
  cases h : (stepConds ptr it none steps).1 with
  | nil => simp
  | cons c cs => simp only []; exact andLower_next_ge nm _ n

/-- what the steps of a chain make of the loop variable `i` — the conditions and the final value — is readable wherever `i` is -/
theorem stepConds_ok (ptr : Bool) (steps : List Step) {s : DA} {i : String} (hi : i ∈ s.A) :
    (∀ c ∈ (stepConds ptr (.var i) none steps).1, okE s c = true) ∧ okE s (stepConds ptr (.var i) none steps).2.1 = true :=
  ⟨fun c hc => okE_of ((stepConds_clean ptr steps _ none rfl).1 c hc) fun x hx =>
      List.mem_singleton.1 ((stepConds_vars ptr steps (.var i) none).1 c hc x hx) ▸ hi,
    okE_of (stepConds_clean ptr steps _ none rfl).2 fun x hx =>
      List.mem_singleton.1 ((stepConds_vars ptr steps (.var i) none).2 x hx) ▸ hi⟩

/-- the lowered conjunction assigns only its own flags; then the continuation -/
theorem guardBody_asg (nm : Nat → String) (conds : List CExpr) (n : Nat) (K : List Stmt) :
    ∀ y ∈ C03.writesL (guardBody nm conds n K).1, InRange nm n (guardBody nm conds n K).2 y ∨ y ∈ C03.writesL K := by
  cases conds with
  | nil => exact fun y hy => Or.inr hy
  | cons c cs =>
    intro y hy
    simp only [guardBody, writesL_append, (andLower_asg nm (c :: cs).reverse n).1, List.nil_append, List.mem_append] at hy ⊢
    exact hy.imp ((andLower_asg nm (c :: cs).reverse n).2 y) (by simp [C03.writesL, C03.writes])

/-- **the guarded continuation**: the conjunction of `conds` (each readable at the start, its flags fresh) is lowered and leads to a state
`sp` that knows what `h` knew (more is initialised, only among the flags; facts about other names are kept); whenever the
continuation `K` is accepted from `sp`, the whole is accepted, knowing at most what `K` left and keeping the facts `K` kept.
`chainBody nm ptr it steps n k` unfolds to `guardBody nm (stepConds ptr it none steps).1 n (k …)`. -/
theorem guardBody_da (C : DACtx) (nm : Nat → String) (hinj : ∀ i j, nm i = nm j → i = j) (conds : List CExpr) (n : Nat)
    (K : List Stmt) (h : DA) (hs : AsubD h) (hok : ∀ c ∈ conds, okE h c = true)
    (hf : ∀ k, n ≤ k → k < (guardBody nm conds n K).2 → nm k ∉ h.D) (hKt : isThrow K = false) :
    ∃ sp, AsubD sp ∧ (∀ y ∈ h.D, y ∈ sp.D) ∧ (∀ y ∈ h.A, y ∈ sp.A) ∧
      (∀ y ∈ sp.A, y ∈ h.A ∨ InRange nm n (guardBody nm conds n K).2 y) ∧
      (∀ p ∈ h.G, p.1 ∈ h.D → p.2 ∈ h.D → p ∈ sp.G) ∧
      ∀ tk, das C K sp = some tk → ∃ t, das C (guardBody nm conds n K).1 h = some t ∧ (∀ p, t.eff p = true → tk.eff p = true) ∧
        (∀ p, p ∈ tk.G → p ∈ sp.G → p.1 ∈ sp.D → p.2 ∈ sp.D → p ∈ t.G) := by
  cases conds with
  | nil => exact ⟨h, hs, fun _ a => a, fun _ a => a, fun _ a => Or.inl a, fun _ a _ _ => a, fun tk hk => ⟨tk, hk, fun _ a => a, fun _ a _ _ _ => a⟩⟩
  | cons c cs =>
    simp only [guardBody] at hf ⊢
    obtain ⟨t0, h0, hA0, hD0, hR0⟩ := andLower_decls_da C nm hinj (c :: cs).reverse n h hf
    have hs0 : AsubD t0 := fun y hy => hD0 y (hs y (hA0 ▸ hy))
    obtain ⟨sp, h1, hD1, hs1, hA1, hU1, hv1⟩ := andLower_stmts_da C nm (c :: cs).reverse n t0 hs0
      (fun c' hc' => okE_mono (hok c' (List.mem_reverse.1 hc')) (fun y hy => hA0 ▸ hy)) hR0
    have hpre := das_append_some C h0 h1
    refine ⟨sp, hs1, fun y hy => hD1 ▸ hD0 y hy, fun y hy => hA1 y (hA0 ▸ hy), fun y hy => (hU1 y hy).imp (hA0 ▸ ·) id,
      fun p hp p1 p2 => (das_frame C _ h sp hpre p p1 p2 fun hm => ?_).1 hp, fun tk hk => ?_⟩
    · rw [writesL_append, (andLower_asg nm (c :: cs).reverse n).1, List.nil_append] at hm
      obtain ⟨k, k1, k2, e⟩ := (andLower_asg nm (c :: cs).reverse n).2 _ hm
      exact hf k k1 k2 (e ▸ p1)
    · refine ⟨_, das_append_some C hpre ((das_single C _ sp).trans (da_ite hv1 hk rfl hKt)), fun p hp => join_eff_left _ _ _ _ hp,
        fun p g1 g2 g3 g4 => join_G_of_left _ _ _ _ g1 (eff_of_G (by rw [knowFalse_G]; exact g2)) g3 g4⟩

/-- the retrieval of a chain: `{ T result (init); retrieve into result; x = result; }` -/
def retrBlock (B : Backend) (nm : Nat → String) (c : Chain) (n : Nat) : Stmt :=
  .block [.decl (B.handleTy ((B.collType c.coll).getD "?")) "result" B.resultInit,
          .retrieve B.how ((B.collType c.coll).getD "?") "result" (if B.how = "token" then .opaque "" else .str c.bank)
            (if B.how = "token" then nm (n + 2) else ""),
          .set (nm n) (.var "result")]

theorem compChain_stmts (B : Backend) (nm : Nat → String) (c : Chain) (n : Nat) (K : CExpr → Option Ty → List Stmt) :
    (compChain B nm c n K).stmts = [retrBlock B nm c n,
      .loop (nm (n + 1)) (.deref (.var (nm n))) (chainBody nm B.elemPtr (.var (nm (n + 1))) c.steps (n + 3) K).1] := rfl

theorem retr_block_da (C : DACtx) (B : Backend) (hB : BackendBase B) (nm : Nat → String) (c : Chain) (n : Nat)
    (s : DA) (hs : AsubD s) (hx : nm n ∈ s.D) (hresD : "result" ∉ s.D)
    (htok : B.how = "token" → nm (n + 2) ∈ C.tokens) :
    ∃ t, da C (retrBlock B nm c n) s = some t ∧ Ext s t ∧ nm n ∈ t.A := by
  have h1 : ∃ s1, da C (.decl (B.handleTy ((B.collType c.coll).getD "?")) "result" B.resultInit) s = some s1 ∧
      s1.D = "result" :: s.D ∧ (∀ f ∈ s1.T, f ∈ s.T) ∧ (∀ p ∈ s1.G, p ∈ s.G) := by
    rcases hB.resultInit with e | e
    · rw [e]
      exact ⟨_, da_decl_none hresD (hB.handleNotVec _), rfl, fun f hf => ((mem_fresh_T _ _ _).1 hf).1,
        fun p hp => ((mem_fresh_G _ _ _).1 hp).1⟩
    · rw [e]
      refine ⟨{ D := "result" :: s.D, A := "result" :: s.A, T := (s.fresh "result").T, G := (s.fresh "result").G }, ?_, rfl,
        fun f hf => ((mem_fresh_T _ _ _).1 hf).1, fun p hp => ((mem_fresh_G _ _ _).1 hp).1⟩
      exact da_decl_some_iff.2 ⟨hresD, by simp [okE, clean, vars, subset], by simp [isTrueLit]⟩
  obtain ⟨s1, e1, hD1, hT1, hG1⟩ := h1
  have hr1 : "result" ∈ s1.D := by rw [hD1]; exact List.mem_cons_self ..
  have e2 : da C (.retrieve B.how ((B.collType c.coll).getD "?") "result" (if B.how = "token" then .opaque "" else .str c.bank)
      (if B.how = "token" then nm (n + 2) else "")) s1 = some (s1.assign "result") := by
    refine da_retrieve_iff.2 ⟨hr1, ?_, rfl⟩
    by_cases ht : B.how = "token"
    · simp [retrOk, ht, htok ht]
    · simp [retrOk, ht, okE, clean, vars, subset]
  have hx2 : nm n ∈ (s1.assign "result").D := by
    show nm n ∈ s1.D; rw [hD1]; exact List.mem_cons_of_mem _ hx
  have e3 : da C (.set (nm n) (.var "result")) (s1.assign "result") = some ((s1.assign "result").assign (nm n)) :=
    da_set hx2 (okE_var (List.mem_cons_self ..))
  have hall := da_block (C := C) (s := s) (das_cons e1 (das_cons e2 (by rw [das_single]; exact e3)))
  obtain ⟨hsT, hAT⟩ := da_mono C _ s _ hall hs
  refine ⟨_, hall, ⟨rfl, hsT, hAT, fun p hp => hp.imp ?_ ?_⟩, (mem_restrict_A _ _ _).2 ⟨List.mem_cons_self .., hx⟩⟩
  · intro hf
    have h := ((mem_restrict_T _ _ _).1 hf).1
    exact hT1 _ ((mem_assign_T _ _ _).1 ((mem_assign_T _ _ _).1 h).1).1
  · intro hp
    have h := ((mem_restrict_G _ _ _).1 hp).1
    exact hG1 p ((mem_assign_G _ _ _).1 ((mem_assign_G _ _ _).1 h).1).1

/-- the state after the loop of a chain: what the enclosing scope knew, and no flag or fact that was not pending before.
Of the names the chain uses, only its handle `nm n` and its token `nm (n + 2)` may be declared outside. -/
theorem chain_plain (C : DACtx) (B : Backend) (hB : BackendBase B) (nm : Nat → String)
    (hinj : ∀ i j, nm i = nm j → i = j)
    (c : Chain) (n : Nat) (K : CExpr → Option Ty → List Stmt) (s : DA) (hs : AsubD s)
    (hx : nm n ∈ s.D) (hresD : "result" ∉ s.D)
    (hfr : ∀ k, n < k → k < (compChain B nm c n K).next → k ≠ n + 2 → nm k ∉ s.D)
    (htok : B.how = "token" → nm (n + 2) ∈ C.tokens)
    (hK : ∀ sp, (∀ y ∈ s.D, y ∈ sp.D) → (∀ y ∈ s.A, y ∈ sp.A) → nm (n + 1) ∈ sp.A →
      ∃ tk, das C (K (chainVal B nm c n).1 (chainVal B nm c n).2) sp = some tk)
    (hKt : isThrow (K (chainVal B nm c n).1 (chainVal B nm c n).2) = false)
    (hng : ∀ p, Pend s p → p.1 ∉ C03.writesL (K (chainVal B nm c n).1 (chainVal B nm c n).2)) :
    ∃ t, das C (compChain B nm c n K).stmts s = some t ∧ Ext s t := by
  obtain ⟨s', e1, ⟨hD', hs', hA', hpd⟩, hxA⟩ := retr_block_da C B hB nm c n s hs hx hresD htok
  have hnext := compChain_next B nm c n K
  rw [← hD'] at hfr
  have hcand : ∀ p ∈ loopCand s', Pend s p := fun p hp => hpd p (pend_of_cand hp)
  have hiA : nm (n + 1) ∈ (loopHead s' (nm (n + 1)) (loopCand s')).A := List.mem_cons_self ..
  obtain ⟨sp, _, hDp, hAp, _, _, hrun⟩ := guardBody_da C nm hinj (stepConds B.elemPtr (.var (nm (n + 1))) none c.steps).1 (n + 3)
    (K (chainVal B nm c n).1 (chainVal B nm c n).2)
    (loopHead s' (nm (n + 1)) (loopCand s')) (hs'.loopHead _ _) (stepConds_ok _ _ hiA).1 (by
      intro k hk1 hk2 hm
      rcases List.mem_cons.1 hm with e | hm
      · have := hinj _ _ e; omega
      · exact hfr k (by omega) hk2 (by omega) hm) hKt
  obtain ⟨tk, ek⟩ := hK sp (fun y hy => hDp y (List.mem_cons_of_mem _ (hD' ▸ hy)))
    (fun y hy => hAp y (List.mem_cons_of_mem _ (hA' y hy))) (hAp _ hiA)
  obtain ⟨sb, eb, _, _⟩ := hrun tk ek
  have hloop := loop_plain C s' (nm (n + 1)) (.deref (.var (nm n))) _ sb (okE_of rfl (by simpa [vars] using hxA))
    (hfr (n + 1) (by omega) (by omega) (by omega)) eb (by
    intro p hp hm
    rcases guardBody_asg nm _ _ _ _ hm with ⟨k, a, b, e⟩ | hm
    · exact hfr k (by omega) b (by omega) (e ▸ ((mem_loopCand s' p).1 hp).2.1)
    · exact hng p (hcand p hp) hm)
  exact ⟨{ s' with T := [], G := loopCand s' },
    by rw [compChain_stmts]; exact das_cons e1 (by rw [das_single]; exact hloop),
    ⟨hD', hs', hA', fun p hp => hcand p (hp.resolve_left List.not_mem_nil)⟩⟩

/-- `if (is_first) { is_first = false; v = cur; }` -/
def firstK (fl v : String) (cur : CExpr) : Stmt := .ite (.var fl) [.set fl (.bool false), .set v cur] []

theorem writesL_firstK (fl v : String) (cur : CExpr) : C03.writesL [firstK fl v cur] = [fl, v] := rfl

theorem firstK_da (C : DACtx) (sp : DA) (fl v : String) (cur : CExpr)
    (hflA : fl ∈ sp.A) (hflD : fl ∈ sp.D) (hvD : v ∈ sp.D) (hcur : okE sp cur = true) :
    ∃ tk, das C [firstK fl v cur] sp = some tk ∧
      (∀ y, tk.eff (fl, y) = true → y = v ∨ y = fl ∨ y ∈ sp.A) ∧
      (∀ y, (fl, y) ∈ sp.G → (y = v ∨ y = fl ∨ y ∈ sp.A) → y ∈ sp.D → (fl, y) ∈ tk.G) := by
  have e1 : da C (.set fl (.bool false)) sp = some (sp.assign fl) := da_set hflD (by simp [okE, clean, vars, subset])
  have e2 : da C (.set v cur) (sp.assign fl) = some ((sp.assign fl).assign v) :=
    da_set hvD (okE_mono hcur (fun y hy => List.mem_cons_of_mem _ hy))
  have hthn : das C [.set fl (.bool false), .set v cur] sp = some ((sp.assign fl).assign v) :=
    das_cons e1 (by rw [das_single]; exact e2)
  have hite : da C (firstK fl v cur) sp = some (DA.join sp.D ((sp.assign fl).assign v) (sp.knowFalse (.var fl))) :=
    da_ite (okE_var hflA) hthn rfl rfl
  refine ⟨_, by rw [das_single]; exact hite, ?_, ?_⟩
  · intro y hy
    have h := (eff_iff _ _).1 (join_eff_left _ _ _ _ hy)
    rcases h with h | h | h
    · have h' := ((mem_assign_G _ _ _).1 ((mem_assign_G _ _ _).1 h).1).2
      rcases h' with h' | h' | h'
      · exact absurd rfl h'
      · exact Or.inr (Or.inl h')
      · exact Or.inr (Or.inr h')
    · simp only [DA.assign, List.mem_cons] at h
      rcases h with h | h | h
      · exact Or.inl h
      · exact Or.inr (Or.inl h)
      · exact Or.inr (Or.inr h)
    · exact absurd rfl ((mem_assign_T _ _ _).1 ((mem_assign_T _ _ _).1 h).1).2
  · intro y hg hy hyD
    refine join_G_of_right _ _ _ _ (by rw [knowFalse_G]; exact hg) (eff_of_A ?_) hflD hyD
    simp only [DA.assign, List.mem_cons]
    rcases hy with h | h | h
    · exact Or.inl h
    · exact Or.inr (Or.inl h)
    · exact Or.inr (Or.inr h)

/-- one pass over the loop body of a `First()` chain, from a loop head carrying the facts `G0` -/
theorem first_body (C : DACtx) (nm : Nat → String) (hinj : ∀ i j, nm i = nm j → i = j)
    (ptr : Bool) (steps : List Step) (m : Nat) (i fl v : String) (s' : DA) (G0 : List (String × String))
    (hs' : AsubD s') (him : ∀ k, m ≤ k → i ≠ nm k)
    (hloc : ∀ k, m ≤ k → k < (chainBody nm ptr (.var i) steps m (fun cur _ => [firstK fl v cur])).2 → nm k ∉ s'.D)
    (hflA : fl ∈ s'.A) (hvD : v ∈ s'.D)
    (hG0 : ∀ p ∈ G0, p.1 ∈ s'.D ∧ p.2 ∈ s'.D) :
    ∃ sp sb : DA, das C (chainBody nm ptr (.var i) steps m (fun cur _ => [firstK fl v cur])).1 (loopHead s' i G0) = some sb ∧
      (∀ y ∈ s'.A, y ∈ sp.A) ∧
      (∀ y ∈ sp.A, y = i ∨ y ∈ s'.A ∨ InRange nm m (chainBody nm ptr (.var i) steps m (fun cur _ => [firstK fl v cur])).2 y) ∧
      (∀ y ∈ s'.D, y ∈ sp.D) ∧ (∀ p ∈ G0, p ∈ sp.G) ∧
      (∀ y, sb.eff (fl, y) = true → y = v ∨ y = fl ∨ y ∈ sp.A) ∧
      (∀ y, (fl, y) ∈ sp.G → (y = v ∨ y = fl ∨ y ∈ sp.A) → y ∈ sp.D → sb.eff (fl, y) = true) ∧
      (∀ p ∈ G0, p.1 ≠ fl → p.1 ≠ v → sb.eff p = true) := by
  have hiA : i ∈ (loopHead s' i G0).A := List.mem_cons_self ..
  obtain ⟨sp, _, hDp, hAp, hUp, hGp, hrun⟩ := guardBody_da C nm hinj (stepConds ptr (.var i) none steps).1 m
    [firstK fl v (stepConds ptr (.var i) none steps).2.1] (loopHead s' i G0) (hs'.loopHead i G0) (stepConds_ok _ _ hiA).1 (by
      intro k hk1 hk2 hm
      rcases List.mem_cons.1 hm with e | hm
      · exact him k hk1 e.symm
      · exact hloc k hk1 hk2 hm) rfl
  have hflD : fl ∈ s'.D := hs' fl hflA
  obtain ⟨tk, ek, hup, hlow⟩ := firstK_da C sp fl v (stepConds ptr (.var i) none steps).2.1
    (hAp fl (List.mem_cons_of_mem _ hflA)) (hDp fl (List.mem_cons_of_mem _ hflD)) (hDp v (List.mem_cons_of_mem _ hvD))
    (stepConds_ok ptr steps (hAp _ hiA)).2
  obtain ⟨sb, hbody, hbu, hbl⟩ := hrun tk ek
  have hin : ∀ p ∈ G0, p.1 ∈ (loopHead s' i G0).D ∧ p.2 ∈ (loopHead s' i G0).D := fun p hp =>
    ⟨List.mem_cons_of_mem _ (hG0 p hp).1, List.mem_cons_of_mem _ (hG0 p hp).2⟩
  refine ⟨sp, sb, hbody, fun y hy => hAp y (List.mem_cons_of_mem _ hy), ?_, fun y hy => hDp y (List.mem_cons_of_mem _ hy),
    fun p hp => hGp p hp (hin p hp).1 (hin p hp).2, fun y hy => hup y (hbu _ hy), ?_, ?_⟩
  · intro y hy
    rcases hUp y hy with h | h
    · rcases List.mem_cons.1 h with e | h
      · exact Or.inl e
      · exact Or.inr (Or.inl h)
    · exact Or.inr (Or.inr h)
  · intro y hg hy hyD
    exact eff_of_G (hbl _ (hlow y hg hy hyD) hg (hDp fl (List.mem_cons_of_mem _ hflD)) hyD)
  · intro p hp h1 h2
    refine eff_of_G ((das_frame C _ _ sb hbody p (hin p hp).1 (hin p hp).2 fun hm => ?_).1 hp)
    rcases guardBody_asg nm _ _ _ _ hm with ⟨k, a, b, e⟩ | hm
    · exact hloc k a b (e ▸ (hG0 p hp).1)
    · rcases List.mem_cons.1 (writesL_firstK fl v _ ▸ hm) with hm | hm
      · exact h1 hm
      · exact h2 (List.mem_singleton.1 hm)

/-- **the `First()` loop is accepted** and leaves the fact "flag false ⇒ column variable set" -/
theorem chain_first (C : DACtx) (B : Backend) (hB : BackendBase B) (nm : Nat → String)
    (hinj : ∀ i j, nm i = nm j → i = j)
    (c : Chain) (n : Nat) (fl v : String) (s : DA) (hs : AsubD s)
    (hx : nm n ∈ s.D) (hresD : "result" ∉ s.D)
    (hfr : ∀ k, n < k → k < (compChain B nm c n (fun cur _ => [firstK fl v cur])).next → k ≠ n + 2 → nm k ∉ s.D)
    (htok : B.how = "token" → nm (n + 2) ∈ C.tokens)
    (hflA : fl ∈ s.A) (hvD : v ∈ s.D) (hflx : fl ≠ nm n) (hflr : fl ≠ "result")
    (hpend : Pend s (fl, v))
    (hng : ∀ p, Pend s p → p.1 ≠ v) :
    ∃ t, das C (compChain B nm c n (fun cur _ => [firstK fl v cur])).stmts s = some t ∧ Ext s t ∧ (fl, v) ∈ t.G := by
  obtain ⟨s', e1, ⟨hD', hs', hA', hpd⟩, hxA⟩ := retr_block_da C B hB nm c n s hs hx hresD htok
  have hnext := compChain_next B nm c n (fun cur _ => [firstK fl v cur])
  rw [← hD'] at hfr hvD
  have hflD : fl ∈ s.D := hs fl hflA
  have hpend' : Pend s' (fl, v) :=
    (da_frame C _ s s' e1 (fl, v) hflD (hD' ▸ hvD) (by simp [retrBlock, C03.writes, C03.writesL, hflx, hflr])).2 hpend
  have hi' : nm (n + 1) ∉ s'.D := hfr (n + 1) (by omega) (by omega) (by omega)
  have hloc' : ∀ k, n + 3 ≤ k →
      k < (chainBody nm B.elemPtr (.var (nm (n + 1))) c.steps (n + 3) (fun cur _ => [firstK fl v cur])).2 → nm k ∉ s'.D :=
    fun k k1 k2 => hfr k (by omega) k2 (by omega)
  have him : ∀ k, n + 3 ≤ k → nm (n + 1) ≠ nm k := fun k hk e => by have := hinj _ _ e; omega
  have hcand : ∀ p ∈ loopCand s', p.1 ∈ s'.D ∧ p.2 ∈ s'.D := fun p hp => ((mem_loopCand s' p).1 hp).2
  have hfvc : (fl, v) ∈ loopCand s' := (mem_loopCand s' _).2 ⟨hpend'.symm, hD' ▸ hflD, hvD⟩
  obtain ⟨sp1, sb1, eb1, _, hU1, hDl1, hF1, hup1, hlow1, _⟩ := first_body C nm hinj B.elemPtr c.steps (n + 3)
    (nm (n + 1)) fl v s' (loopCand s') hs' him hloc' (hA' fl hflA) hvD hcand
  have hinv : ∀ p ∈ (loopCand s').filter sb1.eff, p.1 ∈ s'.D ∧ p.2 ∈ s'.D :=
    fun p hp => hcand p (List.mem_filter.1 hp).1
  obtain ⟨sp2, sb2, eb2, hA2, _, hDl2, hF2, _, hlow2, hfr2⟩ := first_body C nm hinj B.elemPtr c.steps (n + 3)
    (nm (n + 1)) fl v s' ((loopCand s').filter sb1.eff) hs' him hloc' (hA' fl hflA) hvD hinv
  -- the facts the first pass kept are kept by the second: those guarded by `fl` because their target is `v`, `fl`
  -- or initialised at the loop head; the others because the body assigns only `fl`, `v` and its own locals
  have hall : ∀ p ∈ (loopCand s').filter sb1.eff, sb2.eff p = true := by
    intro p hp
    obtain ⟨hpc, hpe⟩ := List.mem_filter.1 hp
    by_cases hfl : p.1 = fl
    · obtain ⟨f, y⟩ := p
      have hp2 : y ∈ s'.D := (hcand _ hpc).2
      simp only at hfl; subst hfl
      refine hlow2 y (hF2 _ hp) ?_ (hDl2 y hp2)
      rcases hup1 y hpe with h | h | h
      · exact Or.inl h
      · exact Or.inr (Or.inl h)
      · rcases hU1 y h with h | h | ⟨k, a, b, e⟩
        · exact absurd (h ▸ hp2) hi'
        · exact Or.inr (Or.inr (hA2 y h))
        · exact absurd (e ▸ hp2) (hloc' k a b)
    · exact hfr2 p hp hfl (hng p (hpd p (pend_of_cand hpc)))
  have hloop : da C (.loop (nm (n + 1)) (.deref (.var (nm n)))
      (chainBody nm B.elemPtr (.var (nm (n + 1))) c.steps (n + 3) (fun cur _ => [firstK fl v cur])).1) s' = _ :=
    da_loop_iff.2 ⟨okE_of rfl (by simpa [vars] using hxA), hi', sb1, sb2, eb1, eb2, hall, rfl⟩
  exact ⟨{ s' with T := [], G := (loopCand s').filter sb1.eff },
    by rw [compChain_stmts]; exact das_cons e1 (by rw [das_single]; exact hloop),
    ⟨hD', hs', hA', fun p hp => hpd p (pend_of_cand (List.mem_filter.1 (hp.resolve_left List.not_mem_nil)).1)⟩,
    List.mem_filter.2 ⟨hfvc, hlow1 v (hF1 _ hfvc) (Or.inl rfl) (hDl1 v hvD)⟩⟩

end FaxVerif.Gen.Wf
