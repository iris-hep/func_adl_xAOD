/-
Gen — the layout of the concrete `compEE`, `compCol`, `compCols`: declarations, name supply, token table.

The declarations they hoist to the top of the per-event block are such that executing them establishes `DeclsDone`
(`exec_decls`, Gen/FragSpec.lean): each is plain or initialised with a literal, and the declared names are pairwise
distinct; `colsNext`: where a column list ends in the name supply.

The token table of a package (CMS miniAOD: collections are retrieved through `edm::EDGetTokenT` members initialised
in the constructor with the bank's input tag): `compile` emits the table itself (`Package.tokens = banksOf B stmts
(colBanks cols)`): the token of every retrieval block, paired with the bank of the chain it belongs to. The table
binds, for every chain of an event-level row, the token its retrieval uses to that chain's own container type and
bank (`tokCols_eventRows`) — the hypothesis `TokChain` / `TokEE` / `TokCols` the chain-, expression- and column-level
correctness theorems carry. It follows from the name supply being injective (every retrieval has its own token):
`Toks` (Gen/Toks.lean) for `compEE`, `compCol`, `compCols`.
-/
import FaxVerif.Gen.EECorrect
import FaxVerif.Gen.Toks
namespace FaxVerif.Gen
open FaxVerif.Cpp FaxVerif.Linq
variable {D : Type}

theorem compEE_declsOK_base (C : Ctx D) (B : Backend) (hB : BackendBase B) (nm : Nat → String)
    (hinj : ∀ i j, nm i = nm j → i = j) : ∀ (e : EE) (n : Nat),
    (∀ d ∈ (compEE B nm e n).decls, SimpleDecl C.N d) ∧ ((compEE B nm e n).decls.map declName).Nodup
  | .int _, n | .dbl _ _, n | .bool _, n => by simp [compEE]
  | .count c, n => by
    simp only [compEE]
    exact declsOK_chain_acc C B hB nm hinj c n _ _ ⟨.int 0, .int 0, rfl, by simp [castTo]⟩ rfl
  | .sum c, n => by
    simp only [compEE]
    exact declsOK_chain_acc C B hB nm hinj c n _ _ (simpleDecl_acc C.N _ _) rfl
  | .bin _ a b, n | .cmp _ a b, n =>
    declsOK_append hinj (compEE_declsOK_base C B hB nm hinj a n) (compEE_declsOK_base C B hB nm hinj b _)
      (compEE_decls B nm a n) (compEE_decls B nm b _)
  | .neg a, n | .not a, n => by simpa [compEE] using compEE_declsOK_base C B hB nm hinj a n

theorem compCol_next_ge (B : Backend) (nm cn : Nat → String) (idx : Nat) (col : Col) (n : Nat) :
    n ≤ (compCol B nm cn idx col n).next := by
  cases col with
  | scalar e => simpa [compCol] using compEE_next_ge B nm e n
  | seq c => have := compChain_next B nm c n (fun cur _ => [.push (cn idx) cur]); simp only [compCol]; omega
  | first c =>
    have := compChain_next B nm c (n + 1) (fun cur _ => [.ite (.var (nm n)) [.set (nm n) (.bool false), .set (cn idx) cur] []])
    simp only [compCol]; omega

theorem compCol_decls (B : Backend) (nm cn : Nat → String) (idx : Nat) (col : Col) (n : Nat) :
    DeclsIn nm n (compCol B nm cn idx col n).next (compCol B nm cn idx col n).decls := by
  cases col with
  | scalar e => simpa [compCol] using compEE_decls B nm e n
  | seq c => simpa [compCol] using compChain_decls B nm c n _
  | first c =>
    have hn := compChain_next B nm c (n + 1) (fun cur _ => [.ite (.var (nm n)) [.set (nm n) (.bool false), .set (cn idx) cur] []])
    simp only [compCol]
    apply DeclsIn.append
    · exact (compChain_decls B nm c (n + 1) _).mono (by omega) (Nat.le_refl _)
    · intro d hd
      simp only [List.mem_singleton] at hd
      exact ⟨_, _, _, hd, n, Nat.le_refl n, by omega, rfl⟩

theorem compCol_declsOK_base (C : Ctx D) (B : Backend) (hB : BackendBase B) (nm cn : Nat → String)
    (hinj : ∀ i j, nm i = nm j → i = j) (idx : Nat) (col : Col) (n : Nat) :
    (∀ d ∈ (compCol B nm cn idx col n).decls, SimpleDecl C.N d) ∧ ((compCol B nm cn idx col n).decls.map declName).Nodup := by
  cases col with
  | scalar e => simpa [compCol] using compEE_declsOK_base C B hB nm hinj e n
  | seq c =>
    have hc := compChain_declsOK_base C B hB nm c n (fun cur _ => [.push (cn idx) cur])
    simp only [compCol]
    exact ⟨hc.1, by rw [hc.2]; simp⟩
  | first c =>
    simp only [compCol]
    exact declsOK_chain_acc C B hB nm hinj c n _ _ ⟨.bool true, .bool true, rfl, by simp [castTo, asBool]⟩ rfl

def colsNext (B : Backend) (nm cn : Nat → String) : List Col → Nat → Nat → Nat
  | [], _, n => n
  | c :: cs, idx, n => colsNext B nm cn cs (idx + 1) (compCol B nm cn idx c n).next

theorem colsNext_ge (B : Backend) (nm cn : Nat → String) : ∀ (cols : List Col) (idx n : Nat), n ≤ colsNext B nm cn cols idx n
  | [], _, n => Nat.le_refl n
  | c :: cs, idx, n => by
    have h1 := compCol_next_ge B nm cn idx c n
    have h2 := colsNext_ge B nm cn cs (idx + 1) (compCol B nm cn idx c n).next
    simp only [colsNext]; omega

theorem compCols_declsIn (B : Backend) (nm cn : Nat → String) : ∀ (cols : List Col) (idx n : Nat),
    DeclsIn nm n (colsNext B nm cn cols idx n) ((compCols B nm cn cols idx n).flatMap (·.decls))
  | [], _, n => by intro d hd; simp [compCols] at hd
  | c :: cs, idx, n => by
    simp only [compCols, List.flatMap_cons, colsNext]
    have h1 := compCol_next_ge B nm cn idx c n
    have h2 := colsNext_ge B nm cn cs (idx + 1) (compCol B nm cn idx c n).next
    exact ((compCol_decls B nm cn idx c n).mono (Nat.le_refl _) h2).append
      ((compCols_declsIn B nm cn cs (idx + 1) _).mono h1 (Nat.le_refl _))

theorem compCols_declsOK_base (C : Ctx D) (B : Backend) (hB : BackendBase B) (nm cn : Nat → String)
    (hinj : ∀ i j, nm i = nm j → i = j) : ∀ (cols : List Col) (idx n : Nat),
    (∀ d ∈ (compCols B nm cn cols idx n).flatMap (·.decls), SimpleDecl C.N d) ∧
    (((compCols B nm cn cols idx n).flatMap (·.decls)).map declName).Nodup
  | [], _, _ => by simp [compCols]
  | c :: cs, idx, n => by
    exact declsOK_append hinj (compCol_declsOK_base C B hB nm cn hinj idx c n) (compCols_declsOK_base C B hB nm cn hinj cs (idx + 1) _)
      (compCol_decls B nm cn idx c n) (compCols_declsIn B nm cn cs (idx + 1) _)

def TokCol (B : Backend) (nm : Nat → String) (C : Ctx D) : Col → Nat → Prop
  | .scalar e, n => TokEE B nm C e n
  | .seq c, n => TokChain B nm C c n
  | .first c, n => TokChain B nm C c (n + 1)

def TokCols (B : Backend) (nm cn : Nat → String) (C : Ctx D) : List Col → Nat → Nat → Prop
  | [], _, _ => True
  | c :: cs, idx, n => TokCol B nm C c n ∧ TokCols B nm cn C cs (idx + 1) (compCol B nm cn idx c n).next

def eeToks (B : Backend) (nm : Nat → String) : EE → Nat → List (String × String × String)
  | .count c, n => chainToks B nm c (n + 1)
  | .sum c, n => chainToks B nm c (n + 1)
  | .bin _ a b, n => eeToks B nm a n ++ eeToks B nm b (compEE B nm a n).next
  | .cmp _ a b, n => eeToks B nm a n ++ eeToks B nm b (compEE B nm a n).next
  | .neg a, n => eeToks B nm a n
  | .not a, n => eeToks B nm a n
  | .int _, _ => []
  | .dbl _ _, _ => []
  | .bool _, _ => []

def colToks (B : Backend) (nm : Nat → String) : Col → Nat → List (String × String × String)
  | .scalar e, n => eeToks B nm e n
  | .seq c, n => chainToks B nm c n
  | .first c, n => chainToks B nm c (n + 1)

def colsToks (B : Backend) (nm cn : Nat → String) : List Col → Nat → Nat → List (String × String × String)
  | [], _, _ => []
  | c :: cs, idx, n => colToks B nm c n ++ colsToks B nm cn cs (idx + 1) (compCol B nm cn idx c n).next

theorem compEE_toks (B : Backend) (nm : Nat → String) : ∀ (e : EE) (n : Nat),
    Toks B nm (compEE B nm e n).stmts (colBanks.eeBanks e) (eeToks B nm e n) n (compEE B nm e n).next
      (fun C => TokEE B nm C e n)
  | .int _, n | .dbl _ _, n | .bool _, n => Toks.nil n
  | .count c, n | .sum c, n => (Toks.chain B nm c (n + 1) _).imp (fun _ h => h) (Nat.le_succ n) (Nat.le_refl _)
  | .bin _ a b, n | .cmp _ a b, n =>
    Toks.append (compEE_next_ge B nm a n) (compEE_next_ge B nm b _) (compEE_toks B nm a n) (compEE_toks B nm b _)
  | .neg a, n | .not a, n => compEE_toks B nm a n

theorem colBanks_cons (c : Col) (cs : List Col) : colBanks (c :: cs) = colBanks [c] ++ colBanks cs := by
  cases c <;> simp [colBanks]

theorem compCol_toks (B : Backend) (nm cn : Nat → String) (idx : Nat) :
    ∀ (col : Col) (n : Nat), Toks B nm (compCol B nm cn idx col n).stmts (colBanks [col]) (colToks B nm col n) n
      (compCol B nm cn idx col n).next (fun C => TokCol B nm C col n)
  | .scalar e, n => by
    rw [show colBanks [Col.scalar e] = colBanks.eeBanks e by simp [colBanks]]
    exact compEE_toks B nm e n
  | .seq c, n => Toks.chain B nm c n _
  | .first c, n => by
    -- the chain's retrieval and loop, then the `if (is_first) throw`, which retrieves nothing
    have hn := compChain_next B nm c (n + 1) (fun cur _ => [.ite (.var (nm n)) [.set (nm n) (.bool false), .set (cn idx) cur] []])
    have h := Toks.append (Nat.le_trans (Nat.le_add_right _ 3) hn) (Nat.le_refl _) (Toks.chain B nm c (n + 1) _)
      (Toks.ite B nm (.var (nm n)) [.throw "First() called on an empty sequence"] [] _)
    rw [show colBanks [Col.first c] = [c.bank] ++ [] by simp [colBanks]]
    exact (h.imp (fun _ => And.left) (Nat.le_succ n) (Nat.le_refl _) :)

theorem compCols_toks (B : Backend) (nm cn : Nat → String) :
    ∀ (cols : List Col) (idx n : Nat), Toks B nm ((compCols B nm cn cols idx n).flatMap (·.stmts)) (colBanks cols)
      (colsToks B nm cn cols idx n) n (colsNext B nm cn cols idx n) (fun C => TokCols B nm cn C cols idx n)
  | [], _, n => Toks.nil n
  | c :: cs, idx, n => by
    rw [colBanks_cons]
    exact Toks.append (compCol_next_ge B nm cn idx c n) (colsNext_ge B nm cn cs _ _) (compCol_toks B nm cn idx c n)
      (compCols_toks B nm cn cs (idx + 1) _)

theorem tokCol_of_notToken {B : Backend} (h : B.how ≠ "token") (nm : Nat → String) (C : Ctx D) (col : Col) (n : Nat) :
    TokCol B nm C col n :=
  (compCol_toks B nm (fun _ => "") 0 col n).of_notToken h C

theorem tokCols_of_notToken {B : Backend} (h : B.how ≠ "token") (nm cn : Nat → String) (C : Ctx D)
    (cols : List Col) (idx n : Nat) : TokCols B nm cn C cols idx n :=
  (compCols_toks B nm cn cols idx n).of_notToken h C

/-- **the token table `compile` emits for event-level rows binds every chain's token** to that
chain's own container type and bank — on every backend (vacuously on those that retrieve by bank
name). -/
theorem tokCols_eventRows (B : Backend) (nm cn : Nat → String) (hinj : ∀ i j, nm i = nm j → i = j)
    (cols : List (String × Col)) (N : Num D) (ev : Event D) :
    TokCols B nm cn ((compile B nm cn (.eventRows cols)).ctx N ev) (cols.map (·.2)) 0 0 :=
  (compCols_toks B nm cn _ 0 0).ok hinj _ rfl

/-- every token name of the table `compile` emits is a generated local name (never a column variable) -/
theorem tokens_names_eventRows (B : Backend) (nm cn : Nat → String) (cols : List (String × Col)) :
    ∀ t ∈ (compile B nm cn (.eventRows cols)).tokens, ∃ j, t.1 = nm j :=
  (compCols_toks B nm cn _ 0 0).tokens_names

end FaxVerif.Gen
