/-
Gen — what the arbitrary-depth correctness proof (`Gen/DeepExprCorrect.lean`) rests on besides the query side.
SHAPE of the fragments `compDE` / `compCondsD` / `compSelD` emit, at every depth (mutual structural
induction over `DE` / `DChain` / `DConds` / `DOpt`): the fresh-name supply only grows; the value expression
mentions the current-element expression's variables and the fragment's own names only; every declaration
declares a name of the fragment's own range, is simple (uninitialised `bool`, or an accumulator initialised by
a literal), and the declared names are pairwise distinct.
The COMBINATORS of the proof, stated over ABSTRACT fragments and their specifications (`StmtSpec`, which is `FragSpec`
over `InRange nm` under `DeclsDone`: what a fragment's statements compute; `FragSpec` of `f.block`: what its block —
declarations first — computes from ANY state), so that the mutual induction only has to wire them: the loop of one
chain, a fold (`IsFold`) of the continuation over the `Select`'s values of the kept elements, from the specifications of
its conditions' and its `Select`'s blocks; one more `Where`, `bool r; … r = init; if (r) { [block of c] r = c; }`.
-/
import FaxVerif.Gen.DeepSem
import FaxVerif.Gen.IsFold
import FaxVerif.Gen.FragSpec
namespace FaxVerif.Gen
open FaxVerif.Cpp FaxVerif.Linq
variable {D : Type}

theorem compLoopD_snd (nm : Nat → String) (ptr : Bool) (cur : CExpr) (c : DChain) (n : Nat) (K K' : CExpr → List Stmt) :
    (compLoopD nm ptr cur c n K).2 = (compLoopD nm ptr cur c n K').2 := by
  cases c; simp [compLoopD]

/-- controlled unfolding of the lowered conjunction at two or more conditions -/
theorem compCondsD_snoc2 (nm : Nat → String) (elem : Option Ty) (it : CExpr) (i0 : DConds) (c0 c : DE) (n : Nat) :
    compCondsD nm elem it (.snoc (.snoc i0 c0) c) n =
      ⟨.decl "bool" (nm n) none :: (compCondsD nm elem it (.snoc i0 c0) (n + 1)).decls,
       (compCondsD nm elem it (.snoc i0 c0) (n + 1)).stmts ++ [.set (nm n) (compCondsD nm elem it (.snoc i0 c0) (n + 1)).val,
          .ite (.var (nm n)) ((compDE nm false elem it c (compCondsD nm elem it (.snoc i0 c0) (n + 1)).next).decls ++
            (compDE nm false elem it c (compCondsD nm elem it (.snoc i0 c0) (n + 1)).next).stmts ++
            [.set (nm n) (compDE nm false elem it c (compCondsD nm elem it (.snoc i0 c0) (n + 1)).next).val]) []],
       .var (nm n), (compDE nm false elem it c (compCondsD nm elem it (.snoc i0 c0) (n + 1)).next).next⟩ := by
  rw [compCondsD]

theorem compCondsD_snoc1 (nm : Nat → String) (elem : Option Ty) (it : CExpr) (c : DE) (n : Nat) :
    compCondsD nm elem it (.snoc .nil c) n = compDE nm false elem it c n := by
  rw [compCondsD]

mutual
  theorem compDE_shape (N : Num D) (nm : Nat → String) (hinj : ∀ i j, nm i = nm j → i = j) :
      ∀ (e : DE) (ptr : Bool) (k : Option Ty) (cur : CExpr) (n : Nat), FragShape N nm cur n (compDE nm ptr k cur e n)
    | .pure p, ptr, k, cur, n => by
      simp only [compDE]
      exact ⟨Nat.le_refl n, fun x hx => Or.inl (vars_compPE _ cur _ p x hx), fun d hd => by simp at hd,
        fun d hd => by simp at hd, by simp⟩
    | .count c, ptr, k, cur, n => by
      have := compLoopD_ge N nm hinj c ptr cur (n + 1) (countKD (nm n))
      simp only [compDE]
      exact FragShape.acc N nm cur n _ (by omega) .int _
    | .sum c, ptr, k, cur, n => by
      have := compLoopD_ge N nm hinj c ptr cur (n + 1) (sumKD (nm n))
      simp only [compDE]
      exact FragShape.acc N nm cur n _ (by omega) _ _
    | .bin op a b, ptr, k, cur, n => by
      simp only [compDE]
      exact FragShape.seq hinj (compDE_shape N nm hinj a ptr k cur n) (compDE_shape N nm hinj b ptr k cur _) _ (vars_binV _ _ _ _ _)
    | .cmp op a b, ptr, k, cur, n => by
      simp only [compDE]
      exact FragShape.seq hinj (compDE_shape N nm hinj a ptr k cur n) (compDE_shape N nm hinj b ptr k cur _) _ fun _ => List.mem_append.1
    | .neg a, ptr, k, cur, n | .not a, ptr, k, cur, n => by
      simp only [compDE]
      exact (compDE_shape N nm hinj a ptr k cur n).reval _ fun _ => id
  theorem compLoopD_ge (N : Num D) (nm : Nat → String) (hinj : ∀ i j, nm i = nm j → i = j) :
      ∀ (c : DChain) (ptr : Bool) (cur : CExpr) (n : Nat) (K : CExpr → List Stmt), n + 1 ≤ (compLoopD nm ptr cur c n K).2
    | .mk m elem whrs sel, ptr, cur, n, K => by
      have h1 := (compCondsD_shape N nm hinj whrs elem (.var (nm n)) (n + 1)).ge
      have h2 := (compSelD_shape N nm hinj sel elem (.var (nm n)) (compCondsD nm elem (.var (nm n)) whrs (n + 1)).next).ge
      simp only [compLoopD]; omega
  theorem compCondsD_shape (N : Num D) (nm : Nat → String) (hinj : ∀ i j, nm i = nm j → i = j) :
      ∀ (whrs : DConds) (elem : Option Ty) (it : CExpr) (n : Nat), FragShape N nm it n (compCondsD nm elem it whrs n)
    | .nil, elem, it, n => by
      simp only [compCondsD]
      exact ⟨Nat.le_refl n, fun x hx => by simp [vars] at hx, fun d hd => by simp at hd, fun d hd => by simp at hd, by simp⟩
    | .snoc .nil c, elem, it, n => by
      rw [compCondsD_snoc1]
      exact compDE_shape N nm hinj c false elem it n
    | .snoc (.snoc i0 c0) c, elem, it, n => by
      have hi := compCondsD_shape N nm hinj (.snoc i0 c0) elem it (n + 1)
      have hc := compDE_shape N nm hinj c false elem it (compCondsD nm elem it (.snoc i0 c0) (n + 1)).next
      rw [compCondsD_snoc2]
      refine ⟨by have := hi.ge; have := hc.ge; simp only; omega, ?_, ?_, ?_, ?_⟩
      · intro x hx
        simp only [vars, List.mem_singleton] at hx
        exact Or.inr ⟨n, Nat.le_refl n, by have := hi.ge; have := hc.ge; simp only; omega, hx⟩
      · intro d hd
        simp only [List.mem_cons] at hd
        rcases hd with rfl | hd
        · exact ⟨_, _, _, rfl, n, Nat.le_refl n, by have := hi.ge; have := hc.ge; simp only; omega, rfl⟩
        · exact (hi.declsIn.mono (Nat.le_succ n) hc.ge) d hd
      · intro d hd
        simp only [List.mem_cons] at hd
        rcases hd with rfl | hd
        · simp [SimpleDecl, isVecType]; decide
        · exact hi.simple d hd
      · simp only [List.map_cons, declName, List.nodup_cons]
        refine ⟨?_, hi.nodup⟩
        intro hmem
        obtain ⟨j, hj1, _, hj3⟩ := declsIn_names hi.declsIn _ hmem
        have := hinj _ _ hj3; omega
  theorem compSelD_shape (N : Num D) (nm : Nat → String) (hinj : ∀ i j, nm i = nm j → i = j) :
      ∀ (sel : DOpt) (elem : Option Ty) (it : CExpr) (n : Nat), FragShape N nm it n (compSelD nm elem it sel n)
    | .none, elem, it, n => by
      simp only [compSelD]
      exact ⟨Nat.le_refl n, fun x hx => Or.inl hx, fun d hd => by simp at hd, fun d hd => by simp at hd, by simp⟩
    | .some f, elem, it, n => by
      simp only [compSelD]
      exact compDE_shape N nm hinj f false elem it n
end

/-- `FragSpec C (InRange nm) (DeclsDone C.N) f n it u R` (Gen/FragSpec.lean) written out: the two unfold to the same
statement, so the rules of `FragSpec` apply to a `StmtSpec` as it stands -/
def StmtSpec (C : Ctx D) (nm : Nat → String) (f : EFrag) (n : Nat) (it : CExpr) (u : Val D) (R : Val D → Prop) : Prop :=
  ∀ s : St D, evalE C.N s.env it = .ok u → DeclsDone C.N f.decls s.env →
    ∃ s', execs C f.stmts s = .ok s' ∧ s'.rows = s.rows ∧ (∃ w, evalE C.N s'.env f.val = .ok w ∧ R w) ∧
      (∀ y, ¬ InRange nm n f.next y → s'.env y = s.env y)

/-- the block of a fragment (declarations first) does, from ANY state, what its statements do under `DeclsDone` -/
theorem StmtSpec.block {C : Ctx D} {nm : Nat → String} (hinj : ∀ i j, nm i = nm j → i = j) {f : EFrag} {n : Nat} {it : CExpr}
    {u : Val D} {R : Val D → Prop} (hsh : FragShape C.N nm it n f) (hfr : ∀ y ∈ vars it, ∀ j, n ≤ j → y ≠ nm j)
    (h : StmtSpec C nm f n it u R) : FragSpec C (InRange nm) (fun _ _ => True) f.block n it u R :=
  FragSpec.block (Frames.inRange hinj) hsh.layout ⟨hsh.simple, hsh.nodup⟩ (.inRange hfr) h

theorem StmtSpec.asPred {C : Ctx D} {N : Num D} (hN : N = C.N) {nm : Nat → String} {f : EFrag} {n : Nat} {it : CExpr}
    {u : Val D} {r : Except Fault (Val D)} {bv : Bool} {T : Val D → Prop} (hsem : predB N r = .ok bv)
    (h : ∀ w, r = .ok w → StmtSpec C nm f n it u (fun w' => w' = w ∧ T w)) :
    StmtSpec C nm f n it u (fun w => asBool C.N w = some bv) := by
  obtain ⟨w, hw, hb⟩ := predB_ok.1 hsem
  exact FragSpec.mono (h w hw) fun w' hw' => by rw [hw'.1, ← hN]; exact hb

/-- **the loop of one chain**, from the specifications of the blocks of its conditions (`cf`, value `keep u`) and of its
`Select` (`fs`, value `F u`): a fold of `K` over the `Select`'s values of the kept elements -/
theorem loopD_isFold (C : Ctx D) (nm : Nat → String) (hinj : ∀ i j, nm i = nm j → i = j)
    (ptr : Bool) (cur : CExpr) (m : String) (n : Nat) (K : CExpr → List Stmt) (cf fs : EFrag) (noConds : Bool)
    (v : Val D) (l : List (Val D)) (hmem : member v m [] = .ok (.vec l))
    (keep : Val D → Except Fault Bool) (F : Val D → Except Fault (Val D)) (Rw : Val D → Prop)
    (hge1 : n + 1 ≤ cf.next) (hge2 : cf.next ≤ fs.next)
    (hnil : noConds = true → ∀ u, keep u = .ok true)
    (hconds : noConds = false → ∀ u ∈ l, ∀ bv, keep u = .ok bv →
      FragSpec C (InRange nm) (fun _ _ => True) cf.block (n + 1) (.var (nm n)) u (fun w => asBool C.N w = some bv))
    (hsel : ∀ u ∈ l, ∀ w, F u = .ok w → FragSpec C (InRange nm) (fun _ _ => True) fs.block cf.next (.var (nm n)) u (fun w' => w' = w ∧ Rw w))
    (s : St D) (r ws : List (Val D)) (hcur : evalE C.N s.env cur = .ok v)
    (hkeep : keepE keep l = .ok r) (hmap : mapE F r = .ok ws) :
    IsFold C [.loop (nm n) (.mem cur ptr m []) (loopBodyD noConds cf (fs.decls ++ fs.stmts ++ K fs.val))]
      (InRange nm n fs.next) (fun _ => True) (K fs.val) fs.val Rw ws s := by
  -- a fold of "the `Select`'s block, then `K`" over the kept elements, each in the loop variable; then the `Select`
  refine (loop_isFold C (nm n) _ _ (fs.decls ++ fs.stmts ++ K fs.val) _ ⟨n, Nat.le_refl n, by omega, rfl⟩ _ (.var (nm n)) (· ∈ l)
    (keepSem keep) l r hkeep (fun u hu o ho t _ hiu => ?_) s (by simp [evalE, hcur, evalEs, hmem])).select rfl F ws hmap fs.val Rw
    (fun t u w hev hu hF => ?_)
  · obtain ⟨bv, hk, rfl⟩ := keepSem_ok.1 ho
    have hev : evalE C.N t.env (.var (nm n)) = .ok u := by simp [evalE, hiu]
    cases hw : noConds with
    | true =>
      obtain rfl : true = bv := Except.ok.inj ((hnil hw u).symm.trans hk)
      simp only [loopBodyD, if_true]
      exact ⟨t, rfl, fun _ _ => rfl, nofun, fun w hw' => by cases hw'; exact ⟨rfl, hev, hu⟩⟩
    | false =>
      simp only [loopBodyD, Bool.false_eq_true, if_false]
      obtain ⟨t1, hex1, hr1, ⟨wb, hv1, hwb⟩, hfr1⟩ := hconds hw u hu bv hk t hev trivial
      refine ⟨t1, hr1, fun y hy => hfr1 y fun h => hy (h.mono (by omega) hge2), fun ho => ?_, fun w hw' => ?_⟩
      · cases bv <;> cases ho
        rw [execs_append, hex1]
        simp [execs, exec, hv1, hwb]
      · cases bv <;> cases hw'
        refine ⟨?_, ?_, hu⟩
        · rw [execs_append, hex1]
          simp only [execs, exec, hv1, hwb]
          cases execs C (fs.decls ++ fs.stmts ++ K fs.val) t1 <;> rfl
        · rw [← hev]
          exact evalE_congr _ _ _ _ fun y hy => hfr1 y fun ⟨j, hj1, _, hj3⟩ => by
            have := hinj _ _ ((List.mem_singleton.1 hy).symm.trans hj3); omega
  · obtain ⟨t1, hex, hr, ⟨_, hv, rfl, hRw⟩, hfr⟩ := hsel u hu w hF t hev trivial
    exact ⟨t1, hex, hr, fun y hy => hfr y fun h => hy (h.mono (by omega) (Nat.le_refl _)), hv, hRw⟩

theorem condsD_snoc_correct (C : Ctx D) (nm : Nat → String) (hinj : ∀ i j, nm i = nm j → i = j)
    (it : CExpr) (u : Val D) (n : Nat) (inner fc : EFrag) (bi : Bool) (R : Val D → Prop)
    (hfr : ∀ y ∈ vars it, ∀ j, n ≤ j → y ≠ nm j)
    (hshi : FragShape C.N nm it (n + 1) inner) (hshc : FragShape C.N nm it inner.next fc)
    (hinner : StmtSpec C nm inner (n + 1) it u (fun w => asBool C.N w = some bi))
    (hc : bi = true → FragSpec C (InRange nm) (fun _ _ => True) fc.block inner.next it u R) (hRf : bi = false → ∀ w, asBool C.N w = some false → R w) :
    StmtSpec C nm ⟨.decl "bool" (nm n) none :: inner.decls,
      inner.stmts ++ [.set (nm n) inner.val, .ite (.var (nm n)) (fc.decls ++ fc.stmts ++ [.set (nm n) fc.val]) []],
      .var (nm n), fc.next⟩ n it u R := by
  intro s hcur hdone
  dsimp only at hdone ⊢
  have hg1 := hshi.ge
  have hg2 := hshc.ge
  have hbdecl : (s.env (nm n)).isSome = true := by
    simpa [DeclOK] using hdone (.decl "bool" (nm n) none) (List.mem_cons_self ..)
  obtain ⟨s1, hex1, hr1, ⟨wi, hv1, hwi⟩, hfr1⟩ := hinner s hcur (fun d hd => hdone d (List.mem_cons_of_mem _ hd))
  have hrn : ∀ lo hi, n < lo → ¬ InRange nm lo hi (nm n) := fun lo hi h ⟨j, hj1, _, hj3⟩ => by
    have := hinj _ _ hj3; omega
  have hset : exec C (.set (nm n) inner.val) s1 = .ok { s1 with env := s1.env.set (nm n) wi } :=
    exec_set_ok C s1 _ _ wi (by rw [hfr1 _ (hrn _ _ (Nat.lt_succ_self n))]; exact hbdecl) hv1
  have hb2 : evalE C.N (s1.env.set (nm n) wi) (.var (nm n)) = .ok wi := by simp [evalE, Env.set]
  have hfr2 : ∀ y, ¬ InRange nm n fc.next y → (s1.env.set (nm n) wi) y = s.env y := by
    intro y hy
    have hne : y ≠ nm n := fun e => hy ⟨n, Nat.le_refl n, by omega, e⟩
    simp only [Env.set, hne, if_false]
    exact hfr1 y (fun h => hy (h.mono (Nat.le_succ n) hg2))
  have hite := exec_ite_of C { s1 with env := s1.env.set (nm n) wi } (.var (nm n))
    (fc.decls ++ fc.stmts ++ [.set (nm n) fc.val]) [] wi bi hb2 hwi
  cases bi with
  | false =>
    refine ⟨{ s1 with env := s1.env.set (nm n) wi }, ?_, hr1, ⟨wi, hb2, hRf rfl wi hwi⟩, hfr2⟩
    rw [execs_append, hex1]
    simp only [execs, hset, hite, Bool.false_eq_true, if_false]
  | true =>
    obtain ⟨s3, hex3, hr3, ⟨wc, hv3, hRc⟩, hfr3⟩ := hc rfl { s1 with env := s1.env.set (nm n) wi } (by
      rw [(OutOfReach.inRange hfr).evalE (Nat.le_refl _) C.N hfr2]; exact hcur) trivial
    have hset3 : exec C (.set (nm n) fc.val) s3 = .ok { s3 with env := s3.env.set (nm n) wc } :=
      exec_set_ok C s3 _ _ wc (by rw [hfr3 _ (hrn _ _ (by omega))]; simp [Env.set]) hv3
    refine ⟨{ s3 with env := s3.env.set (nm n) wc }, ?_, hr3.trans hr1, ⟨wc, by simp [evalE, Env.set], hRc⟩, fun y hy => ?_⟩
    · rw [execs_append, hex1]
      simp only [execs, hset, hite, if_true, execs_append, hex3, hset3]
    · have hne : y ≠ nm n := fun e => hy ⟨n, Nat.le_refl n, by omega, e⟩
      simp only [Env.set, hne, if_false]
      rw [hfr3 y (fun h => hy (h.mono (by omega) (Nat.le_refl _)))]; exact hfr2 y hy

end FaxVerif.Gen
