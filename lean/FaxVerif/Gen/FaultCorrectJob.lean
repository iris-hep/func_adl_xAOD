/-
Gen — the FAULT direction of the translator model: both query shapes under one statement, "defined
iff defined", and the job level (`runJobPartial`, in namespace `Cpp`; `EventOK.stops`, `JobOK.stops`): a job ends at the
first event on which the per-event method faults, with that event's fault, having written exactly the rows of the events
before it; that the method faults where the query is undefined is what the first half says.
-/
import FaxVerif.Gen.FaultCorrectRows
namespace FaxVerif.Cpp
variable {D : Type}

/-- A job, with what it had written when it ended: the rows of the events that completed, and the
fault that ended it (`none`: all events completed). `runJobFrom` forgets the rows in the fault case
(`runJobFrom_eq_partial`). -/
def runJobPartial (P : Package) (N : Num D) : Env D → List (Event D) → List (List (Val D)) × Option Fault
  | _, [] => ([], none)
  | σc, ev :: evs => match runEvent P N σc ev with
    | .error f => ([], some f)
    | .ok (rows, σc') => (rows ++ (runJobPartial P N σc' evs).1, (runJobPartial P N σc' evs).2)

theorem runJobFrom_eq_partial (P : Package) (N : Num D) : ∀ (evs : List (Event D)) (σc : Env D),
    runJobFrom P N σc evs = (match (runJobPartial P N σc evs).2 with
      | none => .ok (runJobPartial P N σc evs).1
      | some f => .error f)
  | [], _ => rfl
  | ev :: evs, σc => by
    simp only [runJobFrom, runJobPartial]
    cases h : runEvent P N σc ev with
    | error f => rfl
    | ok r =>
      obtain ⟨rows, σc'⟩ := r
      simp only [runJobFrom_eq_partial P N evs σc']
      cases (runJobPartial P N σc' evs).2 <;> rfl

end FaxVerif.Cpp

namespace FaxVerif.Gen
open FaxVerif.Cpp FaxVerif.Linq
variable {D : Type}

/-- side conditions of the fault direction, for either query shape (beyond `FragHyp`):
banks, if present, are typed; every chain is `strictSteps` for its consumer. -/
def FragFaultHyp (QC : QCtx D) : FQ → Prop
  | .eventRows cols => ∀ p ∈ cols, ColFaultHyp QC p.2
  | .elemRows c cols => BankTyped QC c ∧ strictSteps (cols.any (fun p => usesIt p.2)) c.steps = true

def FragFaultRel (QC : QCtx D) : FQ → Fault → Fault → Prop
  | .eventRows cols, f, f' => ∃ p ∈ cols, ColFaultRel QC p.2 f f'
  | .elemRows c cols, f, f' => ChainFaultRelM QC c (methsSteps c.steps ++ methsCols cols) f f'

theorem fragEvent_fault (B : Backend) (hB : BackendBase B) (nm cn : Nat → String) (hsup : Supply nm cn)
    (QC : QCtx D) (hcollT : ∀ name, B.collType name = QC.collType name)
    (fq : FQ) (hhyp : FragHyp QC fq) (hfh : FragFaultHyp QC fq) (σc : Env D) (hσ : FragPre cn fq σc)
    (f : Fault) (hden : denoteRows QC fq.toQuery = .error f) :
    ∃ f', runEvent (compile B nm cn fq) QC.N σc QC.ev = .error f' ∧ FragFaultRel QC fq f f' := by
  cases fq with
  | eventRows cols =>
    exact eventRows_fault_mem B hB nm cn hsup QC hcollT cols hhyp hfh σc hσ f hden
  | elemRows c cols =>
    obtain ⟨h1, h2, h3⟩ := hhyp
    obtain ⟨h4, h5⟩ := hfh
    exact elemRows_fault B hB nm cn hsup QC hcollT c cols h1 h2 h3 h4 h5 σc hσ f hden

/-- **defined iff defined** — the per-event method returns (rows and a class state) exactly on the
events on which the query is defined. -/
theorem fragEvent_defined_iff (B : Backend) (hB : BackendBase B) (nm cn : Nat → String) (hsup : Supply nm cn)
    (QC : QCtx D) (hcollT : ∀ name, B.collType name = QC.collType name)
    (fq : FQ) (hhyp : FragHyp QC fq) (hfh : FragFaultHyp QC fq) (σc : Env D) (hσ : FragPre cn fq σc) :
    (∃ rows σ', runEvent (compile B nm cn fq) QC.N σc QC.ev = .ok (rows, σ')) ↔
      (∃ rows, denoteRows QC fq.toQuery = .ok rows) := by
  constructor
  · rintro ⟨rows, σ', hrun⟩
    cases hden : denoteRows QC fq.toQuery with
    | ok r => exact ⟨r, rfl⟩
    | error f =>
      obtain ⟨f', hf, _⟩ := fragEvent_fault B hB nm cn hsup QC hcollT fq hhyp hfh σc hσ f hden
      rw [hf] at hrun; simp at hrun
  · rintro ⟨rows, hden⟩
    obtain ⟨σ', h, _⟩ := fragEvent_correct_post B hB nm cn hsup QC hcollT fq hhyp σc hσ rows hden
    exact ⟨rows, σ', h⟩

/-- **the rows, both directions** — the per-event method returns `rows` iff the query denotes `rows`:
what is written is never a default, a stale value or a subset of the query's rows. -/
theorem fragEvent_rows_iff (B : Backend) (hB : BackendBase B) (nm cn : Nat → String) (hsup : Supply nm cn)
    (QC : QCtx D) (hcollT : ∀ name, B.collType name = QC.collType name)
    (fq : FQ) (hhyp : FragHyp QC fq) (hfh : FragFaultHyp QC fq) (σc : Env D) (hσ : FragPre cn fq σc)
    (rows : List (List (Val D))) :
    (∃ σ', runEvent (compile B nm cn fq) QC.N σc QC.ev = .ok (rows, σ')) ↔ denoteRows QC fq.toQuery = .ok rows := by
  constructor
  · rintro ⟨σ', hrun⟩
    obtain ⟨r, hden⟩ := (fragEvent_defined_iff B hB nm cn hsup QC hcollT fq hhyp hfh σc hσ).1 ⟨rows, σ', hrun⟩
    obtain ⟨σ'', h, _⟩ := fragEvent_correct_post B hB nm cn hsup QC hcollT fq hhyp σc hσ r hden
    rw [hrun] at h
    simp only [Except.ok.injEq, Prod.mk.injEq] at h
    rw [h.1]; exact hden
  · intro hden
    obtain ⟨σ', h, _⟩ := fragEvent_correct_post B hB nm cn hsup QC hcollT fq hhyp σc hσ rows hden
    exact ⟨σ', h⟩

/-- **a job stops at the first event on which the per-event method faults** (from any admissible class
state), for any package with a single-event theorem: what it had written is exactly the rows the query
denotes on the events of `pre`. -/
theorem EventOK.stops {P : Package} {QC : QCtx D} {q : Query} {Pre : Env D → Prop} {Hyp : Event D → Prop}
    (h : EventOK P QC q Pre Hyp) (ev : Event D) (post : List (Event D)) {R : Fault → Prop}
    (hev : ∀ σ, Pre σ → ∃ f', runEvent P QC.N σ ev = .error f' ∧ R f') :
    ∀ (pre : List (Event D)) (σ : Env D), Pre σ → (∀ e ∈ pre, Hyp e) →
      (∀ e ∈ pre, ∃ rows, denoteRows (QC.withEvent e) q = .ok rows) →
      ∃ f', runJobPartial P QC.N σ (pre ++ ev :: post) = ((pre.map (rowsOf QC q)).flatten, some f') ∧ R f'
  | [], σ, hσ, _, _ => by
    obtain ⟨f', hrun, hR⟩ := hev σ hσ
    exact ⟨f', by simp only [List.nil_append, runJobPartial, hrun, List.map_nil, List.flatten_nil], hR⟩
  | e :: pre, σ, hσ, hhyp, hdef => by
    obtain ⟨rows, hden⟩ := hdef e (by simp)
    obtain ⟨σ', hrun, hσ'⟩ := h e (hhyp e (by simp)) σ hσ rows hden
    obtain ⟨f', ih, hR⟩ := h.stops ev post hev pre σ' hσ' (fun x hx => hhyp x (by simp [hx])) (fun x hx => hdef x (by simp [hx]))
    have hr : rowsOf QC q e = rows := by simp [rowsOf, hden]
    exact ⟨f', by simp only [List.cons_append, runJobPartial, hrun, ih, List.map_cons, List.flatten_cons, hr], hR⟩

/-- the same from the initial class state, with what `runJob` returns -/
theorem JobOK.stops {P : Package} {QC : QCtx D} {q : Query} {Pre : Env D → Prop} {Hyp : Event D → Prop}
    (h : JobOK P QC q Pre Hyp) (ev : Event D) (post : List (Event D)) {R : Fault → Prop}
    (hev : ∀ σ, Pre σ → ∃ f', runEvent P QC.N σ ev = .error f' ∧ R f')
    (pre : List (Event D)) (hhyp : ∀ e ∈ pre, Hyp e)
    (hdef : ∀ e ∈ pre, ∃ rows, denoteRows (QC.withEvent e) q = .ok rows) :
    ∃ f', runJob P QC.N (pre ++ ev :: post) = .error f' ∧
      runJobPartial P QC.N (classInit P.classVars) (pre ++ ev :: post) = ((pre.map (rowsOf QC q)).flatten, some f') ∧
      R f' := by
  obtain ⟨f', hp, hR⟩ := h.event.stops ev post hev pre _ h.init hhyp hdef
  refine ⟨f', ?_, hp, hR⟩
  simp only [runJob]
  rw [runJobFrom_eq_partial, hp]

end FaxVerif.Gen
