/-
Gen — the fault direction, chain level. `chain_sim`: retrieval + loop of one chain with its consumer, both directions
at once, read off `compChain_sim`; the query side is split by what the chain denotes when its bank is missing / present
(`chainQ_cases`, under `BankTyped`). `ChainFaultRelM` relates the query's fault to the code's: the same `retrieveFailed`,
or both member faults of elements of the bank. Count and Sum are the first two instances.
-/
import FaxVerif.Gen.FaultCorrect
import FaxVerif.Gen.EECorrect
namespace FaxVerif.Gen
open FaxVerif.Cpp FaxVerif.Linq
variable {D : Type}

/-- the bank a chain ranges over, if present, has the container type the backend declares for the
collection and holds a sequence (the typing hypothesis on the event: inside it the only ways a
chain can be undefined are a missing bank and a faulting member call) -/
def BankTyped (QC : QCtx D) (c : Chain) : Prop :=
  ∀ have_ content, QC.ev.find c.bank = some (have_, content) →
    QC.collType c.coll = some have_ ∧ ∃ l, content = .vec l

theorem chainQ_missing (QC : QCtx D) (c : Chain) (h : QC.ev.find c.bank = none) :
    denote QC [("e", evtVal)] (chainQ "e" c) = .error (.retrieveFailed c.bank) := by
  unfold chainQ
  apply stepsQ_error
  simp [denote, LEnv.get, h]

theorem chainQ_found (QC : QCtx D) (c : Chain) (cty : String) (l : List (Val D))
    (hf : QC.ev.find c.bank = some (cty, .vec l)) (hct : QC.collType c.coll = some cty) :
    denote QC [("e", evtVal)] (chainQ "e" c) = (match chainList QC c.steps l with
      | .ok r => .ok (.vec r)
      | .error e => .error e) := by
  unfold chainQ
  apply stepsQ_denote
  simp [denote, LEnv.get, hf, hct]

theorem chainQ_cases (QC : QCtx D) (c : Chain) (hb : BankTyped QC c) :
    (QC.ev.find c.bank = none ∧ denote QC [("e", evtVal)] (chainQ "e" c) = .error (.retrieveFailed c.bank)) ∨
    (∃ cty l, QC.ev.find c.bank = some (cty, .vec l) ∧ QC.collType c.coll = some cty ∧
      denote QC [("e", evtVal)] (chainQ "e" c) = (match chainList QC c.steps l with
        | .ok r => .ok (.vec r)
        | .error e => .error e)) := by
  cases hf : QC.ev.find c.bank with
  | none => exact Or.inl ⟨rfl, chainQ_missing QC c hf⟩
  | some p =>
    obtain ⟨have_, content⟩ := p
    obtain ⟨hct, l, rfl⟩ := hb have_ content hf
    exact Or.inr ⟨have_, l, rfl, hct, chainQ_found QC c have_ l hf hct⟩

theorem compChain_retrieve_fault (C : Ctx D) (B : Backend) (hB : BackendBase B) (nm : Nat → String)
    (c : Chain) (n : Nat) (htok : TokChain B nm C c n) (K : CExpr → Option Ty → List Stmt)
    (hfind : C.ev.find c.bank = none) (s : St D) :
    execs C (compChain B nm c n K).stmts s = .error (.retrieveFailed c.bank) := by
  have hreq : ∀ σ : Env D, retrReq C σ B.how ((B.collType c.coll).getD "?") (if B.how = "token" then .opaque "" else .str c.bank)
      (if B.how = "token" then nm (n + 2) else "") = .error (.retrieveFailed c.bank) := by
    intro σ
    by_cases ht : B.how = "token"
    · have := htok ht
      simp [retrReq, ht, this, hfind]
    · simp [retrReq, ht, evalE, hfind]
  rcases hB.resultInit with hi | hi
  · simp only [compChain, execs, exec, hi, hB.handleNotVec]
    simp [Env.declare, hreq]
  · simp only [compChain, execs, exec, hi, evalE, castTo_plain C.N _ _ (hB.handlePlain _)]
    simp [Env.set, hreq]

/-- how the fault `f` of the query and the fault `f'` of the emitted code are related, for a chain
whose elements are asked for the methods `ms`: the bank is missing and both are `retrieveFailed` of
that bank; or the bank is there and both are faults of calls of those methods on elements of the
bank (the same fault whenever all such faults coincide — `ChainFaultRelM.eq_of_uniform`; e.g. a bank
of good objects and null links: both are `nullDeref`). -/
def ChainFaultRelM (QC : QCtx D) (c : Chain) (ms : List (String × Ty)) (f f' : Fault) : Prop :=
  (QC.ev.find c.bank = none ∧ f = .retrieveFailed c.bank ∧ f' = .retrieveFailed c.bank) ∨
  (∃ cty l, QC.ev.find c.bank = some (cty, .vec l) ∧ ListFault l ms f ∧ ListFault l ms f')

abbrev ChainFaultRel (QC : QCtx D) (c : Chain) (f f' : Fault) : Prop := ChainFaultRelM QC c (methsSteps c.steps) f f'

theorem ChainFaultRelM.eq_of_uniform {QC : QCtx D} {c : Chain} {ms : List (String × Ty)} {f f' : Fault}
    (h : ChainFaultRelM QC c ms f f')
    (hu : ∀ cty l, QC.ev.find c.bank = some (cty, .vec l) → ∀ f1 f2, ListFault l ms f1 → ListFault l ms f2 → f1 = f2) :
    f' = f := by
  rcases h with ⟨_, h1, h2⟩ | ⟨cty, l, hf, h1, h2⟩
  · rw [h1, h2]
  · exact hu cty l hf f' f h2 h1

theorem chainQ_ok_vec (QC : QCtx D) (c : Chain) (hb : BankTyped QC c) (cv : Val D)
    (h : denote QC [("e", evtVal)] (chainQ "e" c) = .ok cv) : ∃ ws, cv = .vec ws := by
  rcases chainQ_cases QC c hb with ⟨_, hd⟩ | ⟨cty, l, _, _, hd⟩
  · rw [hd] at h; simp at h
  · rw [hd] at h
    cases hcl : chainList QC c.steps l with
    | error e => rw [hcl] at h; simp at h
    | ok r => rw [hcl] at h; simp only [Except.ok.injEq] at h; exact ⟨r, h.symm⟩

/-- the shape of every sequence operator of `denote`: the source faults, is a sequence, or is something else -/
def onSeq {γ : Type} (r : Except Fault (Val D)) (msg : String) (k : List (Val D) → Except Fault γ) : Except Fault γ :=
  match r with
  | .error e => .error e
  | .ok (.vec l) => k l
  | .ok _ => .error (.typeErr msg)

/-- **one chain with its consumer, both directions** — the code emitted for a chain (retrieval block + loop with
continuation `K`) simulates the query's "chain, then fold of the consumer `g` over its value": the same ghost state, or —
on a typed bank, for a `strictSteps` chain (`strict`) — a fault of the same class. `I`: what is known of the ghost state
along the fold (the typing of an accumulator), under which alone the consumer's faults have to be member faults. -/
theorem chain_sim {β : Type} (C : Ctx D) (QC : QCtx D) (hN : QC.N = C.N) (hev : QC.ev = C.ev)
    (B : Backend) (hB : BackendBase B) (nm : Nat → String)
    (hinj : ∀ i j, nm i = nm j → i = j) (hres : ∀ j, nm j ≠ "result")
    (hcollT : ∀ name, B.collType name = QC.collType name)
    (c : Chain) (n : Nat) (htok : TokChain B nm C c n) (K : CExpr → Option Ty → List Stmt) (strict : Prop) (cons : Bool)
    (hwt : wtSteps none c.steps = true) (hst : strict → strictSteps cons c.steps = true)
    (hct : ChainTyped QC c) (hbt : strict → BankTyped QC c)
    (P : St D → β → Prop) (g : β → Val D → Except Fault β) (Q : Val D → Prop)
    (hQ : ∀ cty l, QC.ev.find c.bank = some (cty, .vec l) → ∀ v ∈ l, Q v)
    (hstable : FrameStable (Touch nm n (compChain B nm c n K).next) P)
    (hK : ConsumerSim C (chainVal B nm c n).1 (chainVal B nm c n).2
      (K (chainVal B nm c n).1 (chainVal B nm c n).2) strict cons P g Q)
    (ms : List (String × Ty)) (hms : ∀ p ∈ methsSteps c.steps, p ∈ ms)
    (I : β → Prop) (hI : ∀ v w b b', Q v → MethTyped v (methsSteps c.steps) → elemSem QC c.steps v = .ok (some w) →
        I b → g b w = .ok b' → I b')
    (hgE : ∀ v w b0 e, I b0 → Q v → MethTyped v (methsSteps c.steps) → elemSem QC c.steps v = .ok (some w) →
        g b0 w = .error e → MethFault v ms e)
    (msg : String) (s : St D) (b : β) (hx : (s.env (nm n)).isSome = true) (hP : P s b) (hI0 : I b) :
    Sim strict (ChainFaultRelM QC c ms) P (execs C (compChain B nm c n K).stmts s)
      (onSeq (denote QC [("e", evtVal)] (chainQ "e" c)) msg fun ws => foldG g ws b) := by
  -- bank present: the loop simulates the interleaved fold exactly, and a fault of that fold is a member fault of the bank
  have found : ∀ cty l, QC.collType c.coll = some cty → QC.ev.find c.bank = some (cty, .vec l) →
      Sim strict Eq P (execs C (compChain B nm c n K).stmts s) (foldG (keptG (elemSem QC c.steps) g) l b) ∧
      ∀ e, foldG (keptG (elemSem QC c.steps) g) l b = .error e → ListFault l ms e := fun cty l hct' hfind =>
    ⟨compChain_sim C QC hN B hB nm hinj hres c n htok K strict cons cty l (by rw [hcollT]; exact hct')
      (by rw [← hev]; exact hfind) hwt hst (hct cty l hfind) P g Q (hQ cty l hfind) hstable hK s b hx hP,
     fun e he => keptG_listFault QC c.steps g hwt ms hms l b e (hct cty l hfind) I
      (fun v hv w b b' h1 => hI v w b b' (hQ cty l hfind v hv) (hct cty l hfind v hv) h1)
      (fun v hv w b0 e' h0 h1 h2 => hgE v w b0 e' h0 (hQ cty l hfind v hv) (hct cty l hfind v hv) h1 h2) he hI0⟩
  cases hq : denote QC [("e", evtVal)] (chainQ "e" c) with
  | ok cv =>
    cases cv with
    | vec ws =>
      obtain ⟨cty, l, hct', hfind, hel⟩ := chainQ_ok QC _ "e" c ws hq
      obtain ⟨hsim, hLF⟩ := found cty l hct' hfind
      show Sim _ _ _ _ (foldG g ws b)
      rw [← foldG_keptG _ g l ws b (elemsSem_eq_optsE QC c.steps l ▸ hel)]
      exact hsim.mono id (fun f f' hf hff' => hff' ▸ Or.inr ⟨cty, l, hfind, hLF f hf, hLF f hf⟩) (fun _ _ _ h => h)
    | _ => exact fun hs => by obtain ⟨ws, h⟩ := chainQ_ok_vec QC c (hbt hs) _ hq; cases h
  | error e =>
    intro hs
    rcases chainQ_cases QC c (hbt hs) with ⟨hnone, hden⟩ | ⟨cty, l, hfind, hct', hden⟩
    · obtain rfl : Fault.retrieveFailed c.bank = e := Except.error.inj (hden.symm.trans hq)
      exact ⟨_, compChain_retrieve_fault C B hB nm c n htok K (by rw [← hev]; exact hnone) s, Or.inl ⟨hnone, rfl, rfl⟩⟩
    · obtain ⟨hsim, hLF⟩ := found cty l hct' hfind
      rw [hq] at hden
      cases hcl : chainList QC c.steps l with
      | ok ws => rw [hcl] at hden; cases hden
      | error e0 =>
        rw [hcl] at hden; cases hden
        have hLe : ListFault l ms e := by
          obtain ⟨v, hv, hf⟩ := chainList_error_elem QC c.steps l e hcl
          exact ⟨v, hv, ((elemSem_fault QC c.steps none v e (by simp) hwt (hct cty l hfind v hv) hf).1).mono hms⟩
        -- the interleaved fold cannot succeed where the query's chain faults: its success makes the list-at-a-time
        -- chain defined (`foldG_keptG_ok`, `elemsSem_chainList`); so it faults, and `hsim` hands that fault to the code
        cases hfold : foldG (keptG (elemSem QC c.steps) g) l b with
        | ok b' =>
          obtain ⟨ws, h1, _⟩ := foldG_keptG_ok _ g l b b' hfold
          rw [elemsSem_chainList QC c.steps l ws (by rw [elemsSem_eq_optsE]; exact h1)] at hcl; cases hcl
        | error e' =>
          rw [hfold] at hsim
          exact ⟨e', hsim.error_eq hs rfl, Or.inr ⟨cty, l, hfind, hLe, hLF e' hfold⟩⟩

/-- **Count, fault direction** (the consumer does not evaluate the value: `strictSteps false`) -/
theorem count_fault_tok (C : Ctx D) (QC : QCtx D) (hN : QC.N = C.N) (hev : QC.ev = C.ev)
    (B : Backend) (hB : BackendBase B) (nm : Nat → String)
    (hinj : ∀ i j, nm i = nm j → i = j) (hres : ∀ j, nm j ≠ "result")
    (hcollT : ∀ name, B.collType name = QC.collType name)
    (c : Chain) (n : Nat) (htok : TokChain B nm C c (n + 1)) (s : St D) (f : Fault)
    (hdone : DeclsDone C.N (compEE B nm (.count c) n).decls s.env)
    (hwt : wtSteps none c.steps = true) (hst : strictSteps false c.steps = true)
    (hmt : ChainTyped QC c) (hbt : BankTyped QC c)
    (hden : denote QC [("e", evtVal)] (eeQ "e" (.count c)) = .error f) :
    ∃ f', execs C (compEE B nm (.count c) n).stmts s = .error f' ∧ ChainFaultRel QC c f f' := by
  simp only [eeQ, denote] at hden
  have hchain : denote QC [("e", evtVal)] (chainQ "e" c) = .error f := by
    cases hc : denote QC [("e", evtVal)] (chainQ "e" c) with
    | error e => rw [hc] at hden; simpa using hden
    | ok cv =>
      obtain ⟨ws, rfl⟩ := chainQ_ok_vec QC c hbt cv hc
      rw [hc] at hden; simp at hden
  let K : CExpr → Option Ty → List Stmt := fun _ _ => [.set (nm n) (.bin "+" (.var (nm n)) (.int 1))]
  have hnext := compChain_next B nm c (n + 1) K
  have hacc : s.env (nm n) = some (.val (.int 0)) := by
    have := hdone (.decl "int" (nm n) (some (.int 0))) (by simp [compEE])
    have h0 := initVal_int C.N
    simp only [initVal] at h0
    simpa [DeclOK, h0] using this
  have hx : (s.env (nm (n + 1))).isSome = true := by
    have := hdone (.decl (B.handleTy ((B.collType c.coll).getD "?")) (nm (n + 1)) none) (by simp [compEE, compChain])
    simpa [DeclOK] using this
  have haccT : ¬ Touch nm (n + 1) (compChain B nm c (n + 1) K).next (nm n) :=
    not_touch_below hinj hres (Nat.lt_succ_self n) _
  have := (chain_sim (β := Int) C QC hN hev B hB nm hinj hres hcollT c (n + 1) htok K True false hwt (fun _ => hst) hmt
    (fun _ => hbt)
    (fun t b => t.env (nm n) = some (.val (.int b))) (fun a _ => .ok (a + 1)) (fun _ => True) (fun _ _ _ _ _ => trivial)
    (by intro t t' b hPt _ hfr; rw [hfr _ haccT]; exact hPt)
    (.of_parts (by
      intro t b b' w hPt hg _ _ _
      simp only [Except.ok.injEq] at hg; subst hg
      exact ⟨{ t with env := t.env.set (nm n) (.int (b + 1)) }, by simp [K, exec_addTo C t _ _ _ hPt, evalE, arith, asInt],
        by simp [Env.set]⟩)
     (by intro t b e w _ hg; simp at hg)
     (by intro h; simp at h))
    (methsSteps c.steps) (fun _ hp => hp) (fun _ => True) (fun _ _ _ _ _ _ _ _ _ => trivial)
    (by intro v w b0 e _ _ _ _ hg; simp at hg)
    "" s 0 hx hacc trivial).error trivial (by rw [hchain]; rfl)
  simpa [compEE] using this

theorem sum_step_typed (N : Num D) (t : Ty) (ht : t.isNum = true) (a w : Val D) (hw : HasTy w t)
    (ha : HasTy a .int ∨ HasTy a (Ty.join .int t)) :
    ∃ a', arith N "+" a w = .ok a' ∧ HasTy a' (Ty.join .int t) := by
  rcases ha with ha | ha
  · have h1 := arith_num N .add (by simp) a w _ _ ha hw (by simp [Ty.isNum]) ht
    obtain ⟨r, hr⟩ := pyArith_total N .add a w _ _ ha hw (by simp [Ty.isNum]) ht
    rw [← h1.1] at hr
    exact ⟨r, by simpa [AOp.str] using hr, h1.2 r hr⟩
  · have h1 := arith_num N .add (by simp) a w _ _ ha hw (join_int_num t ht) ht
    obtain ⟨r, hr⟩ := pyArith_total N .add a w _ _ ha hw (join_int_num t ht) ht
    rw [← h1.1] at hr
    exact ⟨r, by simpa [AOp.str] using hr, by have := h1.2 r hr; rwa [join_idem] at this⟩

theorem foldG_sum_total (N : Num D) (t : Ty) (ht : t.isNum = true) : ∀ (ws : List (Val D)) (a : Val D),
    (∀ w ∈ ws, HasTy w t) → (HasTy a .int ∨ HasTy a (Ty.join .int t)) →
    ∃ v, foldG (fun a w => arith N "+" a w) ws a = .ok v
  | [], a, _, _ => ⟨a, rfl⟩
  | w :: ws, a, hws, ha => by
    obtain ⟨a', h1, h2⟩ := sum_step_typed N t ht a w (hws w (by simp)) ha
    simp only [foldG, h1]
    exact foldG_sum_total N t ht ws a' (fun u hu => hws u (by simp [hu])) (Or.inr h2)

theorem initVal_typed (N : Num D) (t : Ty) (ht : t.isNum = true) :
    HasTy (initVal N (Ty.join .int t).cpp) .int ∨ HasTy (initVal N (Ty.join .int t).cpp) (Ty.join .int t) := by
  cases t <;> simp [Ty.isNum] at ht <;>
    simp [initVal, initValOf, litOf, castTo, Ty.join, Ty.cpp, asD, HasTy]

/-- **Sum, fault direction** (the consumer adds the value: `strictSteps true`); the fold itself
cannot fault on numbers, so the query's fault is the chain's -/
theorem sum_fault_tok (C : Ctx D) (QC : QCtx D) (hN : QC.N = C.N) (hev : QC.ev = C.ev)
    (B : Backend) (hB : BackendBase B) (nm : Nat → String)
    (hinj : ∀ i j, nm i = nm j → i = j) (hres : ∀ j, nm j ≠ "result")
    (hcollT : ∀ name, B.collType name = QC.collType name)
    (c : Chain) (n : Nat) (htok : TokChain B nm C c (n + 1)) (s : St D) (f : Fault)
    (hdone : DeclsDone C.N (compEE B nm (.sum c) n).decls s.env)
    (hwt : wtSteps none c.steps = true) (t : Ty) (hct' : chainTy none c.steps = some t) (htn : t.isNum = true)
    (hst : strictSteps true c.steps = true)
    (hmt : ChainTyped QC c) (hbt : BankTyped QC c)
    (hden : denote QC [("e", evtVal)] (eeQ "e" (.sum c)) = .error f) :
    ∃ f', execs C (compEE B nm (.sum c) n).stmts s = .error f' ∧ ChainFaultRel QC c f f' := by
  simp only [eeQ, denote] at hden
  have hchain : denote QC [("e", evtVal)] (chainQ "e" c) = .error f := by
    cases hc : denote QC [("e", evtVal)] (chainQ "e" c) with
    | error e => rw [hc] at hden; simpa using hden
    | ok cv =>
      obtain ⟨ws, rfl⟩ := chainQ_ok_vec QC c hbt cv hc
      rw [hc] at hden; simp only [] at hden
      obtain ⟨cty, l, _, hfind, hel⟩ := chainQ_ok QC _ "e" c ws hc
      have hwsty := elemsSem_typed QC c.steps t hwt hct' l ws (hmt cty l hfind) hel
      obtain ⟨v, hv⟩ := foldG_sum_total QC.N t htn ws (.int 0) hwsty (Or.inl (by simp [HasTy]))
      rw [foldE_eq_foldG, hv] at hden; simp at hden
  let K : CExpr → Option Ty → List Stmt := fun cur _ => [.set (nm n) (.bin "+" (.var (nm n)) cur)]
  have hnext := compChain_next B nm c (n + 1) K
  have hty : (Ty.join .int ((chainTy none c.steps).getD .double)) = Ty.join .int t := by rw [hct']; rfl
  have hacc : s.env (nm n) = some (.val (initVal C.N (Ty.join .int t).cpp)) := by
    have := hdone (.decl (Ty.join .int ((chainTy none c.steps).getD .double)).cpp (nm n) (some (.int 0))) (by simp [compEE])
    simpa [DeclOK, hty, initVal] using this
  have hx : (s.env (nm (n + 1))).isSome = true := by
    have := hdone (.decl (B.handleTy ((B.collType c.coll).getD "?")) (nm (n + 1)) none) (by simp [compEE, compChain])
    simpa [DeclOK] using this
  have haccT : ¬ Touch nm (n + 1) (compChain B nm c (n + 1) K).next (nm n) :=
    not_touch_below hinj hres (Nat.lt_succ_self n) _
  have := (chain_sim (β := Val D) C QC hN hev B hB nm hinj hres hcollT c (n + 1) htok K True true hwt (fun _ => hst) hmt
    (fun _ => hbt)
    (fun u a => u.env (nm n) = some (.val a)) (fun a w => arith C.N "+" a w) (fun _ => True)
    (fun _ _ _ _ _ => trivial)
    (by intro u u' b hPu _ hfr; rw [hfr _ haccT]; exact hPu)
    (.of_parts
      (fun u a a' w hPu hg hevw _ _ =>
        ⟨{ u with env := u.env.set (nm n) a' }, by simp only [K, exec_addTo C u _ _ a hPu, hevw, hg], by simp [Env.set]⟩)
      (fun u a e w hPu hg hevw _ _ => by simp only [K, exec_addTo C u _ _ a hPu, hevw, hg])
      (fun _ _ u a e hPu hevw => by simp only [K, exec_addTo C u _ _ a hPu, hevw]))
    (methsSteps c.steps) (fun _ hp => hp)
    -- the accumulator stays a number of the sum's type, so adding a kept value cannot fault
    (fun a => HasTy a .int ∨ HasTy a (Ty.join .int t))
    (by
      intro v w a a' _ hmv hel ha hg
      obtain ⟨r, hr, hrt⟩ := sum_step_typed C.N t htn a w (elemSem_typed QC c.steps v w t hwt hmv hel hct') ha
      rw [hr] at hg; cases hg; exact Or.inr hrt)
    (by
      intro v w a e ha _ hmv hel hg
      obtain ⟨r, hr, _⟩ := sum_step_typed C.N t htn a w (elemSem_typed QC c.steps v w t hwt hmv hel hct') ha
      rw [hr] at hg; cases hg)
    "" s _ hx hacc (initVal_typed C.N t htn)).error trivial (by rw [hchain]; rfl)
  simpa [compEE] using this

end FaxVerif.Gen
