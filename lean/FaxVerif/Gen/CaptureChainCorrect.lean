/-
Gen — correctness of 2-variable pure expressions (`compCE`: the inner parameter and the captured outer one) and of
the steps of a captured chain, the outer element being fixed; the query's list-at-a-time meaning of the steps is the
element-at-a-time one.
-/
import FaxVerif.Gen.CaptureSpec
import FaxVerif.Gen.QueryLemmas
namespace FaxVerif.Gen
open FaxVerif.Cpp FaxVerif.Linq
variable {D : Type}

theorem peQ_get (C : QCtx D) (y : String) (ρ ρ' : LEnv D) (h : ρ.get y = ρ'.get y) :
    ∀ pe : PE, denote C ρ (peQ y pe) = denote C ρ' (peQ y pe)
  | .int _ | .dbl _ _ | .bool _ => by simp [peQ, denote]
  | .it | .meth _ _ => by simp [peQ, denote, h]
  | .bin _ a b | .cmp _ a b => by simp only [peQ, denote, peQ_get C y ρ ρ' h a, peQ_get C y ρ ρ' h b]
  | .neg a | .not a => by simp only [peQ, denote, peQ_get C y ρ ρ' h a]

theorem ceQ_get (C : QCtx D) (x y : String) (ρ ρ' : LEnv D) (hx : ρ.get x = ρ'.get x) (hy : ρ.get y = ρ'.get y) :
    ∀ e : CE, denote C ρ (ceQ x y e) = denote C ρ' (ceQ x y e)
  | .inner p => peQ_get C x ρ ρ' hx p
  | .outer p => peQ_get C y ρ ρ' hy p
  | .bin _ a b | .cmp _ a b => by simp only [ceQ, denote, ceQ_get C x y ρ ρ' hx hy a, ceQ_get C x y ρ ρ' hx hy b]
  | .neg a | .not a => by simp only [ceQ, denote, ceQ_get C x y ρ ρ' hx hy a]

theorem ceQ_env (C : QCtx D) (v vo : Val D) (ρ : LEnv D) (hy : ρ.get "y" = some vo) (e : CE) :
    denote C (("t", v) :: ρ) (ceQ "t" "y" e) = cpeSem C vo v e :=
  ceQ_get C "t" "y" _ _ (by simp [LEnv.get]) (by simp [LEnv.get, hy]) e

theorem vars_compCE (ptr : Bool) (cur : CExpr) (t : Ty) (optr : Bool) (ocur : CExpr) :
    ∀ e : CE, ∀ x ∈ vars (compCE ptr cur t optr ocur e), x ∈ vars cur ∨ x ∈ vars ocur
  | .inner p, x, h => Or.inl (vars_compPE ptr cur t p x h)
  | .outer p, x, h => Or.inr (vars_compPE optr ocur .double p x h)
  | .bin op a b, x, h => by
    simp only [compCE] at h
    split at h <;> simp only [vars, List.mem_append] at h <;>
      exact h.elim (vars_compCE ptr cur t optr ocur a x) (vars_compCE ptr cur t optr ocur b x)
  | .cmp _ a b, x, h => by
    simp only [compCE, vars, List.mem_append] at h
    exact h.elim (vars_compCE ptr cur t optr ocur a x) (vars_compCE ptr cur t optr ocur b x)
  | .neg a, x, h | .not a, x, h => vars_compCE ptr cur t optr ocur a x h

theorem tyCE_bin (t : Ty) (op : AOp) (a b : CE) :
    tyCE t (.bin op a b) = if op = .div then .double else (tyCE t a).join (tyCE t b) := by
  cases op <;> rfl

/-- **2-variable pure expressions** — `compCE` evaluates, in any state where the inner current-value expression
evaluates to `v` and the outer element expression to `vo`, to exactly what the query expression denotes with the inner
parameter bound to `v` and the outer parameter to `vo` — values and faults alike — with the statically computed type. -/
theorem ce_correct (C : QCtx D) (σ : Env D) (cur ocur : CExpr) (curTy : Option Ty) (ptr optr : Bool)
    (v vo : Val D)
    (hcur : evalE C.N σ cur = .ok v) (hocur : evalE C.N σ ocur = .ok vo) (hty : ∀ t, curTy = some t → HasTy v t) :
    ∀ e : CE, wtCE curTy e = true → MethTyped v (imethsCE e) → MethTyped vo (omethsCE e) →
      evalE C.N σ (compCE ptr cur (curT curTy) optr ocur e) = denote C [("t", v), ("y", vo)] (ceQ "t" "y" e) ∧
      ∀ w, denote C [("t", v), ("y", vo)] (ceQ "t" "y" e) = .ok w → HasTy w (tyCE (curT curTy) e)
  | .inner p, hw, hm, _ => pe_correct C σ cur curTy ptr v "t" [("y", vo)] hcur hty p hw hm
  | .outer p, hw, _, hmo => by
    have h := pe_correct C σ ocur none optr vo "y" [] hocur (by simp) p hw hmo
    rwa [peQ_get C "y" [("y", vo)] [("t", v), ("y", vo)] (by simp [LEnv.get]) p] at h
  | .bin op a b, hw, hm, hmo => by
    simp only [wtCE, Bool.and_eq_true] at hw
    have iha := ce_correct C σ cur ocur curTy ptr optr v vo hcur hocur hty a hw.1.1.1 (methTyped_left hm) (methTyped_left hmo)
    have ihb := ce_correct C σ cur ocur curTy ptr optr v vo hcur hocur hty b hw.1.1.2 (methTyped_right hm) (methTyped_right hmo)
    rw [tyCE_bin]
    exact bin_correct C σ _ op _ _ hw.1.2 hw.2 _ _ _ _ iha.1 ihb.1 iha.2 ihb.2
  | .cmp op a b, hw, hm, hmo => by
    simp only [wtCE, Bool.and_eq_true] at hw
    have iha := ce_correct C σ cur ocur curTy ptr optr v vo hcur hocur hty a hw.1.1.1 (methTyped_left hm) (methTyped_left hmo)
    have ihb := ce_correct C σ cur ocur curTy ptr optr v vo hcur hocur hty b hw.1.1.2 (methTyped_right hm) (methTyped_right hmo)
    exact cmp_correct C σ _ op _ _ _ _ iha.1 ihb.1
  | .neg a, hw, hm, hmo => by
    simp only [wtCE, Bool.and_eq_true] at hw
    have iha := ce_correct C σ cur ocur curTy ptr optr v vo hcur hocur hty a hw.1 hm hmo
    exact neg_correct C σ _ _ hw.2 _ _ iha.1 iha.2
  | .not a, hw, hm, hmo => by
    simp only [wtCE, Bool.and_eq_true, beq_iff_eq] at hw
    have iha := ce_correct C σ cur ocur curTy ptr optr v vo hcur hocur hty a hw.1 hm hmo
    exact not_correct C σ _ _ _ iha.1 (hw.2 ▸ iha.2)

theorem cstepConds_vars (ptr optr : Bool) (ocur : CExpr) : ∀ (steps : List CStep) (cur : CExpr) (curTy : Option Ty),
    (∀ c ∈ (cstepConds ptr optr ocur cur curTy steps).1, ∀ x ∈ vars c, x ∈ vars cur ∨ x ∈ vars ocur) ∧
    (∀ x ∈ vars (cstepConds ptr optr ocur cur curTy steps).2.1, x ∈ vars cur ∨ x ∈ vars ocur)
  | [], cur, curTy => ⟨fun c hc => by simp [cstepConds] at hc, fun x hx => Or.inl hx⟩
  | .sel f :: rest, cur, curTy => by
    have ih := cstepConds_vars ptr optr ocur rest (compCE (ptr && curTy.isNone) cur (curTy.getD .double) optr ocur f) (some (tyCE (curTy.getD .double) f))
    have hv := vars_compCE (ptr && curTy.isNone) cur (curTy.getD .double) optr ocur f
    exact ⟨fun c hc x hx => (ih.1 c hc x hx).elim (hv x) Or.inr, fun x hx => (ih.2 x hx).elim (hv x) Or.inr⟩
  | .whr c :: rest, cur, curTy => by
    have ih := cstepConds_vars ptr optr ocur rest cur curTy
    refine ⟨fun c' hc' x hx => ?_, ih.2⟩
    rcases List.mem_cons.1 hc' with rfl | hc'
    · exact vars_compCE _ _ _ _ _ c x hx
    · exact ih.1 c' hc' x hx

theorem cstepConds_ty (ptr optr : Bool) (ocur : CExpr) : ∀ (steps : List CStep) (cur : CExpr) (curTy : Option Ty),
    (cstepConds ptr optr ocur cur curTy steps).2.2 = cchainTy curTy steps
  | [], _, _ => rfl
  | .sel _ :: rest, _, _ | .whr _ :: rest, _, _ => cstepConds_ty ptr optr ocur rest _ _

/-- **one inner element** — if the query sends the inner element `v` through the captured steps successfully (the outer
element being `vo`), the emitted conditions evaluate (lazily, in order) to "kept / dropped" accordingly, and for a kept
element the final value expression evaluates to the query's value, with its static type. -/
theorem celem_correct (C : QCtx D) (σ : Env D) (ptr optr : Bool) (ocur : CExpr) (vo : Val D)
    (hocur : evalE C.N σ ocur = .ok vo) :
    ∀ (steps : List CStep) (cur : CExpr) (curTy : Option Ty) (v : Val D) (o : Option (Val D)),
      evalE C.N σ cur = .ok v → (∀ t, curTy = some t → HasTy v t) →
      wtCSteps curTy steps = true → MethTyped v (imethsCSteps steps) → MethTyped vo (omethsCSteps steps) →
      celemSem C vo steps v = .ok o →
      (o = none → condsF C.N σ (cstepConds ptr optr ocur cur curTy steps).1 = .ok false) ∧
      (∀ w, o = some w → condsF C.N σ (cstepConds ptr optr ocur cur curTy steps).1 = .ok true ∧
          evalE C.N σ (cstepConds ptr optr ocur cur curTy steps).2.1 = .ok w ∧
          (∀ t, (cstepConds ptr optr ocur cur curTy steps).2.2 = some t → HasTy w t) ∧
          ((cstepConds ptr optr ocur cur curTy steps).2.2 = none → w = v ∧ curTy = none))
  | [], cur, curTy, v, o, hcur, hty, _, _, _, hs => by
    simp only [celemSem, Except.ok.injEq] at hs; subst hs
    simp only [cstepConds, condsF, hcur, reduceCtorEq, false_implies, true_and, Option.some.injEq]
    intro w hw; subst hw
    exact ⟨rfl, hty, fun h => ⟨rfl, h⟩⟩
  | .sel f :: rest, cur, curTy, v, o, hcur, hty, hwt, hm, hmo, hs => by
    simp only [wtCSteps, Bool.and_eq_true] at hwt
    simp only [celemSem, cpeSem] at hs
    have hpe := ce_correct C σ cur ocur curTy (ptr && curTy.isNone) optr v vo hcur hocur hty f hwt.1 (methTyped_left hm) (methTyped_left hmo)
    cases hd : denote C [("t", v), ("y", vo)] (ceQ "t" "y" f) with
    | error e => rw [hd] at hs; simp at hs
    | ok w' =>
      rw [hd] at hs
      have hw'ty := hpe.2 w' hd
      have := celem_correct C σ ptr optr ocur vo hocur rest (compCE (ptr && curTy.isNone) cur (curT curTy) optr ocur f) (some (tyCE (curT curTy) f)) w' o
        (hpe.1.trans hd) (fun t ht => Option.some.inj ht ▸ hw'ty)
        hwt.2 (methTyped_of_hasTy hw'ty _) (methTyped_right hmo) hs
      refine ⟨this.1, fun w hw => ?_⟩
      obtain ⟨h1, h2, h3, h4⟩ := this.2 w hw
      exact ⟨h1, h2, h3, fun hn => nomatch (h4 hn).2⟩
  | .whr c :: rest, cur, curTy, v, o, hcur, hty, hwt, hm, hmo, hs => by
    simp only [wtCSteps, Bool.and_eq_true, beq_iff_eq] at hwt
    simp only [celemSem, cpeSem] at hs
    have hpe := ce_correct C σ cur ocur curTy (ptr && curTy.isNone) optr v vo hcur hocur hty c hwt.1.1 (methTyped_left hm) (methTyped_left hmo)
    cases hd : denote C [("t", v), ("y", vo)] (ceQ "t" "y" c) with
    | error e => rw [hd] at hs; simp at hs
    | ok r =>
      rw [hd] at hs
      simp only [] at hs
      cases hb : asBool C.N r with
      | none => rw [hb] at hs; simp at hs
      | some b =>
        rw [hb] at hs
        have hB : evalB C.N σ (compCE (ptr && curTy.isNone) cur (curT curTy) optr ocur c) = .ok b :=
          evalB_of _ _ _ _ _ (hpe.1.trans hd) hb
        simp only [cstepConds, condsF]
        rw [show curTy.getD .double = curT curTy from rfl, hB]
        cases b with
        | false =>
          simp only [Except.ok.injEq] at hs; subst hs
          simp
        | true =>
          simpa using celem_correct C σ ptr optr ocur vo hocur rest cur curTy v o hcur hty hwt.2 (methTyped_right hm) (methTyped_right hmo) hs

theorem celemsSem_eq_optsE (C : QCtx D) (vo : Val D) (steps : List CStep) : ∀ l : List (Val D),
    celemsSem C vo steps l = optsE (celemSem C vo steps) l
  | [] => rfl
  | v :: vs => by simp only [celemsSem, optsE, celemsSem_eq_optsE C vo steps vs]; rfl

theorem celemsSem_cons_ok {C : QCtx D} {vo : Val D} {steps : List CStep} {v : Val D} {vs r : List (Val D)} :
    celemsSem C vo steps (v :: vs) = .ok r ↔
      ∃ o rs, celemSem C vo steps v = .ok o ∧ celemsSem C vo steps vs = .ok rs ∧ r = o.toList ++ rs := by
  simp only [celemsSem_eq_optsE]; exact optsE_cons_ok

def CStep.q (C : QCtx D) (vo : Val D) : CStep → QStep D
  | .sel f => ⟨false, fun x => ceQ x "y" f, fun v => cpeSem C vo v f⟩
  | .whr c => ⟨true, fun x => ceQ x "y" c, fun v => cpeSem C vo v c⟩

theorem csteps_faithful (C : QCtx D) (ρ : LEnv D) (vo : Val D) (hy : ρ.get "y" = some vo) (steps : List CStep) :
    ∀ s ∈ steps.map (CStep.q C vo), ∀ k : Nat, s.Faithful C ρ ((fun _ => capVar) k) := fun s hs _ v => by
  obtain ⟨t, _, rfl⟩ := List.mem_map.1 hs
  cases t <;> exact ceQ_env C v vo ρ hy _

theorem cstepsQ_eq (C : QCtx D) (vo : Val D) : ∀ (steps : List CStep) (src : Query) (k : Nat),
    cstepsQ "y" src steps = stepsQG (fun _ => capVar) src (steps.map (CStep.q C vo)) k
  | [], _, _ => rfl
  | .sel _ :: rest, _, k | .whr _ :: rest, _, k => cstepsQ_eq C vo rest _ (k + 1)

theorem celemSem_eq (C : QCtx D) (vo : Val D) : ∀ (steps : List CStep) (v : Val D),
    celemSem C vo steps v = elemSemG C (steps.map (CStep.q C vo)) v
  | [], _ => rfl
  | .sel f :: rest, v => by
    simp only [celemSem, List.map_cons, elemSemG, CStep.q, Bool.false_eq_true, if_false]
    cases cpeSem C vo v f with
    | error e => rfl
    | ok w => exact celemSem_eq C vo rest w
  | .whr c :: rest, v => by
    simp only [celemSem, List.map_cons, elemSemG, CStep.q, if_true]
    cases cpeSem C vo v c with
    | error e => rfl
    | ok w =>
      dsimp only
      cases asBool C.N w with
      | none => rfl
      | some b => cases b with
        | false => rfl
        | true => exact celemSem_eq C vo rest v

/-- the query's own (list-at-a-time) meaning of the steps -/
def cchainList (C : QCtx D) (vo : Val D) : List CStep → List (Val D) → Except Fault (List (Val D))
  | [], l => .ok l
  | .sel f :: rest, l => match mapE (fun v => cpeSem C vo v f) l with
    | .error e => .error e
    | .ok r => cchainList C vo rest r
  | .whr c :: rest, l => match filterE C.N (fun v => cpeSem C vo v c) l with
    | .error e => .error e
    | .ok r => cchainList C vo rest r

theorem cchainList_eq (C : QCtx D) (vo : Val D) : ∀ (steps : List CStep) (l : List (Val D)),
    cchainList C vo steps l = chainListG C (steps.map (CStep.q C vo)) l
  | [], _ => rfl
  | .sel f :: rest, l => by
    simp only [cchainList, List.map_cons, chainListG, QStep.list, CStep.q, Bool.false_eq_true, if_false]
    cases mapE (fun v => cpeSem C vo v f) l with
    | error e => rfl
    | ok r => exact cchainList_eq C vo rest r
  | .whr c :: rest, l => by
    simp only [cchainList, List.map_cons, chainListG, QStep.list, CStep.q, if_true]
    cases filterE C.N (fun v => cpeSem C vo v c) l with
    | error e => rfl
    | ok r => exact cchainList_eq C vo rest r

/-- list-at-a-time = element-at-a-time, when the former succeeds (the two differ in which fault comes first) -/
theorem cchainList_elems (C : QCtx D) (vo : Val D) (steps : List CStep) (l r : List (Val D))
    (h : cchainList C vo steps l = .ok r) : celemsSem C vo steps l = .ok r := by
  rw [cchainList_eq] at h
  rw [celemsSem_eq_optsE, show celemSem C vo steps = elemSemG C (steps.map (CStep.q C vo)) from
    funext (celemSem_eq C vo steps)]
  exact chainListG_elems C _ l r h

theorem cstepsQ_error (C : QCtx D) (ρ : LEnv D) (y : String) (e : Fault) : ∀ (steps : List CStep) (src : Query),
    denote C ρ src = .error e → denote C ρ (cstepsQ y src steps) = .error e
  | [], _, h => h
  | .sel _ :: rest, _, h | .whr _ :: rest, _, h => cstepsQ_error C ρ y e rest _ (by simp [denote, h])

theorem cstepsQ_denote (C : QCtx D) (ρ : LEnv D) (vo : Val D) (hy : ρ.get "y" = some vo)
    (steps : List CStep) (src : Query) (l : List (Val D)) (h : denote C ρ src = .ok (.vec l)) :
    denote C ρ (cstepsQ "y" src steps) = (match cchainList C vo steps l with
      | .ok r => .ok (.vec r)
      | .error e => .error e) := by
  rw [cstepsQ_eq C vo steps src 0, cchainList_eq]
  exact stepsQG_denote C ρ _ _ (csteps_faithful C ρ vo hy steps) src 0 l h

theorem cchainQ_ok (C : QCtx D) (ρ : LEnv D) (ev : String) (vo : Val D) (hy : ρ.get "y" = some vo) (c : CChain) (ws : List (Val D))
    (h : denote C ρ (cchainQ ev "y" c) = .ok (.vec ws)) :
    ∃ cty l, C.collType c.coll = some cty ∧ C.ev.find c.bank = some (cty, .vec l) ∧
      celemsSem C vo c.steps l = .ok ws := by
  rw [cchainQ, cstepsQ_eq C vo c.steps _ 0] at h
  obtain ⟨cty, l, h1, h2, h3⟩ := collStepsG_ok C ρ _ ev c.coll c.bank _ (csteps_faithful C ρ vo hy c.steps) ws h
  refine ⟨cty, l, h1, h2, ?_⟩
  rw [celemsSem_eq_optsE, show celemSem C vo c.steps = elemSemG C (c.steps.map (CStep.q C vo)) from
    funext (celemSem_eq C vo c.steps)]
  exact h3

end FaxVerif.Gen
