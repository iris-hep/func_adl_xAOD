/-
Gen — side conditions of the correctness theorems about the general `Aggregate` (`Gen/Agg.lean`):
static well-typedness (decidable) and the exact typing side condition under which the emitted
accumulator holds, at every iteration, the very value Python's fold holds.
-/
import FaxVerif.Gen.Agg
import FaxVerif.Gen.EventSpec
namespace FaxVerif.Gen
open FaxVerif.Cpp FaxVerif.Linq
variable {D : Type}

/-- static well-typedness of an accumulation body: `cur = none` means the element is an object;
operands of arithmetic are numbers -/
def wtAE (accT : Ty) (cur : Option Ty) : AE → Bool
  | .int _ => true
  | .dbl _ _ => true
  | .acc => true
  | .it => cur.isSome
  | .meth _ _ => cur.isNone
  | .bin _ a b => wtAE accT cur a && wtAE accT cur b && (tyAE accT (curT cur) a).isNum && (tyAE accT (curT cur) b).isNum
  | .neg a => wtAE accT cur a && (tyAE accT (curT cur) a).isNum

def methsAE : AE → List (String × Ty)
  | .meth n t => [(n, t)]
  | .bin _ a b => methsAE a ++ methsAE b
  | .neg a => methsAE a
  | _ => []

/-- **the exact typing side condition**: the accumulator's declared type is the seed's type and
holds the body's value without conversion of kind — an int seed with an int body, or a float seed
with a floating body. (Otherwise the translator widens the accumulator: an int seed with a floating
body is declared `double acc (seed)` — Python's accumulator is the INTEGER seed until the first
element; a float seed with an int body is updated through `static_cast<double>` — Python's
accumulator becomes an int. Both are numerically equal to Python's value, but are different values
of the model; see `AggBodyCorrect`, `AggCorrect` / `aggregate_widened_is_fold_partial` and the counterexamples in
C01/TheoremsAgg.lean.) -/
def aggExact (sT bT : Ty) : Bool :=
  (sT == .int && bT == .int) || (sT == .double && bT.isFloating)

/-- well-typedness of one aggregate (without the exactness condition) -/
def wtAggBase (g : Agg) : Bool :=
  wtSteps none g.c.steps && wtAE g.seed.ty (chainTy none g.c.steps) g.body && g.bodyTy.isNum

def wtAgg (g : Agg) : Bool := wtAggBase g && aggExact g.seed.ty g.bodyTy

def isAcc : AE → Bool
  | .acc => true
  | _ => false

/-- every occurrence of `acc` is an operand of `/`, or of `+ - *` whose other operand is of
floating type: exactly the positions where Python converts the integer accumulator to a float -/
def accOK (cur : Ty) : AE → Bool
  | .acc => false
  | .bin op p q =>
    (if isAcc p then (op == .div || (tyAE .int cur q).isFloating) else accOK cur p) &&
    (if isAcc q then (op == .div || (tyAE .int cur p).isFloating) else accOK cur q)
  | .neg p => accOK cur p
  | _ => true

/-- the static side condition of the widened case: int seed, floating body, `acc` only in
positions where Python converts it -/
def aggWiden (g : Agg) : Bool :=
  g.seed.isNatLit && g.bodyTy.isFloating && accOK (curT (chainTy none g.c.steps)) g.body

/-- static well-typedness of one aggregate for the theorems: exact typing, or the widened case -/
def wtAggW (g : Agg) : Bool := wtAggBase g && (aggExact g.seed.ty g.bodyTy || aggWiden g)

def wtGE : GE → Bool
  | .int _ => true
  | .dbl _ _ => true
  | .bool _ => true
  | .agg g => wtAggW g
  | .bin _ a b => wtGE a && wtGE b && (tyGE a).isNum && (tyGE b).isNum
  | .cmp _ a b => wtGE a && wtGE b && (tyGE a).isNum && (tyGE b).isNum
  | .neg a => wtGE a && (tyGE a).isNum
  | .not a => wtGE a && (tyGE a == .bool)

def aggsGE : GE → List Agg
  | .agg g => [g]
  | .bin _ a b => aggsGE a ++ aggsGE b
  | .cmp _ a b => aggsGE a ++ aggsGE b
  | .neg a => aggsGE a
  | .not a => aggsGE a
  | _ => []

/-- every object of the bank the aggregate ranges over returns values of the declared kinds, for
the accessors of the chain's steps and of the accumulation body -/
def AggTyped (QC : QCtx D) (g : Agg) : Prop :=
  ∀ cty l, QC.ev.find g.c.bank = some (cty, .vec l) →
    ∀ v ∈ l, MethTyped v (methsSteps g.c.steps) ∧ MethTyped v (methsAE g.body)

/-- A WIDENED aggregate (int seed, floating body — e.g. `Sum()` of floats) ranges over at least one
kept element on this event. (Over an empty sequence the query denotes the INTEGER seed and the
emitted code writes the floating seed: numerically equal, different values of the model — left to
the numeric comparison of the correspondence stream, like `SumNonEmpty`.) Vacuous under `aggExact`. -/
def AggNonEmpty (QC : QCtx D) (g : Agg) : Prop :=
  aggExact g.seed.ty g.bodyTy = false →
    ∀ cty l ws, QC.ev.find g.c.bank = some (cty, .vec l) → elemsSem QC g.c.steps l = .ok ws → ws ≠ []

/-- what the theorems assume of the event for one aggregate -/
def AggHyp (QC : QCtx D) (g : Agg) : Prop := AggTyped QC g ∧ AggNonEmpty QC g

/-- the value of a seed -/
def Seed.val (N : Num D) : Seed → Val D
  | .int n => .int n
  | .dbl m e => .dbl (N.ofDec m e)
  | .nint n => .int (-(n : Int))
  | .ndbl m e => .dbl (N.neg (N.ofDec m e))

/-- one step of the user-level fold: the body with `acc` and the element bound -/
def aggStep (QC : QCtx D) (g : Agg) (a w : Val D) : Except Fault (Val D) :=
  denote QC [(elemName, w), (accName, a), ("e", .obj "__event__" [])] (aeQ accName elemName g.body)

end FaxVerif.Gen
