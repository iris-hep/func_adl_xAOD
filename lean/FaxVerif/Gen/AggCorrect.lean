/-
Gen — correctness of ONE general aggregate (`compAgg`), exactly typed (`aggExact`) or widened
(`aggWiden`: int seed, floating body, `accOK`, ≥ 1 kept element): the emitted retrieval + loop, with
the accumulator declared outside the loop and initialised by the seed, leaves in the accumulator the
left fold of the lambda body over the values the chain keeps, from the seed (`agg_fold_correct`).
First `agg_loopG`: the loop runs ANY fold that one execution of the update statement simulates; then
which fold, from which start value. Python's accumulator and the C++ variable hold the same value of the
declared type throughout — except before the first element of a widened aggregate, where Python holds the
integer seed and the variable the floating seed (`AccR`); the first step gives the same value from both
(`accStep_insensitive`).
(The declarations hoisted to the top of the block, with initialisers that may be FLOATING or negative literals —
`double acc (0.5);` — are `exec_declsA` in Gen/FragSpec.lean.)
-/
import FaxVerif.Gen.AggBodyCorrect
import FaxVerif.Gen.IsFold
import FaxVerif.Gen.FragSpec
import FaxVerif.Gen.QueryLemmas
namespace FaxVerif.Gen
open FaxVerif.Cpp FaxVerif.Linq
variable {D : Type}

theorem compAgg_next (B : Backend) (nm : Nat → String) (g : Agg) (n : Nat) : n + 4 ≤ (compAgg B nm g n).next := by
  have := compChain_next B nm g.c (n + 1) (fun cur cty => [aggUpdate B.elemPtr g (nm n) cur cty])
  simp only [compAgg]; omega

theorem initValA_seed (N : Num D) (sd : Seed) : initValA N sd.ty.cpp sd.cexpr = sd.val N := by
  cases sd <;> simp [initValA, litOfA, Seed.cexpr, Seed.ty, Seed.val, Ty.cpp, castTo, asD]

theorem seed_hasTy (N : Num D) (sd : Seed) : HasTy (sd.val N) sd.ty := by
  cases sd <;> trivial

theorem seed_denote (QC : QCtx D) (ρ : LEnv D) (sd : Seed) : denote QC ρ sd.query = .ok (sd.val QC.N) := by
  cases sd <;> rfl

theorem litOfA_seed (N : Num D) (sd : Seed) : litOfA N sd.cexpr = some (sd.val N) := by
  cases sd <;> rfl

/-- what the aggregate denotes: the fold of the body over the chain's values, from the seed -/
theorem aggQ_denote (QC : QCtx D) (g : Agg) (v : Val D)
    (hden : denote QC [("e", evtVal)] (aggQ "e" g) = .ok v) :
    ∃ ws, denote QC [("e", evtVal)] (chainQ "e" g.c) = .ok (.vec ws) ∧
      foldG (aggStep QC g) ws (g.seed.val QC.N) = .ok v := by
  simp only [aggQ, denote] at hden
  cases hc : denote QC [("e", evtVal)] (chainQ "e" g.c) with
  | error e => rw [hc] at hden; simp at hden
  | ok cv =>
    rw [hc] at hden
    cases cv with
    | vec ws =>
      simp only [seed_denote] at hden
      rw [foldE_eq_foldG] at hden
      exact ⟨ws, rfl, hden⟩
    | _ => simp at hden

/-- **the emitted loop of one aggregate is a fold**: against a fold `g2` over an arbitrary state `β`, the C++
accumulator related to the fold's state by `R`, provided one execution of the emitted update statement
performs one step of `g2` and keeps `R`. -/
theorem agg_loopG {β : Type} (C : Ctx D) (QC : QCtx D) (hN : QC.N = C.N) (hev : QC.ev = C.ev)
    (B : Backend) (hB : BackendBase B) (nm : Nat → String)
    (hinj : ∀ i j, nm i = nm j → i = j) (hres : ∀ j, nm j ≠ "result")
    (hcollT : ∀ name, B.collType name = QC.collType name)
    (g : Agg) (n : Nat) (htok : TokChain B nm C g.c (n + 1)) (s : St D) (ws : List (Val D)) (c0 : Val D) (b0 bf : β)
    (hx : (s.env (nm (n + 1))).isSome = true)
    (hacc : s.env (nm n) = some (.val c0))
    (hwtS : wtSteps none g.c.steps = true) (hmt : AggTyped QC g)
    (hchain : denote QC [("e", evtVal)] (chainQ "e" g.c) = .ok (.vec ws))
    (g2 : β → Val D → Except Fault β) (R : β → Val D → Prop) (hR0 : R b0 c0)
    (hstep : ∀ (σ : Env D) (cur : CExpr) (cty : Option Ty) (b b' : β) (c w v0 : Val D), cty = chainTy none g.c.steps →
        R b c → σ (nm n) = some (.val c) → g2 b w = .ok b' → evalE C.N σ cur = .ok w →
        (∀ t, chainTy none g.c.steps = some t → HasTy w t) →
        (chainTy none g.c.steps = none → w = v0 ∧ MethTyped v0 (methsAE g.body)) →
        ∃ e c', aggUpdate B.elemPtr g (nm n) cur cty = .set (nm n) e ∧ evalE C.N σ e = .ok c' ∧ R b' c')
    (hfold : foldG g2 ws b0 = .ok bf) :
    ∃ s' cf, execs C (compAgg B nm g n).stmts s = .ok s' ∧ s'.rows = s.rows ∧
      s'.env (nm n) = some (.val cf) ∧ R bf cf ∧
      (∀ y, ¬ Touch nm n (compAgg B nm g n).next y → s'.env y = s.env y) := by
  obtain ⟨cty, l, hct, hfind, hel⟩ := chainQ_ok QC _ "e" g.c ws hchain
  let K : CExpr → Option Ty → List Stmt := fun cur ty => [aggUpdate B.elemPtr g (nm n) cur ty]
  have hnext := compChain_next B nm g.c (n + 1) K
  have hcty : (chainVal B nm g.c (n + 1)).2 = chainTy none g.c.steps := stepConds_ty B.elemPtr g.c.steps (.var (nm (n + 1 + 1))) none
  have hsplit : ∀ y, ¬ Touch nm n (compChain B nm g.c (n + 1) K).next y →
      y ≠ nm n ∧ ¬ Touch nm (n + 1) (compChain B nm g.c (n + 1) K).next y := fun y hy =>
    ⟨fun e => hy (Or.inl ⟨n, Nat.le_refl n, by omega, e⟩), fun h => hy (h.mono (Nat.le_succ n) (Nat.le_refl _))⟩
  obtain ⟨s', cf, hex, hr, hv, hRf, hfr⟩ :=
    (compChain_isFold C QC hN B hB nm hinj hres g.c (n + 1) htok K cty l ws (by rw [hcollT]; exact hct)
      (by rw [← hev]; exact hfind) hwtS (fun v hv => (hmt cty l hfind v hv).1) (fun v => MethTyped v (methsAE g.body))
      (fun v hv => (hmt cty l hfind v hv).2) hel s hx).acc (nm n) (not_touch_below hinj hres (Nat.lt_succ_self n) _) R g2
      (fun _ _ => trivial)
      (fun t b b' c w hc hRc hg hevw hq => by
        obtain ⟨e, c', he, hee, hR'⟩ := hstep t.env _ _ b b' c w w hcty hRc hc hg hevw
          (fun t ht => hq.1 t (hcty.trans ht)) (fun hn => ⟨rfl, hq.2 (hcty.trans hn)⟩)
        exact ⟨{ t with env := t.env.set (nm n) c' }, c', by simp only [K, he, execs, exec, hc, hee], rfl, by simp [Env.set], hR',
          fun y hy _ => by simp only [Env.set, hy, if_false]⟩)
      b0 bf c0 hacc hR0 hfold
  exact ⟨s', cf, hex, hr, hv, hRf, fun y hy => hfr y (hsplit y hy).1 (hsplit y hy).2⟩

/-- `foldG` is `List.foldlM` in the `Except Fault` monad: the left fold that stops at the first fault -/
theorem foldG_eq_foldlM {β : Type} (g : β → Val D → Except Fault β) : ∀ (ws : List (Val D)) (b : β),
    foldG g ws b = ws.foldlM g b
  | [], b => rfl
  | w :: ws, b => by
    simp only [foldG, List.foldlM_cons]
    cases h : g b w with
    | error e => rfl
    | ok b' => exact foldG_eq_foldlM g ws b'

theorem foldlM_eq_foldl {β : Type} (g : β → Val D → Except Fault β) (f : β → Val D → β) :
    ∀ (ws : List (Val D)) (b : β), (∀ a, ∀ w ∈ ws, g a w = .ok (f a w)) → ws.foldlM g b = .ok (ws.foldl f b)
  | [], _, _ => rfl
  | w :: ws, b, h => by
    have hw : g b w = .ok (f b w) := h b w (by simp)
    simp only [List.foldlM_cons, List.foldl_cons, hw]
    exact foldlM_eq_foldl g f ws (f b w) (fun a w' hw' => h a w' (by simp [hw']))

/-- the user-level step, remembering that an element was seen -/
def stepFlag (QC : QCtx D) (g : Agg) (ab : Val D × Bool) (w : Val D) : Except Fault (Val D × Bool) :=
  match aggStep QC g ab.1 w with
  | .ok a' => .ok (a', true)
  | .error e => .error e

theorem foldG_flag (QC : QCtx D) (g : Agg) (ws : List (Val D)) : ∀ (a : Val D) (b : Bool) (v : Val D),
    foldG (aggStep QC g) ws a = .ok v → foldG (stepFlag QC g) ws (a, b) = .ok (v, b || !ws.isEmpty) := by
  induction ws with
  | nil => intro a b v h; cases h; simp [foldG]
  | cons w ws ih =>
    intro a b v h
    simp only [foldG] at h ⊢
    cases hs : aggStep QC g a w with
    | error e => rw [hs] at h; cases h
    | ok a' =>
      rw [hs] at h
      simp only [stepFlag, hs]
      rw [ih a' true v h]
      simp

/-- Python's accumulator `a`, with the flag "an element was seen", against the C++ variable's value `c` -/
def AccR (N : Num D) (g : Agg) : Val D × Bool → Val D → Prop
  | (a, seen), c => (a = c ∧ HasTy a g.accTy) ∨
      (seen = false ∧ aggExact g.seed.ty g.bodyTy = false ∧ ∃ k : Nat, g.seed = .int k ∧ a = .int k ∧ c = .dbl (N.ofInt k))

theorem aggExact_iff (sT bT : Ty) :
    aggExact sT bT = true ↔ (sT = .int ∧ bT = .int) ∨ (sT = .double ∧ (bT = .float ∨ bT = .double)) := by
  cases bT <;> simp [aggExact, Ty.isFloating]

theorem tyAE_join_seed (sT bT : Ty) (h : aggExact sT bT = true) : sT.join bT = sT := by
  rcases (aggExact_iff _ _).1 h with ⟨rfl, rfl⟩ | ⟨rfl, rfl | rfl⟩ <;> rfl

theorem join_int_fl (t : Ty) (h : t.isFloating = true) : Ty.join .int t = t := by
  cases t <;> simp [Ty.isFloating] at h <;> rfl

theorem join_int_join_int (t : Ty) : Ty.join .int (Ty.join .int t) = Ty.join .int t := by cases t <;> rfl

theorem aggExact_int_fl (t : Ty) (h : t.isFloating = true) : aggExact .int t = false := by
  cases t <;> simp [Ty.isFloating] at h <;> rfl

theorem initValA_int_fl (N : Num D) (t : Ty) (h : t.isFloating = true) (k : Nat) :
    initValA N t.cpp (Seed.int k).cexpr = .dbl (N.ofInt k) := by
  cases t <;> simp [Ty.isFloating] at h <;> rfl

theorem aggWiden_spec {g : Agg} (h : aggWiden g = true) :
    (∃ k, g.seed = .int k) ∧ g.bodyTy.isFloating = true ∧ accOK (curT (chainTy none g.c.steps)) g.body = true := by
  simp only [aggWiden, Bool.and_eq_true] at h
  refine ⟨?_, h.1.2, h.2⟩
  cases hs : g.seed <;> simp [hs, Seed.isNatLit] at h ⊢

theorem accTy_cases {g : Agg} (hw : aggExact g.seed.ty g.bodyTy = true ∨ aggWiden g = true) :
    g.accTy = g.bodyTy ∨ (g.accTy = .double ∧ g.bodyTy = .float) := by
  unfold Agg.accTy
  rcases hw with h | h
  · rcases (aggExact_iff _ _).1 h with ⟨h1, h2⟩ | ⟨h1, h2 | h2⟩ <;> rw [h1, h2]
    · exact Or.inl rfl
    · exact Or.inr ⟨rfl, rfl⟩
    · exact Or.inl rfl
  · obtain ⟨⟨k, hk⟩, hfl, _⟩ := aggWiden_spec h
    exact Or.inl (by rw [hk]; exact join_int_fl _ hfl)

/-- the emitted right-hand side `body` / `static_cast<T>(body)`: the cast, emitted only to `double` from `float`
in the typings covered, is the identity -/
theorem evalE_accCast (N : Num D) (σ : Env D) (e : CExpr) (v : Val D) (aT bT : Ty)
    (he : evalE N σ e = .ok v) (hv : HasTy v bT) (h : aT = bT ∨ (aT = .double ∧ bT = .float)) :
    evalE N σ (if aT = bT then e else .cast aT.cpp e) = .ok v ∧ HasTy v aT := by
  rcases h with rfl | ⟨rfl, rfl⟩
  · exact ⟨by rw [if_pos rfl]; exact he, hv⟩
  · cases v <;> simp [HasTy] at hv
    simp [evalE, he, Ty.cpp, castTo, asD, HasTy]

/-- one execution of the emitted update statement performs one step of the fold and keeps `AccR` -/
theorem aggUpdate_step (C : Ctx D) (QC : QCtx D) (hN : QC.N = C.N) (ptr : Bool) (g : Agg) (accV : String)
    (hwtB : wtAE g.seed.ty (chainTy none g.c.steps) g.body = true)
    (hw : aggExact g.seed.ty g.bodyTy = true ∨ aggWiden g = true)
    (σ : Env D) (cur : CExpr) (cty : Option Ty) (ab ab' : Val D × Bool) (c w v0 : Val D)
    (hcty : cty = chainTy none g.c.steps) (hR : AccR C.N g ab c) (hσ : σ accV = some (.val c))
    (hg : stepFlag QC g ab w = .ok ab') (hevw : evalE C.N σ cur = .ok w)
    (htyw : ∀ t, chainTy none g.c.steps = some t → HasTy w t)
    (hobj : chainTy none g.c.steps = none → w = v0 ∧ MethTyped v0 (methsAE g.body)) :
    ∃ e c', aggUpdate ptr g accV cur cty = .set accV e ∧ evalE C.N σ e = .ok c' ∧ AccR C.N g ab' c' := by
  subst hcty
  have hmw : MethTyped w (methsAE g.body) := by
    cases hc : chainTy none g.c.steps with
    | none => obtain ⟨rfl, h⟩ := hobj hc; exact h
    | some t => exact methTyped_of_hasTy (htyw t hc) _
  obtain ⟨ch, sd, f⟩ := g
  obtain ⟨a, seen⟩ := ab
  simp only [stepFlag] at hg
  cases hs : aggStep QC ⟨ch, sd, f⟩ a w with
  | error e => rw [hs] at hg; simp at hg
  | ok a' =>
    rw [hs] at hg
    simp only [Except.ok.injEq] at hg
    subst hg
    -- the variable holds a value of the seed's type up to widening, and the step from it gives `a'` as well
    have hc : TyUp (aggExact sd.ty (Agg.mk ch sd f).bodyTy = false) c sd.ty ∧ aggStep QC ⟨ch, sd, f⟩ c w = .ok a' := by
      rcases hR with ⟨rfl, hty⟩ | ⟨_, hx, k, hk, rfl, rfl⟩
      · refine ⟨?_, hs⟩
        rcases hw with hex | hwd
        · have haT : (Agg.mk ch sd f).accTy = sd.ty := tyAE_join_seed _ _ hex
          exact Or.inl (haT ▸ hty)
        · obtain ⟨⟨k, hk⟩, hfl, _⟩ := aggWiden_spec hwd
          obtain rfl : sd = .int k := hk
          have haT : (Agg.mk ch (.int k) f).accTy = (Agg.mk ch (.int k) f).bodyTy := join_int_fl _ hfl
          obtain ⟨y, rfl⟩ := hasTy_fl (haT ▸ hty) hfl
          exact Or.inr ⟨aggExact_int_fl _ hfl, rfl, y, rfl⟩
      · obtain rfl : sd = .int k := hk
        have hwd : aggWiden ⟨ch, .int k, f⟩ = true := hw.resolve_left (by rw [hx]; simp)
        refine ⟨Or.inr ⟨hx, rfl, _, rfl⟩, ?_⟩
        rw [← hN]
        exact (accStep_insensitive QC (chainTy none ch.steps) k w accName elemName (by decide) [("e", evtVal)] htyw f hwtB
          (aggWiden_spec hwd).2.2 hmw).symm.trans hs
    have hcorr := ae_correctUp QC σ (.var accV) cur sd.ty (chainTy none ch.steps) (ptr && (chainTy none ch.steps).isNone)
      c w accName elemName (by decide) [("e", evtVal)] (by rw [hN]; simp [evalE, hσ]) hc.1 (by rw [hN]; exact hevw) htyw f hwtB hmw
    have hbty : HasTy a' (Agg.mk ch sd f).bodyTy := (hcorr.2 a' hc.2).hasTy
      (hw.imp (fun hex => by rw [hex]; simp) fun hwd => (aggWiden_spec (g := ⟨ch, sd, f⟩) hwd).2.1)
    obtain ⟨h1, h2⟩ := evalE_accCast C.N σ _ a' _ _ (by rw [← hN]; exact hcorr.1.trans hc.2) hbty (accTy_cases hw)
    exact ⟨_, a', rfl, h1, Or.inl ⟨rfl, h2⟩⟩

/-- **one aggregate: the loop is the fold** — exact typing, or the widened case over at least one kept element -/
theorem agg_fold_correct (C : Ctx D) (QC : QCtx D) (hN : QC.N = C.N) (hev : QC.ev = C.ev)
    (B : Backend) (hB : BackendBase B) (nm : Nat → String)
    (hinj : ∀ i j, nm i = nm j → i = j) (hres : ∀ j, nm j ≠ "result")
    (hcollT : ∀ name, B.collType name = QC.collType name)
    (g : Agg) (n : Nat) (htok : TokChain B nm C g.c (n + 1)) (s : St D) (ws : List (Val D)) (v : Val D)
    (hdone : DeclsDoneA C.N (compAgg B nm g n).decls s.env)
    (hbase : wtAggBase g = true) (hmt : AggTyped QC g)
    (hw : aggExact g.seed.ty g.bodyTy = true ∨ (aggWiden g = true ∧ ws ≠ []))
    (hchain : denote QC [("e", evtVal)] (chainQ "e" g.c) = .ok (.vec ws))
    (hfold : foldG (aggStep QC g) ws (g.seed.val QC.N) = .ok v) :
    ∃ s', execs C (compAgg B nm g n).stmts s = .ok s' ∧ s'.rows = s.rows ∧
      s'.env (nm n) = some (.val v) ∧ HasTy v g.accTy ∧
      (∀ y, ¬ Touch nm n (compAgg B nm g n).next y → s'.env y = s.env y) := by
  simp only [wtAggBase, Bool.and_eq_true] at hbase
  obtain ⟨⟨hwtS, hwtB⟩, _⟩ := hbase
  have hw' : aggExact g.seed.ty g.bodyTy = true ∨ aggWiden g = true := hw.imp id And.left
  have hacc : s.env (nm n) = some (.val (initValA C.N g.accTy.cpp g.seed.cexpr)) := by
    simpa [DeclOKA] using hdone (.decl g.accTy.cpp (nm n) (some g.seed.cexpr)) (by simp [compAgg])
  have hx : (s.env (nm (n + 1))).isSome = true := by
    simpa [DeclOKA] using hdone (.decl (B.handleTy ((B.collType g.c.coll).getD "?")) (nm (n + 1)) none) (by simp [compAgg, compChain])
  have hR0 : AccR C.N g (g.seed.val QC.N, false) (initValA C.N g.accTy.cpp g.seed.cexpr) := by
    rcases hw' with hex | hwd
    · have haT : g.accTy = g.seed.ty := tyAE_join_seed _ _ hex
      rw [haT, initValA_seed, hN]
      exact Or.inl ⟨rfl, haT.symm ▸ seed_hasTy C.N g.seed⟩
    · obtain ⟨⟨k, hk⟩, hfl, _⟩ := aggWiden_spec hwd
      have haT : g.accTy = g.bodyTy := by unfold Agg.accTy; rw [hk]; exact join_int_fl _ hfl
      refine Or.inr ⟨rfl, by rw [hk]; exact aggExact_int_fl _ hfl, k, hk, by rw [hk]; rfl, ?_⟩
      rw [haT, hk, initValA_int_fl C.N _ hfl]
  obtain ⟨s', cf, h1, h2, h3, hR, h5⟩ := agg_loopG (β := Val D × Bool) C QC hN hev B hB nm hinj hres hcollT g n htok s ws
    _ _ _ hx hacc hwtS hmt hchain (stepFlag QC g) (AccR C.N g) hR0
    (fun σ cur cty b b' c w v0 => aggUpdate_step C QC hN B.elemPtr g (nm n) hwtB hw' σ cur cty b b' c w v0)
    (foldG_flag QC g ws _ false v hfold)
  -- the seed alternative of `AccR` does not outlive the loop: exact typing excludes it, one kept element sets the flag
  rcases hR with ⟨rfl, hty⟩ | ⟨hs, hx', _⟩
  · exact ⟨s', h1, h2, h3, hty, h5⟩
  · rcases hw with hex | ⟨_, hne⟩
    · rw [hex] at hx'; cases hx'
    · cases ws <;> simp at hne hs

end FaxVerif.Gen
