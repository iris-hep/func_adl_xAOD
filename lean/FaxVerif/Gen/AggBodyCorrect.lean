/-
Gen — correctness of the translation of accumulation bodies (`compAE`): in any state where the
accumulator expression evaluates to `va` and the current-value expression to `v`, the C++
expression evaluates to exactly what the lambda body denotes with `acc ↦ va`, `x ↦ v` — values and
faults alike — and the value has the statically computed type (with the int/int division cast).

The translator types the body with `acc` typed as the SEED. Where it then declares the accumulator
wider than the seed (int seed, floating body: `double acc (seed)`; `Sum()` of floats is the instance
`Aggregate(0, acc + x)`), the C++ accumulator starts as the floating number `seed.0` while Python's starts as
the integer `seed`, and the variable holds a floating number in positions typed int. Two facts make the emitted
loop compute the value the query denotes all the same:
  * `ae_correctUp` — `TyUp wide` (Gen/PureCorrect.lean) is typing that allows a floating value in an int
    position when `wide` holds; the one theorem covers the exact accumulator (`wide := False`) and the widened
    one (the int/int division cast is harmless);
  * `accStep_insensitive` — if every occurrence of `acc` in the body is an operand of `/` or of an
    operator whose other operand is of floating type (`accOK`), one step of the fold gives the same
    value from the integer `k` and from the floating `k.0` (abstract `Num`: `int k` is converted by
    `ofInt` in exactly these positions).
From the second iteration on both accumulators hold the same floating value. Over an EMPTY
sequence the query denotes the integer seed and the code writes the floating seed: numerically
equal, different values of the model — hence the hypothesis `ws ≠ []` of the widened case.
-/
import FaxVerif.Gen.AggSpec
import FaxVerif.Gen.PureCorrect
namespace FaxVerif.Gen
open FaxVerif.Cpp FaxVerif.Linq
variable {D : Type} {wide : Prop}

theorem TyUp.hasTy {v : Val D} {t : Ty} (h : TyUp wide v t) (hx : ¬ wide ∨ t.isFloating = true) : HasTy v t := by
  rcases h with h | ⟨hw, _, y, rfl⟩
  · exact h
  · rcases hx with hx | hx
    · exact absurd hw hx
    · cases t <;> simp [Ty.isFloating, HasTy] at hx ⊢

theorem tyAE_bin (accT cur : Ty) (op : AOp) (a b : AE) :
    tyAE accT cur (.bin op a b) = if op = .div then .double else (tyAE accT cur a).join (tyAE accT cur b) := by
  cases op <;> rfl

/-- **accumulation bodies** — values, faults and types, the accumulator's value typed up to widening. -/
theorem ae_correctUp (C : QCtx D) (σ : Env D) (accE cur : CExpr) (accT : Ty) (curTy : Option Ty) (ptr : Bool)
    (va v : Val D) (a x : String) (hax : x ≠ a) (ρ : LEnv D)
    (hacc : evalE C.N σ accE = .ok va) (haty : TyUp wide va accT)
    (hcur : evalE C.N σ cur = .ok v) (hty : ∀ t, curTy = some t → HasTy v t) (f : AE) :
    wtAE accT curTy f = true → MethTyped v (methsAE f) →
      evalE C.N σ (compAE ptr accE cur accT (curT curTy) f) = denote C ((x, v) :: (a, va) :: ρ) (aeQ a x f) ∧
      ∀ w, denote C ((x, v) :: (a, va) :: ρ) (aeQ a x f) = .ok w → TyUp wide w (tyAE accT (curT curTy) f) := by
  induction f with
  | int n | dbl m e => intro _ _; simp [compAE, aeQ, evalE, denote, tyAE, TyUp, HasTy]
  | acc =>
    intro _ _
    simp only [compAE, aeQ, denote, LEnv.get, hax, if_false, if_true, hacc, tyAE, true_and]
    intro w hw'
    simp only [Except.ok.injEq] at hw'; subst hw'
    exact haty
  | it =>
    intro hw _
    simp only [wtAE, Option.isSome_iff_exists] at hw
    obtain ⟨t, ht⟩ := hw
    simp only [compAE, aeQ, denote, LEnv.get, if_true, hcur, tyAE, true_and]
    intro w hw'
    simp only [Except.ok.injEq] at hw'; subst hw'
    exact Or.inl (by simpa [curT, ht] using hty t ht)
  | meth name ty =>
    intro _ hm
    simp only [compAE, aeQ, evalE, hcur, denote, LEnv.get, if_true, evalEs, tyAE, true_and]
    intro w hw'
    exact Or.inl (hm (name, ty) (List.mem_singleton_self _) w hw')
  | bin op p q ihp ihq =>
    intro hw hm
    simp only [wtAE, Bool.and_eq_true] at hw
    obtain ⟨⟨⟨hwa, hwb⟩, hna⟩, hnb⟩ := hw
    have iha := ihp hwa (fun r hr => hm r (List.mem_append_left _ hr))
    have ihb := ihq hwb (fun r hr => hm r (List.mem_append_right _ hr))
    rw [tyAE_bin]
    exact bin_correctUp C σ _ op _ _ hna hnb _ _ _ _ iha.1 ihb.1 iha.2 ihb.2
  | neg p ihp =>
    intro hw hm
    simp only [wtAE, Bool.and_eq_true] at hw
    have iha := ihp hw.1 hm
    exact neg_correctUp C σ _ _ hw.2 _ _ iha.1 iha.2

/-- typing up to widening: a value statically typed int may in fact be floating -/
def HasTyW (w : Val D) (t : Ty) : Prop := HasTy w t ∨ (t = .int ∧ ∃ y, w = .dbl y)

theorem hasTyW_num {v : Val D} {t : Ty} (h : HasTyW v t) (hn : t.isNum = true) :
    (∃ n, v = .int n ∧ t = .int) ∨ (∃ y, v = .dbl y) := by
  rcases h with h | ⟨_, y, rfl⟩
  · rcases hasTy_num h hn with ⟨n, rfl, rfl⟩ | ⟨y, rfl, _⟩
    · exact Or.inl ⟨n, rfl, rfl⟩
    · exact Or.inr ⟨y, rfl⟩
  · exact Or.inr ⟨y, rfl⟩

theorem hasTyW_dbl (y : D) {t : Ty} (hn : t.isNum = true) : HasTyW (.dbl y : Val D) t := by
  cases t <;> simp [HasTyW, HasTy, Ty.isNum] at hn ⊢

theorem hasTyW_fl {v : Val D} {t : Ty} (h : HasTyW v t) (hf : t.isFloating = true) : ∃ y, v = .dbl y := by
  rcases h with h | ⟨rfl, _⟩
  · cases v <;> cases t <;> simp [HasTy, Ty.isFloating] at h hf ⊢
  · simp [Ty.isFloating] at hf

theorem hasTy_fl {v : Val D} {t : Ty} (h : HasTy v t) (hf : t.isFloating = true) : ∃ y, v = .dbl y :=
  hasTyW_fl (Or.inl h) hf

theorem TyUp.hasTyW {wide : Prop} {w : Val D} {t : Ty} (h : TyUp wide w t) : HasTyW w t := by
  rcases h with h | ⟨_, hn, y, rfl⟩
  · exact Or.inl h
  · exact hasTyW_dbl y hn

theorem isAcc_iff (p : AE) : isAcc p = true ↔ p = .acc := by cases p <;> simp [isAcc]

/-- Python's arithmetic sees the operands' floating images only, for `/` and as soon as an operand is not
of integer kind -/
theorem pyArith_fl_congr (N : Num D) (op : AOp) {a a' b b' : Val D} (ha : asD N a = asD N a') (hb : asD N b = asD N b')
    (h : op = .div ∨ ((asInt a = none ∨ asInt b = none) ∧ (asInt a' = none ∨ asInt b' = none))) :
    pyArith N op.str a b = pyArith N op.str a' b' := by
  by_cases hd : op = .div
  · subst hd; exact pyArith_div_congr N ha hb
  · obtain ⟨h1, h2⟩ := h.resolve_left hd
    rw [pyArith_aop N op hd, pyArith_aop N op hd]
    exact arith_fl_congr N op.str h1 h2 ha hb

/-- typing of the body's value with an integer accumulator (user level): `ae_correctUp` in a one-variable state -/
theorem ae_typed_int (C : QCtx D) (curTy : Option Ty) (k : Int) (v : Val D) (a x : String) (hax : x ≠ a) (ρ : LEnv D)
    (hty : ∀ t, curTy = some t → HasTy v t) (f : AE) (hw : wtAE .int curTy f = true) (hm : MethTyped v (methsAE f))
    (w : Val D) (h : denote C ((x, v) :: (a, .int k) :: ρ) (aeQ a x f) = .ok w) : HasTy w (tyAE .int (curT curTy) f) :=
  tyUp_false.1 ((ae_correctUp C (fun _ => some (.val v)) (.int k) (.var "z") .int curTy false (.int k) v a x hax ρ
    (by simp [evalE]) (Or.inl trivial) (by simp [evalE]) hty f hw hm).2 w h)

/-- what `accOK` asks of an operand `r` of `op` (`other` the other operand): it is the accumulator itself, in
a position where Python converts it to a float, or it satisfies `accOK` in turn -/
theorem accOK_operand (cur : Ty) (op : AOp) (r other : AE) {P : Prop} (ih : accOK cur r = true → P)
    (h : (if isAcc r then (op == .div || (tyAE .int cur other).isFloating) else accOK cur r) = true) :
    (r = .acc ∧ (op = .div ∨ (tyAE .int cur other).isFloating = true)) ∨ P := by
  by_cases hr : isAcc r = true
  · rw [if_pos hr] at h; exact Or.inl ⟨(isAcc_iff r).1 hr, by simpa using h⟩
  · rw [if_neg hr] at h; exact Or.inr (ih h)

/-- **the first step does not see the difference** between the integer seed and the floating one -/
theorem accStep_insensitive (C : QCtx D) (curTy : Option Ty) (k : Int) (v : Val D) (a x : String) (hax : x ≠ a) (ρ : LEnv D)
    (hty : ∀ t, curTy = some t → HasTy v t) (f : AE) :
    wtAE .int curTy f = true → accOK (curT curTy) f = true → MethTyped v (methsAE f) →
      denote C ((x, v) :: (a, .int k) :: ρ) (aeQ a x f) = denote C ((x, v) :: (a, .dbl (C.N.ofInt k)) :: ρ) (aeQ a x f) := by
  induction f with
  | int n | dbl m e => intro _ _ _; rfl
  | acc => intro _ hok; cases hok
  | it | meth name ty => intro _ _ _; simp [aeQ, denote, LEnv.get]
  | neg p ihp =>
    intro hw hok hm
    simp only [wtAE, Bool.and_eq_true] at hw
    simp only [aeQ, denote]
    rw [ihp hw.1 hok hm]
  | bin op p q ihp ihq =>
    intro hw hok hm
    simp only [wtAE, Bool.and_eq_true] at hw
    obtain ⟨⟨⟨hwa, hwb⟩, _⟩, _⟩ := hw
    simp only [accOK, Bool.and_eq_true] at hok
    have hmp : MethTyped v (methsAE p) := fun r hr => hm r (List.mem_append_left _ hr)
    have hmq : MethTyped v (methsAE q) := fun r hr => hm r (List.mem_append_right _ hr)
    have typ := ae_typed_int C curTy k v a x hax ρ hty p hwa hmp
    have tyq := ae_typed_int C curTy k v a x hax ρ hty q hwb hmq
    rcases accOK_operand _ op p _ (fun h => ihp hwa h hmp) hok.1 with ⟨rfl, cp⟩ | ep <;>
    rcases accOK_operand _ op q _ (fun h => ihq hwb h hmq) hok.2 with ⟨rfl, cq⟩ | eq
    · have hd : op = .div := by simpa [tyAE, Ty.isFloating] using cp
      simp only [aeQ, denote, LEnv.get, hax, if_false, if_true]
      exact pyArith_fl_congr C.N op rfl rfl (Or.inl hd)
    · simp only [aeQ, denote, LEnv.get, hax, if_false, if_true]
      rw [← eq]
      cases hdq : denote C ((x, v) :: (a, .int k) :: ρ) (aeQ a x q) with
      | error e => rfl
      | ok vb =>
        refine pyArith_fl_congr C.N op rfl rfl (cp.imp id fun hfl => ?_)
        obtain ⟨y, rfl⟩ := hasTy_fl (tyq vb hdq) hfl
        exact ⟨Or.inr rfl, Or.inl rfl⟩
    · simp only [aeQ, denote, LEnv.get, hax, if_false, if_true]
      rw [← ep]
      cases hdp : denote C ((x, v) :: (a, .int k) :: ρ) (aeQ a x p) with
      | error e => rfl
      | ok va =>
        refine pyArith_fl_congr C.N op rfl rfl (cq.imp id fun hfl => ?_)
        obtain ⟨y, rfl⟩ := hasTy_fl (typ va hdp) hfl
        exact ⟨Or.inl rfl, Or.inl rfl⟩
    · simp only [aeQ, denote]
      rw [← ep, ← eq]

end FaxVerif.Gen
