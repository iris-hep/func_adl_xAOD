/-
Gen — the rows level of the lazy tower: element-level rows with lazy operators (`Gen/Lazy.lean`: filters and columns use
Python's `and` / `or` / `x if c else y`, lowered by the translator to statements with result variables `bool_opN` /
`if_else_resultN`),
    ds.SelectMany(e -> coll(bank).{Select(pure) | Where(LE)}*).Select(x -> {name: LE, …})
`compChainL_isFold`: the loop is the core's, one pass of its body is `bodyL_correct`. `elemRowsL_correct_post` is
`rowPackageF_correct_post` at that chain with the row continuation `rowK`; `lazyJobOK` puts it in the form `JobOK`.

The result variables of the lowered operators are block-local declarations (`Gen.compLE`): they are re-declared
every time their block is entered, so no `bool_opN` / `if_else_resultN` of one element — let alone of one event —
is visible to the next. That is what the single-event theorem establishes from ANY admissible class state; the
job theorems only iterate it.
-/
import FaxVerif.Gen.LazyRowsCorrect
import FaxVerif.Gen.JobCorrect
namespace FaxVerif.Gen
open FaxVerif.Cpp FaxVerif.Linq
variable {D : Type}

theorem colVarsL_names (cn : Nat → String) (t : Option Ty) : ∀ (les : List LE) (idx : Nat),
    (colVarsL cn t les idx).map (·.2) = colNames cn les.length idx
  | [], _ => rfl
  | le :: rest, idx => by simp [colVarsL, colNames, colVarsL_names cn t rest (idx + 1)]

theorem stepCondsL_ty (ptr : Bool) : ∀ (steps : List StepL) (cur : CExpr) (t : Option Ty),
    (stepCondsL ptr cur t steps).2.2 = chainTyL t steps
  | [], _, _ => rfl
  | .sel f :: rest, cur, t => by simp only [stepCondsL, chainTyL]; exact stepCondsL_ty ptr rest _ _
  | .whr c :: rest, cur, t => by simp only [stepCondsL, chainTyL]; exact stepCondsL_ty ptr rest _ _

/-- the chain record whose retrieval and loop header `compChainL` borrows -/
def ChainL.header (c : ChainL) : Chain := ⟨c.coll, c.bank, []⟩

/-- **retrieval + loop over a chain with lazy conditions** is a fold, over the kept elements, of whatever continuation
`K` is put behind the lowered conditions: the loop is the core's (`retrLoop_isFold`), one pass of its body is
`bodyL_correct`. The frame is the names of retrieval, header and lowered conditions; `K` draws its own names after them. -/
theorem compChainL_isFold (C : Ctx D) (QC : QCtx D) (hN : QC.N = C.N)
    (B : Backend) (hB : BackendBase B) (nm : Nat → String)
    (hinj : ∀ i j, nm i = nm j → i = j) (hres : ∀ j, nm j ≠ "result")
    (c : ChainL) (n : Nat) (htok : TokChain B nm C c.header n) (K : CExpr → Option Ty → Nat → List Stmt × Nat)
    (cty : String) (l ws : List (Val D))
    (hcoll : B.collType c.coll = some cty) (hfind : C.ev.find c.bank = some (cty, .vec l))
    (hwt : wtStepsL none c.steps = true) (Q : Val D → Prop)
    (hmt : ∀ v ∈ l, MethTyped v (methsStepsL c.steps) ∧ Q v) (hel : elemsSemL QC c.steps l = .ok ws)
    (s : St D) (hx : (s.env (nm n)).isSome = true) :
    let r := stepCondsL B.elemPtr (.var (nm (n + 1))) none c.steps
    let m := condsNext nm B.elemPtr (.var (nm (n + 1))) c.steps (n + 3)
    IsFold C (compChainL B nm c n K).stmts (Touch nm n m) (fun _ => True)
      (K r.2.1 r.2.2 m).1 r.2.1 (fun w => (∀ t, r.2.2 = some t → HasTy w t) ∧ (r.2.2 = none → Q w)) ws s := by
  intro r m
  have hcn : n + 3 ≤ m := condsNext_ge nm B.elemPtr (.var (nm (n + 1))) c.steps (n + 3)
  have hi : ∀ j, n + 3 ≤ j → nm (n + 1) ≠ nm j := fun j hj e => by have := hinj _ _ e; omega
  simp only [compChainL, compChain, hcoll, Option.getD_some]
  refine retrLoop_isFold C B hB c.coll c.bank (nm n) (nm (n + 2)) cty (nm (n + 1)) l ws htok hcoll hfind (hres n) _ _ _
    (Or.inl ⟨n, Nat.le_refl n, by omega, rfl⟩) (Or.inr rfl) (Or.inl ⟨n + 1, by omega, by omega, rfl⟩) _ _ _
    (elemSemL QC c.steps) hel (fun v hv o ho t _ htv => ?_) s hx
  exact (bodyL_correct C QC hN nm hinj B.elemPtr (nm (n + 1)) c.steps (n + 3) hi K t v o htv hwt (hmt v hv).1 ho).mono
    (fun _ h => Or.inl (h.mono (by omega) (Nat.le_refl _))) fun _ h => ⟨h.1, fun hn => h.2 hn ▸ (hmt v hv).2⟩

theorem tokChain_elemRowsL (B : Backend) (nm cn : Nat → String) (c : ChainL) (cols : List (String × LE))
    (N : Num D) (ev : Event D) :
    TokChain B nm ((compileL B nm cn (.elemRows c cols)).ctx N ev) c.header 0 :=
  tokChain_of_tokens B nm c.header 0 (fun _ _ => (chainBodyL B nm c 0 (rowK B nm cn (cols.map (·.2)))).1) _
    (by simp only [Package.ctx, compileL, compChainL, ChainL.header])

/-- **C01 (element-level rows with lazy operators)** — if the query denotes `rows` on the event, the
package the translator model emits writes exactly `rows`, and the class state it leaves behind again
has the column variables declared (the precondition of the next event). -/
theorem elemRowsL_correct_post (B : Backend) (hB : BackendBase B) (nm cn : Nat → String) (hsup : Supply nm cn)
    (QC : QCtx D) (hcollT : ∀ name, B.collType name = QC.collType name)
    (c : ChainL) (cols : List (String × LE))
    (hwt : wtStepsL none c.steps = true)
    (hwtc : ∀ p ∈ cols, wtLE (chainTyL none c.steps) p.2 = true)
    (hmt : ∀ cty l, QC.ev.find c.bank = some (cty, .vec l) →
        ∀ v ∈ l, MethTyped v (methsStepsL c.steps) ∧ ∀ p ∈ cols, MethTyped v (methsLE p.2))
    (σc : Env D) (hσ : ∀ k, k < cols.length → (σc (cn k)).isSome = true)
    (rows : List (List (Val D)))
    (hden : denoteRows QC (FQL.toQuery (.elemRows c cols)) = .ok rows) :
    ∃ σ', runEvent (compileL B nm cn (.elemRows c cols)) QC.N σc QC.ev = .ok (rows, σ') ∧
      ∀ k, k < cols.length → (σ' (cn k)).isSome = true := by
  let les := cols.map (·.2)
  have hq : FQL.toQuery (.elemRows c cols) = .select (.selectMany .ds "e" (chainQL "e" c)) "r"
      (.dict (cols.map (·.1)) (les.map (leQ "r"))) := by
    simp only [FQL.toQuery, les, List.map_map]; rfl
  rw [hq] at hden
  have htyeq := stepCondsL_ty B.elemPtr c.steps (.var (nm (0 + 1))) none
  have h := rowPackageF_correct_post B nm cn hsup.cres hsup.disj QC (cols.map (·.1)) (compChainL B nm c 0 (rowK B nm cn les)) c.bank
    (rowK B nm cn les) (colVarsL cn (chainTyL none c.steps) les 0) (les.map (leQ "r")) (chainQL "e" c) (by simp [les])
    (by rw [colVarsL_names]; simp) _ (hB.handleNotVec _) rfl
    (stepCondsL B.elemPtr (.var (nm (0 + 1))) none c.steps).2.1 (stepCondsL B.elemPtr (.var (nm (0 + 1))) none c.steps).2.2
    (condsNext nm B.elemPtr (.var (nm (0 + 1))) c.steps (0 + 3)) (fun v => ∀ p ∈ cols, MethTyped v (methsLE p.2))
    (fun y hy => by
      have := stepCondsL_vars B.elemPtr c.steps _ none y hy
      simp only [vars, List.mem_singleton] at this
      rw [this]
      have hn1 := condsNext_ge nm B.elemPtr (.var (nm (0 + 1))) c.steps (0 + 3)
      exact ⟨fun j hj e => by have := hsup.inj _ _ e; omega, fun k => hsup.disj _ k⟩)
    (fun ws hchain s hx => by
      obtain ⟨cty, l, hct, hfind, hel⟩ := chainQL_ok QC _ "e" c ws hchain
      exact ⟨_, compChainL_isFold _ QC rfl B hB nm hsup.inj hsup.res c 0 (tokChain_elemRowsL B nm cn c cols QC.N QC.ev)
        (rowK B nm cn les) cty l ws (by rw [hcollT]; exact hct) hfind hwt _ (hmt cty l hfind) hel s hx⟩)
    (fun hC cur n s w row hcv hcur hty hQ hrow hdecl => by
      obtain ⟨s3, hex3, hrows3, hdecl3⟩ := rowK_correct _ QC rfl B nm cn hsup.inj hsup.cinj hsup.disj les cur _ w n
        (by simpa using hC) hcv hty
        (fun le hle => by obtain ⟨p, hp, rfl⟩ := List.mem_map.1 hle; rw [htyeq]; exact hwtc p hp)
        (fun le hle => by
          obtain ⟨p, hp, rfl⟩ := List.mem_map.1 hle
          cases hty' : (stepCondsL B.elemPtr (.var (nm (0 + 1))) none c.steps).2.2 with
          | some t => exact methTyped_of_hasTy (hty t hty') _
          | none => exact hQ hty' p hp)
        row hrow s hcur (fun k hk => hdecl k (by simpa using hk))
      exact ⟨s3, hex3, hrows3, fun k hk => hdecl3 k (by simpa using hk)⟩)
    σc (by simpa [les] using hσ) rows hden
  rw [show compileL B nm cn (.elemRows c cols) = rowPackageF B (cols.map (·.1)) (compChainL B nm c 0 (rowK B nm cn les))
    c.bank (colVarsL cn (chainTyL none c.steps) les 0) from rfl]
  simpa [les] using h

/-- per-event side conditions of the single-event theorem: static well-typedness of the steps and the columns
(independent of the event) and accessors returning the declared kinds on the elements of THIS event -/
def LFragHyp (QC : QCtx D) : FQL → Prop
  | .elemRows c cols =>
      wtStepsL none c.steps = true ∧
      (∀ p ∈ cols, wtLE (chainTyL none c.steps) p.2 = true) ∧
      (∀ cty l, QC.ev.find c.bank = some (cty, .vec l) →
        ∀ v ∈ l, MethTyped v (methsStepsL c.steps) ∧ ∀ p ∈ cols, MethTyped v (methsLE p.2))

/-- what the class state must satisfy when the per-event method is entered: the column variables are declared -/
def LFragPre (cn : Nat → String) : FQL → Env D → Prop
  | .elemRows _ cols, σ => ∀ k, k < cols.length → (σ (cn k)).isSome = true

/-- **the initial class state satisfies the precondition** of the single-event theorem (the miniAOD token
member, declared before the column variables, does not interfere: `classInit` declares every class variable). -/
theorem lfragPre_classInit (B : Backend) (nm cn : Nat → String) (fq : FQL) :
    LFragPre cn fq (classInit (compileL B nm cn fq).classVars : Env D) := by
  cases fq with
  | elemRows c cols =>
    exact fun k hk => (rowPackageF_books B _ _ _ (by rw [colVarsL_names]; simp)).classInit_decl (by simpa using hk)

/-- **one event, with the state it leaves** — for every query of the lazy fragment: from a class state
satisfying `LFragPre`, on an event where the query denotes `rows`, the emitted package writes exactly `rows`
and leaves a class state satisfying `LFragPre` again (`.event`); the initial class state satisfies `LFragPre`
(`.init`). -/
theorem lazyJobOK (B : Backend) (hB : BackendBase B) (nm cn : Nat → String) (hsup : Supply nm cn)
    (QC : QCtx D) (hcollT : ∀ name, B.collType name = QC.collType name) (fq : FQL) :
    JobOK (compileL B nm cn fq) QC fq.toQuery (LFragPre cn fq) (fun ev => LFragHyp (QC.withEvent ev) fq) := by
  refine ⟨fun ev hev σ hσ rows hden => ?_, lfragPre_classInit B nm cn fq⟩
  cases fq with
  | elemRows c cols =>
    obtain ⟨h1, h2, h3⟩ := hev
    exact elemRowsL_correct_post B hB nm cn hsup (QC.withEvent ev) hcollT c cols h1 h2 h3 σ hσ rows hden

/-- **split** — one job over `xs ++ ys` writes what a job over `xs` followed by a SEPARATE job over `ys`
(fresh class state) write. -/
theorem lazy_job_split (B : Backend) (hB : BackendBase B) (nm cn : Nat → String)
    (hinj : ∀ i j, nm i = nm j → i = j) (hcinj : ∀ i j, cn i = cn j → i = j)
    (hres : ∀ j, nm j ≠ "result") (hcres : ∀ k, cn k ≠ "result") (hdisj : ∀ j k, nm j ≠ cn k)
    (QC : QCtx D) (hcollT : ∀ name, B.collType name = QC.collType name)
    (fq : FQL) (xs ys : List (Event D)) (hhyp : ∀ ev ∈ xs ++ ys, LFragHyp (QC.withEvent ev) fq)
    (r₁ r₂ : List (List (Val D)))
    (h₁ : denoteJob QC fq.toQuery xs = .ok r₁) (h₂ : denoteJob QC fq.toQuery ys = .ok r₂) :
    runJob (compileL B nm cn fq) QC.N xs = .ok r₁ ∧ runJob (compileL B nm cn fq) QC.N ys = .ok r₂ ∧
    runJob (compileL B nm cn fq) QC.N (xs ++ ys) = .ok (r₁ ++ r₂) :=
  (lazyJobOK B hB nm cn ⟨hinj, hcinj, hres, hcres, hdisj⟩ QC hcollT fq).split hhyp h₁ h₂

end FaxVerif.Gen
