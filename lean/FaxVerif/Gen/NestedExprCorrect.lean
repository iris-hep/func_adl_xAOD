/-
Gen — element-level expressions with inner aggregates (`compNE`). The INNER loop of the nested fragment is a loop over
the collection a method of the current (outer) element returns, `for (auto &&i : cur.m()) { …conditions… K(value) }` — an
arbitrary collection-valued EXPRESSION of the current element, not a retrieved bank. It is a fold (`IsFold`) of the
continuation over the elements the inner chain keeps, in order (`innerLoop_correct`); the inner Count, Sum and the 2-D
column's storage vector are `IsFold`'s accumulator consumers applied to it. `compNE_spec`: `compNE` meets `FragSpec` by
the node rules. At block level the declarations are EXECUTED first (they are hoisted to the top of the outer loop's
body), so every accumulator restarts from its initial value whatever the previous outer element left
(`compNE_block_correct`).
-/
import FaxVerif.Gen.ElemRowsCorrect
import FaxVerif.Gen.EECorrect
import FaxVerif.Gen.FragSpec
namespace FaxVerif.Gen
open FaxVerif.Cpp FaxVerif.Linq
variable {D : Type}

theorem chainBodyT_none (nm : Nat → String) (ptr : Bool) (it : CExpr) (steps : List Step) (n : Nat)
    (K : CExpr → Option Ty → List Stmt) : chainBodyT nm ptr it none steps n K = chainBody nm ptr it steps n K := rfl

/-- the method `ic.meth` of the outer element `v` returns a list whose elements are of the declared
element kind and return, for every accessor the inner chain calls, values of the declared kinds -/
def InnerTyped (v : Val D) (ic : IChain) : Prop :=
  ∀ l, member v ic.meth [] = .ok (.vec l) →
    ∀ u ∈ l, (∀ t, ic.elem = some t → HasTy u t) ∧ MethTyped u (methsSteps ic.steps)

theorem innerLoop_next_ge (nm : Nat → String) (cur : CExpr) (ptr : Bool) (ic : IChain) (n : Nat)
    (K : CExpr → Option Ty → List Stmt) : n + 1 ≤ (innerLoop nm cur ptr ic n K).2 := by
  simp only [innerLoop]
  exact chainBodyT_next_ge nm false _ ic.elem ic.steps (n + 1) K

theorem innerLoop_next_indep (nm : Nat → String) (cur : CExpr) (ptr : Bool) (ic : IChain) (n : Nat)
    (K K' : CExpr → Option Ty → List Stmt) : (innerLoop nm cur ptr ic n K).2 = (innerLoop nm cur ptr ic n K').2 := by
  simp only [innerLoop]
  exact chainBodyT_next_indep nm false _ ic.elem ic.steps (n + 1) K K'

def innerCur (nm : Nat → String) (ic : IChain) (n : Nat) : CExpr := (stepConds false (innerVar nm n) ic.elem ic.steps).2.1
def innerTy (nm : Nat → String) (ic : IChain) (n : Nat) : Option Ty := (stepConds false (innerVar nm n) ic.elem ic.steps).2.2

theorem innerTy_eq (nm : Nat → String) (ic : IChain) (n : Nat) : innerTy nm ic n = ichainTy ic := by
  simp only [innerTy, ichainTy]; exact stepConds_ty false ic.steps _ _

theorem innerCur_vars (nm : Nat → String) (ic : IChain) (n : Nat) : ∀ x ∈ vars (innerCur nm ic n), x = nm n := by
  intro x hx
  have := (stepConds_vars false ic.steps (innerVar nm n) ic.elem).2 x hx
  simpa [innerVar, vars] using this

/-- **the inner loop is a fold over the kept inner elements** — from any state in which the outer element
expression evaluates to `v` and `v.m()` is the list `l`, of which the inner chain keeps `ws`: the emitted loop runs
the continuation once per value of `ws`, where `innerCur` evaluates to it; in between only the loop's own names
(`nm n … nm (next-1)`: the loop variable and the conditions' result variables) change. -/
theorem innerLoop_correct (C : Ctx D) (QC : QCtx D) (hN : QC.N = C.N) (nm : Nat → String)
    (hinj : ∀ i j, nm i = nm j → i = j) (cur : CExpr) (ptr : Bool) (ic : IChain) (n : Nat)
    (K : CExpr → Option Ty → List Stmt) (hwt : wtSteps ic.elem ic.steps = true)
    (v : Val D) (l ws : List (Val D)) (hmem : member v ic.meth [] = .ok (.vec l)) (hit : InnerTyped v ic)
    (hel : elemsSem QC ic.steps l = .ok ws) (s : St D) (hcur : evalE C.N s.env cur = .ok v) :
    IsFold C (innerLoop nm cur ptr ic n K).1 (InRange nm n (innerLoop nm cur ptr ic n K).2) (fun _ => True)
      (K (innerCur nm ic n) (innerTy nm ic n)) (innerCur nm ic n) (fun w => ∀ t, innerTy nm ic n = some t → HasTy w t) ws s := by
  have hi : ∀ j, n + 1 ≤ j → nm n ≠ nm j := fun j hj e => by have := hinj _ _ e; omega
  have hge := chainBodyT_next_ge nm false (.var (nm n)) ic.elem ic.steps (n + 1) K
  rw [elemsSem_eq_optsE] at hel
  refine loop_isFold C (nm n) _ _ _ _ ⟨n, Nat.le_refl n, hge, rfl⟩ _ _ _ (elemSem QC ic.steps) l ws hel
    (fun u hu o ho t _ htu => ?_) s (by simp [icoll, evalE, hcur, evalEs, hmem])
  exact (chainBodyT_correct C QC hN nm hinj false (nm n) ic.elem ic.steps (n + 1) hi K t u o
    htu (hit l hmem u hu).1 hwt (hit l hmem u hu).2 ho).mono (fun _ h => h.mono (Nat.le_succ n) (Nat.le_refl _)) fun _ h => h.1

theorem ichainQ_ok (QC : QCtx D) (x : String) (v : Val D) (ρ : LEnv D) (ic : IChain) (ws : List (Val D))
    (h : denote QC ((x, v) :: ρ) (ichainQ x ic) = .ok (.vec ws)) :
    ∃ l, member v ic.meth [] = .ok (.vec l) ∧ elemsSem QC ic.steps l = .ok ws := by
  unfold ichainQ at h
  have hsrc0 : denote QC ((x, v) :: ρ) (.meth (.var x) ic.meth) = member v ic.meth [] := by
    simp [denote, LEnv.get]
  cases hs : member v ic.meth [] with
  | error e =>
    rw [stepsQ_error QC _ e ic.steps _ 0 (by rw [hsrc0, hs])] at h; simp at h
  | ok content =>
    have hsrc : denote QC ((x, v) :: ρ) (.meth (.var x) ic.meth) = .ok content := by rw [hsrc0, hs]
    cases content with
    | vec l =>
      rw [stepsQ_denote QC _ ic.steps _ 0 l hsrc] at h
      cases hcl : chainList QC ic.steps l with
      | error e => rw [hcl] at h; simp at h
      | ok r =>
        rw [hcl] at h
        simp only [Except.ok.injEq, Val.vec.injEq] at h
        subst h
        exact ⟨l, rfl, chainList_elems QC ic.steps l r hcl⟩
    | _ =>
      exfalso
      have := stepsQ_nonvec QC _ _ (by intro l; simp) ic.steps _ 0 hsrc _ h
      simp at this

theorem ichainQ_agg_ok (QC : QCtx D) (x : String) (v : Val D) (ρ : LEnv D) (ic : IChain)
    (f : List (Val D) → Except Fault (Val D)) (t : Fault) (w : Val D)
    (h : (match denote QC ((x, v) :: ρ) (ichainQ x ic) with
      | .error e => .error e
      | .ok (.vec l) => f l
      | .ok _ => .error t : Except Fault (Val D)) = .ok w) :
    ∃ l ws, member v ic.meth [] = .ok (.vec l) ∧ elemsSem QC ic.steps l = .ok ws ∧ f ws = .ok w := by
  cases hc : denote QC ((x, v) :: ρ) (ichainQ x ic) with
  | error e => rw [hc] at h; simp at h
  | ok cv =>
    rw [hc] at h
    cases cv with
    | vec ws =>
      obtain ⟨l, hmem, hel⟩ := ichainQ_ok QC x v ρ ic ws hc
      exact ⟨l, ws, hmem, hel, h⟩
    | _ => simp at h

/-- A floating-point inner `Sum` ranges over at least one kept element of this outer element (for an
empty one the emitted accumulator holds 0.0 where Python's `sum([])` is the integer 0: equal numbers,
different values of the model — left to the numeric comparison of the tie stream). -/
def ISumNonEmpty (QC : QCtx D) (v : Val D) (ic : IChain) : Prop :=
  ∀ t, ichainTy ic = some t → t.isFloating = true →
    ∀ l ws, member v ic.meth [] = .ok (.vec l) → elemsSem QC ic.steps l = .ok ws → ws ≠ []

/-- what is assumed of the outer element `v` for the expression `e`: its accessors and the elements of
the collections its methods return are of the declared kinds; floating inner sums are non-empty -/
def NEHyp (QC : QCtx D) (v : Val D) (e : NE) : Prop :=
  (∀ p ∈ puresNE e, MethTyped v (methsPE p)) ∧ (∀ ic ∈ ichainsNE e, InnerTyped v ic) ∧
  (∀ ic ∈ isumsNE e, ISumNonEmpty QC v ic)

theorem NEHyp.of_append {QC : QCtx D} {v : Val D} {e a b : NE} (h : NEHyp QC v e)
    (hp : puresNE e = puresNE a ++ puresNE b) (hc : ichainsNE e = ichainsNE a ++ ichainsNE b)
    (hs : isumsNE e = isumsNE a ++ isumsNE b) : NEHyp QC v a ∧ NEHyp QC v b := by
  obtain ⟨h1, h2, h3⟩ := h
  rw [hp] at h1; rw [hc] at h2; rw [hs] at h3
  exact ⟨⟨fun p hm => h1 p (List.mem_append_left _ hm), fun c hm => h2 c (List.mem_append_left _ hm),
      fun c hm => h3 c (List.mem_append_left _ hm)⟩,
    ⟨fun p hm => h1 p (List.mem_append_right _ hm), fun c hm => h2 c (List.mem_append_right _ hm),
      fun c hm => h3 c (List.mem_append_right _ hm)⟩⟩

theorem NEHyp.bin {QC : QCtx D} {v : Val D} {op : AOp} {a b : NE} (h : NEHyp QC v (.bin op a b)) :
    NEHyp QC v a ∧ NEHyp QC v b := h.of_append rfl rfl rfl
theorem NEHyp.cmp {QC : QCtx D} {v : Val D} {op : COp} {a b : NE} (h : NEHyp QC v (.cmp op a b)) :
    NEHyp QC v a ∧ NEHyp QC v b := h.of_append rfl rfl rfl
theorem NEHyp.neg {QC : QCtx D} {v : Val D} {a : NE} (h : NEHyp QC v (.neg a)) : NEHyp QC v a := h
theorem NEHyp.not {QC : QCtx D} {v : Val D} {a : NE} (h : NEHyp QC v (.not a)) : NEHyp QC v a := h

theorem compNE_acc_lt (nm : Nat → String) (ptr : Bool) (cur : CExpr) (c : IChain) (n : Nat) (K : CExpr → Option Ty → List Stmt) :
    n < (innerLoop nm cur ptr c (n + 1) K).2 :=
  Nat.lt_of_lt_of_le (Nat.lt_add_of_pos_right (Nat.succ_pos 1)) (innerLoop_next_ge nm cur ptr c (n + 1) K)

theorem compNE_layout (nm : Nat → String) (ptr : Bool) (cur : CExpr) : ∀ (e : NE) (n : Nat), FragLayout nm cur n (compNE nm ptr cur e n)
  | .pure p, n => FragLayout.pure n (vars_compPE ptr cur .double p)
  | .icount c, n | .isum c, n =>
    FragLayout.acc (compNE_acc_lt nm ptr cur c n _) (declsIn_singleton (Nat.le_refl n) (compNE_acc_lt nm ptr cur c n _) _ _) _
  | .bin _ a b, n => (compNE_layout nm ptr cur a n).seq (compNE_layout nm ptr cur b _) _ (vars_binV _ _ _ _ _)
  | .cmp _ a b, n => (compNE_layout nm ptr cur a n).seq (compNE_layout nm ptr cur b _) _ fun _ => List.mem_append.1
  | .neg a, n | .not a, n => (compNE_layout nm ptr cur a n).reval _ fun _ => id

theorem compNE_next_ge (nm : Nat → String) (ptr : Bool) (cur : CExpr) (e : NE) (n : Nat) : n ≤ (compNE nm ptr cur e n).next :=
  (compNE_layout nm ptr cur e n).ge

theorem compNE_declsOK (N : Num D) (nm : Nat → String) (hinj : ∀ i j, nm i = nm j → i = j) (ptr : Bool) (cur : CExpr) :
    ∀ (e : NE) (n : Nat),
    (∀ d ∈ (compNE nm ptr cur e n).decls, SimpleDecl N d) ∧ ((compNE nm ptr cur e n).decls.map declName).Nodup
  | .pure _, _ => ⟨fun _ hd => (nomatch hd), List.nodup_nil⟩
  | .icount c, n => ⟨fun d hd => List.mem_singleton.1 hd ▸ simpleDecl_acc N .int _, by simp [compNE]⟩
  | .isum c, n => ⟨fun d hd => List.mem_singleton.1 hd ▸ simpleDecl_acc N _ _, by simp [compNE]⟩
  | .bin _ a b, n | .cmp _ a b, n =>
    declsOK_append hinj (compNE_declsOK N nm hinj ptr cur a n) (compNE_declsOK N nm hinj ptr cur b _)
      (compNE_layout nm ptr cur a n).declsIn (compNE_layout nm ptr cur b _).declsIn
  | .neg a, n | .not a, n => compNE_declsOK N nm hinj ptr cur a n

theorem wtIChain_steps {ic : IChain} (h : wtIChain ic = true) : wtSteps ic.elem ic.steps = true := by
  simp only [wtIChain, Bool.and_eq_true] at h; exact h.1

theorem icount_correct (C : Ctx D) (QC : QCtx D) (hN : QC.N = C.N) (nm : Nat → String)
    (hinj : ∀ i j, nm i = nm j → i = j) (ptr : Bool) (cur : CExpr) (v : Val D) (x : String) (ρ : LEnv D)
    (ic : IChain) (n : Nat) (w : Val D) (hwt : wtIChain ic = true) (hit : InnerTyped v ic)
    (hden : denote QC ((x, v) :: ρ) (neQ x (.icount ic)) = .ok w) :
    FragSpec C (InRange nm) (DeclsDone C.N) (compNE nm ptr cur (.icount ic) n) n cur v (fun w' => w' = w ∧ HasTy w .int) := by
  simp only [neQ, denote] at hden
  obtain ⟨l, ws, hmem, hel, hw⟩ := ichainQ_agg_ok QC x v ρ ic _ _ w hden
  cases hw
  exact FragSpec.count (Frames.inRange hinj) (compNE_acc_lt nm ptr cur ic n _) (List.mem_singleton_self _) ws
    (fun s hcur _ => innerLoop_correct C QC hN nm hinj cur ptr ic (n + 1) (countK (nm n)) (wtIChain_steps hwt) v l ws hmem hit
      hel s hcur)
    fun _ _ _ _ => trivial

theorem isum_correct (C : Ctx D) (QC : QCtx D) (hN : QC.N = C.N) (nm : Nat → String)
    (hinj : ∀ i j, nm i = nm j → i = j) (ptr : Bool) (cur : CExpr) (v : Val D) (x : String) (ρ : LEnv D)
    (ic : IChain) (n : Nat) (w : Val D)
    (hwt : wtIChain ic = true) (t : Ty) (hct : ichainTy ic = some t) (htn : t.isNum = true)
    (hit : InnerTyped v ic) (hsne : ISumNonEmpty QC v ic)
    (hden : denote QC ((x, v) :: ρ) (neQ x (.isum ic)) = .ok w) :
    FragSpec C (InRange nm) (DeclsDone C.N) (compNE nm ptr cur (.isum ic) n) n cur v
      (fun w' => w' = w ∧ HasTy w (Ty.join .int t)) := by
  simp only [neQ, denote] at hden
  obtain ⟨l, ws, hmem, hel, hden⟩ := ichainQ_agg_ok QC x v ρ ic _ _ w hden
  rw [foldE_eq_foldG, hN] at hden
  have hd : Stmt.decl (Ty.join .int t).cpp (nm n) (some (.int 0)) ∈ (compNE nm ptr cur (.isum ic) n).decls := by
    simp [compNE, hct]
  exact FragSpec.sum (Frames.inRange hinj) (compNE_acc_lt nm ptr cur ic n _) htn hd
    (elemsSemT_typed QC ic.elem ic.steps t (wtIChain_steps hwt) hct l ws (hit l hmem) hel)
    (fun hf => hsne t hct hf l ws hmem hel) hden
    (fun s hcur _ => innerLoop_correct C QC hN nm hinj cur ptr ic (n + 1) (sumK (nm n)) (wtIChain_steps hwt) v l ws hmem hit
      hel s hcur)
    fun _ _ _ _ => trivial

theorem tyNE_bin (op : AOp) (a b : NE) :
    tyNE (.bin op a b) = if op = .div then .double else (tyNE a).join (tyNE b) := by
  cases op <;> rfl

theorem compNE_spec (C : Ctx D) (QC : QCtx D) (hN : QC.N = C.N) (nm : Nat → String)
    (hinj : ∀ i j, nm i = nm j → i = j) (ptr : Bool) (cur : CExpr) (v : Val D) (x : String) (ρ : LEnv D) :
    ∀ (e : NE) (n : Nat) (w : Val D), OutOfReach (InRange nm) n cur → wtNE e = true → NEHyp QC v e →
      denote QC ((x, v) :: ρ) (neQ x e) = .ok w →
      FragSpec C (InRange nm) (DeclsDone C.N) (compNE nm ptr cur e n) n cur v (fun w' => w' = w ∧ HasTy w (tyNE e))
  | .pure p, n, w, _, hwt, hhyp, hden => FragSpec.pure fun σ hcur =>
    have hpe := pe_correct QC σ cur none ptr v x ρ (hN ▸ hcur) (by simp) p hwt (hhyp.1 p (by simp [puresNE]))
    ⟨w, hN ▸ hpe.1.trans hden, rfl, hpe.2 w hden⟩
  | .icount ic, n, w, _, hwt, hhyp, hden =>
    icount_correct C QC hN nm hinj ptr cur v x ρ ic n w hwt (hhyp.2.1 ic (by simp [ichainsNE])) hden
  | .isum ic, n, w, _, hwt, hhyp, hden => by
    simp only [wtNE, Bool.and_eq_true, ichainNumTy] at hwt
    cases hty : ichainTy ic with
    | none => rw [hty] at hwt; simp at hwt
    | some t =>
      rw [hty] at hwt
      have htn : t.isNum = true := by
        by_cases h : t.isNum = true
        · exact h
        · simp [h] at hwt
      have := isum_correct C QC hN nm hinj ptr cur v x ρ ic n w hwt.1 t hty htn
        (hhyp.2.1 ic (by simp [ichainsNE])) (hhyp.2.2 ic (by simp [isumsNE])) hden
      simpa [tyNE, hty] using this
  | .bin op a b, n, w, hfr, hwt, hhyp, hden => by
    simp only [wtNE, Bool.and_eq_true] at hwt
    have hla := compNE_layout nm ptr cur a n
    exact FragSpec.bin hN (Frames.inRange hinj) (DeclsPred.done nm C.N) hla (compNE_layout nm ptr cur b _) hfr hwt.1.2 hwt.2
      (tyNE_bin op a b) hden
      (fun va => compNE_spec C QC hN nm hinj ptr cur v x ρ a n va hfr hwt.1.1.1 hhyp.bin.1)
      (fun vb => compNE_spec C QC hN nm hinj ptr cur v x ρ b _ vb (hfr.mono hla.ge) hwt.1.1.2 hhyp.bin.2)
  | .cmp op a b, n, w, hfr, hwt, hhyp, hden => by
    simp only [wtNE, Bool.and_eq_true] at hwt
    have hla := compNE_layout nm ptr cur a n
    exact FragSpec.cmp hN (Frames.inRange hinj) (DeclsPred.done nm C.N) hla (compNE_layout nm ptr cur b _) hfr hden
      (fun va => compNE_spec C QC hN nm hinj ptr cur v x ρ a n va hfr hwt.1.1.1 hhyp.cmp.1)
      (fun vb => compNE_spec C QC hN nm hinj ptr cur v x ρ b _ vb (hfr.mono hla.ge) hwt.1.1.2 hhyp.cmp.2)
  | .neg a, n, w, hfr, hwt, hhyp, hden => by
    simp only [wtNE, Bool.and_eq_true] at hwt
    exact FragSpec.neg hN hwt.2 hden fun va => compNE_spec C QC hN nm hinj ptr cur v x ρ a n va hfr hwt.1 hhyp.neg
  | .not a, n, w, hfr, hwt, hhyp, hden => by
    simp only [wtNE, Bool.and_eq_true, beq_iff_eq] at hwt
    exact FragSpec.not hN hden fun va hda => hwt.2 ▸ compNE_spec C QC hN nm hinj ptr cur v x ρ a n va hfr hwt.1 hhyp.not hda

/-- **element-level expressions with inner aggregates** — in every state in which the accumulators'
declarations are done (`DeclsDone`: each holds its initial value) and the current-value expression evaluates
to the outer element `v`, executing the emitted statements (the inner loops) terminates in a state in which
the emitted value expression evaluates to EXACTLY what the query expression denotes with its parameter bound
to `v`; only the fragment's own fresh names are touched; the value has the statically computed C++ type. -/
theorem compNE_correct (C : Ctx D) (QC : QCtx D) (hN : QC.N = C.N) (nm : Nat → String)
    (hinj : ∀ i j, nm i = nm j → i = j) (ptr : Bool) (cur : CExpr) (v : Val D) (x : String) (ρ : LEnv D) :
    ∀ (e : NE) (n : Nat) (s : St D) (w : Val D),
      (∀ y ∈ vars cur, ∀ j, n ≤ j → y ≠ nm j) → evalE C.N s.env cur = .ok v →
      DeclsDone C.N (compNE nm ptr cur e n).decls s.env →
      wtNE e = true → NEHyp QC v e →
      denote QC ((x, v) :: ρ) (neQ x e) = .ok w →
      ∃ s', execs C (compNE nm ptr cur e n).stmts s = .ok s' ∧ s'.rows = s.rows ∧
        evalE C.N s'.env (compNE nm ptr cur e n).val = .ok w ∧ HasTy w (tyNE e) ∧
        (∀ y, ¬ InRange nm n (compNE nm ptr cur e n).next y → s'.env y = s.env y) :=
  fun e n s w hfr hcur hdone hwt hhyp hden =>
    (compNE_spec C QC hN nm hinj ptr cur v x ρ e n w (.inRange hfr) hwt hhyp hden).val_ty s hcur hdone

/-- **the block of an expression with inner aggregates** — from ANY state in which the current-value
expression evaluates to the outer element `v` (whatever the accumulators hold — e.g. what the previous
outer element left in them): the block's text, declarations first (hoisted), then the inner loops,
computes the query's value. -/
theorem compNE_block_correct (C : Ctx D) (QC : QCtx D) (hN : QC.N = C.N) (nm : Nat → String)
    (hinj : ∀ i j, nm i = nm j → i = j) (ptr : Bool) (cur : CExpr) (v : Val D) (x : String) (ρ : LEnv D)
    (e : NE) (n : Nat) (s : St D) (w : Val D)
    (hfr : ∀ y ∈ vars cur, ∀ j, n ≤ j → y ≠ nm j) (hcur : evalE C.N s.env cur = .ok v)
    (hwt : wtNE e = true) (hhyp : NEHyp QC v e)
    (hden : denote QC ((x, v) :: ρ) (neQ x e) = .ok w) :
    ∃ s', execs C ((compNE nm ptr cur e n).decls ++ (compNE nm ptr cur e n).stmts) s = .ok s' ∧ s'.rows = s.rows ∧
      evalE C.N s'.env (compNE nm ptr cur e n).val = .ok w ∧ HasTy w (tyNE e) ∧
      (∀ y, ¬ InRange nm n (compNE nm ptr cur e n).next y → s'.env y = s.env y) :=
  (FragSpec.block (Frames.inRange hinj) (compNE_layout nm ptr cur e n) (compNE_declsOK C.N nm hinj ptr cur e n) (.inRange hfr)
    (compNE_spec C QC hN nm hinj ptr cur v x ρ e n w (.inRange hfr) hwt hhyp hden)).val_ty s hcur trivial

theorem compNEs_eq (nm : Nat → String) (ptr : Bool) (cur : CExpr) : ∀ (es : List NE) (n : Nat),
    compNEs nm ptr cur es n = fragsRow (compNE nm ptr cur) es n
  | [], _ => rfl
  | e :: rest, n => by simp only [compNEs, fragsRow, compNEs_eq nm ptr cur rest]

theorem compNEs_vals_length (nm : Nat → String) (ptr : Bool) (cur : CExpr) : ∀ (es : List NE) (n : Nat),
    (compNEs nm ptr cur es n).vals.length = es.length
  | [], _ => rfl
  | _ :: rest, _ => congrArg (· + 1) (compNEs_vals_length nm ptr cur rest _)

end FaxVerif.Gen
