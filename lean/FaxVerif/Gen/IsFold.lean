/-
Gen — "these statements are a fold of `Kc` over `ws`" (`IsFold`): the one form in which the chain / loop theorem of every
fragment reaches its consumers (the core proves the both-directions `Sim` of Gen/LoopCorrect.lean and reads this off at
`strict := False`). Producers: a range-for whose body does one `BodyStep` per element (`loop_isFold`), a retrieval block in
front (`retrLoop_isFold`), the core's chain (`compChain_isFold`). Consumers, stated once against it: a continuation that
owns some variables outside the loop's names (`IsFold.own`; one accumulator: `IsFold.acc`, `.accEnc`, `.accAt`), one more
`Select` whose value needs statements (`IsFold.select`).
-/
import FaxVerif.Gen.LoopCorrect
namespace FaxVerif.Gen
open FaxVerif.Cpp FaxVerif.Linq
variable {D : Type}

/-- `S`, run from `s`, is a fold of the continuation `Kc` over `ws`: `Kc` is run once per value `w` of `ws`, in
order, each time in a state where `cur` evaluates to `w` (and `Qw w` is known); between two runs only variables in
`frame` change. Said as a proof rule: any invariant `P` over a ghost state that (i) survives changes inside `frame`,
(ii) is taken by one run of `Kc` from `b` to `g b w`, holds after `S` at the fold of `g` over `ws`.
`Inv` is what the loop's own code needs of every state it is resumed in (the captured outer variable is still bound). -/
def IsFold (C : Ctx D) (S : List Stmt) (frame : String → Prop) (Inv : St D → Prop)
    (Kc : List Stmt) (cur : CExpr) (Qw : Val D → Prop) (ws : List (Val D)) (s : St D) : Prop :=
  ∀ ⦃β : Type⦄ (P : St D → β → Prop) (g : β → Val D → Except Fault β),
    (∀ t b, P t b → Inv t) → FrameStable frame P →
    (∀ (t : St D) b b' w, P t b → g b w = .ok b' → evalE C.N t.env cur = .ok w → Qw w →
        ∃ t', execs C Kc t = .ok t' ∧ P t' b') →
    ∀ b b', foldG g ws b = .ok b' → P s b → ∃ s', execs C S s = .ok s' ∧ P s' b'

theorem IsFold.mono {C : Ctx D} {S Kc : List Stmt} {frame frame' : String → Prop} {Inv : St D → Prop} {cur : CExpr}
    {Qw Qw' : Val D → Prop} {ws : List (Val D)} {s : St D} (h : IsFold C S frame Inv Kc cur Qw ws s)
    (hf : ∀ y, frame y → frame' y) (hQ : ∀ w, Qw w → Qw' w) : IsFold C S frame' Inv Kc cur Qw' ws s :=
  fun _ P g hI hst hK b b' hfold hP =>
    h P g hI (hst.mono hf)
      (fun t b b' w hPt hg hev hq => hK t b b' w hPt hg hev (hQ w hq)) b b' hfold hP

/-- statements in front that change only the frame (a retrieval block, declarations) -/
theorem IsFold.after {C : Ctx D} {S Kc : List Stmt} {frame : String → Prop} {Inv : St D → Prop} {cur : CExpr}
    {Qw : Val D → Prop} {ws : List (Val D)} (pre : List Stmt) {s s1 : St D} (hpre : execs C pre s = .ok s1)
    (hr : s1.rows = s.rows) (hfr : ∀ y, ¬ frame y → s1.env y = s.env y) (h : IsFold C S frame Inv Kc cur Qw ws s1) :
    IsFold C (pre ++ S) frame Inv Kc cur Qw ws s :=
  fun _ P g hI hst hK b b' hfold hP => by
    obtain ⟨s', hex, hP'⟩ := h P g hI hst hK b b' hfold (hst s s1 b hP hr hfr)
    exact ⟨s', by rw [execs_append, hpre]; exact hex, hP'⟩

/-- every value of a fold satisfies what the continuation is promised of it: run the statements with the empty
continuation and collect the values in the ghost state -/
theorem IsFold.all {C : Ctx D} {S : List Stmt} {frame : String → Prop} {cur : CExpr} {Qw : Val D → Prop}
    {ws : List (Val D)} {s : St D} (h : IsFold C S frame (fun _ => True) [] cur Qw ws s) : ∀ w ∈ ws, Qw w := by
  obtain ⟨_, _, hP⟩ := h (fun _ (b : List (Val D)) => ∀ w ∈ b, Qw w) (fun b w => .ok (b ++ [w])) (fun _ _ _ => trivial)
    (fun _ _ _ h _ _ => h)
    (fun t b b' w hb hg _ hq => by
      cases hg
      exact ⟨t, rfl, fun w' hw' => (List.mem_append.1 hw').elim (hb w') fun h => List.mem_singleton.1 h ▸ hq⟩)
    [] ([] ++ ws) (foldG_push ws []) (by simp)
  simpa using hP

theorem loop_isFold (C : Ctx D) (i : String) (ce : CExpr) (body Kc : List Stmt) (frame : String → Prop) (hi : frame i)
    (Inv : St D → Prop) (cur : CExpr) (Qw : Val D → Prop)
    (sem : Val D → Except Fault (Option (Val D))) (l ws : List (Val D)) (hsem : optsE sem l = .ok ws)
    (hbody : ∀ v ∈ l, ∀ o, sem v = .ok o → ∀ t : St D, Inv t → t.env i = some (.val v) →
      BodyStep C body Kc frame cur Qw o t)
    (s : St D) (hce : evalE C.N s.env ce = .ok (.vec l)) :
    IsFold C [.loop i ce body] frame Inv Kc cur Qw ws s := by
  intro β P g hI hst hK b b' hfold hP
  -- `iter_sim` at `strict := False`, not `loop_sim`: the body here is ANY statements with a `BodyStep` per element (the lazy,
  -- nested, captured and deep loops come through this lemma), so the step of `keptG sem g` is put together from `hbody` and `hK`
  have h := iter_sim False (fun s v => execs C body { s with env := s.env.set i v }) (keptG sem g) P l s b
    (fun v hv t a hPt => ?_) hP
  · obtain ⟨s', hit, hP'⟩ := h.ok ((foldG_keptG sem g l ws b hsem).trans hfold)
    exact ⟨s', by simp only [execs, exec, hce, hit], hP'⟩
  have hP0 : P { t with env := t.env.set i v } a := hst t _ a hPt rfl (fun y hy => by
    have : y ≠ i := fun e => hy (e ▸ hi)
    simp [Env.set, this])
  unfold keptG
  cases ho : sem v with
  | error e => exact False.elim
  | ok o =>
    obtain ⟨t1, hr1, hfr1, hnone, hsome⟩ := hbody v hv o ho _ (hI _ _ hP0) (by simp [Env.set])
    have hP1 : P t1 a := hst _ t1 a hP0 hr1 hfr1
    cases o with
    | none => exact ⟨t1, hnone rfl, hP1⟩
    | some w =>
      obtain ⟨hex, hev, hq⟩ := hsome w rfl
      exact Sim.of_cases (fun b1 hg => by
        obtain ⟨t2, hK2, hP2⟩ := hK t1 a b1 w hP1 hg hev hq
        exact ⟨t2, hex.trans hK2, hP2⟩) (fun _ _ => False.elim)

/-- **retrieval block, then a range-for over the handle**: a fold over what `sem` keeps of the bank's list,
for any body that is a `BodyStep` per element. The frame must contain the handle, `result` and the loop variable. -/
theorem retrLoop_isFold (C : Ctx D) (B : Backend) (hB : BackendBase B) (coll bank x tok cty i : String) (l ws : List (Val D))
    (htok : B.how = "token" → C.tokenBank tok = some ((B.collType coll).getD "?", bank))
    (hcoll : B.collType coll = some cty) (hfind : C.ev.find bank = some (cty, .vec l)) (hxr : x ≠ "result")
    (body Kc : List Stmt) (frame : String → Prop) (hfx : frame x) (hfr : frame "result") (hfi : frame i)
    (Inv : St D → Prop) (cur : CExpr) (Qw : Val D → Prop)
    (sem : Val D → Except Fault (Option (Val D))) (hsem : optsE sem l = .ok ws)
    (hbody : ∀ v ∈ l, ∀ o, sem v = .ok o → ∀ t : St D, Inv t → t.env i = some (.val v) →
      BodyStep C body Kc frame cur Qw o t)
    (s : St D) (hx : (s.env x).isSome = true) :
    IsFold C [.block [.decl (B.handleTy cty) "result" B.resultInit,
        .retrieve B.how cty "result" (if B.how = "token" then .opaque "" else .str bank) (if B.how = "token" then tok else ""),
        .set x (.var "result")], .loop i (.deref (.var x)) body] frame Inv Kc cur Qw ws s := by
  obtain ⟨σ2, hblock, hσx, hσfr⟩ := retrieveBlock_correct C B hB coll bank x tok cty l htok hcoll hfind s hxr hx
  exact IsFold.after [_] (s1 := ⟨σ2, s.rows⟩) (by simp only [execs, hblock]) rfl
    (fun y hy => hσfr y (fun e => hy (e ▸ hfr)) (fun e => hy (e ▸ hfx)))
    (loop_isFold C i _ body Kc frame hfi Inv cur Qw sem l ws hsem hbody _ (by simp [evalE, hσx]))

theorem compChain_isFold (C : Ctx D) (QC : QCtx D) (hN : QC.N = C.N)
    (B : Backend) (hB : BackendBase B) (nm : Nat → String)
    (hinj : ∀ i j, nm i = nm j → i = j) (hres : ∀ j, nm j ≠ "result")
    (c : Chain) (n : Nat) (htok : TokChain B nm C c n) (K : CExpr → Option Ty → List Stmt)
    (cty : String) (l ws : List (Val D))
    (hcoll : B.collType c.coll = some cty) (hfind : C.ev.find c.bank = some (cty, .vec l))
    (hwt : wtSteps none c.steps = true) (hmt : ∀ v ∈ l, MethTyped v (methsSteps c.steps))
    (Q : Val D → Prop) (hQ : ∀ v ∈ l, Q v) (hel : elemsSem QC c.steps l = .ok ws)
    (s : St D) (hx : (s.env (nm n)).isSome = true) :
    let r := chainVal B nm c n
    IsFold C (compChain B nm c n K).stmts (Touch nm n (compChain B nm c n K).next) (fun _ => True)
      (K r.1 r.2) r.1 (fun w => (∀ t, r.2 = some t → HasTy w t) ∧ (r.2 = none → Q w)) ws s := by
  intro r β P g _ hst hK b b' hfold hP
  exact (compChain_sim C QC hN B hB nm hinj hres c n htok K False false cty l hcoll hfind hwt False.elim hmt P g Q hQ hst
    (.of_step hK)
    s b hx hP).ok ((foldG_keptG _ g l ws b (elemsSem_eq_optsE QC c.steps l ▸ hel)).trans hfold)

/-- **the general consumer** — the continuation owns the variables `X` (outside the loop's frame) and the rows: `R b t`
speaks of `t.rows` and of `t.env` on `X` only; one run of `Kc` on a kept `w` takes `R b` to `R (g b w)` and changes
no variable outside `X` and the frame. Then `S` takes `R b` to `R` of the fold and changes nothing outside `frame ∪ X`.
`IsFold.acc` is `X = {x}`; the `First` flag and slot are `X = {flag, slot}` (`IsFold.first`, Gen/FirstCorrect.lean). -/
theorem IsFold.own {C : Ctx D} {S Kc : List Stmt} {frame : String → Prop} {Inv : St D → Prop} {cur : CExpr}
    {Qw : Val D → Prop} {ws : List (Val D)} {s : St D} (h : IsFold C S frame Inv Kc cur Qw ws s)
    {β : Type} (X : String → Prop) (hX : ∀ y, X y → ¬ frame y) (R : β → St D → Prop) (g : β → Val D → Except Fault β)
    (hRc : ∀ b (t t' : St D), R b t → t'.rows = t.rows → (∀ y, X y → t'.env y = t.env y) → R b t')
    (hInv : ∀ t : St D, (∀ y, ¬ X y → ¬ frame y → t.env y = s.env y) → Inv t)
    (hK : ∀ (t : St D) b b' w, R b t → g b w = .ok b' → evalE C.N t.env cur = .ok w → Qw w →
        ∃ t', execs C Kc t = .ok t' ∧ R b' t' ∧ ∀ y, ¬ X y → ¬ frame y → t'.env y = t.env y)
    (b b' : β) (hR : R b s) (hfold : foldG g ws b = .ok b') :
    ∃ s', execs C S s = .ok s' ∧ R b' s' ∧ ∀ y, ¬ X y → ¬ frame y → s'.env y = s.env y :=
  h (fun t a => R a t ∧ ∀ y, ¬ X y → ¬ frame y → t.env y = s.env y) g
    (fun t _ hPt => hInv t hPt.2)
    (fun t t' a hPt hr hfr => ⟨hRc a t t' hPt.1 hr fun y hy => hfr y (hX y hy),
      fun y hy hyf => (hfr y hyf).trans (hPt.2 y hy hyf)⟩)
    (fun t a a' w hPt hg hev hq => by
      obtain ⟨t', hex, hR', hfr⟩ := hK t a a' w hPt.1 hg hev hq
      exact ⟨t', hex, hR', fun y hy hyf => (hfr y hy hyf).trans (hPt.2 y hy hyf)⟩)
    b b' hfold ⟨hR, fun _ _ _ => rfl⟩

/-- **a variable filled by a fold** (`X = {x}`) — `x` is outside the loop's frame and holds `c` with `R b c`; one run of
the continuation on a kept `w` leaves some `c'` with `R (g b w) c'` there, the rows alone, and changes otherwise only
frame variables. Then after `S` the variable holds some `c'` related to the fold of `g` over `ws`. -/
theorem IsFold.acc {C : Ctx D} {S Kc : List Stmt} {frame : String → Prop} {Inv : St D → Prop} {cur : CExpr}
    {Qw : Val D → Prop} {ws : List (Val D)} {s : St D} (h : IsFold C S frame Inv Kc cur Qw ws s)
    {β : Type} (x : String) (hx : ¬ frame x) (R : β → Val D → Prop) (g : β → Val D → Except Fault β)
    (hInv : ∀ t : St D, (∀ y, y ≠ x → ¬ frame y → t.env y = s.env y) → Inv t)
    (hK : ∀ (t : St D) b b' c w, t.env x = some (.val c) → R b c → g b w = .ok b' →
        evalE C.N t.env cur = .ok w → Qw w →
        ∃ t' c', execs C Kc t = .ok t' ∧ t'.rows = t.rows ∧ t'.env x = some (.val c') ∧ R b' c' ∧
          ∀ y, y ≠ x → ¬ frame y → t'.env y = t.env y)
    (b b' : β) (c : Val D) (hacc : s.env x = some (.val c)) (hR : R b c) (hfold : foldG g ws b = .ok b') :
    ∃ s' c', execs C S s = .ok s' ∧ s'.rows = s.rows ∧ s'.env x = some (.val c') ∧ R b' c' ∧
      ∀ y, y ≠ x → ¬ frame y → s'.env y = s.env y := by
  obtain ⟨s', hex, ⟨⟨c', hc', hR'⟩, hr'⟩, hfr'⟩ := h.own (· = x) (fun y hy => hy ▸ hx)
    (fun a t => (∃ c, t.env x = some (.val c) ∧ R a c) ∧ t.rows = s.rows) g
    (fun a t t' hPt hr hfr => ⟨(hfr x rfl).symm ▸ hPt.1, hr.trans hPt.2⟩) hInv
    (fun t a a' w hPt hg hev hq => by
      obtain ⟨⟨c, hc, hRc⟩, hrows⟩ := hPt
      obtain ⟨t', c', hex, hr, hc', hR', hfr⟩ := hK t a a' c w hc hRc hg hev hq
      exact ⟨t', hex, ⟨⟨c', hc', hR'⟩, hr.trans hrows⟩, hfr⟩)
    b b' ⟨⟨c, hacc, hR⟩, rfl⟩ hfold
  exact ⟨s', c', hex, hr', hc', hR', hfr'⟩

/-- `IsFold.acc` for a variable that stores the ghost state itself, encoded by `enc`, and a continuation that is
one assignment to it -/
theorem IsFold.accEnc {C : Ctx D} {S Kc : List Stmt} {frame : String → Prop} {Inv : St D → Prop} {cur : CExpr}
    {Qw : Val D → Prop} {ws : List (Val D)} {s : St D} (h : IsFold C S frame Inv Kc cur Qw ws s)
    {β : Type} (x : String) (hx : ¬ frame x) (enc : β → Val D) (g : β → Val D → Except Fault β)
    (hInv : ∀ t : St D, (∀ y, y ≠ x → ¬ frame y → t.env y = s.env y) → Inv t)
    (hK : ∀ (t : St D) b b' w, t.env x = some (.val (enc b)) → g b w = .ok b' →
        evalE C.N t.env cur = .ok w → Qw w → execs C Kc t = .ok { t with env := t.env.set x (enc b') })
    (b b' : β) (hacc : s.env x = some (.val (enc b))) (hfold : foldG g ws b = .ok b') :
    ∃ s', execs C S s = .ok s' ∧ s'.rows = s.rows ∧ s'.env x = some (.val (enc b')) ∧
      ∀ y, y ≠ x → ¬ frame y → s'.env y = s.env y := by
  obtain ⟨s', _, hex, hr, hc, rfl, hfr⟩ := h.acc x hx (fun b c => c = enc b) g hInv
    (fun t b b' c w hc hR hg hev hq => ⟨_, _, hK t b b' w (hR ▸ hc) hg hev hq, rfl, by simp [Env.set], rfl,
      fun y hy _ => by simp only [Env.set, hy, if_false]⟩) b b' _ hacc rfl hfold
  exact ⟨s', hex, hr, hc, hfr⟩

/-- `IsFold.accEnc` for the accumulator `nm n` just below the loop's own names `T (n + 1) hi`: afterwards nothing
outside `T n hi` has changed -/
theorem IsFold.accAt {C : Ctx D} {S Kc : List Stmt} {nm : Nat → String} {T : Nat → Nat → String → Prop} (hT : Frames nm T)
    {n hi : Nat} (hhi : n + 1 ≤ hi) {Inv : St D → Prop} {cur : CExpr} {Qw : Val D → Prop} {ws : List (Val D)} {s : St D}
    (h : IsFold C S (T (n + 1) hi) Inv Kc cur Qw ws s)
    {β : Type} (enc : β → Val D) (g : β → Val D → Except Fault β)
    (hInv : ∀ t : St D, (∀ y, ¬ T n hi y → t.env y = s.env y) → Inv t)
    (hK : ∀ (t : St D) b b' w, t.env (nm n) = some (.val (enc b)) → g b w = .ok b' →
        evalE C.N t.env cur = .ok w → Qw w → execs C Kc t = .ok { t with env := t.env.set (nm n) (enc b') })
    (b b' : β) (hacc : s.env (nm n) = some (.val (enc b))) (hfold : foldG g ws b = .ok b') :
    ∃ s', execs C S s = .ok s' ∧ s'.rows = s.rows ∧ s'.env (nm n) = some (.val (enc b')) ∧
      ∀ y, ¬ T n hi y → s'.env y = s.env y := by
  have hsplit : ∀ y, ¬ T n hi y → y ≠ nm n ∧ ¬ T (n + 1) hi y := fun y hy =>
    ⟨fun e => hy (hT.incl ⟨n, Nat.le_refl n, hhi, e⟩), fun h => hy (hT.mono (Nat.le_succ n) (Nat.le_refl _) h)⟩
  obtain ⟨s', hex, hr, hv, hfr⟩ := h.accEnc (nm n)
    (hT.disj (Or.inl (Nat.le_refl _)) ⟨n, Nat.le_refl n, Nat.lt_succ_self n, rfl⟩) enc g
    (fun t ht => hInv t fun y hy => ht y (hsplit y hy).1 (hsplit y hy).2) hK b b' hacc hfold
  exact ⟨s', hex, hr, hv, fun y hy => hfr y (hsplit y hy).1 (hsplit y hy).2⟩

theorem foldG_mapE {β : Type} (F : Val D → Except Fault (Val D)) (g : β → Val D → Except Fault β) :
    ∀ (ws ws' : List (Val D)) (b : β), mapE F ws = .ok ws' → foldG (fun b w => (F w).bind (g b)) ws b = foldG g ws' b
  | [], ws', b, h => by cases h; rfl
  | w :: ws, ws', b, h => by
    obtain ⟨w', vs, h1, h2, rfl⟩ := mapE_cons_ok.1 h
    simp only [foldG, h1, Except.bind]
    cases g b w' with
    | error e => rfl
    | ok b1 => exact foldG_mapE F g ws vs b1 h2

/-- **one more `Select`** — the continuation first runs `pre`, which (inside the frame) computes `F w` into `cur'`,
then `Kc2`: the same statements are a fold of `Kc2` over the mapped values -/
theorem IsFold.select {C : Ctx D} {S Kc pre Kc2 : List Stmt} {frame : String → Prop} {Inv : St D → Prop} {cur : CExpr}
    {Qw : Val D → Prop} {ws : List (Val D)} {s : St D} (h : IsFold C S frame Inv Kc cur Qw ws s) (hKc : Kc = pre ++ Kc2)
    (F : Val D → Except Fault (Val D)) (ws' : List (Val D)) (hmap : mapE F ws = .ok ws') (cur' : CExpr) (Qw' : Val D → Prop)
    (hpre : ∀ (t : St D) w w', evalE C.N t.env cur = .ok w → Qw w → F w = .ok w' →
        ∃ t1, execs C pre t = .ok t1 ∧ t1.rows = t.rows ∧ (∀ y, ¬ frame y → t1.env y = t.env y) ∧
          evalE C.N t1.env cur' = .ok w' ∧ Qw' w') :
    IsFold C S frame Inv Kc2 cur' Qw' ws' s := by
  intro β P g hI hst hK b b' hfold hP
  refine h P (fun b w => (F w).bind (g b)) hI hst
    (fun t a a' w hPt hg hev hq => ?_) b b' (by rw [foldG_mapE F g ws ws' b hmap]; exact hfold) hP
  cases hF : F w with
  | error e => rw [hF] at hg; cases hg
  | ok w' =>
    rw [hF] at hg
    change g a w' = .ok a' at hg
    obtain ⟨t1, hex1, hr1, hfr1, hev1, hq1⟩ := hpre t w w' hev hq hF
    obtain ⟨t2, hex2, hP2⟩ := hK t1 a a' w' (hst t t1 a hPt hr1 hfr1) hg hev1 hq1
    exact ⟨t2, by rw [hKc, execs_append, hex1]; exact hex2, hP2⟩

end FaxVerif.Gen
