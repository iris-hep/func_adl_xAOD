/-
Gen — `leQ_out`: what a well-typed lazy expression evaluates to on the query side (a value of its static type, or a
member fault of the element); `le_sound`: the mutual induction over `LE` (and over the operand lists of n-ary and / or)
that instantiates the combinators of Gen/LazyCorrect.lean; `le_correct` is its success direction in plain form,
`Agrees.runFrag` what it says of a fragment run as a whole (both directions).
-/
import FaxVerif.Gen.LazyCorrect
import FaxVerif.Gen.Forced
namespace FaxVerif.Gen
open FaxVerif.Cpp FaxVerif.Linq
variable {D : Type}

def LOp.msg : LOp → String
  | .and => "operand of and"
  | .or => "operand of or"

def LOp.runs : LOp → Bool → Bool
  | .and, acc => acc
  | .or, acc => !acc

/-- the boolean an operand of and / or contributes (the query's `asBool`, the code's `static_cast<bool>`) -/
def toBoolG (N : Num D) (op : LOp) (w : Val D) : Except Fault (Val D) :=
  match asBool N w with
  | some b => .ok (.bool b)
  | none => .error (.typeErr op.msg)

theorem toBoolG_total (N : Num D) (op : LOp) {w : Val D} {t : Ty} (h : HasTy w t) : ∃ acc, toBoolG N op w = .ok (.bool acc) := by
  obtain ⟨b, hb⟩ := hasTy_asBool N h
  exact ⟨b, by simp [toBoolG, hb]⟩

theorem castIf_err (N : Num D) (σ : Env D) (need : Bool) (ty : String) (e : CExpr) (f : Fault)
    (h : evalE N σ e = .error f) : evalE N σ (castIf need ty e) = .error f := by
  cases need <;> simp [castIf, evalE, h]

theorem toBoolG_bool {N : Num D} {op : LOp} {w w' : Val D} (h : toBoolG N op w = .ok w') : ∃ acc, w' = .bool acc := by
  unfold toBoolG at h
  cases hb : asBool N w <;> rw [hb] at h <;> simp at h
  exact ⟨_, h.symm⟩

/-- `set_var`'s cast in front of an operand of and / or: `static_cast<bool>` is the query's `asBool` -/
theorem computes_castB (C : Ctx D) {N : Num D} (hN : N = C.N) (op : LOp) (t : Ty) (val : CExpr)
    {res : Except Fault (Val D)} (hty : ∀ w, res = .ok w → HasTy w t) :
    Computes C val (castIf (t != .bool) "bool" val) (toBoolG N op) res := by
  subst hN
  refine ⟨fun σ f h => castIf_err C.N σ _ _ _ f h, fun σ w hw h => ?_,
    fun w hw => let ⟨_, h⟩ := toBoolG_total C.N op (hty w hw); ⟨_, h⟩⟩
  obtain ⟨b, hb⟩ := hasTy_asBool C.N (hty w hw)
  by_cases ht : t = .bool
  · subst ht
    obtain ⟨b', rfl⟩ := hasTy_bool (hty w hw)
    simp [castIf, h, toBoolG, asBool]
  · have : (t != .bool) = true := by simp [ht]
    simp [this, castIf, evalE, h, castTo, toBoolG, hb]

/-- … in front of an arm of a conditional: a floating value goes into the `double` result unchanged -/
theorem computes_castD (C : Ctx D) (t : Ty) (hfl : t.isFl = true) (val : CExpr)
    {res : Except Fault (Val D)} (hty : ∀ w, res = .ok w → HasTy w t) :
    Computes C val (castIf (t != .double) "double" val) (fun w => .ok w) res := by
  refine ⟨fun σ f h => castIf_err C.N σ _ _ _ f h, fun σ w hw h => ?_, fun w _ => ⟨w, rfl⟩⟩
  have hw := hty w hw
  cases t <;> simp [Ty.isFl] at hfl
  · cases w <;> simp [HasTy] at hw
    simp [castIf, evalE, h, castTo, asD]
  · simp [castIf, h]

theorem check_step (C : Ctx D) (op : LOp) (r : String) (body : List Stmt) (σ : Env D) (rows : List (List (Val D)))
    (acc : Bool) (hr : σ r = some (.val (.bool acc))) :
    exec C (.ite (op.check r) body []) ⟨σ, rows⟩ =
      (if op.runs acc then execs C body ⟨σ, rows⟩ else .ok ⟨σ, rows⟩) := by
  have hc : evalE C.N σ (op.check r) = .ok (.bool (op.runs acc)) := by
    cases op <;> simp [LOp.check, LOp.runs, evalE, hr, unop, asBool]
  rw [exec_ite_of C ⟨σ, rows⟩ _ _ _ _ (op.runs acc) hc rfl]
  cases op.runs acc <;> rfl

theorem denote_ite (QC : QCtx D) (ρ : LEnv D) (c a b : Query) :
    denote QC ρ (.ite c a b) = iteRes QC.N (denote QC ρ c) (denote QC ρ a) (denote QC ρ b) := by
  simp only [denote, iteRes]
  cases denote QC ρ c with
  | error e => rfl
  | ok vc =>
    simp only []
    cases asBool QC.N vc with
    | none => rfl
    | some b => cases b <;> rfl

/-- what `and` / `or` do with the outcome of the chain so far and (lazily) that of the next operand -/
def opRes (N : Num D) (op : LOp) (ra rb : Except Fault (Val D)) : Except Fault (Val D) :=
  match ra with
  | .error e => .error e
  | .ok va => match asBool N va with
    | none => .error (.typeErr op.msg)
    | some acc => if op.runs acc then strict1 rb (toBoolG N op) else .ok (.bool acc)

theorem denote_lop (QC : QCtx D) (ρ : LEnv D) (op : LOp) (a b : Query) :
    denote QC ρ (op.q a b) = opRes QC.N op (denote QC ρ a) (denote QC ρ b) := by
  cases op <;> simp only [LOp.q, denote, opRes] <;>
  (cases denote QC ρ a with
    | error e => rfl
    | ok va =>
      dsimp only
      cases asBool QC.N va with
      | none => rfl
      | some acc =>
        cases denote QC ρ b with
        | error e => cases acc <;> rfl
        | ok vb => cases acc <;> dsimp only [strict1, toBoolG] <;> cases asBool QC.N vb <;> rfl)

theorem toBoolG_acc {N : Num D} {op : LOp} {w : Val D} {acc : Bool} (h : toBoolG N op w = .ok (.bool acc)) :
    asBool N w = some acc := by
  unfold toBoolG at h
  cases hb : asBool N w with
  | none => rw [hb] at h; cases h
  | some b => rw [hb] at h; cases h; rfl

section guard
variable (C : Ctx D) (nm : Nat → String) (EF : Fault → Prop)

/-- **one guarded operand** `if (check r) { F…; r = e; }`, from a state in which `r` holds the truth value `acc` of the
chain so far: `r` ends up holding what `and` / `or` make of `acc` and the operand's outcome. The operand's fragment has
to be sound only if it runs. -/
theorem guard_step (Pre : Env D → Prop) (k n0 : Nat) (hst : Stable nm n0 Pre) (hn0 : n0 < k) (op : LOp) (F : CondFrag)
    (e : CExpr) (g : Val D → Except Fault (Val D)) (res : Except Fault (Val D)) (acc : Bool)
    (hdecl : ∀ d ∈ F.decls, LDecl d ∧ InRange nm k F.next (dname d))
    (hS : op.runs acc = true → Sound C nm EF Pre k F res ∧ Computes C F.val e g res)
    (σ : Env D) (rows : List (List (Val D))) (hp : Pre σ) (hrv : σ (nm n0) = some (.val (.bool acc))) :
    AgreesR C nm EF k F.next (nm n0) [.ite (op.check (nm n0)) (F.decls ++ F.stmts ++ [.set (nm n0) e]) []] σ rows
      (if op.runs acc then strict1 res g else .ok (.bool acc)) := by
  have hstep := check_step C op (nm n0) (F.decls ++ F.stmts ++ [.set (nm n0) e]) σ rows acc hrv
  cases hruns : op.runs acc with
  | false =>
    rw [hruns] at hstep
    exact Or.inr ⟨σ, .bool acc, by simp, by rw [execs_single]; simpa using hstep, hrv, FrameR.refl nm _ _ _ σ, Mono.refl σ⟩
  | true =>
    rw [hruns] at hstep
    obtain ⟨hS, he⟩ := hS hruns
    have harm := run_arm C nm EF Pre k (hst.mono (by omega)) F (nm n0) e g res hdecl hS he σ rows hp (by rw [hrv]; rfl)
    simp only [if_true] at hstep ⊢
    rw [AgreesR] at harm ⊢
    rw [execs_single, hstep]
    exact harm

/-- the fragment of `a op b` for two FRAGMENTS (with the C++ types of their values): the binary case of `compLE`'s
`.bop`, and what `andLowerL` nests -/
def lopFrag (op : LOp) (n : Nat) (Fa Fb : CondFrag) (ta tb : Ty) : CondFrag :=
  ⟨.decl "bool" (nm n) none :: Fa.decls,
   Fa.stmts ++ (.set (nm n) (castIf (ta != .bool) "bool" Fa.val) ::
     [.ite (op.check (nm n)) (Fb.decls ++ Fb.stmts ++ [.set (nm n) (castIf (tb != .bool) "bool" Fb.val)]) []]),
   .var (nm n), Fb.next⟩

/-- **binary and / or of two fragments**, for arbitrary outcomes of the parts; the second part has to be sound only
if the first part's value lets it run -/
theorem sound_lop (Pre : Env D → Prop) (n : Nat) (hst : Stable nm n Pre) (op : LOp) (Fa Fb : CondFrag) (ta tb : Ty)
    (ra rb : Except Fault (Val D)) (h1 : n + 1 ≤ Fa.next) (h2 : Fa.next ≤ Fb.next)
    (ha : Sound C nm EF Pre (n + 1) Fa ra) (hta : ∀ w, ra = .ok w → HasTy w ta)
    (hdb : ∀ d ∈ Fb.decls, LDecl d ∧ InRange nm Fa.next Fb.next (dname d))
    (hb : ∀ va acc, ra = .ok va → asBool C.N va = some acc → op.runs acc = true →
      Sound C nm EF Pre Fa.next Fb rb ∧ ∀ w, rb = .ok w → HasTy w tb) :
    Sound C nm EF Pre n (lopFrag nm op n Fa Fb ta tb) (opRes C.N op ra rb) := by
  refine sound_bop C nm EF Pre n hst Fa _ _ Fb.next (toBoolG C.N op) ra
    (fun acc => if op.runs acc then strict1 rb (toBoolG C.N op) else .ok (.bool acc)) _ h1 h2 ha
    (computes_castB C rfl op ta _ hta) (fun _ _ _ => toBoolG_bool) ?_ ?_ ?_
  · intro σ rows acc hacc hp hrv
    obtain ⟨va, hva, hg⟩ := strict1_ok hacc
    exact guard_step C nm EF Pre Fa.next n hst (by omega) op Fb _ (toBoolG C.N op) rb acc hdb
      (fun hr => let h := hb va acc hva (toBoolG_acc hg) hr; ⟨h.1, computes_castB C rfl op tb _ h.2⟩) σ rows hp hrv
  · intro e he
    cases ra with
    | error e' => exact ⟨e', rfl⟩
    | ok va =>
      have he' : toBoolG C.N op va = .error e := he
      cases hb' : asBool C.N va with
      | none => exact ⟨.typeErr op.msg, by simp only [opRes, hb']⟩
      | some b => simp [toBoolG, hb'] at he'
  · intro acc hacc
    obtain ⟨va, rfl, hg⟩ := strict1_ok hacc
    simp only [opRes, toBoolG_acc hg]

end guard

theorem denote_opq (QC : QCtx D) (ρ : LEnv D) (op : LOp) (accQ bQ : Query) (va : Val D) (acc : Bool)
    (h : denote QC ρ accQ = .ok va) (hb : asBool QC.N va = some acc) :
    denote QC ρ (op.q accQ bQ) =
      (if op.runs acc then strict1 (denote QC ρ bQ) (toBoolG QC.N op) else .ok (.bool acc)) := by
  rw [denote_lop, h]; simp only [opRes, hb]

theorem denote_opq_error (QC : QCtx D) (ρ : LEnv D) (op : LOp) (accQ bQ : Query) (e : Fault)
    (h : denote QC ρ accQ = .error e) : denote QC ρ (op.q accQ bQ) = .error e := by
  rw [denote_lop, h]; rfl

theorem bopQ_error (QC : QCtx D) (ρ : LEnv D) (x : String) (op : LOp) (e : Fault) :
    ∀ (rest : List LE) (accQ : Query), denote QC ρ accQ = .error e → denote QC ρ (bopQ x op accQ rest) = .error e
  | [], accQ, h => by simpa [bopQ] using h
  | b :: bs, accQ, h => by
    simp only [bopQ]
    exact bopQ_error QC ρ x op e bs _ (denote_opq_error QC ρ op accQ _ e h)

theorem denote_opq_bool (QC : QCtx D) (ρ : LEnv D) (op : LOp) (accQ bQ : Query) (w : Val D)
    (h : denote QC ρ (op.q accQ bQ) = .ok w) : ∃ b, w = .bool b := by
  rw [denote_lop] at h
  cases ha : denote QC ρ accQ with
  | error e => rw [ha] at h; cases h
  | ok va =>
    rw [ha] at h
    cases hb : asBool QC.N va with
    | none => simp [opRes, hb] at h
    | some acc =>
      simp only [opRes, hb] at h
      split at h
      · obtain ⟨_, _, hg⟩ := strict1_ok h; exact toBoolG_bool hg
      · exact ⟨acc, (Except.ok.inj h).symm⟩

mutual
  theorem leQ_indep (C : QCtx D) (v : Val D) (x y : String) (ρ ρ' : LEnv D) :
      ∀ le : LE, denote C ((x, v) :: ρ) (leQ x le) = denote C ((y, v) :: ρ') (leQ y le)
    | .int _ => by simp [leQ, denote]
    | .dbl _ _ => by simp [leQ, denote]
    | .bool _ => by simp [leQ, denote]
    | .it => by simp [leQ, denote, LEnv.get]
    | .meth _ _ => by simp [leQ, denote, LEnv.get]
    | .bin _ a b => by simp only [leQ, denote, leQ_indep C v x y ρ ρ' a, leQ_indep C v x y ρ ρ' b]
    | .cmp _ a b => by simp only [leQ, denote, leQ_indep C v x y ρ ρ' a, leQ_indep C v x y ρ ρ' b]
    | .neg a => by simp only [leQ, denote, leQ_indep C v x y ρ ρ' a]
    | .not a => by simp only [leQ, denote, leQ_indep C v x y ρ ρ' a]
    | .bop op a rest => by
      simp only [leQ]
      exact bopQ_indep C v x y ρ ρ' op rest _ _ (leQ_indep C v x y ρ ρ' a)
    | .ite c a b => by
      simp only [leQ, denote, leQ_indep C v x y ρ ρ' c, leQ_indep C v x y ρ ρ' a, leQ_indep C v x y ρ ρ' b]
  theorem bopQ_indep (C : QCtx D) (v : Val D) (x y : String) (ρ ρ' : LEnv D) (op : LOp) :
      ∀ (rest : List LE) (q1 q2 : Query), denote C ((x, v) :: ρ) q1 = denote C ((y, v) :: ρ') q2 →
        denote C ((x, v) :: ρ) (bopQ x op q1 rest) = denote C ((y, v) :: ρ') (bopQ y op q2 rest)
    | [], q1, q2, h => by simpa [bopQ] using h
    | b :: bs, q1, q2, h => by
      simp only [bopQ]
      refine bopQ_indep C v x y ρ ρ' op bs _ _ ?_
      rw [denote_lop, denote_lop, h, leQ_indep C v x y ρ ρ' b]
end

theorem bin_typed (N : Num D) (cur : Ty) (op : AOp) (a b : LE) (wa wb w : Val D)
    (hwa : HasTy wa (tyLE cur a)) (hwb : HasTy wb (tyLE cur b))
    (hna : (tyLE cur a).isNum = true) (hnb : (tyLE cur b).isNum = true)
    (h : pyArith N op.str wa wb = .ok w) : HasTy w (tyLE cur (.bin op a b)) := by
  by_cases hdiv : op = .div
  · subst hdiv
    simp only [tyLE]
    exact (div_num N wa wb _ _ hwa hwb hna hnb).2 w h
  · have hty' : tyLE cur (.bin op a b) = (tyLE cur a).join (tyLE cur b) := by
      cases op <;> simp [tyLE] at hdiv ⊢
    rw [hty']
    have := arith_num N op hdiv wa wb _ _ hwa hwb hna hnb
    exact this.2 w (by rw [this.1]; exact h)

def CurIs (C : Ctx D) (cur : CExpr) (v : Val D) : Env D → Prop := fun σ => evalE C.N σ cur = .ok v

theorem stable_curIs (C : Ctx D) (nm : Nat → String) (cur : CExpr) (v : Val D) (k : Nat)
    (hfr : ∀ y ∈ vars cur, ∀ j, k ≤ j → y ≠ nm j) : Stable nm k (CurIs C cur v) := by
  intro σ σ' hp h
  unfold CurIs at *
  rw [← hp]
  apply evalE_congr
  intro y hy
  exact h y (hfr y hy)

theorem match_refl (EF : Fault → Prop) (r : Except Fault (Val D)) (h : ∀ f, r = .error f → EF f) : Match EF r r := by
  cases r with
  | ok w => rfl
  | error f => exact ⟨f, rfl, h f rfl⟩

theorem agreesR_weaken (C : Ctx D) (nm : Nat → String) (EF : Fault → Prop) {lo hi lo' hi' : Nat} {r : String}
    {ss : List Stmt} {σ : Env D} {rows : List (List (Val D))} {res : Except Fault (Val D)}
    (h : AgreesR C nm EF lo hi r ss σ rows res) (h1 : lo' ≤ lo) (h2 : hi ≤ hi') :
    AgreesR C nm EF lo' hi' r ss σ rows res := by
  rcases h with h | ⟨σ', w, hw, hex, hrv, hfr, hmo⟩
  · exact Or.inl h
  · exact Or.inr ⟨σ', w, hw, hex, hrv, fun y hy1 hy2 => hfr y hy1 fun h => hy2 (h.mono h1 h2), hmo⟩

section out
variable {E : Fault → Prop} {P Pa Pb Q : Val D → Prop}

/-- `w` can serve as a condition (every value of a `Ty` can: `hasTy_asBool`) -/
def Truthy (N : Num D) (w : Val D) : Prop := ∃ b, asBool N w = some b

theorem Out.iteRes {N : Num D} {rc rx ry : Except Fault (Val D)} (hc : Out E (Truthy N) rc) (hx : Out E Q rx) (hy : Out E Q ry) :
    Out E Q (iteRes N rc rx ry) := by
  cases rc with
  | error e => exact ⟨nofun, fun f h => hc.2 f h⟩
  | ok vc =>
    obtain ⟨b, hb⟩ := hc.1 vc rfl
    simp only [Gen.iteRes, hb]
    cases b
    · exact hy
    · exact hx

theorem Out.opRes {N : Num D} {op : LOp} {ra rb : Except Fault (Val D)} (ha : Out E (Truthy N) ra) (hb : Out E (Truthy N) rb) :
    Out E (fun w => HasTy w .bool) (opRes N op ra rb) := by
  cases ra with
  | error e => exact ⟨nofun, fun f h => ha.2 f h⟩
  | ok va =>
    obtain ⟨acc, hacc⟩ := ha.1 va rfl
    simp only [Gen.opRes, hacc]
    split
    · exact hb.strict1 fun vb ⟨b, hb'⟩ => ⟨.bool b, by simp [toBoolG, hb'], trivial⟩
    · exact ⟨fun w h => Except.ok.inj h ▸ trivial, nofun⟩

mutual
  /-- **the outcome of a well-typed lazy expression on the query side**: a value of the static type, or a member fault
  of the element -/
  theorem leQ_out (QC : QCtx D) (curTy : Option Ty) (v : Val D) (x : String) (ρ : LEnv D)
      (hty : ∀ t, curTy = some t → HasTy v t) :
      ∀ (le : LE), wtLE curTy le = true → MethTyped v (methsLE le) →
        Out (ElemFault v) (fun w => HasTy w (tyLE (curT curTy) le)) (denote QC ((x, v) :: ρ) (leQ x le))
    | .int _, _, _ | .bool _, _, _ | .dbl _ _, _, _ => by simp [Out, leQ, denote, tyLE, HasTy]
    | .it, hwt, _ => by
      obtain ⟨t, ht⟩ := Option.isSome_iff_exists.1 hwt
      simpa [Out, leQ, denote, LEnv.get, tyLE, curT, ht] using hty t ht
    | .meth name ty, _, hmt => by
      simp only [leQ, denote, LEnv.get, if_true]
      exact ⟨fun w hw => hmt (name, ty) (by simp [methsLE]) w hw, fun f hf => ⟨name, hf⟩⟩
    | .bin op a b, hwt, hmt => by
      simp only [wtLE, Bool.and_eq_true] at hwt
      obtain ⟨⟨⟨hwa, hwb⟩, hna⟩, hnb⟩ := hwt
      rw [leQ, denote_bin]
      exact (leQ_out QC curTy v x ρ hty a hwa (methTyped_left hmt)).strict2
        (leQ_out QC curTy v x ρ hty b hwb (methTyped_right hmt)) fun wa wb ha hb =>
          let ⟨w, hw⟩ := pyArith_total QC.N op wa wb _ _ ha hb hna hnb
          ⟨w, hw, bin_typed QC.N _ op a b wa wb w ha hb hna hnb hw⟩
    | .cmp op a b, hwt, hmt => by
      simp only [wtLE, Bool.and_eq_true] at hwt
      obtain ⟨⟨⟨hwa, hwb⟩, hna⟩, hnb⟩ := hwt
      rw [leQ, denote_cmp]
      exact (leQ_out QC curTy v x ρ hty a hwa (methTyped_left hmt)).strict2
        (leQ_out QC curTy v x ρ hty b hwb (methTyped_right hmt)) fun wa wb ha hb =>
          let ⟨w, hw⟩ := cmp_total QC.N op wa wb _ _ ha hb hna hnb
          ⟨w, hw, cmp_num QC.N op wa wb w hw⟩
    | .neg a, hwt, hmt => by
      simp only [wtLE, Bool.and_eq_true] at hwt
      rw [leQ, denote_neg]
      exact (leQ_out QC curTy v x ρ hty a hwt.1 hmt).strict1 fun wa ha => neg_total QC.N wa _ ha hwt.2
    | .not a, hwt, hmt => by
      simp only [wtLE, Bool.and_eq_true, beq_iff_eq] at hwt
      rw [leQ, denote_not]
      exact (leQ_out QC curTy v x ρ hty a hwt.1 hmt).strict1 fun wa ha => not_total QC.N wa (hwt.2 ▸ ha)
    | .bop op a rest, hwt, hmt => by
      simp only [wtLE, Bool.and_eq_true, Bool.or_eq_true, Bool.not_eq_true', beq_iff_eq] at hwt
      obtain ⟨⟨hwa, hwr⟩, hne⟩ := hwt
      rw [leQ]
      exact bopQ_out QC curTy v x ρ hty op rest hwr (methTyped_right hmt) (leQ x a) _
        (leQ_out QC curTy v x ρ hty a hwa (methTyped_left hmt)) (fun h => hne.resolve_left (by simp [h]))
    | .ite c a b, hwt, hmt => by
      simp only [wtLE, Bool.and_eq_true] at hwt
      obtain ⟨⟨⟨⟨hwc, hwa⟩, hwb⟩, hfa⟩, hfb⟩ := hwt
      have harm : ∀ (t : Ty) (w : Val D), t.isFl = true → HasTy w t → HasTy w .double := by
        intro t w h2 h1
        cases t <;> simp [Ty.isFl] at h2 <;> cases w <;> simp [HasTy] at h1 ⊢
      rw [leQ, denote_ite]
      exact ((leQ_out QC curTy v x ρ hty c hwc (methTyped_left hmt)).mono (fun _ h => h) (fun _ => hasTy_asBool QC.N)).iteRes
        ((leQ_out QC curTy v x ρ hty a hwa (methTyped_left (methTyped_right hmt))).mono (fun _ h => h) (harm _ · hfa))
        ((leQ_out QC curTy v x ρ hty b hwb (methTyped_right (methTyped_right hmt))).mono (fun _ h => h) (harm _ · hfb))
  theorem bopQ_out (QC : QCtx D) (curTy : Option Ty) (v : Val D) (x : String) (ρ : LEnv D)
      (hty : ∀ t, curTy = some t → HasTy v t) (op : LOp) :
      ∀ (rest : List LE), wtLEs curTy rest = true → MethTyped v (methsLEs rest) →
        ∀ (accQ : Query) (t : Ty), Out (ElemFault v) (fun w => HasTy w t) (denote QC ((x, v) :: ρ) accQ) →
          (rest = [] → t = .bool) →
          Out (ElemFault v) (fun w => HasTy w .bool) (denote QC ((x, v) :: ρ) (bopQ x op accQ rest))
    | [], _, _, accQ, t, h, ht => by rw [bopQ, ← ht rfl]; exact h
    | b :: bs, hwt, hmt, accQ, t, h, _ => by
      simp only [wtLEs, Bool.and_eq_true] at hwt
      rw [bopQ]
      refine bopQ_out QC curTy v x ρ hty op bs hwt.2 (methTyped_right hmt) _ .bool ?_ (fun _ => rfl)
      rw [denote_lop]
      exact (h.mono (fun _ h => h) (fun _ => hasTy_asBool QC.N)).opRes
        ((leQ_out QC curTy v x ρ hty b hwt.1 (methTyped_left hmt)).mono (fun _ h => h) (fun _ => hasTy_asBool QC.N))
end


end out

theorem leQ_typed (QC : QCtx D) (curTy : Option Ty) (v : Val D) (x : String) (ρ : LEnv D)
    (hty : ∀ t, curTy = some t → HasTy v t) (le : LE) (hwt : wtLE curTy le = true) (hmt : MethTyped v (methsLE le))
    (w : Val D) (h : denote QC ((x, v) :: ρ) (leQ x le) = .ok w) : HasTy w (tyLE (curT curTy) le) :=
  (leQ_out QC curTy v x ρ hty le hwt hmt).1 w h

theorem leQ_fault (QC : QCtx D) (curTy : Option Ty) (v : Val D) (x : String) (ρ : LEnv D)
    (hty : ∀ t, curTy = some t → HasTy v t) (le : LE) (hwt : wtLE curTy le = true) (hmt : MethTyped v (methsLE le))
    (f : Fault) (h : denote QC ((x, v) :: ρ) (leQ x le) = .error f) : ElemFault v f :=
  (leQ_out QC curTy v x ρ hty le hwt hmt).2 f h

theorem bopQ_fault (QC : QCtx D) (curTy : Option Ty) (v : Val D) (x : String) (ρ : LEnv D)
    (hty : ∀ t, curTy = some t → HasTy v t) (op : LOp) :
    ∀ (rest : List LE), wtLEs curTy rest = true → MethTyped v (methsLEs rest) →
      ∀ (accQ : Query), (∀ f, denote QC ((x, v) :: ρ) accQ = .error f → ElemFault v f) →
        (∀ va, denote QC ((x, v) :: ρ) accQ = .ok va → ∃ b, asBool QC.N va = some b) →
        ∀ f, denote QC ((x, v) :: ρ) (bopQ x op accQ rest) = .error f → ElemFault v f
  | [], _, _, _, hf, _ => hf
  | b :: bs, hwt, hmt, accQ, hf, hv => by
    simp only [wtLEs, Bool.and_eq_true] at hwt
    refine (bopQ_out QC curTy v x ρ hty op bs hwt.2 (methTyped_right hmt) (op.q accQ (leQ x b)) .bool ?_ fun _ => rfl).2
    rw [denote_lop]
    exact Out.opRes ⟨hv, hf⟩
      ((leQ_out QC curTy v x ρ hty b hwt.1 (methTyped_left hmt)).mono (fun _ h => h) (fun _ => hasTy_asBool QC.N))

mutual
  /-- **lazy expressions** — for every `LE` (unbounded nesting of n-ary and / or, conditionals, arithmetic), in every
  state in which the fragment's declarations are done and the current-value expression evaluates to `v`: running the
  emitted statements and then evaluating the value expression yields exactly `denote (leQ x le)` when the query
  expression is defined — in particular NO fault of a skipped operand / untaken arm is raised (laziness) — and raises
  a member fault of the element when the query expression faults; only the fragment's own fresh names are touched;
  the value has the statically computed type. -/
  theorem le_sound (C : Ctx D) (QC : QCtx D) (hN : QC.N = C.N) (nm : Nat → String) (hinj : ∀ i j, nm i = nm j → i = j)
      (ptr : Bool) (cur : CExpr) (curTy : Option Ty) (v : Val D) (x : String) (ρ : LEnv D)
      (hty : ∀ t, curTy = some t → HasTy v t) :
      ∀ (le : LE) (k : Nat), wtLE curTy le = true → MethTyped v (methsLE le) →
        (∀ y ∈ vars cur, ∀ j, k ≤ j → y ≠ nm j) →
        Sound C nm (ElemFault v) (CurIs C cur v) k (compLE nm ptr cur (curT curTy) le k)
          (denote QC ((x, v) :: ρ) (leQ x le)) ∧
        (∀ w, denote QC ((x, v) :: ρ) (leQ x le) = .ok w → HasTy w (tyLE (curT curTy) le))
    | .int _, k, _, _, _ | .bool _, k, _, _, _ => by
      refine ⟨sound_pure C nm _ _ k _ _ rfl (fun σ _ => ?_), ?_⟩
      · simp [compLE, leQ, denote, evalE, Match]
      · simp [leQ, denote, tyLE, HasTy]
    | .dbl m e, k, _, _, _ => by
      refine ⟨sound_pure C nm _ _ k _ _ rfl (fun σ _ => ?_), ?_⟩
      · simp [compLE, leQ, denote, evalE, Match, hN]
      · simp [leQ, denote, tyLE, HasTy]
    | .it, k, hwt, _, _ => by
      simp only [wtLE, Option.isSome_iff_exists] at hwt
      obtain ⟨t, ht⟩ := hwt
      refine ⟨sound_pure C nm _ _ k _ _ rfl (fun σ hp => ?_), ?_⟩
      · have : evalE C.N σ cur = .ok v := hp
        simp [compLE, leQ, denote, LEnv.get, Match, this]
      · intro w hw
        simp only [leQ, denote, LEnv.get, if_true, Except.ok.injEq] at hw
        subst hw
        simpa [tyLE, curT, ht] using hty t ht
    | .meth name ty, k, _, hmt, _ => by
      refine ⟨sound_pure C nm _ _ k _ _ rfl (fun σ hp => ?_), ?_⟩
      · have hc : evalE C.N σ cur = .ok v := hp
        have : evalE C.N σ (compLE nm ptr cur (curT curTy) (.meth name ty) k).val = member v name [] := by
          simp [compLE, evalE, hc, evalEs]
        rw [this]
        simp only [leQ, denote, LEnv.get, if_true]
        exact match_refl _ _ (fun f hf => ⟨name, hf⟩)
      · intro w hw
        simp only [leQ, denote, LEnv.get, if_true] at hw
        exact hmt (name, ty) (by simp [methsLE]) w hw
    | .bin op a b, k, hwt, hmt, hfr => by
      have hT := (leQ_out QC curTy v x ρ hty (.bin op a b) hwt hmt).1
      simp only [wtLE, Bool.and_eq_true] at hwt
      obtain ⟨⟨⟨hwa, hwb⟩, hna⟩, hnb⟩ := hwt
      simp only [methsLE] at hmt
      have hka := compLE_next_ge nm ptr cur (curT curTy) a k
      have hkb := compLE_next_ge nm ptr cur (curT curTy) b (compLE nm ptr cur (curT curTy) a k).next
      have iha := le_sound C QC hN nm hinj ptr cur curTy v x ρ hty a k hwa (methTyped_left hmt) hfr
      have ihb := le_sound C QC hN nm hinj ptr cur curTy v x ρ hty b (compLE nm ptr cur (curT curTy) a k).next hwb (methTyped_right hmt)
        (fun y hy j hj => hfr y hy j (by omega))
      have hst := stable_curIs C nm cur v k hfr
      have hvf := compLE_val_fresh nm hinj ptr cur (curT curTy) a k hfr
      simp only [compLE, leQ]
      rw [denote_bin]
      refine ⟨sound_bin C nm _ _ k hst _ _ _ _ _ _ hka hkb iha.1 ihb.1 hvf ?_ ?_ ?_ ?_, hT⟩
      · intro σ f h; exact binV_err_a C.N σ op _ _ _ _ f h
      · intro σ wa f hra h1 h2; exact binV_err_b C.N σ op _ _ _ _ wa f (iha.2 wa hra) hna h1 h2
      · intro σ wa wb hra hrb h1 h2
        rw [hN]
        exact binV_ok C.N σ op _ _ _ _ wa wb (iha.2 wa hra) (ihb.2 wb hrb) hna hnb h1 h2
      · intro wa wb hra hrb
        exact pyArith_total QC.N op wa wb _ _ (iha.2 wa hra) (ihb.2 wb hrb) hna hnb
    | .cmp op a b, k, hwt, hmt, hfr => by
      have hT := (leQ_out QC curTy v x ρ hty (.cmp op a b) hwt hmt).1
      simp only [wtLE, Bool.and_eq_true] at hwt
      obtain ⟨⟨⟨hwa, hwb⟩, hna⟩, hnb⟩ := hwt
      simp only [methsLE] at hmt
      have hka := compLE_next_ge nm ptr cur (curT curTy) a k
      have hkb := compLE_next_ge nm ptr cur (curT curTy) b (compLE nm ptr cur (curT curTy) a k).next
      have iha := le_sound C QC hN nm hinj ptr cur curTy v x ρ hty a k hwa (methTyped_left hmt) hfr
      have ihb := le_sound C QC hN nm hinj ptr cur curTy v x ρ hty b (compLE nm ptr cur (curT curTy) a k).next hwb (methTyped_right hmt)
        (fun y hy j hj => hfr y hy j (by omega))
      have hst := stable_curIs C nm cur v k hfr
      have hvf := compLE_val_fresh nm hinj ptr cur (curT curTy) a k hfr
      simp only [compLE, leQ]
      rw [denote_cmp]
      refine ⟨sound_bin C nm _ _ k hst _ _ _ _ _ _ hka hkb iha.1 ihb.1 hvf ?_ ?_ ?_ ?_, hT⟩
      · intro σ f h
        rw [evalE_bin_arith _ _ _ (cop_not_logic op).1 (cop_not_logic op).2]; simp [h]
      · intro σ wa f _ h1 h2
        rw [evalE_bin_arith _ _ _ (cop_not_logic op).1 (cop_not_logic op).2]; simp [h1, h2]
      · intro σ wa wb _ _ h1 h2
        rw [evalE_bin_arith _ _ _ (cop_not_logic op).1 (cop_not_logic op).2]; simp [h1, h2, hN]
      · intro wa wb hra hrb
        exact cmp_total QC.N op wa wb _ _ (iha.2 wa hra) (ihb.2 wb hrb) hna hnb
    | .neg a, k, hwt, hmt, hfr => by
      have hT := (leQ_out QC curTy v x ρ hty (.neg a) hwt hmt).1
      simp only [wtLE, Bool.and_eq_true] at hwt
      simp only [methsLE] at hmt
      have iha := le_sound C QC hN nm hinj ptr cur curTy v x ρ hty a k hwt.1 hmt hfr
      simp only [compLE, leQ]
      rw [denote_neg]
      refine ⟨sound_un C nm _ _ k _ _ _ _ iha.1 ⟨fun σ f h => by simp [evalE, h], fun σ wa _ h => by simp [evalE, h, hN],
        fun wa hra => let ⟨w', hw', _⟩ := neg_total QC.N wa _ (iha.2 wa hra) hwt.2; ⟨w', hw'⟩⟩, hT⟩
    | .not a, k, hwt, hmt, hfr => by
      have hT := (leQ_out QC curTy v x ρ hty (.not a) hwt hmt).1
      simp only [wtLE, Bool.and_eq_true, beq_iff_eq] at hwt
      simp only [methsLE] at hmt
      have iha := le_sound C QC hN nm hinj ptr cur curTy v x ρ hty a k hwt.1 hmt hfr
      simp only [compLE, leQ]
      rw [denote_not]
      refine ⟨sound_un C nm _ _ k _ _ _ _ iha.1 ⟨fun σ f h => by simp [evalE, h], fun σ wa _ h => by simp [evalE, h, hN],
        fun wa hra => let ⟨w', hw', _⟩ := not_total QC.N wa (hwt.2 ▸ iha.2 wa hra); ⟨w', hw'⟩⟩, hT⟩
    | .bop op a rest, k, hwt, hmt, hfr => by
      have hT := (leQ_out QC curTy v x ρ hty (.bop op a rest) hwt hmt).1
      simp only [wtLE, Bool.and_eq_true, Bool.or_eq_true, Bool.not_eq_true', beq_iff_eq] at hwt
      obtain ⟨⟨hwa, hwr⟩, hne⟩ := hwt
      simp only [methsLE] at hmt
      have hka := compLE_next_ge nm ptr cur (curT curTy) a (k + 1)
      have hkr := compRest_next_ge nm ptr cur (curT curTy) (nm k) op rest (compLE nm ptr cur (curT curTy) a (k + 1)).next
      have iha := le_sound C QC hN nm hinj ptr cur curTy v x ρ hty a (k + 1) hwa (methTyped_left hmt)
        (fun y hy j hj => hfr y hy j (by omega))
      have ihr := rest_sound C QC hN nm hinj ptr cur curTy v x ρ hty rest (compLE nm ptr cur (curT curTy) a (k + 1)).next k op
        hwr (methTyped_right hmt) hfr (by omega)
      have hst := stable_curIs C nm cur v k hfr
      simp only [compLE, leQ]
      -- a chain of one operand is that operand, which is then a boolean
      have hbool : rest = [] → ∀ va, denote QC ((x, v) :: ρ) (leQ x a) = .ok va → ∃ b, va = .bool b :=
        fun hnil va hva => by
          rcases hne with h | h
          · simp [hnil] at h
          · exact hasTy_bool (h ▸ iha.2 va hva)
      refine ⟨sound_bop C nm _ _ k hst _ _ _ _ (toBoolG QC.N op) _
          (fun _ => denote QC ((x, v) :: ρ) (bopQ x op (leQ x a) rest)) _ hka hkr iha.1
          (computes_castB C hN op _ _ iha.2) (fun _ _ _ => toBoolG_bool) ?_ ?_ (fun _ _ => rfl), hT⟩
      · intro σ rows acc hacc hp hrv
        obtain ⟨wa, hra, hg⟩ := strict1_ok hacc
        obtain ⟨b0, hb0⟩ := hasTy_asBool QC.N (iha.2 wa hra)
        obtain rfl : b0 = acc := by simpa [toBoolG, hb0] using hg
        refine ihr (leQ x a) wa b0 σ rows hra hb0 (fun hnil => ?_) hp hrv
        obtain ⟨b', rfl⟩ := hbool hnil wa hra
        simpa [asBool] using hb0
      · intro e he
        exact ⟨e, bopQ_error QC _ x op e rest _ ((Out.strict1 (E := fun f => denote QC ((x, v) :: ρ) (leQ x a) = .error f)
          (Q := fun _ => True) ⟨iha.2, fun _ h => h⟩ fun wa ha => let ⟨_, h⟩ := toBoolG_total QC.N op ha; ⟨_, h, trivial⟩).2 e he)⟩
    | .ite c a b, k, hwt, hmt, hfr => by
      have hT := (leQ_out QC curTy v x ρ hty (.ite c a b) hwt hmt).1
      simp only [wtLE, Bool.and_eq_true] at hwt
      obtain ⟨⟨⟨⟨hwc, hwa⟩, hwb⟩, hfa⟩, hfb⟩ := hwt
      simp only [methsLE] at hmt
      have hkc := compLE_next_ge nm ptr cur (curT curTy) c (k + 1)
      have hka := compLE_next_ge nm ptr cur (curT curTy) a (compLE nm ptr cur (curT curTy) c (k + 1)).next
      have hkb := compLE_next_ge nm ptr cur (curT curTy) b (compLE nm ptr cur (curT curTy) a (compLE nm ptr cur (curT curTy) c (k + 1)).next).next
      have ihc := le_sound C QC hN nm hinj ptr cur curTy v x ρ hty c (k + 1) hwc (methTyped_left hmt)
        (fun y hy j hj => hfr y hy j (by omega))
      have iha := le_sound C QC hN nm hinj ptr cur curTy v x ρ hty a (compLE nm ptr cur (curT curTy) c (k + 1)).next hwa
        (methTyped_left (methTyped_right hmt)) (fun y hy j hj => hfr y hy j (by omega))
      have ihb := le_sound C QC hN nm hinj ptr cur curTy v x ρ hty b
        (compLE nm ptr cur (curT curTy) a (compLE nm ptr cur (curT curTy) c (k + 1)).next).next hwb
        (methTyped_right (methTyped_right hmt)) (fun y hy j hj => hfr y hy j (by omega))
      have hst := stable_curIs C nm cur v k hfr
      simp only [compLE, leQ]
      rw [denote_ite, hN]
      -- `sound_ite` speaks of the arms' outcomes under what the assignment to the result variable does to them
      -- (`strict1 · g`); the cast to `double` leaves a floating value alone (`computes_castD`), so `g` is the identity
      have hres : ∀ (r : Except Fault (Val D)), strict1 r (fun w => .ok w) = r := strict1_pure
      rw [← hres (denote QC ((x, v) :: ρ) (leQ x a)), ← hres (denote QC ((x, v) :: ρ) (leQ x b))]
      refine ⟨sound_ite C nm _ _ k hst "double" _ _ _ _ _ _ _ _ _ _ hkc hka hkb ihc.1 iha.1 ihb.1
          (compLE_layout nm ptr cur _ a _).decls (compLE_layout nm ptr cur _ b _).decls
          (fun vc hvc => hN ▸ hasTy_asBool QC.N (ihc.2 vc hvc))
          (computes_castD C _ hfa _ iha.2) (computes_castD C _ hfb _ ihb.2), ?_⟩
      simpa only [leQ, denote_ite, hN, hres] using hT
  /-- the guarded steps of the operands after the first, from a state in which the result
  variable `nm n0` holds the truth value `acc` of the chain so far -/
  theorem rest_sound (C : Ctx D) (QC : QCtx D) (hN : QC.N = C.N) (nm : Nat → String) (hinj : ∀ i j, nm i = nm j → i = j)
      (ptr : Bool) (cur : CExpr) (curTy : Option Ty) (v : Val D) (x : String) (ρ : LEnv D)
      (hty : ∀ t, curTy = some t → HasTy v t) :
      ∀ (rest : List LE) (k n0 : Nat) (op : LOp), wtLEs curTy rest = true → MethTyped v (methsLEs rest) →
        (∀ y ∈ vars cur, ∀ j, n0 ≤ j → y ≠ nm j) → n0 < k →
        ∀ (accQ : Query) (va : Val D) (acc : Bool) (σ : Env D) (rows : List (List (Val D))),
          denote QC ((x, v) :: ρ) accQ = .ok va → asBool QC.N va = some acc → (rest = [] → va = .bool acc) →
          CurIs C cur v σ → σ (nm n0) = some (.val (.bool acc)) →
          AgreesR C nm (ElemFault v) k (compRest nm ptr cur (curT curTy) (nm n0) op rest k).2 (nm n0)
            (compRest nm ptr cur (curT curTy) (nm n0) op rest k).1 σ rows
            (denote QC ((x, v) :: ρ) (bopQ x op accQ rest))
    | [], k, n0, op, _, _, _, _, accQ, va, acc, σ, rows, hacc, _, hnil, _, hrv => by
      simp only [compRest, bopQ]
      exact Or.inr ⟨σ, va, hacc, rfl, by rw [hnil rfl]; exact hrv, FrameR.refl nm _ _ _ σ, Mono.refl σ⟩
    | b :: bs, k, n0, op, hwt, hmt, hfr, hn0, accQ, va, acc, σ, rows, hacc, hb, _, hp, hrv => by
      simp only [wtLEs, Bool.and_eq_true] at hwt
      simp only [methsLEs] at hmt
      have hkb := compLE_next_ge nm ptr cur (curT curTy) b k
      have hkr := compRest_next_ge nm ptr cur (curT curTy) (nm n0) op bs (compLE nm ptr cur (curT curTy) b k).next
      have ihb := le_sound C QC hN nm hinj ptr cur curTy v x ρ hty b k hwt.1 (methTyped_left hmt)
        (fun y hy j hj => hfr y hy j (by omega))
      have ihr := rest_sound C QC hN nm hinj ptr cur curTy v x ρ hty bs (compLE nm ptr cur (curT curTy) b k).next n0 op
        hwt.2 (methTyped_right hmt) hfr (by omega)
      have hst0 := stable_curIs C nm cur v n0 hfr
      -- the guarded step leaves in `nm n0` what the query's `accQ op b` denotes
      have hstep := guard_step C nm (ElemFault v) (CurIs C cur v) k n0 hst0 hn0 op (compLE nm ptr cur (curT curTy) b k)
        (castIf (tyLE (curT curTy) b != .bool) "bool" (compLE nm ptr cur (curT curTy) b k).val) (toBoolG QC.N op)
        (denote QC ((x, v) :: ρ) (leQ x b)) acc (compLE_layout nm ptr cur _ b _).decls
        (fun _ => ⟨ihb.1, computes_castB C hN op _ _ ihb.2⟩) σ rows hp hrv
      rw [← denote_opq QC ((x, v) :: ρ) op accQ (leQ x b) va acc hacc hb, AgreesR, execs_single] at hstep
      simp only [compRest, bopQ]
      rcases hstep with ⟨⟨e, he⟩, f, hex, hef⟩ | ⟨σ', w, hw, hex, hrv', hfr', hmo'⟩
      · exact Or.inl ⟨⟨e, bopQ_error QC _ x op e bs _ he⟩, f, by simp only [execs, hex], hef⟩
      · obtain ⟨acc', rfl⟩ := denote_opq_bool QC _ op accQ _ w hw
        exact agreesR_of_exec_eq C nm _ (execs_cons_ok C _ hex) hfr' hmo'
          (ihr (op.q accQ (leQ x b)) (.bool acc') acc' σ' rows hw (by simp [asBool]) (fun _ => rfl)
            (hst0.frameR (by omega) (Nat.le_refl n0) hp hfr') hrv')
          (Nat.le_refl _) hkr hkb (Nat.le_refl _)
end

def runFrag (C : Ctx D) (F : CondFrag) (s : St D) : Except Fault (Val D) :=
  match execs C F.stmts s with
  | .error f => .error f
  | .ok s' => evalE C.N s'.env F.val

theorem Agrees.runFrag {C : Ctx D} {nm : Nat → String} {EF : Fault → Prop} {n : Nat} {F : CondFrag} {σ : Env D}
    {rows : List (List (Val D))} {res : Except Fault (Val D)} (h : Agrees C nm EF n F σ rows res) :
    Match EF (runFrag C F ⟨σ, rows⟩) res := by
  rcases h with ⟨⟨e, rfl⟩, f, hex, hef⟩ | ⟨σ', hex, _, _, hm⟩
  · exact ⟨f, by simp [Gen.runFrag, hex], hef⟩
  · simpa [Gen.runFrag, hex] using hm

section plain
variable (C : Ctx D) (QC : QCtx D) (hN : QC.N = C.N) (nm : Nat → String) (hinj : ∀ i j, nm i = nm j → i = j)
  (ptr : Bool) (cur : CExpr) (curTy : Option Ty) (v : Val D) (x : String) (ρ : LEnv D)
  (hty : ∀ t, curTy = some t → HasTy v t)
  (le : LE) (k : Nat) (hwt : wtLE curTy le = true) (hmt : MethTyped v (methsLE le))
  (hfr : ∀ y ∈ vars cur, ∀ j, k ≤ j → y ≠ nm j)
include hN hinj hty hwt hmt hfr

theorem le_correct (σ : Env D) (rows : List (List (Val D))) (hcur : evalE C.N σ cur = .ok v)
    (hdecl : Declared σ (compLE nm ptr cur (curT curTy) le k).decls)
    (w : Val D) (hden : denote QC ((x, v) :: ρ) (leQ x le) = .ok w) :
    ∃ σ', execs C (compLE nm ptr cur (curT curTy) le k).stmts ⟨σ, rows⟩ = .ok ⟨σ', rows⟩ ∧
      evalE C.N σ' (compLE nm ptr cur (curT curTy) le k).val = .ok w ∧
      (∀ y, ¬ InRange nm k (compLE nm ptr cur (curT curTy) le k).next y → σ' y = σ y) ∧
      HasTy w (tyLE (curT curTy) le) := by
  have h := le_sound C QC hN nm hinj ptr cur curTy v x ρ hty le k hwt hmt hfr
  have ha := h.1 σ rows hcur hdecl
  rw [hden] at ha
  obtain ⟨σ', hex, hfr', _, hv⟩ := agrees_ok C nm _ ha
  exact ⟨σ', hex, hv, hfr', h.2 w hden⟩

/-- the whole block level: declarations first (hoisted), then the statements — from ANY state in
which the current value is available -/
theorem le_block_correct (σ : Env D) (rows : List (List (Val D))) (hcur : evalE C.N σ cur = .ok v)
    (w : Val D) (hden : denote QC ((x, v) :: ρ) (leQ x le) = .ok w) :
    ∃ σ', execs C ((compLE nm ptr cur (curT curTy) le k).decls ++ (compLE nm ptr cur (curT curTy) le k).stmts) ⟨σ, rows⟩ =
        .ok ⟨σ', rows⟩ ∧
      evalE C.N σ' (compLE nm ptr cur (curT curTy) le k).val = .ok w ∧
      (∀ y, ¬ InRange nm k (compLE nm ptr cur (curT curTy) le k).next y → σ' y = σ y) := by
  have h := le_sound C QC hN nm hinj ptr cur curTy v x ρ hty le k hwt hmt hfr
  obtain ⟨σ', hex, hfr', _, hv⟩ := sound_block C nm _ (stable_curIs C nm cur v k hfr) _ w (hden ▸ h.1)
    (compLE_layout nm ptr cur _ le k).decls σ rows hcur
  exact ⟨σ', hex, hv, hfr'⟩

end plain

/-- once an and / or chain is decided (`and`: false, `or`: true) it denotes that truth value whatever
the remaining operands denote — values or faults -/
theorem bopQ_decided (QC : QCtx D) (ρ : LEnv D) (x : String) (op : LOp) (acc : Bool) (hruns : op.runs acc = false) :
    ∀ (rest : List LE) (accQ : Query) (va : Val D), denote QC ρ accQ = .ok va → asBool QC.N va = some acc →
      (rest = [] → va = .bool acc) → denote QC ρ (bopQ x op accQ rest) = .ok (.bool acc)
  | [], accQ, va, h, _, hnil => by simp only [bopQ, h, hnil rfl]
  | b :: bs, accQ, va, h, hb, _ => by
    simp only [bopQ]
    refine bopQ_decided QC ρ x op acc hruns bs _ (.bool acc) ?_ (by simp [asBool]) (fun _ => rfl)
    rw [denote_opq QC ρ op accQ _ va acc h hb, hruns]
    simp

theorem bop_decided (QC : QCtx D) (ρ : LEnv D) (x : String) (op : LOp) (a b : LE) (rest : List LE) (va : Val D) (acc : Bool)
    (ha : denote QC ρ (leQ x a) = .ok va) (hb : asBool QC.N va = some acc) (hruns : op.runs acc = false) :
    denote QC ρ (leQ x (.bop op a (b :: rest))) = .ok (.bool acc) := by
  simp only [leQ]
  exact bopQ_decided QC ρ x op acc hruns (b :: rest) _ va ha hb (fun h => by simp at h)

end FaxVerif.Gen
