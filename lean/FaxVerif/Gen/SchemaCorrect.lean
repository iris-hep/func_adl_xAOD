/-
Gen — the schema predicate `C03.SchemaOk` holds of what the translator model emits (lemmas; the property
theorems are in `C03/TheoremsGen.lean`).

The general lemma `Books.schemaOk` (a package that books the names with the types (`Gen.Books`), whose token members are
generated local names, whose body writes every column variable and fills exactly the booked tree satisfies all eight
conjuncts of `SchemaOk`), its forms for ANY event-level package of column fragments (`schemaOk_eventPackage`: pointwise
facts about the fragments; `schemaOk_pushPackage` for vector columns) and for a package over one chain's loop
(`Books.schemaOk_chain`: facts about the row continuation), and `writes` / `fills` of the code `Gen.compile` emits (one-loop fragment, both query shapes).

`compileL` (element-level rows with lazy `and` / `or` / conditional columns and `Where`s): the lowered statements of
the lazy operators write only their own result variables (generated local names) and never fill; the row continuation
assigns every branch variable and fills once.

`compileN` (nested iteration: inner aggregates, 2-D columns, element-level rows over aggregates): inner loops,
accumulators and the per-element storage vectors write only generated local names and never fill; an event-level
column is cleared after the fill and pushed inside its loop.
-/
import FaxVerif.C03.Theorems
import FaxVerif.Gen.NestedRowsCorrect
import FaxVerif.Gen.LazyElemRowsCorrect
namespace FaxVerif.Gen
open FaxVerif.Cpp FaxVerif.Linq FaxVerif.C03

theorem writesL_append : ∀ (a b : List Stmt), writesL (a ++ b) = writesL a ++ writesL b
  | [], b => by simp [writesL]
  | s :: a, b => by simp [writesL, writesL_append a b]

theorem fillsL_append : ∀ (a b : List Stmt), fillsL (a ++ b) = fillsL a ++ fillsL b
  | [], b => by simp [fillsL]
  | s :: a, b => by simp [fillsL, fillsL_append a b]

theorem lookupTy_skip : ∀ (a b : List (String × String)) (v : String), v ∉ a.map (·.2) →
    lookupTy (a ++ b) v = lookupTy b v
  | [], _, _, _ => rfl
  | (t, n) :: a, b, v, h => by
    simp only [List.map_cons, List.mem_cons, not_or] at h
    have hne : ¬ n = v := fun e => h.1 e.symm
    simp only [List.cons_append, lookupTy, hne, if_false]
    exact lookupTy_skip a b v h.2

theorem lookupTy_zip : ∀ (ts vs : List String), vs.Nodup → ts.length = vs.length →
    vs.map (lookupTy (ts.zip vs)) = ts.map some
  | [], [], _, _ => rfl
  | t :: ts, v :: vs, hnd, hl => by
    simp only [List.nodup_cons] at hnd
    simp only [List.zip_cons_cons, List.map_cons, lookupTy, if_true]
    congr 1
    rw [← lookupTy_zip ts vs hnd.2 (by simpa using hl)]
    exact List.map_congr_left fun w hw => by simp [show ¬ v = w from fun e => hnd.1 (e ▸ hw)]
  | [], _ :: _, _, hl | _ :: _, [], _, hl => by simp at hl

/-- a package that books `names` with `types`, whose token members are generated local names and whose body writes
every column variable and fills exactly the booked tree, satisfies all eight conjuncts of `SchemaOk` -/
theorem Books.schemaOk {P : Package} {cn : Nat → String} {names types : List String} (hb : Books P cn names types)
    (nm : Nat → String) (fillArg : String) (hinj : ∀ i j, cn i = cn j → i = j)
    (htok : ∀ t ∈ P.tokens, ∃ j, t.1 = nm j) (hdisj : ∀ j k, nm j ≠ cn k)
    (hw : ∀ v ∈ colNames cn names.length 0, v ∈ writes P.body)
    (hf : fills P.body = [fillArg]) : SchemaOk P names types fillArg = true := by
  have hnd := colNames_nodup cn hinj names.length 0
  have hnot : ∀ v ∈ colNames cn names.length 0, v ∉ P.tokens.map (·.1) := fun _ => token_ne_col hdisj htok
  unfold SchemaOk
  simp only [Bool.and_eq_true, beq_iff_eq, decide_eq_true_eq, List.all_eq_true, Bool.or_eq_true,
    List.contains_iff_mem, Bool.not_eq_eq_eq_not, Bool.not_true, List.isEmpty_eq_false_iff]
  refine ⟨⟨⟨⟨⟨⟨⟨hb.names_eq, hb.own_storage hinj⟩, ?_⟩, ?_⟩, ?_⟩, ?_⟩, by simp [hf]⟩, by simp [hf]⟩
  · calc P.branches.map (fun b => lookupTy P.classVars b.2)
        = (colNames cn names.length 0).map (lookupTy P.classVars) := by rw [← hb.vars_eq, List.map_map]; rfl
      _ = (colNames cn names.length 0).map (lookupTy (types.zip (colNames cn names.length 0))) :=
          List.map_congr_left fun v hv => by
            rw [hb.classVars]; exact lookupTy_skip _ _ _ (by rw [List.map_map]; exact hnot v hv)
      _ = types.map some := lookupTy_zip types _ hnd (by simp [colNames_length, hb.len])
  · rw [hb.vars_eq, hb.classNames, List.filter_append, List.filter_eq_nil_iff.2 fun a ha hc =>
      hnot a (List.contains_iff_mem.1 hc) ha, List.nil_append]
    exact hnd.sublist List.filter_sublist
  · exact fun b hb' => hw _ (hb.vars_eq ▸ List.mem_map.2 ⟨b, hb', rfl⟩)
  · intro w _
    by_cases hc : w ∈ P.classVars.map (·.2)
    · rw [hb.classNames, List.mem_append] at hc
      exact hc.elim .inr fun hc => .inl (.inr (hb.vars_eq ▸ hc))
    · exact .inl (.inl (by simpa using hc))

theorem fillsL_flatMap {α : Type} (g : α → List Stmt) : ∀ l : List α, (∀ a ∈ l, fillsL (g a) = []) → fillsL (l.flatMap g) = []
  | [], _ => rfl
  | a :: l, h => by
    rw [List.flatMap_cons, fillsL_append, h a (List.mem_cons_self ..), fillsL_flatMap g l fun b hb => h b (List.mem_cons_of_mem _ hb)]; rfl

theorem mem_writesL_flatMap {α : Type} (g : α → List Stmt) {v : String} : ∀ {l : List α} {a : α}, a ∈ l → v ∈ writesL (g a) →
    v ∈ writesL (l.flatMap g)
  | b :: l, a, ha, hv => by
    rw [List.flatMap_cons, writesL_append, List.mem_append]
    rcases List.mem_cons.1 ha with rfl | ha
    · exact Or.inl hv
    · exact Or.inr (mem_writesL_flatMap g ha hv)

theorem schemaOk_eventPackage (B : Backend) (nm cn : Nat → String) (hcinj : ∀ i j, cn i = cn j → i = j) (hdisj : ∀ j k, nm j ≠ cn k)
    (names types : List String) (toks : List (String × String × String)) {β : Type} {S : Nat → Nat → ColFrag → β → Prop}
    {fs : List ColFrag} {bs : List β} (h : Cols S 0 0 fs bs) (hS : ∀ i m f b, S i m f b → ColVar nm cn i m f)
    (hlen : names.length = fs.length) (htok : ∀ t ∈ toks, ∃ j, t.1 = nm j) (htys : fs.map (·.classVar.1) = types)
    (hfw : ∀ f ∈ fs, fillsL f.decls = [] ∧ fillsL f.stmts = [] ∧ fillsL f.sets = [] ∧ fillsL f.clears = [] ∧
      f.classVar.2 ∈ writesL f.stmts ++ writesL f.sets ++ writesL f.clears) :
    SchemaOk (eventPackage B names toks fs) names types (B.fillTree B.treeName) = true := by
  refine (htys ▸ eventPackage_books B names toks h hS hlen).schemaOk nm _ hcinj htok hdisj ?_ ?_
  · intro v hv
    rw [hlen, ← h.vars hS] at hv
    obtain ⟨f, hf, rfl⟩ := List.mem_map.1 hv
    have hw := (hfw f hf).2.2.2.2
    simp only [List.mem_append] at hw
    simp only [eventPackage, writes, writesL_append, List.mem_append]
    rcases hw with (hw | hw) | hw
    · exact .inl (.inl (.inl (.inr (mem_writesL_flatMap _ hf hw))))
    · exact .inl (.inl (.inr (mem_writesL_flatMap _ hf hw)))
    · exact .inr (mem_writesL_flatMap _ hf hw)
  · simp only [eventPackage, fills, fillsL_append, fillsL_flatMap _ fs fun f hf => (hfw f hf).1,
      fillsL_flatMap _ fs fun f hf => (hfw f hf).2.1, fillsL_flatMap _ fs fun f hf => (hfw f hf).2.2.1,
      fillsL_flatMap _ fs fun f hf => (hfw f hf).2.2.2.1]
    rfl

theorem andLower_fills (nm : Nat → String) : ∀ (cs : List CExpr) (n : Nat),
    fillsL (andLower nm cs n).decls = [] ∧ fillsL (andLower nm cs n).stmts = []
  | [], n => by simp [andLower, fillsL]
  | [c], n => by simp [andLower, fillsL]
  | c :: c2 :: rest, n => by
    have ih := andLower_fills nm (c2 :: rest) (n + 1)
    simp [andLower, fillsL, fills, fillsL_append, ih]

theorem chainBodyT_fills (nm : Nat → String) (ptr : Bool) (it : CExpr) (curTy : Option Ty) (steps : List Step) (n : Nat)
    (k : CExpr → Option Ty → List Stmt) :
    fillsL (chainBodyT nm ptr it curTy steps n k).1 =
      fillsL (k (stepConds ptr it curTy steps).2.1 (stepConds ptr it curTy steps).2.2) := by
  unfold chainBodyT
  cases h : (stepConds ptr it curTy steps).1 with
  | nil => simp [h]
  | cons c cs =>
    simp only [h]
    obtain ⟨h1, h2⟩ := andLower_fills nm (c :: cs).reverse n
    simp only [fillsL_append, h1, h2, fillsL, fills, List.nil_append, List.append_nil]

theorem chainBodyT_writes (nm : Nat → String) (ptr : Bool) (it : CExpr) (curTy : Option Ty) (steps : List Step) (n : Nat)
    (k : CExpr → Option Ty → List Stmt) (v : String)
    (hv : v ∈ writesL (k (stepConds ptr it curTy steps).2.1 (stepConds ptr it curTy steps).2.2)) :
    v ∈ writesL (chainBodyT nm ptr it curTy steps n k).1 := by
  unfold chainBodyT
  cases h : (stepConds ptr it curTy steps).1 with
  | nil => simpa [h] using hv
  | cons c cs =>
    simp only [h]
    simp only [writesL_append, writesL, writes, List.mem_append, List.append_nil]
    exact .inr hv

theorem compChain_fills (B : Backend) (nm : Nat → String) (c : Chain) (n : Nat) (k : CExpr → Option Ty → List Stmt) :
    fillsL (compChain B nm c n k).decls = [] ∧
    fillsL (compChain B nm c n k).stmts = fillsL (k (chainVal B nm c n).1 (chainVal B nm c n).2) := by
  have h := chainBodyT_fills nm B.elemPtr (.var (nm (n + 1))) none c.steps (n + 3) k
  rw [chainBodyT_none] at h
  simp [compChain, fillsL, fills, h, chainVal]

theorem compChain_fills_block (B : Backend) (nm : Nat → String) (c : Chain) (n : Nat) (k : CExpr → Option Ty → List Stmt) :
    fillsL ((compChain B nm c n k).decls ++ (compChain B nm c n k).stmts) = fillsL (k (chainVal B nm c n).1 (chainVal B nm c n).2) := by
  rw [fillsL_append, (compChain_fills B nm c n k).1, (compChain_fills B nm c n k).2]; rfl

theorem compChain_writes (B : Backend) (nm : Nat → String) (c : Chain) (n : Nat) (k : CExpr → Option Ty → List Stmt)
    (v : String) (hv : v ∈ writesL (k (chainVal B nm c n).1 (chainVal B nm c n).2)) :
    v ∈ writesL (compChain B nm c n k).stmts := by
  have h := chainBodyT_writes nm B.elemPtr (.var (nm (n + 1))) none c.steps (n + 3) k v hv
  rw [chainBodyT_none] at h
  simp only [compChain, writesL, writes, List.mem_append, List.append_nil]
  exact .inr h

/-- `Books.schemaOk` for an element-level package, whose body is one chain's retrieval and loop: at the chain's value
the row continuation `K` writes every column variable and fills exactly the booked tree -/
theorem Books.schemaOk_chain {P : Package} {cn : Nat → String} {names types : List String} (hb : Books P cn names types)
    (B : Backend) (nm : Nat → String) (hcinj : ∀ i j, cn i = cn j → i = j) (htok : ∀ t ∈ P.tokens, ∃ j, t.1 = nm j)
    (hdisj : ∀ j k, nm j ≠ cn k) (c : Chain) (K : CExpr → Option Ty → List Stmt)
    (hbody : P.body = .block ((compChain B nm c 0 K).decls ++ (compChain B nm c 0 K).stmts))
    (hw : ∀ v ∈ colNames cn names.length 0, v ∈ writesL (K (chainVal B nm c 0).1 (chainVal B nm c 0).2))
    (hf : fillsL (K (chainVal B nm c 0).1 (chainVal B nm c 0).2) = [B.fillTree B.treeName]) :
    SchemaOk P names types (B.fillTree B.treeName) = true := by
  refine hb.schemaOk nm _ hcinj htok hdisj (fun v hv => ?_) (by rw [hbody]; exact (compChain_fills_block B nm c 0 K).trans hf)
  rw [hbody]; simp only [writes, writesL_append, List.mem_append]
  exact .inr (compChain_writes B nm c 0 K v (hw v hv))

theorem compEE_fills (B : Backend) (nm : Nat → String) (e : EE) : ∀ n,
    fillsL (compEE B nm e n).decls = [] ∧ fillsL (compEE B nm e n).stmts = [] := by
  induction e <;> intro n <;> simp_all [compEE, fillsL_append, fillsL, fills, compChain_fills]

theorem compCol_fills (B : Backend) (nm cn : Nat → String) (idx : Nat) (col : Col) (n : Nat) :
    fillsL (compCol B nm cn idx col n).decls = [] ∧ fillsL (compCol B nm cn idx col n).stmts = [] ∧
    fillsL (compCol B nm cn idx col n).sets = [] ∧ fillsL (compCol B nm cn idx col n).clears = [] := by
  cases col with
  | scalar e =>
    have h := compEE_fills B nm e n
    simp [compCol, h, fillsL, fills]
  | seq c =>
    have h := compChain_fills B nm c n (fun cur _ => [.push (cn idx) cur])
    simp [compCol, h, fillsL, fills]
  | first c =>
    have h := compChain_fills B nm c (n + 1)
      (fun cur _ => [.ite (.var (nm n)) [.set (nm n) (.bool false), .set (cn idx) cur] []])
    simp [compCol, h, fillsL, fills, fillsL_append]

/-- every column writes its own class-level variable: the scalar assignment, the vector's clear,
the guarded capture of `First()` inside the loop -/
theorem compCol_writes (B : Backend) (nm cn : Nat → String) (idx : Nat) (col : Col) (n : Nat) :
    cn idx ∈ writesL (compCol B nm cn idx col n).stmts ++ writesL (compCol B nm cn idx col n).sets ++
      writesL (compCol B nm cn idx col n).clears := by
  cases col with
  | scalar e => simp [compCol, writesL, writes]
  | seq c => simp [compCol, writesL, writes]
  | first c =>
    have h := compChain_writes B nm c (n + 1)
      (fun cur _ => [.ite (.var (nm n)) [.set (nm n) (.bool false), .set (cn idx) cur] []]) (cn idx)
      (by simp [writesL, writes])
    simp only [compCol, writesL_append, List.mem_append]
    exact .inl (.inl (.inl h))

theorem setCols_fills (cn : Nat → String) (ptr : Bool) (cur : CExpr) (ty : Option Ty) : ∀ (pes : List PE) (idx : Nat),
    fillsL (setCols cn ptr cur ty pes idx) = []
  | [], _ => rfl
  | pe :: rest, idx => by simp [setCols, fillsL, fills, setCols_fills cn ptr cur ty rest (idx + 1)]

theorem setCols_writes (cn : Nat → String) (ptr : Bool) (cur : CExpr) (ty : Option Ty) : ∀ (pes : List PE) (idx : Nat),
    writesL (setCols cn ptr cur ty pes idx) = colNames cn pes.length idx
  | [], _ => rfl
  | pe :: rest, idx => by simp [setCols, writesL, writes, colNames, setCols_writes cn ptr cur ty rest (idx + 1)]

theorem schemaOk_compile_eventRows (B : Backend) (nm cn : Nat → String)
    (hcinj : ∀ i j, cn i = cn j → i = j) (hdisj : ∀ j k, nm j ≠ cn k) (cols : List (String × Col)) :
    SchemaOk (compile B nm cn (.eventRows cols)) (cols.map (·.1)) (FQ.types (.eventRows cols)) (B.fillTree B.treeName) = true := by
  have hg := compCols_graph B nm cn (cols.map (·.2)) 0 0
  rw [compile_eventRows]
  refine schemaOk_eventPackage B nm cn hcinj hdisj _ _ _ hg (fun i m f c h => h ▸ compCol_colVar B nm cn i c m)
    (by rw [hg.length]; simp) (tokens_names_eventRows B nm cn cols) ?_ fun f hf => ?_
  · rw [compCols_types]; simp [FQ.types, List.map_map]
  · obtain ⟨i, m, c, _, _, _, rfl⟩ := hg.mem hf
    obtain ⟨h1, h2, h3, h4⟩ := compCol_fills B nm cn i c m
    exact ⟨h1, h2, h3, h4, (compCol_colVar B nm cn i c m).var ▸ compCol_writes B nm cn i c m⟩

theorem schemaOk_compile_elemRows (B : Backend) (nm cn : Nat → String)
    (hcinj : ∀ i j, cn i = cn j → i = j) (hdisj : ∀ j k, nm j ≠ cn k) (c : Chain) (cols : List (String × PE)) :
    SchemaOk (compile B nm cn (.elemRows c cols)) (cols.map (·.1)) (FQ.types (.elemRows c cols)) (B.fillTree B.treeName) = true :=
  (C03.compile_books B nm cn (.elemRows c cols)).schemaOk_chain B nm hcinj
    (tokens_names_elemRows B nm cn c cols) hdisj c _ rfl
    (fun v hv => by simp only [writesL_append, List.mem_append, setCols_writes]; exact .inl (by simpa [FQ.names] using hv))
    (by simp [fillsL_append, setCols_fills, fillsL, fills])

mutual
  theorem compLE_fills (nm : Nat → String) (ptr : Bool) (cur : CExpr) (curTy : Ty) : ∀ (le : LE) (k : Nat),
      fillsL (compLE nm ptr cur curTy le k).decls = [] ∧ fillsL (compLE nm ptr cur curTy le k).stmts = []
    | .int _, _ | .dbl _ _, _ | .bool _, _ | .it, _ | .meth _ _, _ => by simp [compLE, fillsL]
    | .bin _ a b, k | .cmp _ a b, k => by
      have ha := compLE_fills nm ptr cur curTy a k
      have hb := compLE_fills nm ptr cur curTy b (compLE nm ptr cur curTy a k).next
      simp [compLE, fillsL_append, ha, hb]
    | .neg a, k | .not a, k => by simpa [compLE] using compLE_fills nm ptr cur curTy a k
    | .bop op a rest, k => by
      have ha := compLE_fills nm ptr cur curTy a (k + 1)
      have hr := compRest_fills nm ptr cur curTy (nm k) op rest (compLE nm ptr cur curTy a (k + 1)).next
      simp [compLE, fillsL_append, fillsL, fills, ha, hr]
    | .ite c x y, k => by
      have hc := compLE_fills nm ptr cur curTy c (k + 1)
      have hx := compLE_fills nm ptr cur curTy x (compLE nm ptr cur curTy c (k + 1)).next
      have hy := compLE_fills nm ptr cur curTy y (compLE nm ptr cur curTy x (compLE nm ptr cur curTy c (k + 1)).next).next
      simp [compLE, fillsL_append, fillsL, fills, hc, hx, hy]
  theorem compRest_fills (nm : Nat → String) (ptr : Bool) (cur : CExpr) (curTy : Ty) (r : String) (op : LOp) :
      ∀ (rest : List LE) (k : Nat), fillsL (compRest nm ptr cur curTy r op rest k).1 = []
    | [], _ => by simp [compRest, fillsL]
    | b :: bs, k => by
      have hb := compLE_fills nm ptr cur curTy b k
      have hr := compRest_fills nm ptr cur curTy r op bs (compLE nm ptr cur curTy b k).next
      simp [compRest, fillsL_append, fillsL, fills, hb, hr]
end

theorem compCond_fills (nm : Nat → String) (c : CondL) (n : Nat) :
    fillsL (compCond nm c n).decls = [] ∧ fillsL (compCond nm c n).stmts = [] :=
  compLE_fills nm c.ptr c.cur c.ty c.c n

theorem andLowerL_fills (nm : Nat → String) : ∀ (cs : List CondL) (n : Nat),
    fillsL (andLowerL nm cs n).1.decls = [] ∧ fillsL (andLowerL nm cs n).1.stmts = []
  | [], n => by simp [andLowerL, fillsL]
  | [c], n => by simpa [andLowerL] using compCond_fills nm c n
  | c :: c2 :: rest, n => by
    have ih := andLowerL_fills nm (c2 :: rest) (n + 1)
    have hc := compCond_fills nm c (andLowerL nm (c2 :: rest) (n + 1)).1.next
    simp [andLowerL, fillsL, fills, fillsL_append, ih, hc]

theorem bodyL_fills (nm : Nat → String) (ptr : Bool) (it : CExpr) (steps : List StepL) (n : Nat)
    (k : CExpr → Option Ty → Nat → List Stmt × Nat) (F : List String)
    (hk : ∀ m, fillsL (k (stepCondsL ptr it none steps).2.1 (stepCondsL ptr it none steps).2.2 m).1 = F) :
    fillsL (bodyL nm ptr it steps n k).1 = F := by
  unfold bodyL
  cases h : (stepCondsL ptr it none steps).1 with
  | nil => simp only [h]; exact hk n
  | cons c cs =>
    simp only [h]
    obtain ⟨h1, h2⟩ := andLowerL_fills nm (c :: cs).reverse n
    simp only [fillsL_append, h1, h2, fillsL, fills, List.nil_append, List.append_nil, hk]

theorem bodyL_writes (nm : Nat → String) (ptr : Bool) (it : CExpr) (steps : List StepL) (n : Nat)
    (k : CExpr → Option Ty → Nat → List Stmt × Nat) (v : String)
    (hk : ∀ m, v ∈ writesL (k (stepCondsL ptr it none steps).2.1 (stepCondsL ptr it none steps).2.2 m).1) :
    v ∈ writesL (bodyL nm ptr it steps n k).1 := by
  unfold bodyL
  cases h : (stepCondsL ptr it none steps).1 with
  | nil => simp only [h]; exact hk n
  | cons c cs =>
    simp only [h]
    simp only [writesL_append, writesL, writes, List.mem_append, List.append_nil]
    exact .inr (hk _)

theorem compColsL_fills (nm : Nat → String) (ptr : Bool) (cur : CExpr) (curTy : Ty) (les : List LE) : ∀ n,
    fillsL (compColsL nm ptr cur curTy les n).decls = [] ∧ fillsL (compColsL nm ptr cur curTy les n).stmts = [] := by
  induction les <;> intro n <;> simp_all [compColsL, fillsL_append, fillsL, compLE_fills]

theorem setsOf_fills (cn : Nat → String) : ∀ (es : List CExpr) (idx : Nat), fillsL (setsOf cn es idx) = []
  | [], _ => rfl
  | e :: es, idx => by simp [setsOf, fillsL, fills, setsOf_fills cn es (idx + 1)]

theorem setsOf_writes (cn : Nat → String) : ∀ (es : List CExpr) (idx : Nat), writesL (setsOf cn es idx) = colNames cn es.length idx
  | [], _ => rfl
  | e :: es, idx => by simp [setsOf, writesL, writes, colNames, setsOf_writes cn es (idx + 1)]

theorem rowK_fills (B : Backend) (nm cn : Nat → String) (les : List LE) (cur : CExpr) (ty : Option Ty) (m : Nat) :
    fillsL (rowK B nm cn les cur ty m).1 = [B.fillTree B.treeName] := by
  have h := compColsL_fills nm (B.elemPtr && ty.isNone) cur (ty.getD .double) les m
  simp [rowK, fillsL_append, h, setsOf_fills, fillsL, fills]

theorem rowK_writes (B : Backend) (nm cn : Nat → String) (les : List LE) (cur : CExpr) (ty : Option Ty) (m : Nat)
    (v : String) (hv : v ∈ colNames cn les.length 0) : v ∈ writesL (rowK B nm cn les cur ty m).1 := by
  simp only [rowK, writesL_append, List.mem_append, setsOf_writes, compColsL_vals_length]
  exact .inl (.inr hv)

def FQL.types : FQL → List String
  | .elemRows c cols => cols.map fun p => (tyLE ((chainTyL none c.steps).getD .double) p.2).cpp

def FQL.names : FQL → List String
  | .elemRows _ cols => cols.map (·.1)

theorem colVarsL_types (cn : Nat → String) (t : Option Ty) : ∀ (les : List LE) (idx : Nat),
    (colVarsL cn t les idx).map (·.1) = les.map fun le => (tyLE (t.getD .double) le).cpp
  | [], _ => rfl
  | le :: rest, idx => by simp [colVarsL, colVarsL_types cn t rest (idx + 1)]

theorem tokens_names_elemRowsL (B : Backend) (nm cn : Nat → String) (c : ChainL) (cols : List (String × LE)) :
    ∀ t ∈ (compileL B nm cn (.elemRows c cols)).tokens, ∃ j, t.1 = nm j :=
  rowPackageF_tokens_names B nm _ _ c.header 0 _ rfl _

theorem schemaOk_compileL (B : Backend) (nm cn : Nat → String)
    (hcinj : ∀ i j, cn i = cn j → i = j) (hdisj : ∀ j k, nm j ≠ cn k) (fq : FQL) :
    SchemaOk (compileL B nm cn fq) (FQL.names fq) (FQL.types fq) (B.fillTree B.treeName) = true := by
  obtain ⟨c, cols⟩ := fq
  exact (Books.of_cvs (colVarsL cn (chainTyL none c.steps) (cols.map (·.2)) 0) rfl rfl
    (by rw [colVarsL_names]; simp [FQL.names]) (by rw [colVarsL_types]; simp [FQL.types, List.map_map])).schemaOk_chain B nm hcinj
    (tokens_names_elemRowsL B nm cn c cols) hdisj c.header _ rfl
    (fun v hv => bodyL_writes nm B.elemPtr _ c.steps _ _ v fun m =>
      rowK_writes B nm cn _ _ _ m v (by simpa [FQL.names] using hv))
    (bodyL_fills nm B.elemPtr _ c.steps _ _ _ fun m => rowK_fills B nm cn _ _ _ m)

theorem innerLoop_fills (nm : Nat → String) (cur : CExpr) (ptr : Bool) (ic : IChain) (n : Nat)
    (k : CExpr → Option Ty → List Stmt) (hk : ∀ w t, fillsL (k w t) = []) :
    fillsL (innerLoop nm cur ptr ic n k).1 = [] := by
  have h := chainBodyT_fills nm false (innerVar nm n) ic.elem ic.steps (n + 1) k
  simp [innerLoop, fillsL, fills, h, hk]

theorem compNE_fills (nm : Nat → String) (ptr : Bool) (cur : CExpr) (e : NE) : ∀ n,
    fillsL (compNE nm ptr cur e n).decls = [] ∧ fillsL (compNE nm ptr cur e n).stmts = [] := by
  induction e <;> intro n <;> simp_all [compNE, fillsL_append, fillsL, fills, innerLoop_fills, countK, sumK]

theorem compNEs_fills (nm : Nat → String) (ptr : Bool) (cur : CExpr) (es : List NE) : ∀ n,
    fillsL (compNEs nm ptr cur es n).decls = [] ∧ fillsL (compNEs nm ptr cur es n).stmts = [] := by
  induction es <;> intro n <;> simp_all [compNEs, fillsL_append, fillsL, compNE_fills]

theorem aggK_fills (B : Backend) (nm : Nat → String) (v : String) (e : NE) (cur : CExpr) (ty : Option Ty) (m : Nat) :
    fillsL (aggK B nm v e cur ty m).1 = [] := by
  have h := compNE_fills nm (B.elemPtr && ty.isNone) cur e m
  simp [aggK, fillsL_append, h, fillsL, fills]

theorem twoDK_fills (B : Backend) (nm : Nat → String) (v : String) (ic : IChain) (cur : CExpr) (ty : Option Ty) (m : Nat) :
    fillsL (twoDK B nm v ic cur ty m).1 = [] := by
  unfold twoDK
  split
  · simp [fillsL, fills]
  · have h := innerLoop_fills nm cur (B.elemPtr && ty.isNone) ic (m + 1) (pushK (nm m)) (fun _ _ => by simp [pushK, fillsL, fills])
    simp [fillsL, fills, fillsL_append, h]

theorem NCol.kn_fills (B : Backend) (nm : Nat → String) (v : String) (col : NCol) (cur : CExpr) (ty : Option Ty) (m : Nat) :
    fillsL (col.kn B nm v cur ty m).1 = [] := by
  cases col with
  | agg c e => exact aggK_fills B nm v e cur ty m
  | twoD c ic => exact twoDK_fills B nm v ic cur ty m

def NCol.cppTy : NCol → String
  | .agg _ e => vecTy (tyNE e).cpp
  | .twoD _ ic => vecTy (vecTy ((ichainTy ic).getD .double).cpp)

def NQ.types : NQ → List String
  | .eventRows cols => cols.map fun p => p.2.cppTy
  | .elemRows _ cols => cols.map fun p => (tyNE p.2).cpp

def NQ.names : NQ → List String
  | .eventRows cols => cols.map (·.1)
  | .elemRows _ cols => cols.map (·.1)

theorem colVarsN_types (cn : Nat → String) : ∀ (es : List NE) (idx : Nat),
    (colVarsN cn es idx).map (·.1) = es.map fun e => (tyNE e).cpp
  | [], _ => rfl
  | e :: rest, idx => by simp [colVarsN, colVarsN_types cn rest (idx + 1)]

theorem rowKN_fills (B : Backend) (nm cn : Nat → String) (es : List NE) (cur : CExpr) (ty : Option Ty) (m : Nat) :
    fillsL (rowKN B nm cn es cur ty m).1 = [B.fillTree B.treeName] := by
  have h := compNEs_fills nm (B.elemPtr && ty.isNone) cur es m
  simp [rowKN, fillsL_append, h, setsOf_fills, fillsL, fills]

theorem rowKN_writes (B : Backend) (nm cn : Nat → String) (es : List NE) (cur : CExpr) (ty : Option Ty) (m : Nat)
    (v : String) (hv : v ∈ colNames cn es.length 0) : v ∈ writesL (rowKN B nm cn es cur ty m).1 := by
  simp only [rowKN, writesL_append, List.mem_append, setsOf_writes, compNEs_vals_length]
  exact .inl (.inr hv)

/-- `schemaOk_eventPackage` for a package of vector columns whose continuations never fill: each column variable is
cleared after the fill -/
theorem schemaOk_pushPackage (B : Backend) (nm cn : Nat → String)
    (hcinj : ∀ i j, cn i = cn j → i = j) (hdisj : ∀ j k, nm j ≠ cn k) (names : List String) (ps : List PCol)
    (hlen : names.length = ps.length) (hwf : ∀ p ∈ ps, p.Wf B nm cn)
    (hk : ∀ p ∈ ps, ∀ v cur ty m, fillsL (p.kn v cur ty m).1 = []) :
    SchemaOk (pushPackage B nm cn names ps) names (ps.map fun p => vecTy p.ty) (B.fillTree B.treeName) = true := by
  have hg := compPCols_graph B nm cn ps 0 0
  have htys := hg.map_eq (·.classVar.1) (fun p => vecTy p.ty) fun _ _ _ _ h => congrArg (·.classVar.1) h
  rw [pushPackage_eq]
  refine schemaOk_eventPackage B nm cn hcinj hdisj _ _ _ hg (fun i m f p h => h ▸ compPCol_colVar B nm cn i p m)
    (by rw [hg.length, hlen]) (pushPackage_tokens_names B nm cn names ps hwf) htys fun f hf => ?_
  obtain ⟨i, m, p, _, _, hp, rfl⟩ := hg.mem hf
  have h := compChain_fills B nm p.c m (fun cur ty => (p.kn (cn i) cur ty (outerNext B nm p.c m)).1)
  exact ⟨h.1, h.2.trans (hk p hp _ _ _ _), rfl, rfl, List.mem_append_right _ (List.mem_singleton_self _)⟩

theorem schemaOk_compileN_eventRows (B : Backend) (nm cn : Nat → String)
    (hcinj : ∀ i j, cn i = cn j → i = j) (hdisj : ∀ j k, nm j ≠ cn k) (cols : List (String × NCol)) :
    SchemaOk (compileN B nm cn (.eventRows cols)) (cols.map (·.1)) (NQ.types (.eventRows cols)) (B.fillTree B.treeName) = true := by
  have ht : (cols.map fun p => p.2.toP B nm).map (fun p => vecTy p.ty) = NQ.types (.eventRows cols) := by
    rw [List.map_map]
    exact List.map_congr_left fun p _ => by rcases p with ⟨_, c⟩; cases c <;> rfl
  rw [compileN_eventRows]
  exact ht ▸ schemaOk_pushPackage B nm cn hcinj hdisj _ _ (by simp) (NCol.toP_wfs B nm cn cols) fun p hp v cur ty m => by
    obtain ⟨c, -, rfl⟩ := List.mem_map.1 hp
    exact NCol.kn_fills B nm v c.2 cur ty m

theorem schemaOk_compileN_elemRows (B : Backend) (nm cn : Nat → String)
    (hcinj : ∀ i j, cn i = cn j → i = j) (hdisj : ∀ j k, nm j ≠ cn k) (c : Chain) (cols : List (String × NE)) :
    SchemaOk (compileN B nm cn (.elemRows c cols)) (cols.map (·.1)) (NQ.types (.elemRows c cols)) (B.fillTree B.treeName) = true :=
  (Books.of_cvs (colVarsN cn (cols.map (·.2)) 0) rfl rfl (by rw [colVarsN_names]; simp)
    (by rw [colVarsN_types]; simp [NQ.types, List.map_map])).schemaOk_chain B nm hcinj
    (tokens_names_nestedElemRows B nm cn c cols) hdisj c _ rfl
    (fun v hv => rowKN_writes B nm cn _ _ _ _ v (by simpa using hv)) (rowKN_fills B nm cn _ _ _ _)

end FaxVerif.Gen
