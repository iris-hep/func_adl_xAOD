/-
Gen — correctness of element-level expressions with inner aggregates nested to ARBITRARY DEPTH (`compDE`), by
mutual structural induction over `DE` / `DChain` / `DConds` / `DOpt`. At BLOCK level the declarations are executed
first, so from ANY state, at every level, the accumulators restart for every enclosing element.
Side conditions (`DEHyp`, recursive over the expression and the data): accessors and the elements of
method-returned collections are of the declared kinds, at every level; a FLOATING inner `Sum` ranges over at
least one kept element (an empty one is 0.0 in C++ and the integer 0 in Python).
-/
import FaxVerif.Gen.DeepLoopCorrect
import FaxVerif.Gen.EECorrect
namespace FaxVerif.Gen
open FaxVerif.Cpp FaxVerif.Linq
variable {D : Type}

mutual
  /-- what is assumed of the element `v` (bound to `x`, outer environment `ρ`, nesting level `d`) for `e` -/
  def DEHyp (QC : QCtx D) : DE → Nat → String → LEnv D → Val D → Prop
    | .pure p, _, _, _, v => MethTyped v (methsPE p)
    | .count c, d, x, ρ, v => ChainHypD QC c d x ρ v
    | .sum c, d, x, ρ, v => ChainHypD QC c d x ρ v ∧
        ((tyChainD c).isFloating = true → ∀ ws, denote QC ((x, v) :: ρ) (dchainQ d x c) = .ok (.vec ws) → ws ≠ [])
    | .bin _ a b, d, x, ρ, v => DEHyp QC a d x ρ v ∧ DEHyp QC b d x ρ v
    | .cmp _ a b, d, x, ρ, v => DEHyp QC a d x ρ v ∧ DEHyp QC b d x ρ v
    | .neg a, d, x, ρ, v => DEHyp QC a d x ρ v
    | .not a, d, x, ρ, v => DEHyp QC a d x ρ v
  def ChainHypD (QC : QCtx D) : DChain → Nat → String → LEnv D → Val D → Prop
    | .mk m elem whrs sel, d, x, ρ, v => ∀ l, member v m [] = .ok (.vec l) → ∀ u ∈ l,
        (∀ t, elem = some t → HasTy u t) ∧ CondsHypD QC whrs (d + 1) (deepVar d) ((x, v) :: ρ) u ∧
          SelHypD QC sel (d + 1) (deepVar d) ((x, v) :: ρ) u
  def CondsHypD (QC : QCtx D) : DConds → Nat → String → LEnv D → Val D → Prop
    | .nil, _, _, _, _ => True
    | .snoc init c, d, x, ρ, u => CondsHypD QC init d x ρ u ∧ DEHyp QC c d x ρ u
  def SelHypD (QC : QCtx D) : DOpt → Nat → String → LEnv D → Val D → Prop
    | .none, _, _, _, _ => True
    | .some f, d, x, ρ, u => DEHyp QC f d x ρ u
end

def selEndsNum (elem : Option Ty) : DOpt → Bool
  | .none => elem.isSome
  | .some _ => true

/-- the value expression of a kept element of the chain compiled at `n` -/
def loopValD (nm : Nat → String) : DChain → Nat → CExpr
  | .mk _ elem whrs sel, n => (compSelD nm elem (.var (nm n)) sel (compCondsD nm elem (.var (nm n)) whrs (n + 1)).next).val

mutual
  /-- **element-level expressions, any depth** — the statements (the loops, with everything nested in them) leave the
  denotation's value in the value expression; only the fragment's own names change -/
  theorem compDE_correct (C : Ctx D) (QC : QCtx D) (hN : QC.N = C.N) (nm : Nat → String) (hinj : ∀ i j, nm i = nm j → i = j) :
      ∀ (e : DE) (ptr : Bool) (k : Option Ty) (cur : CExpr) (v : Val D) (d : Nat) (x : String) (ρ : LEnv D) (n : Nat) (w : Val D),
        OutOfReach (InRange nm) n cur → (∀ t, k = some t → HasTy v t) →
        wtDE k e = true → DEHyp QC e d x ρ v → denote QC ((x, v) :: ρ) (deQ d x e) = .ok w →
        FragSpec C (InRange nm) (DeclsDone C.N) (compDE nm ptr k cur e n) n cur v (fun w' => w' = w ∧ HasTy w (tyDE k e))
    | .pure p, ptr, k, cur, v, d, x, ρ, n, w, _, hty, hwt, hhyp, hden => by
      simp only [wtDE] at hwt
      simp only [deQ] at hden
      simp only [DEHyp] at hhyp
      simp only [compDE]
      exact FragSpec.pure fun σ hcur =>
        have hpe := pe_correct QC σ cur k (ptr && k.isNone) v x ρ (hN ▸ hcur) hty p hwt hhyp
        ⟨w, hN ▸ hpe.1.trans hden, rfl, by simpa [tyDE, curT] using hpe.2 w hden⟩
    | .count c, ptr, k, cur, v, d, x, ρ, n, w, _, _, hwt, hhyp, hden => by
      simp only [wtDE, Bool.and_eq_true] at hwt
      simp only [DEHyp] at hhyp
      simp only [deQ] at hden
      obtain ⟨ws, hc, rfl⟩ := denote_count_ok.1 hden
      simp only [compDE]
      exact FragSpec.count (Frames.inRange hinj) (Nat.le_of_succ_le (compLoopD_ge C.N nm hinj c ptr cur (n + 1) (countKD (nm n))))
        (List.mem_singleton_self _) ws
        (fun s hcur _ => compLoopD_isFold C QC hN nm hinj c ptr cur v d x ρ (n + 1) (countKD (nm n)) hwt.2 hhyp s ws hcur hc)
        fun _ _ _ _ => trivial
    | .sum c, ptr, k, cur, v, d, x, ρ, n, w, _, _, hwt, hhyp, hden => by
      simp only [wtDE, Bool.and_eq_true] at hwt
      obtain ⟨⟨⟨_, hwc⟩, hends⟩, htn⟩ := hwt
      simp only [DEHyp] at hhyp
      obtain ⟨hch, hsne⟩ := hhyp
      simp only [deQ] at hden
      obtain ⟨ws, hc, hden⟩ := denote_sum_ok.1 hden
      rw [foldE_eq_foldG, hN] at hden
      intro s hcur hdone
      -- the typing of the summed values is read off the loop's fold with an EMPTY continuation (`IsFold.all`)
      have hwsty : ∀ w' ∈ ws, HasTy w' (tyChainD c) := fun w' hw' =>
        (compLoopD_isFold C QC hN nm hinj c ptr cur v d x ρ (n + 1) (fun _ => []) hwc hch s ws hcur hc).all w' hw' hends
      simp only [compDE] at hdone ⊢
      exact FragSpec.sum (Frames.inRange hinj) (Nat.le_of_succ_le (compLoopD_ge C.N nm hinj c ptr cur (n + 1) (sumKD (nm n)))) htn
        (List.mem_singleton_self _) hwsty (fun hf => hsne hf ws hc) hden
        (fun s hcur _ => compLoopD_isFold C QC hN nm hinj c ptr cur v d x ρ (n + 1) (sumKD (nm n)) hwc hch s ws hcur hc)
        (fun _ _ _ _ => trivial) s hcur hdone
    | .bin op a b, ptr, k, cur, v, d, x, ρ, n, w, hfr, hty, hwt, hhyp, hden => by
      simp only [wtDE, Bool.and_eq_true] at hwt
      simp only [DEHyp] at hhyp
      have hsa := compDE_shape C.N nm hinj a ptr k cur n
      simp only [compDE]
      exact FragSpec.bin hN (Frames.inRange hinj) (DeclsPred.done nm C.N) hsa.layout (compDE_shape C.N nm hinj b ptr k cur _).layout
        hfr hwt.1.2 hwt.2 rfl hden
        (fun va => compDE_correct C QC hN nm hinj a ptr k cur v d x ρ n va hfr hty hwt.1.1.1 hhyp.1)
        (fun vb => compDE_correct C QC hN nm hinj b ptr k cur v d x ρ _ vb (hfr.mono hsa.ge) hty hwt.1.1.2 hhyp.2)
    | .cmp op a b, ptr, k, cur, v, d, x, ρ, n, w, hfr, hty, hwt, hhyp, hden => by
      simp only [wtDE, Bool.and_eq_true] at hwt
      simp only [DEHyp] at hhyp
      have hsa := compDE_shape C.N nm hinj a ptr k cur n
      simp only [compDE]
      exact FragSpec.cmp hN (Frames.inRange hinj) (DeclsPred.done nm C.N) hsa.layout (compDE_shape C.N nm hinj b ptr k cur _).layout
        hfr hden
        (fun va => compDE_correct C QC hN nm hinj a ptr k cur v d x ρ n va hfr hty hwt.1.1.1 hhyp.1)
        (fun vb => compDE_correct C QC hN nm hinj b ptr k cur v d x ρ _ vb (hfr.mono hsa.ge) hty hwt.1.1.2 hhyp.2)
    | .neg a, ptr, k, cur, v, d, x, ρ, n, w, hfr, hty, hwt, hhyp, hden => by
      simp only [wtDE, Bool.and_eq_true] at hwt
      simp only [DEHyp] at hhyp
      simp only [compDE]
      exact FragSpec.neg hN hwt.2 hden fun va => compDE_correct C QC hN nm hinj a ptr k cur v d x ρ n va hfr hty hwt.1 hhyp
    | .not a, ptr, k, cur, v, d, x, ρ, n, w, hfr, hty, hwt, hhyp, hden => by
      simp only [wtDE, Bool.and_eq_true, beq_iff_eq] at hwt
      simp only [DEHyp] at hhyp
      simp only [compDE]
      exact FragSpec.not hN hden fun va hda =>
        hwt.2 ▸ compDE_correct C QC hN nm hinj a ptr k cur v d x ρ n va hfr hty hwt.1 hhyp hda
  /-- **the loop of a chain is the fold over the values of the kept elements** -/
  theorem compLoopD_isFold (C : Ctx D) (QC : QCtx D) (hN : QC.N = C.N) (nm : Nat → String) (hinj : ∀ i j, nm i = nm j → i = j) :
      ∀ (c : DChain) (ptr : Bool) (cur : CExpr) (v : Val D) (d : Nat) (x : String) (ρ : LEnv D) (n : Nat) (K : CExpr → List Stmt),
        wtChainD c = true → ChainHypD QC c d x ρ v →
        ∀ (s : St D) (ws : List (Val D)), evalE C.N s.env cur = .ok v →
          denote QC ((x, v) :: ρ) (dchainQ d x c) = .ok (.vec ws) →
          IsFold C (compLoopD nm ptr cur c n K).1 (InRange nm n (compLoopD nm ptr cur c n K).2) (fun _ => True)
            (K (loopValD nm c n)) (loopValD nm c n) (fun w => c.endsNum = true → HasTy w (tyChainD c)) ws s
    | .mk m elem whrs sel, ptr, cur, v, d, x, ρ, n, K, hwt, hhyp, s, ws, hcur, hden => by
      simp only [wtChainD, Bool.and_eq_true] at hwt
      obtain ⟨⟨helem, hwc⟩, hws⟩ := hwt
      simp only [ChainHypD] at hhyp
      obtain ⟨l, r, hmem, hkeep, hmap⟩ := dchainQ_ok QC d x v ρ m elem whrs sel ws hden
      have hshc := compCondsD_shape C.N nm hinj whrs elem (.var (nm n)) (n + 1)
      have hshs := compSelD_shape C.N nm hinj sel elem (.var (nm n)) (compCondsD nm elem (.var (nm n)) whrs (n + 1)).next
      have hfresh : ∀ y ∈ vars (.var (nm n)), ∀ j, n + 1 ≤ j → y ≠ nm j :=
        (OutOfReach.var fun j hj e => by have := hinj _ _ e; omega).ne
      exact loopD_isFold C nm hinj ptr cur m n K (compCondsD nm elem (.var (nm n)) whrs (n + 1))
        (compSelD nm elem (.var (nm n)) sel (compCondsD nm elem (.var (nm n)) whrs (n + 1)).next) whrs.isNil v l hmem
        (condsSemD QC (d + 1) (deepVar d) ((x, v) :: ρ) whrs) (selSemD QC (d + 1) (deepVar d) ((x, v) :: ρ) sel)
        (fun w => (DChain.mk m elem whrs sel).endsNum = true → HasTy w (tyChainD (.mk m elem whrs sel)))
        hshc.ge hshs.ge
        (by intro hnil u; cases whrs <;> simp [DConds.isNil] at hnil; simp [condsSemD])
        (by
          intro _ u hu bv hbv
          obtain ⟨hut, hch, _⟩ := hhyp l hmem u hu
          exact StmtSpec.block hinj hshc hfresh
            (compCondsD_correct C QC hN nm hinj whrs elem (.var (nm n)) u (d + 1) (deepVar d) ((x, v) :: ρ) (n + 1) bv hfresh hut hwc hch hbv))
        (by
          intro u hu w hw
          obtain ⟨hut, _, hsh⟩ := hhyp l hmem u hu
          refine StmtSpec.block hinj hshs (fun y hy j hj => hfresh y hy j (by have := hshc.ge; omega))
            (FragSpec.mono (compSelD_correct C QC hN nm hinj sel elem (.var (nm n)) u (d + 1) (deepVar d) ((x, v) :: ρ) _ w
              (fun y hy j hj => hfresh y hy j (by have := hshc.ge; omega)) hut hws hsh hw) ?_)
          intro w' hw'
          refine ⟨hw'.1, fun he => ?_⟩
          exact hw'.2 (by cases sel <;> exact he))
        s r ws hcur hkeep hmap
  theorem compCondsD_correct (C : Ctx D) (QC : QCtx D) (hN : QC.N = C.N) (nm : Nat → String) (hinj : ∀ i j, nm i = nm j → i = j) :
      ∀ (whrs : DConds) (elem : Option Ty) (it : CExpr) (u : Val D) (d : Nat) (x : String) (ρ : LEnv D) (n : Nat) (bv : Bool),
        (∀ y ∈ vars it, ∀ j, n ≤ j → y ≠ nm j) → (∀ t, elem = some t → HasTy u t) →
        wtCondsD elem whrs = true → CondsHypD QC whrs d x ρ u → condsSemD QC d x ρ whrs u = .ok bv →
        StmtSpec C nm (compCondsD nm elem it whrs n) n it u (fun w => asBool C.N w = some bv)
    | .nil, elem, it, u, d, x, ρ, n, bv, _, _, _, _, hsem => by
      intro s _ _
      simp only [condsSemD, Except.ok.injEq] at hsem; subst hsem
      exact ⟨s, by simp [compCondsD, execs], rfl, ⟨.bool true, by simp [compCondsD, evalE], by simp [asBool]⟩, fun _ _ => rfl⟩
    | .snoc .nil c, elem, it, u, d, x, ρ, n, bv, hfr, hty, hwt, hhyp, hsem => by
      rw [compCondsD_snoc1]
      simp only [wtCondsD, Bool.and_eq_true, beq_iff_eq] at hwt
      simp only [CondsHypD] at hhyp
      simp only [condsSemD, andThenB] at hsem
      exact StmtSpec.asPred hN hsem fun w hw => compDE_correct C QC hN nm hinj c false elem it u d x ρ n w (.inRange hfr) hty hwt.1.2 hhyp.2 hw
    | .snoc (.snoc i0 c0) c, elem, it, u, d, x, ρ, n, bv, hfr, hty, hwt, hhyp, hsem => by
      rw [compCondsD_snoc2]
      simp only [wtCondsD, Bool.and_eq_true, beq_iff_eq] at hwt
      have hwi : wtCondsD elem (.snoc i0 c0) = true := by simp only [wtCondsD, Bool.and_eq_true, beq_iff_eq]; exact hwt.1.1
      rw [CondsHypD] at hhyp
      rw [condsSemD] at hsem
      simp only [andThenB] at hsem
      have hshi := compCondsD_shape C.N nm hinj (.snoc i0 c0) elem it (n + 1)
      have hshc := compDE_shape C.N nm hinj c false elem it (compCondsD nm elem it (.snoc i0 c0) (n + 1)).next
      cases hi : condsSemD QC d x ρ (.snoc i0 c0) u with
      | error e => rw [hi] at hsem; simp at hsem
      | ok bi =>
        rw [hi] at hsem
        have hinner := compCondsD_correct C QC hN nm hinj (.snoc i0 c0) elem it u d x ρ (n + 1) bi
          (fun y hy j hj => hfr y hy j (by omega)) hty hwi hhyp.1 hi
        refine condsD_snoc_correct C nm hinj it u n _ _ bi _ hfr hshi hshc hinner ?_ ?_
        · intro hbi
          subst hbi
          simp only [] at hsem
          have hfr' : ∀ y ∈ vars it, ∀ j, (compCondsD nm elem it (.snoc i0 c0) (n + 1)).next ≤ j → y ≠ nm j :=
            fun y hy j hj => hfr y hy j (by have := hshi.ge; omega)
          exact StmtSpec.block hinj hshc hfr' (StmtSpec.asPred hN hsem fun w hw =>
            compDE_correct C QC hN nm hinj c false elem it u d x ρ _ w (.inRange hfr') hty hwt.1.2 hhyp.2 hw)
        · intro hbi w hw
          subst hbi
          simp only [Except.ok.injEq] at hsem
          subst hsem; exact hw
  theorem compSelD_correct (C : Ctx D) (QC : QCtx D) (hN : QC.N = C.N) (nm : Nat → String) (hinj : ∀ i j, nm i = nm j → i = j) :
      ∀ (sel : DOpt) (elem : Option Ty) (it : CExpr) (u : Val D) (d : Nat) (x : String) (ρ : LEnv D) (n : Nat) (w : Val D),
        (∀ y ∈ vars it, ∀ j, n ≤ j → y ≠ nm j) → (∀ t, elem = some t → HasTy u t) →
        wtSelD elem sel = true → SelHypD QC sel d x ρ u → selSemD QC d x ρ sel u = .ok w →
        StmtSpec C nm (compSelD nm elem it sel n) n it u (fun w' => w' = w ∧ (selEndsNum elem sel = true → HasTy w (tySelD elem sel)))
    | .none, elem, it, u, d, x, ρ, n, w, _, hty, _, _, hsem => by
      intro s hcur _
      simp only [selSemD, Except.ok.injEq] at hsem; subst hsem
      refine ⟨s, by simp [compSelD, execs], rfl, ⟨u, by simpa [compSelD] using hcur, rfl, ?_⟩, fun _ _ => rfl⟩
      intro he
      simp only [selEndsNum, Option.isSome_iff_exists] at he
      obtain ⟨t, rfl⟩ := he
      simpa [tySelD] using hty t rfl
    | .some f, elem, it, u, d, x, ρ, n, w, hfr, hty, hwt, hhyp, hsem => by
      simp only [compSelD]
      simp only [wtSelD, Bool.and_eq_true] at hwt
      simp only [SelHypD] at hhyp
      simp only [selSemD] at hsem
      refine FragSpec.mono (compDE_correct C QC hN nm hinj f false elem it u d x ρ n w (.inRange hfr) hty hwt.1 hhyp hsem) ?_
      intro w' hw'
      exact ⟨hw'.1, fun _ => by simpa [tySelD] using hw'.2⟩
end

end FaxVerif.Gen
