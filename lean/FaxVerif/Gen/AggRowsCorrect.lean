/-
Gen — the rows level of the aggregate tower: event-level rows over general aggregates,
    ds.Select(e -> {name: xe, …})          xe = scalar built from Aggregate / arithmetic / comparisons
(`compileA`): declarations hoisted to the top of the block, one retrieval + loop per aggregate, the
scalar assignments, the Fill. An instance of Gen/ColsCorrect.lean: every column is a scalar column (`geCol`,
`geCol_spec`; `aggRows_correct` by `eventPackage_correct`).
The token table `compileA` emits (CMS miniAOD): `banksOf` computes exactly one entry per
aggregate, the token names are pairwise distinct, hence the table binds every aggregate's token to
that aggregate's own container type and bank (`TokGEs`): `Toks` (Gen/Toks.lean) for `compGE` / `compGEs`.
-/
import FaxVerif.Gen.AggExprCorrect
import FaxVerif.Gen.Toks
import FaxVerif.Gen.ColsCorrect
namespace FaxVerif.Gen
open FaxVerif.Cpp FaxVerif.Linq
variable {D : Type}

def TokGEs (B : Backend) (nm : Nat → String) (C : Ctx D) : List GE → Nat → Prop
  | [], _ => True
  | e :: es, n => TokGE B nm C e n ∧ TokGEs B nm C es (compGE B nm e n).next

/-- the table entries the fragment of an expression contributes -/
def geToks (B : Backend) (nm : Nat → String) : GE → Nat → List (String × String × String)
  | .agg g, n => chainToks B nm g.c (n + 1)
  | .bin _ a b, n => geToks B nm a n ++ geToks B nm b (compGE B nm a n).next
  | .cmp _ a b, n => geToks B nm a n ++ geToks B nm b (compGE B nm a n).next
  | .neg a, n => geToks B nm a n
  | .not a, n => geToks B nm a n
  | .int _, _ => []
  | .dbl _ _, _ => []
  | .bool _, _ => []

def gesToks (B : Backend) (nm : Nat → String) : List GE → Nat → List (String × String × String)
  | [], _ => []
  | e :: es, n => geToks B nm e n ++ gesToks B nm es (compGE B nm e n).next

def gesNext (B : Backend) (nm : Nat → String) : List GE → Nat → Nat
  | [], n => n
  | e :: es, n => gesNext B nm es (compGE B nm e n).next

theorem gesNext_ge (B : Backend) (nm : Nat → String) : ∀ (es : List GE) (n : Nat), n ≤ gesNext B nm es n
  | [], n => Nat.le_refl n
  | e :: es, n => Nat.le_trans (compGE_next_ge B nm e n) (gesNext_ge B nm es (compGE B nm e n).next)

theorem compGE_toks (B : Backend) (nm : Nat → String) : ∀ (e : GE) (n : Nat),
    Toks B nm (compGE B nm e n).stmts (geBanks e) (geToks B nm e n) n (compGE B nm e n).next (fun C => TokGE B nm C e n)
  | .int _, n | .dbl _ _, n | .bool _, n => Toks.nil n
  | .agg g, n => (Toks.chain B nm g.c (n + 1) _).imp (fun _ h => h) (Nat.le_succ n) (Nat.le_refl _)
  | .bin _ a b, n | .cmp _ a b, n =>
    Toks.append (compGE_next_ge B nm a n) (compGE_next_ge B nm b _) (compGE_toks B nm a n) (compGE_toks B nm b _)
  | .neg a, n | .not a, n => compGE_toks B nm a n

theorem compGEs_toks (B : Backend) (nm : Nat → String) : ∀ (es : List GE) (n : Nat),
    Toks B nm ((compGEs B nm es n).flatMap (·.stmts)) (es.flatMap geBanks) (gesToks B nm es n) n (gesNext B nm es n)
      (fun C => TokGEs B nm C es n)
  | [], n => Toks.nil n
  | e :: es, n => Toks.append (compGE_next_ge B nm e n) (gesNext_ge B nm es _) (compGE_toks B nm e n) (compGEs_toks B nm es _)

/-- **the token table `compileA` emits binds every aggregate's token** to that aggregate's own
container type and bank — on every backend (vacuously on those that retrieve by bank name). -/
theorem tokGEs_compileA (B : Backend) (nm cn : Nat → String) (hinj : ∀ i j, nm i = nm j → i = j)
    (cols : AQ) (N : Num D) (ev : Event D) :
    TokGEs B nm ((compileA B nm cn cols).ctx N ev) (cols.map (·.2)) 0 :=
  (compGEs_toks B nm _ 0).ok hinj _ rfl

def geCol (B : Backend) (nm cn : Nat → String) (idx : Nat) (e : GE) (n : Nat) : ColFrag :=
  let f := compGE B nm e n
  ⟨f.decls, f.stmts, [.set (cn idx) f.val], [], ((tyGE e).cpp, cn idx), f.next⟩

def geCols (B : Backend) (nm cn : Nat → String) : List GE → Nat → Nat → List ColFrag
  | [], _, _ => []
  | e :: es, idx, n => geCol B nm cn idx e n :: geCols B nm cn es (idx + 1) (compGE B nm e n).next

theorem geCols_eq (B : Backend) (nm cn : Nat → String) : ∀ (es : List GE) (idx n : Nat),
    (geCols B nm cn es idx n).flatMap (·.decls) = (compGEs B nm es n).flatMap (·.decls) ∧
    (geCols B nm cn es idx n).flatMap (·.stmts) = (compGEs B nm es n).flatMap (·.stmts) ∧
    (geCols B nm cn es idx n).flatMap (·.sets) = setsA cn (compGEs B nm es n) idx ∧
    (geCols B nm cn es idx n).flatMap (·.clears) = [] ∧
    (geCols B nm cn es idx n).map (·.classVar) = classVarsA cn es idx
  | [], _, _ => ⟨rfl, rfl, rfl, rfl, rfl⟩
  | e :: es, idx, n => by
    obtain ⟨h1, h2, h3, h4, h5⟩ := geCols_eq B nm cn es (idx + 1) (compGE B nm e n).next
    simp only [geCols, compGEs, List.flatMap_cons, List.map_cons, setsA, classVarsA, h1, h2, h3, h4, h5]
    exact ⟨rfl, rfl, rfl, rfl, rfl⟩

theorem compileA_eq (B : Backend) (nm cn : Nat → String) (cols : AQ) :
    compileA B nm cn cols = eventPackage B (cols.map (·.1))
      (banksOf B ((compGEs B nm (cols.map (·.2)) 0).flatMap (·.stmts)) ((cols.map (·.2)).flatMap geBanks))
      (geCols B nm cn (cols.map (·.2)) 0 0) := by
  obtain ⟨h1, h2, h3, h4, h5⟩ := geCols_eq B nm cn (cols.map (·.2)) 0 0
  simp only [compileA, eventPackage, h1, h2, h3, h4, List.append_nil, ← h5, List.map_map]
  rfl

theorem geCols_graph (B : Backend) (nm cn : Nat → String) (C : Ctx D) : ∀ (es : List GE) (idx n : Nat), TokGEs B nm C es n →
    Cols (fun i m f e => f = geCol B nm cn i e m ∧ TokGE B nm C e m) idx n (geCols B nm cn es idx n) es
  | [], _, _, _ => .nil
  | _ :: es, idx, _, h => .cons ⟨rfl, h.1⟩ (geCols_graph B nm cn C es (idx + 1) _ h.2)

theorem geCol_spec (C : Ctx D) (QC : QCtx D) (hN : QC.N = C.N) (hev : QC.ev = C.ev)
    (B : Backend) (hB : BackendBase B) (nm cn : Nat → String)
    (hinj : ∀ i j, nm i = nm j → i = j) (hres : ∀ j, nm j ≠ "result")
    (hcres : ∀ k, cn k ≠ "result") (hdisj : ∀ j k, nm j ≠ cn k)
    (hcollT : ∀ name, B.collType name = QC.collType name) (e : GE) (idx n : Nat) (htok : TokGE B nm C e n) (v : Val D)
    (hwt : wtGE e = true) (hag : ∀ g ∈ aggsGE e, AggHyp QC g) (hden : denote QC [("e", evtVal)] (geQ "e" e) = .ok v) :
    ColSpec C nm cn idx n (geCol B nm cn idx e n) v where
  shape :=
    { var := rfl
      sets := Or.inr ⟨_, rfl, compGE_val_vars B nm e n⟩
      clears := Or.inl rfl
      ge := compGE_next_ge B nm e n
      declsIn := compGE_decls B nm e n
      simple := (compGE_declsOK C B hB nm hinj e n).1
      nodup := (compGE_declsOK C B hB nm hinj e n).2 }
  run := fun s hdone hpre => by
    obtain ⟨s', hex, hr, hv, _, hfr⟩ := compGE_correct_tok C QC hN hev B hB nm hinj hres hcollT e n s v htok hdone hwt hag hden
    refine ⟨s', hex, hr, ⟨hv, ?_⟩, fun y _ hy => hfr y hy⟩
    rw [hfr (cn idx) (not_touch_of_ne (fun j h => hdisj j idx h.symm) (hcres idx) _ _)]
    exact hpre
  vec := fun h => absurd rfl h

/-- **C01 (event-level rows over general aggregates)** — for every list of scalar columns built
from `Aggregate(seed, lambda acc, x: body)` over chains, arithmetic and comparisons, every event and
every class state in which the column variables are declared: if the query denotes `rows`
(necessarily one row) on the event, the package the translator model emits writes exactly `rows`.
All three backends: on the token idiom the table `compileA` emits binds every aggregate's token
(`tokGEs_compileA`). -/
theorem aggRows_correct (B : Backend) (hB : BackendBase B) (nm cn : Nat → String) (hsup : Supply nm cn)
    (QC : QCtx D) (hcollT : ∀ name, B.collType name = QC.collType name)
    (cols : AQ) (hhyp : ∀ p ∈ cols, wtGE p.2 = true ∧ ∀ g ∈ aggsGE p.2, AggHyp QC g)
    (σc : Env D) (hσ : ∀ k, k < cols.length → (σc (cn k)).isSome = true)
    (rows : List (List (Val D)))
    (hden : denoteRows QC (AQ.toQuery cols) = .ok rows) :
    ∃ σ', runEvent (compileA B nm cn cols) QC.N σc QC.ev = .ok (rows, σ') := by
  obtain ⟨vs, hvs, rfl⟩ := eventDict_denote QC _ _ (by simp) rows hden
  have hg := geCols_graph B nm cn _ _ 0 0 (tokGEs_compileA B nm cn hsup.inj cols QC.N QC.ev)
  have hspec := hg.withDen QC _ (geQ "e") vs (by rw [List.map_map]; exact hvs) (T := ColSpec ((compileA B nm cn cols).ctx QC.N QC.ev) nm cn)
    fun i m f e v he h hd => by
      obtain ⟨p, hp, rfl⟩ := List.mem_map.1 he
      exact h.1 ▸ geCol_spec _ QC rfl rfl B hB nm cn hsup.inj hsup.res hsup.cres hsup.disj hcollT p.2 i m h.2 v (hhyp p hp).1 (hhyp p hp).2 hd
  rw [compileA_eq] at hspec ⊢
  obtain ⟨σ', hrun, _⟩ := eventPackage_correct B nm cn hsup QC.N QC.ev (cols.map (·.1)) _ _ vs
    (by rw [hspec.length, denotes_length QC _ _ vs hvs]; simp) hspec σc fun f hf => by
      obtain ⟨i, m, e, _, hi, _, hs⟩ := hg.mem hf
      rw [hs.1]
      exact hσ i (by rw [hg.length] at hi; simpa using hi)
  exact ⟨σ', hrun⟩

end FaxVerif.Gen
