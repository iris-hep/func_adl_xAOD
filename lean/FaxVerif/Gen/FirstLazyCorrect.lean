/-
Gen — `First()` over a projection whose value needs statements (`Gen/FirstLazy.lean`): the captured
value is the FIRST kept element's, for every chain, every lazy value expression (unbounded nesting
of and / or / if-else), every event, every number model, all three backends.
-/
import FaxVerif.Gen.FirstLazy
import FaxVerif.Gen.FirstCorrect
import FaxVerif.Gen.LazyElemRowsCorrect
namespace FaxVerif.Gen
open FaxVerif.Cpp FaxVerif.Linq
variable {D : Type}

theorem firstLK_next (nm : Nat → String) (ptr : Bool) (fl col : String) (v : LE) (cur : CExpr) (ty : Option Ty) (n : Nat) :
    (firstLK nm ptr fl col v cur ty n).2 = (compLE nm (ptr && ty.isNone) cur (ty.getD .double) v n).next := rfl

theorem compFirstL_next (B : Backend) (nm : Nat → String) (c : ChainL) (v : LE) (fl col msg : String) (n : Nat) :
    (compFirstL B nm c v fl col msg n).next = firstLNext B nm c v n := by
  simp only [compFirstL, firstLNext, compChainL, chainBodyL]
  rw [bodyL_next, bodyL_next]
  rfl

theorem firstLNext_eq (B : Backend) (nm : Nat → String) (c : ChainL) (v : LE) (n : Nat) :
    firstLNext B nm c v n =
      (compLE nm (B.elemPtr && (stepCondsL B.elemPtr (.var (nm (n + 1))) none c.steps).2.2.isNone)
        (stepCondsL B.elemPtr (.var (nm (n + 1))) none c.steps).2.1
        ((stepCondsL B.elemPtr (.var (nm (n + 1))) none c.steps).2.2.getD .double) v
        (condsNext nm B.elemPtr (.var (nm (n + 1))) c.steps (n + 3))).next := by
  simp only [firstLNext, compChainL, chainBodyL]
  rw [bodyL_next]
  rfl

theorem firstLNext_ge (B : Backend) (nm : Nat → String) (c : ChainL) (v : LE) (n : Nat) :
    condsNext nm B.elemPtr (.var (nm (n + 1))) c.steps (n + 3) ≤ firstLNext B nm c v n := by
  rw [firstLNext_eq]
  exact compLE_next_ge nm _ _ _ v _

/-- what `First(Select(chain, x -> v))` means: the chain's kept elements, the projection mapped over
ALL of them, the head of that — the value of `v` on the first kept element -/
theorem firstLQ_ok (QC : QCtx D) (ρ : LEnv D) (ev : String) (c : ChainL) (v : LE) (w : Val D)
    (h : denote QC ρ (firstLQ ev c v) = .ok w) :
    ∃ u us rest, denote QC ρ (chainQL ev c) = .ok (.vec (u :: us)) ∧ leSem QC u v = .ok w ∧
      mapE (fun u => leSem QC u v) (u :: us) = .ok (w :: rest) := by
  simp only [firstLQ, denote] at h
  cases hc : denote QC ρ (chainQL ev c) with
  | error e => rw [hc] at h; simp at h
  | ok src =>
    rw [hc] at h
    cases src with
    | vec ws =>
      simp only [] at h
      rw [mapE_congr _ (fun u => leSem QC u v) (fun u => leQ_indep QC u "v" "x" ρ [] v)] at h
      cases hv : mapE (fun u => leSem QC u v) ws with
      | error e => rw [hv] at h; simp at h
      | ok vals =>
        rw [hv] at h
        cases vals with
        | nil => simp at h
        | cons w0 rest =>
          simp only [Except.ok.injEq] at h; subst h
          cases ws with
          | nil => simp [mapE] at hv
          | cons u us =>
            obtain ⟨w1, vs, h1, _, h⟩ := mapE_cons_ok.1 hv
            exact ⟨u, us, rest, rfl, (List.cons.inj h).1 ▸ h1, hv⟩
    | _ => simp at h

/-- **First() of a projection whose value needs statements** — the code emitted for
`chain.Select(x -> v).First()` (`bool fl (true);` outside the loop; in the loop body, behind the lowered
`Where` conditions, the statements of `v` and then `if (fl) { fl = false; col = value; }`;
`if (fl) throw …;` after the loop):
  * if at least one element is kept, `col` ends up holding the value of `v` on the FIRST kept element —
    never a later element's — and nothing is thrown, no row is written;
  * if no element is kept the code fails loudly. -/
theorem first_lazy_idiom_tok (C : Ctx D) (QC : QCtx D) (hN : QC.N = C.N) (hev : QC.ev = C.ev)
    (B : Backend) (hB : BackendBase B) (hcollT : ∀ name, B.collType name = QC.collType name)
    (nm : Nat → String) (hinj : ∀ i j, nm i = nm j → i = j) (hres : ∀ j, nm j ≠ "result")
    (c : ChainL) (v : LE) (n : Nat) (htok : TokChain B nm C c.header n)
    (fl col msg : String)
    (hflT : ¬ Touch nm n (firstLNext B nm c v n) fl) (hcolT : ¬ Touch nm n (firstLNext B nm c v n) col)
    (hne : col ≠ fl)
    (hwt : wtFirstL c v = true)
    (hmt : ∀ cty l, C.ev.find c.bank = some (cty, .vec l) →
        ∀ u ∈ l, MethTyped u (methsStepsL c.steps) ∧ MethTyped u (methsLE v))
    (ρ : LEnv D) (ev : String) (ws vals : List (Val D))
    (hchain : denote QC ρ (chainQL ev c) = .ok (.vec ws)) (hvals : mapE (fun u => leSem QC u v) ws = .ok vals)
    (s : St D) (hx : (s.env (nm n)).isSome = true)
    (hfl : s.env fl = some (.val (.bool true))) (hcd : (s.env col).isSome = true) :
    (vals = [] → execs C (compFirstL B nm c v fl col msg n).stmts s = .error (.loud msg)) ∧
    (∀ w rest, vals = w :: rest →
        ∃ s', execs C (compFirstL B nm c v fl col msg n).stmts s = .ok s' ∧ s'.env col = some (.val w) ∧ s'.rows = s.rows) := by
  obtain ⟨cty, l, hct, hfind, hel⟩ := chainQL_ok QC ρ ev c ws hchain
  simp only [wtFirstL, Bool.and_eq_true] at hwt
  obtain ⟨hwt, hwtv⟩ := hwt
  rw [hev] at hfind
  have hcoll : B.collType c.coll = some cty := by rw [hcollT]; exact hct
  have hmt := hmt cty l hfind
  have hge := firstLNext_ge B nm c v n
  have hcn := condsNext_ge nm B.elemPtr (.var (nm (n + 1))) c.steps (n + 3)
  have htyeq := stepCondsL_ty B.elemPtr c.steps (.var (nm (n + 1))) none
  let cur := (stepCondsL B.elemPtr (.var (nm (n + 1))) none c.steps).2.1
  let ty := (stepCondsL B.elemPtr (.var (nm (n + 1))) none c.steps).2.2
  let k := condsNext nm B.elemPtr (.var (nm (n + 1))) c.steps (n + 3)
  let f := compLE nm (B.elemPtr && ty.isNone) cur (curT ty) v k
  have hfnext : f.next = firstLNext B nm c v n := (firstLNext_eq B nm c v n).symm
  have hvars : ∀ y ∈ vars cur, y = nm (n + 1) := fun y hy => by
    simpa [vars] using stepCondsL_vars B.elemPtr c.steps _ none y hy
  -- the chain's fold, its frame widened by the names of the value's statements, then one more `Select`
  have hsel := ((compChainL_isFold C QC hN B hB nm hinj hres c n htok (firstLK nm B.elemPtr fl col v) cty l ws hcoll hfind hwt
      (fun u => MethTyped u (methsLE v)) hmt hel s hx).mono (frame' := Touch nm n (firstLNext B nm c v n))
      (fun y hy => hy.imp (·.mono (Nat.le_refl n) hge) id) (fun _ h => h)).select
    (pre := f.decls ++ f.stmts) (Kc2 := [.ite (.var fl) [.set fl (.bool false), .set col f.val] []]) rfl
    (fun u => leSem QC u v) vals hvals f.val (fun _ => True)
    (fun t u' w' hev2 hq hval => by
      obtain ⟨σ3, hex3, hv3, hfr3⟩ := le_block_correct C QC hN nm hinj (B.elemPtr && ty.isNone) cur ty u' "x" []
        hq.1 v k (by rw [show ty = chainTyL none c.steps from htyeq]; exact hwtv)
        (by
          cases hty' : ty with
          | some t0 => exact methTyped_of_hasTy (hq.1 t0 hty') _
          | none => exact hq.2 hty')
        (fun y hy j hj => by rw [hvars y hy]; exact fun e => by have := hinj _ _ e; omega)
        t.env t.rows hev2 w' hval
      exact ⟨⟨σ3, t.rows⟩, hex3, rfl, fun y hy => hfr3 y fun h => hy (Or.inl (h.mono (by omega) (by rw [hfnext]; exact Nat.le_refl _))),
        hv3, trivial⟩)
  obtain ⟨h1, h2⟩ := IsFold.first fl col msg hsel hflT hcolT hne
    (fun y hy e => by
      rcases compLE_val_vars nm _ cur _ v k y hy with h | h
      · rw [hvars y h] at e
        exact hflT (Or.inl ⟨n + 1, by omega, by omega, e.symm⟩)
      · rw [e] at h
        exact hflT (Or.inl (h.mono (by omega) (by rw [hfnext]; exact Nat.le_refl _))))
    (fun _ _ => trivial) hfl hcd
  refine ⟨h1, fun w rest hw => ?_⟩
  obtain ⟨s', hex, hc, hr, _⟩ := h2 w rest hw
  exact ⟨s', hex, hc, hr⟩

end FaxVerif.Gen
