/-
Gen — the token table of a piece of emitted code (CMS miniAOD: collections are retrieved through `edm::EDGetTokenT`
members; `Package.tokens` binds every token to a container type and a bank).

`TokNames nm toks lo hi`: the table entries `toks` have names — distinct if `nm` is injective — of the supply range `[lo, hi)` (no context, no
backend: what a declared table such as that of `pushPackage`, Gen/PushColsCorrect.lean, is asked for). `TokSpec g nm toks lo hi T` adds that a context,
over whatever event data, whose table binds them (if `g`) satisfies `T` — the `TokChain` / `TokEE` / `TokCols` / …
hypothesis the correctness theorem of the code carries. `Toks B nm ss banks toks lo hi T` adds that `banksOf` collects exactly `toks` from the statements `ss`
on the token backend and nothing on a backend that retrieves by bank name. All three compose along the code (`.append`), so
one induction per level of a compiler gives the table, the names, their distinctness and the token hypothesis at once.
-/
import FaxVerif.Gen.FragSpec
import FaxVerif.Gen.LoopCorrect
namespace FaxVerif.Gen
open FaxVerif.Cpp FaxVerif.Linq
variable {D : Type}

theorem tokenBank_of_mem (C : Ctx D) (hnd : (C.tokens.map (·.1)).Nodup) :
    ∀ t ∈ C.tokens, C.tokenBank t.1 = some t.2 := by
  intro t ht
  simp only [Ctx.tokenBank]
  generalize C.tokens = l at hnd ht
  induction l with
  | nil => simp at ht
  | cons hd tl ih =>
    obtain ⟨t0, ty0, b0⟩ := hd
    simp only [List.map_cons, List.nodup_cons] at hnd
    simp only [Ctx.tokenBank.go]
    rcases List.mem_cons.1 ht with heq | hm
    · subst heq; simp
    · have hne : t0 ≠ t.1 := fun e => hnd.1 (List.mem_map.2 ⟨t, hm, e.symm⟩)
      simp only [hne, if_false]
      exact ih hnd.2 hm

/-- the table entries `toks` have names of the supply range `[lo, hi)`, distinct if the supply is injective -/
structure TokNames (nm : Nat → String) (toks : List (String × String × String)) (lo hi : Nat) : Prop where
  names : ∀ y ∈ toks.map (·.1), InRange nm lo hi y
  nodup : (∀ i j, nm i = nm j → i = j) → (toks.map (·.1)).Nodup

namespace TokNames
variable {nm : Nat → String}

theorem nil (n : Nat) : TokNames nm [] n n := ⟨fun _ h => (nomatch h), fun _ => List.nodup_nil⟩

theorem append {t₁ t₂ : List (String × String × String)} {lo mid hi : Nat} (hlo : lo ≤ mid) (hhi : mid ≤ hi)
    (h₁ : TokNames nm t₁ lo mid) (h₂ : TokNames nm t₂ mid hi) : TokNames nm (t₁ ++ t₂) lo hi where
  names y hy := by
    rw [List.map_append, List.mem_append] at hy
    exact hy.elim (fun h => (h₁.names y h).mono (Nat.le_refl _) hhi) (fun h => (h₂.names y h).mono hlo (Nat.le_refl _))
  nodup hinj := by
    rw [List.map_append]
    exact nodup_append_ranges hinj (h₁.nodup hinj) (h₂.nodup hinj) h₁.names h₂.names

theorem mono {toks : List (String × String × String)} {lo hi lo' hi' : Nat} (h : TokNames nm toks lo hi)
    (h1 : lo' ≤ lo) (h2 : hi ≤ hi') : TokNames nm toks lo' hi' :=
  ⟨fun y hy => (h.names y hy).mono h1 h2, h.nodup⟩

/-- the one entry of a chain: the token `nm (n + 2)` -/
theorem chain (B : Backend) (nm : Nat → String) (c : Chain) (n : Nat) (K : CExpr → Option Ty → List Stmt) :
    TokNames nm (chainToks B nm c n) n (compChain B nm c n K).next where
  names y hy := by
    have := compChain_next B nm c n K
    simp only [chainToks, List.map_cons, List.map_nil, List.mem_singleton] at hy
    exact ⟨n + 2, by omega, by omega, hy⟩
  nodup _ := by simp [chainToks]

end TokNames

structure TokSpec (g : Prop) (nm : Nat → String) (toks : List (String × String × String)) (lo hi : Nat)
    (T : ∀ {D : Type}, Ctx D → Prop) : Prop extends TokNames nm toks lo hi where
  bind : ∀ {D : Type} (C : Ctx D), (g → ∀ t ∈ toks, C.tokenBank t.1 = some t.2) → T C

namespace TokSpec
variable {g : Prop} {nm : Nat → String}

theorem nil (n : Nat) : TokSpec g nm [] n n (fun _ => True) := ⟨.nil n, fun _ _ => trivial⟩

theorem append {t₁ t₂ : List (String × String × String)} {lo mid hi : Nat} {T₁ T₂ : ∀ {D : Type}, Ctx D → Prop} (hlo : lo ≤ mid) (hhi : mid ≤ hi)
    (h₁ : TokSpec g nm t₁ lo mid T₁) (h₂ : TokSpec g nm t₂ mid hi T₂) : TokSpec g nm (t₁ ++ t₂) lo hi (fun C => T₁ C ∧ T₂ C) :=
  ⟨h₁.toTokNames.append hlo hhi h₂.toTokNames,
    fun C h => ⟨h₁.bind C fun hg t hm => h hg t (List.mem_append_left _ hm), h₂.bind C fun hg t hm => h hg t (List.mem_append_right _ hm)⟩⟩

theorem imp {toks : List (String × String × String)} {lo hi lo' hi' : Nat} {T T' : ∀ {D : Type}, Ctx D → Prop}
    (h : TokSpec g nm toks lo hi T) (hT : ∀ {D : Type} (C : Ctx D), T C → T' C) (h1 : lo' ≤ lo) (h2 : hi ≤ hi') : TokSpec g nm toks lo' hi' T' :=
  ⟨h.toTokNames.mono h1 h2, fun C hb => hT C (h.bind C hb)⟩

/-- where no table is consulted (`BackendOK.notToken`: retrieval by bank name) every context satisfies `T` -/
theorem of_notToken {toks : List (String × String × String)} {lo hi : Nat} {T : ∀ {D : Type}, Ctx D → Prop}
    (h : TokSpec g nm toks lo hi T) (hn : ¬ g) (C : Ctx D) : T C :=
  h.bind C fun hg => absurd hg hn

end TokSpec

/-- `l` on the token backend, nothing on a backend that retrieves by bank name -/
def onTok (B : Backend) {α : Type} (l : List α) : List α := if B.how = "token" then l else []

structure Toks (B : Backend) (nm : Nat → String) (ss : List Stmt) (banks : List String)
    (toks : List (String × String × String)) (lo hi : Nat) (T : ∀ {D : Type}, Ctx D → Prop) : Prop
    extends TokSpec (B.how = "token") nm toks lo hi T where
  collect : ∀ rest bs, banksOf B (ss ++ rest) (onTok B banks ++ bs) = onTok B toks ++ banksOf B rest bs

namespace Toks
variable {B : Backend} {nm : Nat → String}

theorem onTok_append {α : Type} (a b : List α) : onTok B (a ++ b) = onTok B a ++ onTok B b := by
  unfold onTok; split <;> rfl

theorem nil (n : Nat) : Toks B nm [] [] [] n n (fun _ => True) :=
  ⟨TokSpec.nil n, fun _ _ => (by simp [onTok])⟩

theorem append {s₁ s₂ : List Stmt} {b₁ b₂ : List String} {t₁ t₂ : List (String × String × String)} {lo mid hi : Nat}
    {T₁ T₂ : ∀ {D : Type}, Ctx D → Prop} (hlo : lo ≤ mid) (hhi : mid ≤ hi)
    (h₁ : Toks B nm s₁ b₁ t₁ lo mid T₁) (h₂ : Toks B nm s₂ b₂ t₂ mid hi T₂) :
    Toks B nm (s₁ ++ s₂) (b₁ ++ b₂) (t₁ ++ t₂) lo hi (fun C => T₁ C ∧ T₂ C) :=
  ⟨h₁.toTokSpec.append hlo hhi h₂.toTokSpec, fun rest bs => by
    rw [onTok_append, onTok_append, List.append_assoc, List.append_assoc, List.append_assoc, h₁.collect, h₂.collect]⟩

theorem imp {ss : List Stmt} {banks : List String} {toks : List (String × String × String)} {lo hi lo' hi' : Nat}
    {T T' : ∀ {D : Type}, Ctx D → Prop} (h : Toks B nm ss banks toks lo hi T) (hT : ∀ {D : Type} (C : Ctx D), T C → T' C) (h1 : lo' ≤ lo) (h2 : hi ≤ hi') :
    Toks B nm ss banks toks lo' hi' T' :=
  ⟨h.toTokSpec.imp hT h1 h2, h.collect⟩

theorem chain (B : Backend) (nm : Nat → String) (c : Chain) (n : Nat) (K : CExpr → Option Ty → List Stmt) :
    Toks B nm (compChain B nm c n K).stmts [c.bank] (chainToks B nm c n) n (compChain B nm c n K).next
      (fun C => TokChain B nm C c n) where
  toTokNames := .chain B nm c n K
  bind _ h ht := h ht _ (List.mem_singleton_self _)
  collect rest bs := by by_cases ht : B.how = "token" <;> simp [onTok, compChain, ht, banksOf, chainToks]

theorem ite (B : Backend) (nm : Nat → String) (cnd : CExpr) (t e : List Stmt) (n : Nat) :
    Toks B nm [.ite cnd t e] [] [] n n (fun _ => True) :=
  ⟨TokSpec.nil n, fun _ _ => (by simp [onTok, banksOf])⟩

variable {ss : List Stmt} {banks : List String} {toks : List (String × String × String)} {lo hi : Nat} {T : ∀ {D : Type}, Ctx D → Prop}

theorem table (h : Toks B nm ss banks toks lo hi T) : banksOf B ss banks = onTok B toks := by
  by_cases ht : B.how = "token"
  · have := h.collect [] []
    simpa [onTok, ht, banksOf] using this
  · have := h.collect [] banks
    simpa [onTok, ht, banksOf] using this

theorem ok_of_nodup (h : Toks B nm ss banks toks lo hi T) (hnd : (toks.map (·.1)).Nodup) (C : Ctx D)
    (hC : C.tokens = banksOf B ss banks) : T C :=
  h.bind C fun ht => by
    have htoks : C.tokens = toks := by rw [hC, h.table, onTok, if_pos ht]
    exact htoks ▸ tokenBank_of_mem C (htoks ▸ hnd)

/-- **a context whose table is the one `banksOf` collects from the code satisfies the code's token hypothesis**: on the
token backend every retrieval has its own token (the name supply is injective), so the table binds each to its own
container type and bank; on the other backends the hypothesis is vacuous -/
theorem ok (h : Toks B nm ss banks toks lo hi T) (hinj : ∀ i j, nm i = nm j → i = j) (C : Ctx D)
    (hC : C.tokens = banksOf B ss banks) : T C :=
  h.ok_of_nodup (h.nodup hinj) C hC

/-- every token name of the table is a generated local name (never a column variable) -/
theorem tokens_names (h : Toks B nm ss banks toks lo hi T) : ∀ t ∈ banksOf B ss banks, ∃ j, t.1 = nm j := by
  intro t hm
  rw [h.table, onTok] at hm
  split at hm
  · obtain ⟨j, _, _, hj⟩ := h.names t.1 (List.mem_map.2 ⟨t, hm, rfl⟩); exact ⟨j, hj⟩
  · exact nomatch hm

end Toks

/-- the entries kept on the token backend alone, with the same specification -/
theorem TokSpec.onTok {B : Backend} {nm : Nat → String} {toks : List (String × String × String)} {lo hi : Nat} {T : ∀ {D : Type}, Ctx D → Prop}
    (h : TokSpec (B.how = "token") nm toks lo hi T) : TokSpec (B.how = "token") nm (Gen.onTok B toks) lo hi T := by
  unfold Gen.onTok
  split
  · exact h
  · exact { names := fun _ hy => (nomatch hy), nodup := fun _ => List.nodup_nil, bind := fun C _ => h.of_notToken ‹_› C }

end FaxVerif.Gen
