/-
Gen — the guard idiom users write around `First()`:

      c.First()  if  c.Count() != 0  else  d          (written  `d if c.Count() == 0 else c.First()`)

lowered (as the translator does) to

      double r;  <decls of the Count>
      <Count loop>
      if (acc == 0) { r = d; } else { <decls of the First idiom>  <First idiom> }

is SAFE: it never throws, and `r` ends up holding the first kept element of the chain if there is
one and the default otherwise — for every well-typed chain that is defined on the event, every event, every number
model, from ANY state (all the variables it uses are declared by the code itself); on a backend that is `BackendOK`.
-/
import FaxVerif.Gen.EventRowsCorrect
namespace FaxVerif.Gen
open FaxVerif.Cpp FaxVerif.Linq
variable {D : Type}

def guardedFirst (B : Backend) (nm : Nat → String) (c : Chain) (d : CExpr) (r : String) (n : Nat) : List Stmt :=
  let fc := compEE B nm (.count c) n
  let ff := compCol B nm (fun _ => r) 0 (.first c) fc.next
  ([.decl "double" r none] ++ fc.decls) ++ fc.stmts ++
    [.ite (.bin "==" fc.val (.int 0)) [.set r d] (ff.decls ++ ff.stmts)]

def compileGuarded (B : Backend) (nm cn : Nat → String) (name : String) (c : Chain) (d : CExpr) : Package :=
  { body := .block (guardedFirst B nm c d (cn 1) 0 ++ [.set (cn 0) (.var (cn 1)), .fill (B.fillTree B.treeName)]),
    classVars := [("double", cn 0)],
    branches := [(name, cn 0)],
    tree := B.treeName,
    tokens := [] }

def guardedQ (name : String) (c : Chain) (dq : Query) : Query :=
  .select .ds "e" (.dict [name] [.ite (.cmp "==" (.count (chainQ "e" c)) (.int 0)) dq (.first (chainQ "e" c))])

theorem guardedFirst_safe (C : Ctx D) (QC : QCtx D) (hN : QC.N = C.N) (hev : QC.ev = C.ev)
    (B : Backend) (hB : BackendOK B) (nm : Nat → String)
    (hinj : ∀ i j, nm i = nm j → i = j) (hres : ∀ j, nm j ≠ "result")
    (hcollT : ∀ name, B.collType name = QC.collType name)
    (c : Chain) (d : CExpr) (vd : Val D) (hd : ∀ σ : Env D, evalE C.N σ d = .ok vd)
    (r : String) (hr : ∀ j, nm j ≠ r) (hrr : r ≠ "result") (n : Nat)
    (hwt : wtSteps none c.steps = true) (hct : ChainTyped QC c) (hbv : BankIsVec QC c)
    (ws : List (Val D)) (hchain : denote QC [("e", evtVal)] (chainQ "e" c) = .ok (.vec ws))
    (s0 : St D) :
    ∃ s', execs C (guardedFirst B nm c d r n) s0 = .ok s' ∧ s'.rows = s0.rows ∧
      (ws = [] → s'.env r = some (.val vd)) ∧
      (∀ w rest, ws = w :: rest → s'.env r = some (.val w)) ∧
      (∀ y, y ≠ r → (∀ j, y ≠ nm j) → y ≠ "result" → s'.env y = s0.env y) := by
  -- `compCol … (.first c)` with `fun _ => r` for `cn` makes `r` the column variable of the First idiom, so `compCol_correct`
  -- applies as it stands; each part's declarations are run (`exec_decls`) just before the part, hence ANY `s0`
  let fc := compEE B nm (.count c) n
  let ff := compCol B nm (fun _ => r) 0 (.first c) fc.next
  have hrT : ∀ lo hi, ¬ Touch nm lo hi r := not_touch_of_ne (fun j h => hr j h.symm) hrr
  obtain ⟨hsimple, hnodup⟩ := compEE_declsOK_base C B hB.base nm hinj (.count c) n
  have hrnot : r ∉ fc.decls.map declName := by
    intro hm
    obtain ⟨j, _, _, hj⟩ := declsIn_names (compEE_decls B nm (.count c) n) _ hm
    exact hr j hj.symm
  obtain ⟨sD, hexD, hrD, hdoneD, hfrD⟩ := exec_decls C ([.decl "double" r none] ++ fc.decls) s0
    (by
      intro dd hdd
      rcases List.mem_append.1 hdd with h | h
      · simp only [List.mem_singleton] at h; subst h; simp [SimpleDecl, isVecType]; decide
      · exact hsimple dd h)
    (by
      simp only [List.singleton_append, List.map_cons, List.nodup_cons, declName]
      exact ⟨hrnot, hnodup⟩)
  have hrD_some : (sD.env r).isSome = true := by
    have := hdoneD (.decl "double" r none) (by simp)
    simpa [DeclOK] using this
  have hcount : denote QC [("e", evtVal)] (eeQ "e" (.count c)) = .ok (.int ws.length) := by
    simp only [eeQ, denote, hchain]
  obtain ⟨s1, hex1, hr1, hval1, _, hfr1⟩ := count_correct C QC hN hev B hB nm hinj hres hcollT c n sD (.int ws.length)
    (fun dd hdd => hdoneD dd (List.mem_append.2 (Or.inr hdd))) hwt hct hcount
  have hr1_some : (s1.env r).isSome = true := by rw [hfr1 r (hrT _ _)]; exact hrD_some
  -- what lies outside the generated names is untouched so far
  have hout : ∀ y, y ≠ r → (∀ j, y ≠ nm j) → y ≠ "result" → ¬ Touch nm n fc.next y ∧ s1.env y = s0.env y := by
    intro y hy1 hy2 hy3
    have hnt : ∀ lo hi, ¬ Touch nm lo hi y := not_touch_of_ne hy2 hy3
    refine ⟨hnt _ _, ?_⟩
    rw [hfr1 y (hnt _ _)]
    apply hfrD
    simp only [List.singleton_append, List.map_cons, List.mem_cons, declName]
    rintro (h | h)
    · exact hy1 h
    · obtain ⟨j, _, _, hj⟩ := declsIn_names (compEE_decls B nm (.count c) n) _ h
      exact hy2 j hj
  have htest : evalE C.N s1.env (.bin "==" fc.val (.int 0)) = .ok (.bool (decide ((ws.length : Int) = 0))) := by
    have : ("==" : String) ≠ "&&" ∧ ("==" : String) ≠ "||" := by decide
    have hval1' : evalE C.N s1.env fc.val = .ok (.int ws.length) := hval1
    simp only [evalE, hval1', this.1, this.2, if_false]
    simp [arith, asInt]
  have hprog : guardedFirst B nm c d r n =
      ([.decl "double" r none] ++ fc.decls) ++ fc.stmts ++ [.ite (.bin "==" fc.val (.int 0)) [.set r d] (ff.decls ++ ff.stmts)] := rfl
  rw [hprog, execs_append, execs_append, hexD]
  simp only []
  rw [hex1]
  simp only [execs]
  cases ws with
  | nil =>
    rw [exec_ite_of C s1 _ _ _ (.bool true) true (by simpa using htest) (by simp [asBool])]
    simp only [if_true, execs]
    rw [exec_set_ok C s1 r d vd hr1_some (hd s1.env)]
    refine ⟨_, rfl, by simp [hr1, hrD], fun _ => by simp [Env.set], fun w rest h => by simp at h, ?_⟩
    intro y hy1 hy2 hy3
    simp only [Env.set, hy1, if_false]
    exact (hout y hy1 hy2 hy3).2
  | cons w rest =>
    have hf : decide (((w :: rest).length : Int) = 0) = false := by
      simp only [List.length_cons]; exact decide_eq_false (by omega)
    rw [hf] at htest
    rw [exec_ite_of C s1 _ _ _ (.bool false) false htest (by simp [asBool])]
    simp only [Bool.false_eq_true, if_false]
    obtain ⟨hsF, hndF⟩ := compCol_declsOK_base C B hB.base nm (fun _ => r) hinj 0 (.first c) fc.next
    have hffnames := declsIn_names (compCol_decls B nm (fun _ => r) 0 (.first c) fc.next)
    obtain ⟨s2, hex2, hr2, hdone2, hfr2⟩ := exec_decls C ff.decls s1 hsF hndF
    have hr2_some : (s2.env r).isSome = true := by
      rw [hfr2 r]
      · exact hr1_some
      · intro hm
        obtain ⟨j, _, _, hj⟩ := hffnames _ hm
        exact hr j hj.symm
    have hfirst : denote QC [("e", evtVal)] (colQ "e" (.first c)) = .ok w := by
      simp only [colQ, denote, hchain]
    obtain ⟨s3, hex3, hr3, hready, hfr3⟩ := compCol_correct C QC hN hev B hB nm (fun _ => r) hinj hres
      (fun _ => hrr) (fun j _ => hr j) hcollT (.first c) 0 fc.next s2 w hdone2 hr2_some ⟨hwt, hct, hbv⟩ hfirst
    rw [execs_append, hex2]
    simp only []
    refine ⟨s3, ?_, by rw [hr3, hr2, hr1, hrD], fun h => by simp at h, ?_, ?_⟩
    · have : execs C ff.stmts s2 = .ok s3 := hex3
      rw [this]
    · intro w' rest' h
      simp only [List.cons.injEq] at h
      obtain ⟨rfl, _⟩ := h
      simpa [ColReady, compCol] using hready
    · intro y hy1 hy2 hy3
      have hnt : ∀ lo hi, ¬ Touch nm lo hi y := not_touch_of_ne hy2 hy3
      rw [hfr3 y hy1 (hnt _ _), hfr2 y, (hout y hy1 hy2 hy3).2]
      intro hm
      obtain ⟨j, _, _, hj⟩ := hffnames _ hm
      exact hy2 j hj

/-- **the package** for `ds.Select(e -> {name: d if c.Count() == 0 else c.First()})`: on every event on which the chain is defined it
writes exactly one row, holding the first kept element of the chain if there is one and the default otherwise — it
never fails on an empty sequence — from any class state in which the column variable is declared. -/
theorem compileGuarded_correct (B : Backend) (hB : BackendOK B) (nm cn : Nat → String) (hsup : Supply nm cn)
    (QC : QCtx D) (hcollT : ∀ name, B.collType name = QC.collType name)
    (name : String) (c : Chain) (d : CExpr) (vd : Val D) (hd : ∀ σ : Env D, evalE QC.N σ d = .ok vd)
    (hwt : wtSteps none c.steps = true) (hct : ChainTyped QC c) (hbv : BankIsVec QC c)
    (ws : List (Val D)) (hchain : denote QC [("e", evtVal)] (chainQ "e" c) = .ok (.vec ws))
    (σc : Env D) (hσ : (σc (cn 0)).isSome = true) :
    ∃ σ', runEvent (compileGuarded B nm cn name c d) QC.N σc QC.ev = .ok ([[ws.head?.getD vd]], σ') := by
  let P := compileGuarded B nm cn name c d
  let C := P.ctx QC.N QC.ev
  have h01 : cn 0 ≠ cn 1 := fun e => by have := hsup.cinj _ _ e; omega
  obtain ⟨s1, hex1, hr1, hnil, hcons, hfr⟩ := guardedFirst_safe C QC rfl rfl B hB nm hsup.inj hsup.res hcollT c d vd hd
    (cn 1) (fun j => hsup.disj j 1) (hsup.cres 1) 0 hwt hct hbv ws hchain ⟨σc, []⟩
  have hval : s1.env (cn 1) = some (.val (ws.head?.getD vd)) := by
    cases ws with
    | nil => simpa using hnil rfl
    | cons w rest => simpa using hcons w rest rfl
  have hc0 : (s1.env (cn 0)).isSome = true := by
    rw [hfr (cn 0) h01 (fun j e => hsup.disj j 0 e.symm) (hsup.cres 0)]; exact hσ
  have hbody : P.body = .block (guardedFirst B nm c d (cn 1) 0 ++ [.set (cn 0) (.var (cn 1)), .fill (B.fillTree B.treeName)]) := rfl
  have hcols : C.cols = [cn 0] := rfl
  refine ⟨keepClass P.classVars ((s1.env.set (cn 0) (ws.head?.getD vd))), ?_⟩
  show runEvent P QC.N σc QC.ev = _
  simp only [runEvent]
  rw [hbody]
  have : exec (P.ctx QC.N QC.ev) (.block (guardedFirst B nm c d (cn 1) 0 ++ [.set (cn 0) (.var (cn 1)), .fill (B.fillTree B.treeName)])) ⟨σc, []⟩ =
      .ok ⟨s1.env.set (cn 0) (ws.head?.getD vd), [[ws.head?.getD vd]]⟩ := by
    simp only [exec]
    rw [execs_append]
    have : execs C (guardedFirst B nm c d (cn 1) 0) ⟨σc, []⟩ = .ok s1 := hex1
    rw [show P.ctx QC.N QC.ev = C from rfl, this]
    simp only [execs]
    rw [exec_set_ok C s1 (cn 0) (.var (cn 1)) (ws.head?.getD vd) hc0 (by simp [evalE, hval])]
    simp only [exec, hcols, readCols, Env.set, if_true]
    simp [hr1]
  rw [this]

end FaxVerif.Gen
