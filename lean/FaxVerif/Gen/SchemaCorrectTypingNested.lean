/-
Gen — the column types `compileN` declares (`std::vector<int>` / `std::vector<double>` for inner aggregates,
`std::vector<std::vector<T>>` for 2-D columns, scalars for element-level rows of aggregates) are the types the
independent typing model assigns to the embedded query.

`sigIChain S cls ic` — the collection-returning method of the inner chain is declared on `cls` as a sequence of
the annotated element kind (numbers of type `t`, or objects of a class on which the methods of the inner steps
are declared).
-/
import FaxVerif.Gen.SchemaCorrectTyping
import FaxVerif.Gen.SchemaCorrect
namespace FaxVerif.Gen
open FaxVerif.Cpp FaxVerif.Linq FaxVerif.C03

theorem methsPE_nil_of_some {t : Ty} {pe : PE} (h : wtPE (some t) pe = true) : methsPE pe = [] := by
  induction pe <;> simp_all [wtPE, methsPE]

theorem methsSteps_nil_of_some : ∀ (steps : List Step) (t : Ty), wtSteps (some t) steps = true → methsSteps steps = []
  | [], _, _ => rfl
  | .sel f :: rest, t, h => by
    simp only [wtSteps, Bool.and_eq_true] at h
    simp [methsSteps, methsPE_nil_of_some h.1, methsSteps_nil_of_some rest _ h.2]
  | .whr c :: rest, t, h => by
    simp only [wtSteps, Bool.and_eq_true] at h
    simp [methsSteps, methsPE_nil_of_some h.1.1, methsSteps_nil_of_some rest _ h.2]

def sigIChain (S : Sig) (cls : String) (ic : IChain) : Bool :=
  match ic.elem with
  | some t => decide (S.method cls ic.meth = some (.vec t.cty))
  | none => match S.method cls ic.meth with
    | some (.vec (.obj k)) => sigMeths S k (methsSteps ic.steps)
    | _ => false

theorem sigIChain_inv {S : Sig} {cls : String} {ic : IChain} (hwt : wtIChain ic = true) (h : sigIChain S cls ic = true) :
    ∃ k, S.method cls ic.meth = some (.vec (curCTy k ic.elem)) ∧ sigMeths S k (methsSteps ic.steps) = true := by
  unfold sigIChain at h
  simp only [wtIChain, Bool.and_eq_true] at hwt
  split at h
  · rename_i t ht
    rw [ht] at hwt
    refine ⟨"", ?_, ?_⟩
    · rw [ht]; exact of_decide_eq_true h
    · rw [methsSteps_nil_of_some _ _ hwt.1]; rfl
  · rename_i ht
    split at h
    · rename_i k hk
      exact ⟨k, by rw [ht, hk]; rfl, h⟩
    · cases h

theorem typeOf_ichainQ (S : Sig) (cls : String) (Γ : TyEnv) (x : String) (hx : assoc Γ x = some (.obj cls))
    (ic : IChain) (hwt : wtIChain ic = true) (hs : sigIChain S cls ic = true) :
    ∃ k, typeOf S Γ (ichainQ x ic) = .ok (.vec (curCTy k (ichainTy ic))) := by
  obtain ⟨k, hm, hsm⟩ := sigIChain_inv hwt hs
  simp only [wtIChain, Bool.and_eq_true] at hwt
  refine ⟨k, ?_⟩
  unfold ichainQ ichainTy
  apply typeOf_stepsQ S k Γ ic.steps _ 0 ic.elem _ hwt.1 hsm
  simp [typeOf, hx, hm]

theorem ichainNumTy_some {ic : IChain} (h : (ichainNumTy ic).isSome = true) :
    ∃ t, ichainTy ic = some t ∧ t.isNum = true := by
  unfold ichainNumTy at h
  split at h
  · rename_i t ht
    by_cases hn : t.isNum = true
    · exact ⟨t, ht, hn⟩
    · simp [hn] at h
  · cases h

def sigNE (S : Sig) (cls : String) (e : NE) : Bool :=
  ((puresNE e).all fun p => sigMeths S cls (methsPE p)) && (ichainsNE e).all (sigIChain S cls)

theorem sigNE_bin {S : Sig} {cls : String} {a b : NE} (h : (((puresNE a ++ puresNE b).all fun p => sigMeths S cls (methsPE p)) &&
    (ichainsNE a ++ ichainsNE b).all (sigIChain S cls)) = true) : sigNE S cls a = true ∧ sigNE S cls b = true := by
  simp only [List.all_append, Bool.and_eq_true] at h
  simp only [sigNE, Bool.and_eq_true]
  exact ⟨⟨h.1.1, h.2.1⟩, ⟨h.1.2, h.2.2⟩⟩

theorem typeOf_neQ (S : Sig) (cls : String) (Γ : TyEnv) (x : String) (hx : assoc Γ x = some (.obj cls)) (e : NE)
    (hwt : wtNE e = true) (hs : sigNE S cls e = true) : typeOf S Γ (neQ x e) = .ok (tyNE e).cty := by
  induction e with (simp only [wtNE, Bool.and_eq_true] at hwt)
  | pure p =>
    simp only [sigNE, puresNE, ichainsNE, List.all_cons, List.all_nil, Bool.and_true] at hs
    exact typeOf_peQ S cls none Γ x hx p hwt hs
  | icount ic =>
    simp only [sigNE, puresNE, ichainsNE, List.all_cons, List.all_nil, Bool.and_true, Bool.true_and] at hs
    obtain ⟨k, hk⟩ := typeOf_ichainQ S cls Γ x hx ic hwt hs
    simp only [neQ, typeOf, hk, tyNE]; rfl
  | isum ic =>
    simp only [sigNE, puresNE, ichainsNE, List.all_cons, List.all_nil, Bool.and_true, Bool.true_and] at hs
    obtain ⟨k, hk⟩ := typeOf_ichainQ S cls Γ x hx ic hwt.1 hs
    obtain ⟨t, ht, hn⟩ := ichainNumTy_some hwt.2
    rw [ht] at hk
    simp only [neQ, typeOf, hk, tyNE, ht, curCTy, sumTy_cty hn, Option.getD_some]
  | bin op a b iha ihb =>
    obtain ⟨hsa, hsb⟩ := sigNE_bin hs
    have h := typeOf_binQ op (iha hwt.1.1.1 hsa) (ihb hwt.1.1.2 hsb) hwt.1.2 hwt.2
    cases op <;> exact h
  | cmp op a b iha ihb =>
    obtain ⟨hsa, hsb⟩ := sigNE_bin hs
    exact typeOf_cmpQ op (iha hwt.1.1.1 hsa) (ihb hwt.1.1.2 hsb)
  | neg a ih => exact typeOf_negQ (ih hwt.1 hs) hwt.2
  | not a ih => exact typeOf_notQ (ih hwt.1 hs)

theorem typeOf_outer (S : Sig) (Γ : TyEnv) (ev : String) (hev : assoc Γ ev = some .event) (c : Chain) (cls : String)
    (hc : S.collElem c.coll = some cls) (hs : sigMeths S cls (methsSteps c.steps) = true) (hwt : wtOuter c = true) :
    typeOf S Γ (chainQ ev c) = .ok (.vec (.obj cls)) := by
  simp only [wtOuter, Bool.and_eq_true, Option.isNone_iff_eq_none] at hwt
  have h := typeOf_chainQ S Γ ev hev c cls hc hs hwt.1
  rw [hwt.2] at h
  exact h

def sigNCol (S : Sig) (col : NCol) : Bool :=
  match S.collElem col.chain.coll with
  | some cls => sigMeths S cls (methsSteps col.chain.steps) && (match col with
    | .agg _ e => sigNE S cls e
    | .twoD _ ic => sigIChain S cls ic)
  | none => false

def NCol.cty : NCol → CTy
  | .agg _ e => .vec (tyNE e).cty
  | .twoD _ ic => .vec (.vec ((ichainTy ic).getD .double).cty)

theorem NCol.cppName_cty (col : NCol) : cppName col.cty = col.cppTy := by
  cases col <;> simp [NCol.cty, NCol.cppTy, cppName, Ty.cppName_cty, vecTy]

theorem NCol.colShape_cty (col : NCol) : colShape col.cty = true := by
  cases col with
  | agg c e => simp only [NCol.cty]; cases tyNE e <;> rfl
  | twoD c ic => simp only [NCol.cty]; cases (ichainTy ic).getD .double <;> rfl

theorem typeOf_ncolQ (S : Sig) (Γ : TyEnv) (ev : String) (hev : assoc Γ ev = some .event) (col : NCol)
    (hwt : wtNCol col = true) (hs : sigNCol S col = true) : typeOf S Γ (ncolQ ev col) = .ok col.cty := by
  unfold sigNCol at hs
  split at hs
  · rename_i cls hc
    simp only [Bool.and_eq_true] at hs
    cases col with
    | agg c e =>
      simp only [wtNCol, Bool.and_eq_true] at hwt
      have ho := typeOf_outer S Γ ev hev c cls hc hs.1 hwt.1
      have he := typeOf_neQ S cls ((outerVar, .obj cls) :: Γ) outerVar (assoc_head _ _ _) e hwt.2 hs.2
      simp only [ncolQ, typeOf, ho, he, NCol.cty]
    | twoD c ic =>
      simp only [wtNCol, Bool.and_eq_true] at hwt
      have ho := typeOf_outer S Γ ev hev c cls hc hs.1 hwt.1.1
      obtain ⟨k, hk⟩ := typeOf_ichainQ S cls ((outerVar, .obj cls) :: Γ) outerVar (assoc_head _ _ _) ic hwt.1.2 hs.2
      obtain ⟨t, ht, _⟩ := ichainNumTy_some hwt.2
      rw [ht] at hk
      simp only [ncolQ, typeOf, ho, hk, NCol.cty, ht, curCTy, Option.getD_some]
  · cases hs

/-- static well-typedness in the sense of the translator model (the static parts of `NFragHyp`) -/
def NQ.wt : NQ → Bool
  | .eventRows cols => cols.all fun p => wtNCol p.2
  | .elemRows c cols => wtOuter c && cols.all fun p => wtNE p.2

def NQ.sigOk (S : Sig) : NQ → Bool
  | .eventRows cols => cols.all fun p => sigNCol S p.2
  | .elemRows c cols => match S.collElem c.coll with
    | some cls => sigMeths S cls (methsSteps c.steps) && cols.all fun p => sigNE S cls p.2
    | none => false

def NQ.ctys : NQ → List CTy
  | .eventRows cols => cols.map fun p => p.2.cty
  | .elemRows _ cols => cols.map fun p => (tyNE p.2).cty

theorem NQ.ctys_cppName (nq : NQ) : (NQ.ctys nq).map cppName = NQ.types nq := by
  cases nq with
  | eventRows cols => simp [NQ.ctys, NQ.types, List.map_map, Function.comp_def, NCol.cppName_cty]
  | elemRows c cols => simp [NQ.ctys, NQ.types, List.map_map, Function.comp_def, Ty.cppName_cty]

theorem NQ.ctys_length (nq : NQ) : (NQ.ctys nq).length = (NQ.names nq).length := by
  cases nq <;> simp [NQ.ctys, NQ.names]

theorem finalColumns_NQ (S : Sig) (nq : NQ) (hwt : nq.wt = true) (hs : nq.sigOk S = true) :
    finalColumns S (NQ.toQuery nq) = .ok ((NQ.names nq).zip (NQ.ctys nq)) := by
  cases nq with
  | eventRows cols =>
    simp only [NQ.wt, List.all_eq_true] at hwt
    simp only [NQ.sigOk, List.all_eq_true] at hs
    refine finalColumns_select_dict S .ds "e" _ _ .event _ rfl ?_ (by simp [NQ.ctys]) ?_
    · exact typeOfs_map S _ _ _ cols fun p hp => typeOf_ncolQ S _ "e" (assoc_head _ _ _) p.2 (hwt p hp) (hs p hp)
    · exact allShapes_iff.mpr (List.forall_mem_map.mpr fun p _ => NCol.colShape_cty p.2)
  | elemRows c cols =>
    simp only [NQ.wt, Bool.and_eq_true, List.all_eq_true] at hwt
    simp only [NQ.sigOk] at hs
    split at hs
    · rename_i cls hc
      simp only [Bool.and_eq_true, List.all_eq_true] at hs
      refine finalColumns_select_dict S _ "r" _ _ (.obj cls) _ ?_ ?_ (by simp [NQ.ctys]) ?_
      · have hch := typeOf_outer S [("e", .event)] "e" (assoc_head _ _ _) c cls hc hs.1 hwt.1
        simp [typeOf, hch]
      · exact typeOfs_map S _ _ _ cols fun p hp => typeOf_neQ S cls _ "r" (assoc_head _ _ _) p.2 (hwt.2 p hp) (hs.2 p hp)
      · exact allShapes_iff.mpr (List.forall_mem_map.mpr fun p _ => Ty.colShape_cty _)
    · cases hs

end FaxVerif.Gen
