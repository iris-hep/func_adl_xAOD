/-
Gen — fragments (`EFrag`: declarations, statements, value expression, next free name) independent of the expression
language that emitted them. First their declarations: executing simple declarations of distinct names establishes
"declared" (`exec_decls`; the `…A` forms for floating and negative initialisers). Then how a fragment is laid out in the
name supply (`FragLayout`, `FragShape`), what it computes (`FragSpec`), and the rules by which the five expression towers
(`compEE`, `compNE`, `compXE`, `compGE`, `compDE`) use them: no statements (`.pure`), another value expression
(`.reval`), two fragments in a row (`.seq2`), the four operator nodes (`.bin`, `.cmp`, `.neg`, `.not`), the block with the
declarations executed first (`.block`). Nothing here knows of loops: the rules for an aggregate over a loop,
`FragSpec.count` and `FragSpec.sum`, are in Gen/EECorrect.lean.
-/
import FaxVerif.Gen.EventSpec
import FaxVerif.Gen.ChainCorrect
namespace FaxVerif.Gen
open FaxVerif.Cpp FaxVerif.Linq
variable {D : Type}

def DeclsIn (nm : Nat → String) (lo hi : Nat) (decls : List Stmt) : Prop :=
  ∀ d ∈ decls, ∃ ty x init, d = .decl ty x init ∧ InRange nm lo hi x

theorem DeclsIn.mono {nm : Nat → String} {lo hi lo' hi' : Nat} {ds : List Stmt} (h : DeclsIn nm lo hi ds)
    (h1 : lo' ≤ lo) (h2 : hi ≤ hi') : DeclsIn nm lo' hi' ds := by
  intro d hd; obtain ⟨ty, x, i, e, r⟩ := h d hd; exact ⟨ty, x, i, e, r.mono h1 h2⟩

theorem DeclsIn.append {nm : Nat → String} {lo hi : Nat} {a b : List Stmt} (ha : DeclsIn nm lo hi a) (hb : DeclsIn nm lo hi b) :
    DeclsIn nm lo hi (a ++ b) := by
  intro d hd
  rcases List.mem_append.1 hd with h | h
  · exact ha d h
  · exact hb d h

/-- a declaration whose execution cannot fail: no initialiser and not a vector, or an int / bool literal that converts to
the declared type. `SimpleDeclA` below allows floating and negative literals as well; `exec_decls` is read off
`exec_declsA`. -/
def SimpleDecl (N : Num D) : Stmt → Prop
  | .decl ty _ none => isVecType ty = false
  | .decl ty _ (some e) => ∃ v v', litOf (D := D) e = some v ∧ castTo N ty v = .ok v'
  | _ => False

def declName : Stmt → String
  | .decl _ x _ => x
  | _ => ""

/-- the literal an initialiser denotes, floating and negative literals included (`double acc (0.5);`): `litOfA`,
`DeclOKA`, `DeclsDoneA`, `SimpleDeclA` are the general forms of `litOf`, `DeclOK`, `DeclsDone`, `SimpleDecl` -/
def litOfA (N : Num D) : CExpr → Option (Val D)
  | .int k => some (.int k)
  | .bool b => some (.bool b)
  | .dbl _ m e => some (.dbl (N.ofDec m e))
  | .un op (.int k) => if op = "-" then some (.int (-k)) else none
  | .un op (.dbl _ m e) => if op = "-" then some (.dbl (N.neg (N.ofDec m e))) else none
  | _ => none

/-- the value a declaration `ty x (lit);` leaves in `x`: the literal converted to the declared type -/
def initValA (N : Num D) (ty : String) (e : CExpr) : Val D :=
  match litOfA N e with
  | some v => (match castTo N ty v with
    | .ok v' => v'
    | .error _ => v)
  | none => .int 0

def DeclOKA (N : Num D) (σ : Env D) : Stmt → Prop
  | .decl _ x none => (σ x).isSome = true
  | .decl ty x (some e) => σ x = some (.val (initValA N ty e))
  | _ => False

def DeclsDoneA (N : Num D) (decls : List Stmt) (σ : Env D) : Prop := ∀ d ∈ decls, DeclOKA N σ d

def SimpleDeclA (N : Num D) : Stmt → Prop
  | .decl ty _ none => isVecType ty = false
  | .decl ty _ (some e) => ∃ v v', litOfA N e = some v ∧ castTo N ty v = .ok v'
  | _ => False

theorem evalE_litA (N : Num D) (σ : Env D) (e : CExpr) (v : Val D) (h : litOfA N e = some v) : evalE N σ e = .ok v := by
  unfold litOfA at h
  split at h
  · cases h; rfl
  · cases h; rfl
  · cases h; rfl
  · split at h
    · cases h; subst_vars; rfl
    · cases h
  · split at h
    · cases h; subst_vars; rfl
    · cases h
  · cases h

theorem DeclOKA.congr {N : Num D} {σ σ' : Env D} {d : Stmt} (h : DeclOKA N σ d) (hx : σ' (declName d) = σ (declName d)) :
    DeclOKA N σ' d := by
  cases d with
  | decl ty x init => cases init <;> simp only [DeclOKA, declName] at h hx ⊢ <;> rw [hx] <;> exact h
  | _ => exact h

theorem exec_declA (C : Ctx D) (d : Stmt) (s : St D) (hd : SimpleDeclA C.N d) :
    ∃ s1, exec C d s = .ok s1 ∧ s1.rows = s.rows ∧ DeclOKA C.N s1.env d ∧ (∀ y, y ≠ declName d → s1.env y = s.env y) := by
  cases d with
  | decl ty x init =>
    cases init with
    | none =>
      exact ⟨{ s with env := s.env.declare x }, by simp [exec, show isVecType ty = false from hd], rfl,
        by simp [DeclOKA, Env.declare], fun y hy => by simp [Env.declare, show y ≠ x from hy]⟩
    | some e =>
      obtain ⟨v, v', hl, hc⟩ := hd
      exact ⟨{ s with env := s.env.set x v' }, by simp [exec, evalE_litA C.N s.env e v hl, hc], rfl,
        by simp [DeclOKA, Env.set, initValA, hl, hc], fun y hy => by simp [Env.set, show y ≠ x from hy]⟩
  | _ => exact hd.elim

theorem exec_declsA (C : Ctx D) (ds : List Stmt) : ∀ s : St D,
    (∀ d ∈ ds, SimpleDeclA C.N d) → (ds.map declName).Nodup →
    ∃ s', execs C ds s = .ok s' ∧ s'.rows = s.rows ∧ DeclsDoneA C.N ds s'.env ∧
      (∀ y, y ∉ ds.map declName → s'.env y = s.env y) := by
  induction ds with
  | nil => exact fun s _ _ => ⟨s, rfl, rfl, nofun, fun _ _ => rfl⟩
  | cons d ds ih =>
    intro s hsimple hnd
    obtain ⟨hd1, hnd⟩ := List.nodup_cons.1 hnd
    obtain ⟨s1, hex1, hr1, hok1, hfr1⟩ := exec_declA C d s (hsimple d (List.mem_cons_self ..))
    obtain ⟨s', hex, hr, hdone, hfr⟩ := ih s1 (fun d' hd' => hsimple d' (List.mem_cons_of_mem _ hd')) hnd
    refine ⟨s', by simp only [execs, hex1]; exact hex, hr.trans hr1, fun d' hd' => ?_, fun y hy => ?_⟩
    · rcases List.mem_cons.1 hd' with rfl | hd'
      · exact hok1.congr (hfr _ hd1)   -- the head's slot is not touched by the tail (names are distinct)
      · exact hdone d' hd'
    · simp only [List.map_cons, List.mem_cons, not_or] at hy
      rw [hfr y hy.2, hfr1 y hy.1]

theorem DeclsDoneA.transport {N : Num D} {nm : Nat → String} {lo hi : Nat} {ds : List Stmt} {σ σ' : Env D}
    (h : DeclsDoneA N ds σ) (hin : DeclsIn nm lo hi ds) (hag : ∀ y, InRange nm lo hi y → σ' y = σ y) :
    DeclsDoneA N ds σ' := fun d hd => (h d hd).congr (by
  obtain ⟨ty, x, init, rfl, hr⟩ := hin d hd
  exact hag x hr)

theorem litOfA_of_litOf (N : Num D) {e : CExpr} {v : Val D} (h : litOf (D := D) e = some v) : litOfA N e = some v := by
  cases e <;> simp [litOf] at h <;> subst h <;> rfl

theorem SimpleDecl.toA {N : Num D} {d : Stmt} (h : SimpleDecl N d) : SimpleDeclA N d := by
  cases d with
  | decl ty x init =>
    cases init with
    | none => exact h
    | some e => obtain ⟨v, v', hl, hc⟩ := h; exact ⟨v, v', litOfA_of_litOf N hl, hc⟩
  | _ => exact h.elim

/-- for an int / bool initialiser the two forms of "declared" say the same -/
theorem declOK_iff_A {N : Num D} {σ : Env D} {d : Stmt} (hs : SimpleDecl N d) : DeclOK N σ d ↔ DeclOKA N σ d := by
  cases d with
  | decl ty x init =>
    cases init with
    | none => exact Iff.rfl
    | some e =>
      obtain ⟨v, v', hl, hc⟩ := hs
      simp only [DeclOK, initValOf, hl, DeclOKA, initValA, litOfA_of_litOf N hl]; exact Iff.rfl
  | _ => exact hs.elim

theorem exec_decls (C : Ctx D) : ∀ (ds : List Stmt) (s : St D),
    (∀ d ∈ ds, SimpleDecl C.N d) → (ds.map declName).Nodup →
    ∃ s', execs C ds s = .ok s' ∧ s'.rows = s.rows ∧ DeclsDone C.N ds s'.env ∧
      (∀ y, y ∉ ds.map declName → s'.env y = s.env y) := fun ds s hs hn =>
  let ⟨s', h1, h2, h3, h4⟩ := exec_declsA C ds s (fun d hd => (hs d hd).toA) hn
  ⟨s', h1, h2, fun d hd => (declOK_iff_A (hs d hd)).2 (h3 d hd), h4⟩

theorem DeclsDone.transport {N : Num D} {nm : Nat → String} {lo hi : Nat} {ds : List Stmt} {σ σ' : Env D}
    (h : DeclsDone N ds σ) (hin : DeclsIn nm lo hi ds) (hag : ∀ y, InRange nm lo hi y → σ' y = σ y) :
    DeclsDone N ds σ' := by
  intro d hd
  obtain ⟨ty, x, init, rfl, hr⟩ := hin d hd
  have := h _ hd
  cases init <;> simpa [DeclOK, hag x hr] using this

theorem castTo_cpp_int0 (N : Num D) (t : Ty) : ∃ v', castTo N t.cpp (.int 0) = .ok v' := by
  cases t <;> simp [castTo, Ty.cpp, asD, asBool]

theorem simpleDecl_acc (N : Num D) (t : Ty) (x : String) : SimpleDecl N (.decl t.cpp x (some (.int 0))) :=
  let ⟨v', hv'⟩ := castTo_cpp_int0 N t
  ⟨.int 0, v', rfl, hv'⟩

theorem declsIn_names {nm : Nat → String} {lo hi : Nat} {ds : List Stmt} (h : DeclsIn nm lo hi ds) :
    ∀ y ∈ ds.map declName, InRange nm lo hi y := by
  intro y hy
  obtain ⟨d, hd, rfl⟩ := List.mem_map.1 hy
  obtain ⟨ty, x, init, rfl, hr⟩ := h d hd
  exact hr

theorem nodup_append_ranges {nm : Nat → String} (hinj : ∀ i j, nm i = nm j → i = j) {a b c : Nat} {l₁ l₂ : List String}
    (h1 : l₁.Nodup) (h2 : l₂.Nodup) (r1 : ∀ y ∈ l₁, InRange nm a b y) (r2 : ∀ y ∈ l₂, InRange nm b c y) :
    (l₁ ++ l₂).Nodup := by
  rw [List.nodup_append]
  refine ⟨h1, h2, ?_⟩
  intro x hx y hy hxy
  subst hxy
  exact inRange_disjoint hinj (r2 x hy) (r1 x hx)

/-- a "declarations done" predicate (`DeclsDone N`, `DeclsDoneA N`): a conjunction over the declarations, each clause
about the declared variable only -/
structure DeclsPred (nm : Nat → String) (Dn : List Stmt → Env D → Prop) : Prop where
  left : ∀ {a b : List Stmt} {σ : Env D}, Dn (a ++ b) σ → Dn a σ
  right : ∀ {a b : List Stmt} {σ : Env D}, Dn (a ++ b) σ → Dn b σ
  transport : ∀ {lo hi : Nat} {ds : List Stmt} {σ σ' : Env D}, Dn ds σ → DeclsIn nm lo hi ds →
    (∀ y, InRange nm lo hi y → σ' y = σ y) → Dn ds σ'

theorem DeclsPred.done (nm : Nat → String) (N : Num D) : DeclsPred nm (DeclsDone N) where
  left h := fun d hd => h d (List.mem_append_left _ hd)
  right h := fun d hd => h d (List.mem_append_right _ hd)
  transport h hin hag := h.transport hin hag

theorem DeclsPred.doneA (nm : Nat → String) (N : Num D) : DeclsPred nm (DeclsDoneA N) where
  left h := fun d hd => h d (List.mem_append_left _ hd)
  right h := fun d hd => h d (List.mem_append_right _ hd)
  transport h hin hag := h.transport hin hag

/-- where a fragment compiled at supply position `n` with `cur` in scope sits: it draws the names `[n, next)`, declares
only such names, and its value mentions only them and the variables of `cur` -/
structure FragLayout (nm : Nat → String) (cur : CExpr) (n : Nat) (f : EFrag) : Prop where
  ge : n ≤ f.next
  valVars : ∀ x ∈ vars f.val, x ∈ vars cur ∨ InRange nm n f.next x
  declsIn : DeclsIn nm n f.next f.decls

theorem FragLayout.pure {nm : Nat → String} {cur val : CExpr} (n : Nat) (h : ∀ x ∈ vars val, x ∈ vars cur) :
    FragLayout nm cur n ⟨[], [], val, n⟩ :=
  ⟨Nat.le_refl n, fun x hx => Or.inl (h x hx), fun _ hd => nomatch hd⟩

theorem FragLayout.reval {nm : Nat → String} {cur : CExpr} {n : Nat} {f : EFrag} (h : FragLayout nm cur n f) (v : CExpr)
    (hv : ∀ x ∈ vars v, x ∈ vars f.val) : FragLayout nm cur n ⟨f.decls, f.stmts, v, f.next⟩ :=
  ⟨h.ge, fun x hx => h.valVars x (hv x hx), h.declsIn⟩

theorem FragLayout.seq {nm : Nat → String} {cur : CExpr} {n : Nat} {fa fb : EFrag} (ha : FragLayout nm cur n fa)
    (hb : FragLayout nm cur fa.next fb) (v : CExpr) (hv : ∀ x ∈ vars v, x ∈ vars fa.val ∨ x ∈ vars fb.val) :
    FragLayout nm cur n ⟨fa.decls ++ fb.decls, fa.stmts ++ fb.stmts, v, fb.next⟩ where
  ge := Nat.le_trans ha.ge hb.ge
  valVars x hx := (hv x hx).elim (fun h => (ha.valVars x h).imp id (·.mono (Nat.le_refl _) hb.ge))
    (fun h => (hb.valVars x h).imp id (·.mono ha.ge (Nat.le_refl _)))
  declsIn := (ha.declsIn.mono (Nat.le_refl _) hb.ge).append (hb.declsIn.mono ha.ge (Nat.le_refl _))

/-- an aggregate: the accumulator `nm n` is the value, whatever else is declared and run in `[n, m)` -/
theorem FragLayout.acc {nm : Nat → String} {cur : CExpr} {n m : Nat} (hm : n < m) {decls : List Stmt}
    (hd : DeclsIn nm n m decls) (stmts : List Stmt) : FragLayout nm cur n ⟨decls, stmts, .var (nm n), m⟩ :=
  ⟨Nat.le_of_lt hm, fun _ hx => Or.inr ⟨n, Nat.le_refl n, hm, List.mem_singleton.1 hx⟩, hd⟩

theorem declsIn_singleton {nm : Nat → String} {lo hi j : Nat} (h1 : lo ≤ j) (h2 : j < hi) (ty : String) (init : Option CExpr) :
    DeclsIn nm lo hi [.decl ty (nm j) init] :=
  fun _ hd => ⟨_, _, _, List.mem_singleton.1 hd, j, h1, h2, rfl⟩

theorem vars_binV (op : AOp) (ta tb : Ty) (a b : CExpr) : ∀ x ∈ vars (binV op ta tb a b), x ∈ vars a ∨ x ∈ vars b := by
  intro x hx; unfold binV at hx; split at hx <;> simpa [vars] using hx

/-- declarations of two consecutive name ranges: each is as it should be (`SD`: `SimpleDecl N`, `SimpleDeclA N`) and
the declared names are distinct -/
theorem declsOK_append {nm : Nat → String} (hinj : ∀ i j, nm i = nm j → i = j) {SD : Stmt → Prop} {n m k : Nat}
    {a b : List Stmt} (ha : (∀ d ∈ a, SD d) ∧ (a.map declName).Nodup) (hb : (∀ d ∈ b, SD d) ∧ (b.map declName).Nodup)
    (hia : DeclsIn nm n m a) (hib : DeclsIn nm m k b) : (∀ d ∈ a ++ b, SD d) ∧ ((a ++ b).map declName).Nodup :=
  ⟨fun d hd => (List.mem_append.1 hd).elim (ha.1 d) (hb.1 d),
    List.map_append ▸ nodup_append_ranges hinj ha.2 hb.2 (declsIn_names hia) (declsIn_names hib)⟩

/-- layout, and the declarations are such that executing them establishes `DeclsDone` (`exec_decls`) -/
structure FragShape (N : Num D) (nm : Nat → String) (cur : CExpr) (n : Nat) (f : EFrag) : Prop where
  ge : n ≤ f.next
  valVars : ∀ x ∈ vars f.val, x ∈ vars cur ∨ InRange nm n f.next x
  declsIn : DeclsIn nm n f.next f.decls
  simple : ∀ d ∈ f.decls, SimpleDecl N d
  nodup : (f.decls.map declName).Nodup

theorem FragShape.layout {N : Num D} {nm : Nat → String} {cur : CExpr} {n : Nat} {f : EFrag} (h : FragShape N nm cur n f) :
    FragLayout nm cur n f := ⟨h.ge, h.valVars, h.declsIn⟩

theorem FragShape.of {N : Num D} {nm : Nat → String} {cur : CExpr} {n : Nat} {f : EFrag} (h : FragLayout nm cur n f)
    (hok : (∀ d ∈ f.decls, SimpleDecl N d) ∧ (f.decls.map declName).Nodup) : FragShape N nm cur n f :=
  ⟨h.ge, h.valVars, h.declsIn, hok.1, hok.2⟩

theorem FragShape.seq {N : Num D} {nm : Nat → String} (hinj : ∀ i j, nm i = nm j → i = j) {cur : CExpr} {n : Nat}
    {fa fb : EFrag} (ha : FragShape N nm cur n fa) (hb : FragShape N nm cur fa.next fb) (v : CExpr)
    (hv : ∀ x ∈ vars v, x ∈ vars fa.val ∨ x ∈ vars fb.val) :
    FragShape N nm cur n ⟨fa.decls ++ fb.decls, fa.stmts ++ fb.stmts, v, fb.next⟩ :=
  .of (ha.layout.seq hb.layout v hv) (declsOK_append hinj ⟨ha.simple, ha.nodup⟩ ⟨hb.simple, hb.nodup⟩ ha.declsIn hb.declsIn)

theorem FragShape.reval {N : Num D} {nm : Nat → String} {cur : CExpr} {n : Nat} {f : EFrag}
    (h : FragShape N nm cur n f) (v : CExpr) (hv : ∀ x ∈ vars v, x ∈ vars f.val) :
    FragShape N nm cur n ⟨f.decls, f.stmts, v, f.next⟩ :=
  ⟨h.ge, fun x hx => h.valVars x (hv x hx), h.declsIn, h.simple, h.nodup⟩

/-- an accumulator `T acc (0);` named `nm n`, its loop drawing the names `n + 1 … m - 1` -/
theorem FragShape.acc (N : Num D) (nm : Nat → String) (cur : CExpr) (n m : Nat) (hm : n + 1 ≤ m) (t : Ty) (stmts : List Stmt) :
    FragShape N nm cur n ⟨[.decl t.cpp (nm n) (some (.int 0))], stmts, .var (nm n), m⟩ :=
  .of (.acc hm (declsIn_singleton (Nat.le_refl n) hm _ _) _)
    ⟨fun _ hd => List.mem_singleton.1 hd ▸ simpleDecl_acc N t _, by simp⟩

/-- **what a fragment computes**: from every state in which `it` evaluates to `u` and the fragment's declarations are
done (`Dn`), its statements end in a state where its value expression evaluates to some `w` with `R w`; rows untouched;
only names in `T n f.next` change. A language with nothing in scope (`compEE`, `compGE`) takes `it := .bool true`,
`u := .bool true`. -/
def FragSpec (C : Ctx D) (T : Nat → Nat → String → Prop) (Dn : List Stmt → Env D → Prop) (f : EFrag) (n : Nat)
    (it : CExpr) (u : Val D) (R : Val D → Prop) : Prop :=
  ∀ s : St D, evalE C.N s.env it = .ok u → Dn f.decls s.env →
    ∃ s', execs C f.stmts s = .ok s' ∧ s'.rows = s.rows ∧ (∃ w, evalE C.N s'.env f.val = .ok w ∧ R w) ∧
      (∀ y, ¬ T n f.next y → s'.env y = s.env y)

section
variable {C : Ctx D} {nm : Nat → String} {T : Nat → Nat → String → Prop} {Dn : List Stmt → Env D → Prop}
  {it : CExpr} {u : Val D} {n : Nat}

theorem FragSpec.pure {val : CExpr} {R : Val D → Prop}
    (hval : ∀ σ, evalE C.N σ it = .ok u → ∃ w, evalE C.N σ val = .ok w ∧ R w) : FragSpec C T Dn ⟨[], [], val, n⟩ n it u R :=
  fun s hcur _ => ⟨s, rfl, rfl, hval _ hcur, fun _ _ => rfl⟩

theorem FragSpec.reval {f : EFrag} {R R' : Val D → Prop} (h : FragSpec C T Dn f n it u R) (val : CExpr)
    (hval : ∀ σ w, evalE C.N σ f.val = .ok w → R w → ∃ w', evalE C.N σ val = .ok w' ∧ R' w') :
    FragSpec C T Dn ⟨f.decls, f.stmts, val, f.next⟩ n it u R' := by
  intro s hc hd
  obtain ⟨s', h1, h2, ⟨w, h3, h4⟩, h5⟩ := h s hc hd
  exact ⟨s', h1, h2, hval _ w h3 h4, h5⟩

theorem FragSpec.mono {f : EFrag} {R R' : Val D → Prop} (h : FragSpec C T Dn f n it u R) (hR : ∀ w, R w → R' w) :
    FragSpec C T Dn f n it u R' :=
  h.reval f.val fun _ w hw hr => ⟨w, hw, hR w hr⟩

/-- running a fragment with the names `[n, m)`, then statements with the names `[m, k)`: the first value `val` is still
available afterwards (the second part touches none of its variables), nothing outside `[n, k)` is touched. `I` is what
the second part needs of its initial state (its declarations done, the element in scope): the first part preserves it. -/
theorem frag_seq (C : Ctx D) {nm : Nat → String} {T : Nat → Nat → String → Prop} (hT : Frames nm T)
    {n m k : Nat} (h1 : n ≤ m) (h2 : m ≤ k) (val : CExpr) (hvars : ∀ x ∈ vars val, ¬ T m k x)
    (Sa Sb : List Stmt) (s : St D) (v : Val D) (P : Prop) (Q : St D → Prop) (I : Env D → Prop)
    (hI : ∀ σ' : Env D, (∀ y, ¬ T n m y → σ' y = s.env y) → I σ')
    (speca : ∃ s1, execs C Sa s = .ok s1 ∧ s1.rows = s.rows ∧ evalE C.N s1.env val = .ok v ∧ P ∧
      (∀ y, ¬ T n m y → s1.env y = s.env y))
    (specb : ∀ s1 : St D, I s1.env →
      ∃ s2, execs C Sb s1 = .ok s2 ∧ s2.rows = s1.rows ∧ Q s2 ∧ (∀ y, ¬ T m k y → s2.env y = s1.env y)) :
    ∃ s2, execs C (Sa ++ Sb) s = .ok s2 ∧ s2.rows = s.rows ∧ evalE C.N s2.env val = .ok v ∧ P ∧ Q s2 ∧
      (∀ y, ¬ T n k y → s2.env y = s.env y) := by
  obtain ⟨s1, hex1, hr1, hv1, hP, hf1⟩ := speca
  obtain ⟨s2, hex2, hr2, hQ, hf2⟩ := specb s1 (hI _ hf1)
  refine ⟨s2, by rw [execs_append, hex1]; exact hex2, hr2.trans hr1, ?_, hP, hQ, fun y hy => ?_⟩
  · rw [← hv1]
    exact evalE_congr _ _ _ _ fun x hx => hf2 x (hvars x hx)
  · rw [hf2 y fun h => hy (hT.mono h1 (Nat.le_refl _) h), hf1 y fun h => hy (hT.mono (Nat.le_refl _) h2 h)]

/-- fragment `fa`, then fragment `fb` (consecutive name ranges): both value expressions are available in the final
state, so any `val` built from them can be evaluated there; nothing outside the two ranges is touched -/
theorem FragSpec.seq2 (hT : Frames nm T) (hD : DeclsPred nm Dn) {fa fb : EFrag} {Ra Rb R : Val D → Prop}
    (hla : FragLayout nm it n fa) (hlb : FragLayout nm it fa.next fb) (hfr : OutOfReach T n it)
    (speca : FragSpec C T Dn fa n it u Ra) (specb : FragSpec C T Dn fb fa.next it u Rb) (val : CExpr)
    (hval : ∀ σ wa wb, evalE C.N σ fa.val = .ok wa → Ra wa → evalE C.N σ fb.val = .ok wb → Rb wb →
      ∃ w, evalE C.N σ val = .ok w ∧ R w) :
    FragSpec C T Dn ⟨fa.decls ++ fb.decls, fa.stmts ++ fb.stmts, val, fb.next⟩ n it u R := by
  intro s hcur hdone
  obtain ⟨s1, hex1, hr1, ⟨wa, hv1, hwa⟩, hf1⟩ := speca s hcur (hD.left hdone)
  obtain ⟨s2, hex, hr, hva, -, ⟨wb, hvb, hwb⟩, hfr2⟩ := frag_seq C hT hla.ge hlb.ge fa.val
    (fun x hx => (hla.valVars x hx).elim (fun hc => hfr x hc _ _ hla.ge) (hT.disj (Or.inl (Nat.le_refl _))))
    fa.stmts fb.stmts s wa (Ra wa) (fun s2 => ∃ wb, evalE C.N s2.env fb.val = .ok wb ∧ Rb wb)
    (fun σ => evalE C.N σ it = .ok u ∧ Dn fb.decls σ)
    (fun σ' hag => ⟨(hfr.evalE (Nat.le_refl _) C.N hag).trans hcur,
      hD.transport (hD.right hdone) hlb.declsIn fun y hy => hag y (hT.disj (Or.inr (Nat.le_refl _)) hy)⟩)
    ⟨s1, hex1, hr1, hv1, hwa, hf1⟩ (fun s1 hI => specb s1 hI.1 hI.2)
  exact ⟨s2, hex, hr, hval s2.env wa wb hva hwa hvb hwb, hfr2⟩

/-! The operator nodes: the fragment every compile function emits for `a op b`, `a cmp b`, `-a`, `not a`, from the
specifications of the operands' fragments — value and type of what the query node denotes. First the four operators of
Gen/PureCorrect.lean (`bin_correct`, …) in the form needed here: the operands' emitted expressions evaluate, in the state
after the operands' statements, to the values the operand queries denote. -/

theorem bin_node {C : QCtx D} {N : Num D} (hN : C.N = N) {ρ : LEnv D} {op : AOp} {ta tb : Ty}
    (hna : ta.isNum = true) (hnb : tb.isNum = true) {qa qb : Query} {va vb v : Val D}
    (hda : denote C ρ qa = .ok va) (hdb : denote C ρ qb = .ok vb) (hta : HasTy va ta) (htb : HasTy vb tb)
    (hden : denote C ρ (.bin op.str qa qb) = .ok v) {σ : Env D} {a' b' : CExpr}
    (hva : evalE N σ a' = .ok va) (hvb : evalE N σ b' = .ok vb) :
    evalE N σ (binV op ta tb a' b') = .ok v ∧
      HasTy v (if op = .div then .double else ta.join tb) := by
  subst hN
  have h := bin_correct C σ ρ op ta tb hna hnb a' b' qa qb (hva.trans hda.symm) (hvb.trans hdb.symm)
    (fun _ hv => ok_inj hda hv ▸ hta) (fun _ hv => ok_inj hdb hv ▸ htb)
  exact ⟨h.1.trans hden, h.2 v hden⟩

theorem cmp_node {C : QCtx D} {N : Num D} (hN : C.N = N) {ρ : LEnv D} {op : COp} {qa qb : Query} {va vb v : Val D}
    (hda : denote C ρ qa = .ok va) (hdb : denote C ρ qb = .ok vb)
    (hden : denote C ρ (.cmp op.str qa qb) = .ok v) {σ : Env D} {a' b' : CExpr}
    (hva : evalE N σ a' = .ok va) (hvb : evalE N σ b' = .ok vb) :
    evalE N σ (.bin op.str a' b') = .ok v ∧ HasTy v .bool := by
  subst hN
  have h := cmp_correct C σ ρ op a' b' qa qb (hva.trans hda.symm) (hvb.trans hdb.symm)
  exact ⟨h.1.trans hden, h.2 v hden⟩

theorem neg_node {C : QCtx D} {N : Num D} (hN : C.N = N) {ρ : LEnv D} {ta : Ty} (hna : ta.isNum = true)
    {qa : Query} {va v : Val D} (hda : denote C ρ qa = .ok va) (hta : HasTy va ta)
    (hden : denote C ρ (.neg qa) = .ok v) {σ : Env D} {a' : CExpr} (hva : evalE N σ a' = .ok va) :
    evalE N σ (.un "-" a') = .ok v ∧ HasTy v ta := by
  subst hN
  have h := neg_correct C σ ρ ta hna a' qa (hva.trans hda.symm) (fun _ hv => ok_inj hda hv ▸ hta)
  exact ⟨h.1.trans hden, h.2 v hden⟩

theorem not_node {C : QCtx D} {N : Num D} (hN : C.N = N) {ρ : LEnv D}
    {qa : Query} {va v : Val D} (hda : denote C ρ qa = .ok va) (hta : HasTy va .bool)
    (hden : denote C ρ (.not qa) = .ok v) {σ : Env D} {a' : CExpr} (hva : evalE N σ a' = .ok va) :
    evalE N σ (.un "!" a') = .ok v ∧ HasTy v .bool := by
  subst hN
  have h := not_correct C σ ρ a' qa (hva.trans hda.symm) (fun _ hv => ok_inj hda hv ▸ hta)
  exact ⟨h.1.trans hden, h.2 v hden⟩

variable {QC : QCtx D} {ρ : LEnv D}

theorem FragSpec.bin (hN : QC.N = C.N) (hT : Frames nm T) (hD : DeclsPred nm Dn) {fa fb : EFrag}
    (hla : FragLayout nm it n fa) (hlb : FragLayout nm it fa.next fb) (hfr : OutOfReach T n it)
    {op : AOp} {ta tb t : Ty} (hna : ta.isNum = true) (hnb : tb.isNum = true)
    (ht : t = if op = .div then .double else ta.join tb) {qa qb : Query} {w : Val D}
    (hden : denote QC ρ (.bin op.str qa qb) = .ok w)
    (speca : ∀ va, denote QC ρ qa = .ok va → FragSpec C T Dn fa n it u (fun w' => w' = va ∧ HasTy va ta))
    (specb : ∀ vb, denote QC ρ qb = .ok vb → FragSpec C T Dn fb fa.next it u (fun w' => w' = vb ∧ HasTy vb tb)) :
    FragSpec C T Dn ⟨fa.decls ++ fb.decls, fa.stmts ++ fb.stmts, binV op ta tb fa.val fb.val, fb.next⟩ n it u
      (fun w' => w' = w ∧ HasTy w t) := by
  obtain ⟨va, vb, hda, hdb, -⟩ := strict2_ok ((denote_bin QC ρ _ qa qb).symm.trans hden)
  refine FragSpec.seq2 hT hD hla hlb hfr (speca va hda) (specb vb hdb) _ ?_
  rintro σ _ _ hea ⟨rfl, hta⟩ heb ⟨rfl, htb⟩
  obtain ⟨hv, hty⟩ := bin_node hN hna hnb hda hdb hta htb hden hea heb
  exact ⟨w, hv, rfl, ht ▸ hty⟩

theorem FragSpec.cmp (hN : QC.N = C.N) (hT : Frames nm T) (hD : DeclsPred nm Dn) {fa fb : EFrag}
    (hla : FragLayout nm it n fa) (hlb : FragLayout nm it fa.next fb) (hfr : OutOfReach T n it)
    {op : COp} {qa qb : Query} {w : Val D} {Ra Rb : Val D → Prop}
    (hden : denote QC ρ (.cmp op.str qa qb) = .ok w)
    (speca : ∀ va, denote QC ρ qa = .ok va → FragSpec C T Dn fa n it u (fun w' => w' = va ∧ Ra va))
    (specb : ∀ vb, denote QC ρ qb = .ok vb → FragSpec C T Dn fb fa.next it u (fun w' => w' = vb ∧ Rb vb)) :
    FragSpec C T Dn ⟨fa.decls ++ fb.decls, fa.stmts ++ fb.stmts, .bin op.str fa.val fb.val, fb.next⟩ n it u
      (fun w' => w' = w ∧ HasTy w .bool) := by
  obtain ⟨va, vb, hda, hdb, -⟩ := strict2_ok ((denote_cmp QC ρ _ qa qb).symm.trans hden)
  refine FragSpec.seq2 hT hD hla hlb hfr (speca va hda) (specb vb hdb) _ ?_
  rintro σ _ _ hea ⟨rfl, -⟩ heb ⟨rfl, -⟩
  obtain ⟨hv, hty⟩ := cmp_node hN hda hdb hden hea heb
  exact ⟨w, hv, rfl, hty⟩

theorem FragSpec.neg (hN : QC.N = C.N) {fa : EFrag} {ta : Ty} (hna : ta.isNum = true) {qa : Query} {w : Val D}
    (hden : denote QC ρ (.neg qa) = .ok w)
    (speca : ∀ va, denote QC ρ qa = .ok va → FragSpec C T Dn fa n it u (fun w' => w' = va ∧ HasTy va ta)) :
    FragSpec C T Dn ⟨fa.decls, fa.stmts, .un "-" fa.val, fa.next⟩ n it u (fun w' => w' = w ∧ HasTy w ta) := by
  obtain ⟨va, hda, -⟩ := strict1_ok ((denote_neg QC ρ qa).symm.trans hden)
  refine (speca va hda).reval _ ?_
  rintro σ _ hea ⟨rfl, hta⟩
  obtain ⟨hv, hty⟩ := neg_node hN hna hda hta hden hea
  exact ⟨w, hv, rfl, hty⟩

theorem FragSpec.not (hN : QC.N = C.N) {fa : EFrag} {qa : Query} {w : Val D}
    (hden : denote QC ρ (.not qa) = .ok w)
    (speca : ∀ va, denote QC ρ qa = .ok va → FragSpec C T Dn fa n it u (fun w' => w' = va ∧ HasTy va .bool)) :
    FragSpec C T Dn ⟨fa.decls, fa.stmts, .un "!" fa.val, fa.next⟩ n it u (fun w' => w' = w ∧ HasTy w .bool) := by
  obtain ⟨va, hda, -⟩ := strict1_ok ((denote_not QC ρ qa).symm.trans hden)
  refine (speca va hda).reval _ ?_
  rintro σ _ hea ⟨rfl, hta⟩
  obtain ⟨hv, hty⟩ := not_node hN hda hta hden hea
  exact ⟨w, hv, rfl, hty⟩

/-- the specification in the form the towers' theorems are stated in: the value is `w`, of type `t` -/
theorem FragSpec.val_ty {f : EFrag} {w : Val D} {P : Prop} (h : FragSpec C T Dn f n it u (fun w' => w' = w ∧ P))
    (s : St D) (hcur : evalE C.N s.env it = .ok u) (hdone : Dn f.decls s.env) :
    ∃ s', execs C f.stmts s = .ok s' ∧ s'.rows = s.rows ∧ evalE C.N s'.env f.val = .ok w ∧ P ∧
      (∀ y, ¬ T n f.next y → s'.env y = s.env y) :=
  let ⟨s', h1, h2, ⟨_, h3, e, h4⟩, h5⟩ := h s hcur hdone
  ⟨s', h1, h2, e ▸ h3, h4, h5⟩

theorem FragSpec.of_val_ty {f : EFrag} {w : Val D} {P : Prop}
    (h : ∀ s : St D, evalE C.N s.env it = .ok u → Dn f.decls s.env →
      ∃ s', execs C f.stmts s = .ok s' ∧ s'.rows = s.rows ∧ evalE C.N s'.env f.val = .ok w ∧ P ∧
        (∀ y, ¬ T n f.next y → s'.env y = s.env y)) : FragSpec C T Dn f n it u (fun w' => w' = w ∧ P) :=
  fun s hcur hdone => let ⟨s', h1, h2, h3, h4, h5⟩ := h s hcur hdone; ⟨s', h1, h2, ⟨w, h3, rfl, h4⟩, h5⟩

/-- the block of a fragment: its declarations are executed first, so nothing is left to be "done" -/
abbrev EFrag.block (f : EFrag) : EFrag := ⟨[], f.decls ++ f.stmts, f.val, f.next⟩

/-- **the block of a fragment** computes what the fragment's statements do, from ANY state in which `it` evaluates to
`u` — whatever the fragment's variables hold -/
theorem FragSpec.block (hT : Frames nm T) {f : EFrag} {R : Val D → Prop}
    (hl : FragLayout nm it n f) (hok : (∀ d ∈ f.decls, SimpleDecl C.N d) ∧ (f.decls.map declName).Nodup)
    (hfr : OutOfReach T n it) (h : FragSpec C T (DeclsDone C.N) f n it u R) :
    FragSpec C T (fun _ _ => True) f.block n it u R := by
  intro s hcur _
  obtain ⟨sD, hexD, hrD, hdone, hfrD⟩ := exec_decls C f.decls s hok.1 hok.2
  have hfrD' : ∀ y, ¬ T n f.next y → sD.env y = s.env y :=
    fun y hy => hfrD y (fun hm => hy (hT.incl (declsIn_names hl.declsIn y hm)))
  obtain ⟨s', hex, hr, hv, hfr'⟩ := h sD ((hfr.evalE (Nat.le_refl _) C.N hfrD').trans hcur) hdone
  exact ⟨s', (execs_append ..).trans (hexD ▸ hex), hr.trans hrD, hv, fun y hy => (hfr' y hy).trans (hfrD' y hy)⟩

end

end FaxVerif.Gen
