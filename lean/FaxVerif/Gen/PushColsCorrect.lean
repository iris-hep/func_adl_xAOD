/-
Gen — event-level rows of vector columns in general:
    ds.Select(e → {name: e.Coll(bank).Where*.Select(y → body), …})
One column is an outer chain whose continuation pushes the value of `body` to the column variable. What the outer loop
needs of the continuation is `PushSpec` — over the frame family its code lives in (`InRange nm`, or `Touch nm` if it
retrieves) and what it needs of the token table; `PushSpec.of_block` is the continuation "block of an expression fragment,
then `push_back`", `PushSpec.of_storage` that of a 2-D column: a storage vector, an inner loop (an `IsFold`) filling it, then
`push_back` of the vector. `pushColT_correct`: afterwards the column variable holds the list the `Select` denotes.
A column (`PCol`) is an outer chain, such a continuation, the C++ element type, the query it stands for and the
token-table entries of its retrievals; `pushPackage` is the package emitted for a list of them (all retrieval variables,
per column the retrieval block and the outer loop, one Fill, the clears). What is proved of such a list needs of a column
only that its continuation's name supply grows and its token names are its own (`PCol.Wf`), and its single-column
statement (`PColOK`): `pushPackage` is an `eventPackage` of vector columns (Gen/ColsCorrect.lean), whence the event
(`pushEventRows_correct_post`; `pushEventRows_of_toP` for a fragment's own column type and its translation to `PCol`) and the
initial class state (`pushPre_classInit`). The column lists of the nested, the captured-variable and the arbitrary-depth
fragment are instances.
-/
import FaxVerif.Gen.EECorrect
import FaxVerif.Gen.ColsCorrect
namespace FaxVerif.Gen
open FaxVerif.Cpp FaxVerif.Linq
variable {D : Type}

/-- the continuation `k` computes, from the current outer element `v`, the value `f v` and appends it to the vector
variable `col`; besides `col` it touches only names in `T m next`, its own; `Tok cur m`: what it needs of the token table -/
def PushSpec (C : Ctx D) (T : Nat → Nat → String → Prop) (col : String) (k : KN) (f : Val D → Except Fault (Val D))
    (Q : Val D → Prop) (Tok : CExpr → Nat → Prop) : Prop :=
  ∀ (cur : CExpr) (m : Nat) (s : St D) (v u : Val D) (a : List (Val D)), OutOfReach T m cur → Tok cur m →
    evalE C.N s.env cur = .ok v → Q v → s.env col = some (.val (.vec a)) → f v = .ok u →
    ∃ s', execs C (k cur none m).1 s = .ok s' ∧ s'.rows = s.rows ∧ s'.env col = some (.val (.vec (a ++ [u]))) ∧
      (∀ y, y ≠ col → ¬ T m (k cur none m).2 y → s'.env y = s.env y)

theorem PushSpec.mono {C : Ctx D} {T T' : Nat → Nat → String → Prop} {col : String} {k : KN}
    {f : Val D → Except Fault (Val D)} {Q : Val D → Prop} {Tok Tok' : CExpr → Nat → Prop} (h : PushSpec C T col k f Q Tok)
    (hT : ∀ lo hi y, T lo hi y → T' lo hi y) (hTok : ∀ cur m, Tok' cur m → Tok cur m) : PushSpec C T' col k f Q Tok' :=
  fun cur m s v u a hfr htk hcur hQ hcol hf =>
    have ⟨s', hex, hr, hc, hfr'⟩ := h cur m s v u a (fun y hy lo hi hlo ht => hfr y hy lo hi hlo (hT _ _ _ ht))
      (hTok cur m htk) hcur hQ hcol hf
    ⟨s', hex, hr, hc, fun y hy ht => hfr' y hy fun hi => ht (hT _ _ _ hi)⟩

theorem exec_push_ok (C : Ctx D) (s : St D) (x : String) (e : CExpr) (l : List (Val D)) (u : Val D)
    (hx : s.env x = some (.val (.vec l))) (he : evalE C.N s.env e = .ok u) :
    exec C (.push x e) s = .ok { s with env := s.env.set x (.vec (l ++ [u])) } := by
  simp only [exec, hx, he]

/-- the continuation "the block of the expression fragment `F cur m`, then `col.push_back(value)`", from what the block
computes (`FragSpec.block`) -/
theorem PushSpec.of_block {C : Ctx D} {T : Nat → Nat → String → Prop} {col : String} (hcol : ∀ lo hi, ¬ T lo hi col)
    {k : KN} {f : Val D → Except Fault (Val D)} {Q : Val D → Prop} {Tok : CExpr → Nat → Prop} (F : CExpr → Nat → EFrag)
    (hk : ∀ cur m, k cur none m = ((F cur m).block.stmts ++ [.push col (F cur m).val], (F cur m).next)) {t : Ty}
    (h : ∀ cur m v u, OutOfReach T m cur → Tok cur m → Q v → f v = .ok u →
      FragSpec C T (fun _ _ => True) (F cur m).block m cur v (fun w => w = u ∧ HasTy u t)) :
    PushSpec C T col k f Q Tok := by
  intro cur m s v u a hfr htk hcur hQ hcolv hf
  obtain ⟨s1, hex1, hr1, hv1, _, hf1⟩ := (h cur m v u hfr htk hQ hf).val_ty s hcur trivial
  have hcol1 : s1.env col = some (.val (.vec a)) := (hf1 col (hcol _ _)).trans hcolv
  rw [hk]
  refine ⟨{ s1 with env := s1.env.set col (.vec (a ++ [u])) }, ?_, hr1, by simp [Env.set], fun z hz hzr => ?_⟩
  · rw [execs_append, hex1]
    simp only [execs, exec_push_ok C s1 col _ a u hcol1 hv1]
  · simp only [Env.set, hz, if_false]
    exact hf1 z hzr

theorem isVecType_vecTy (t : String) : isVecType (vecTy t) = true := isVecType_vector t

/-- the continuation of a 2-D column: declarations `decls` (names above `nm m`), the storage vector `nm m` declared — so it is
empty again for every outer element —, a loop `S` (an `IsFold`) pushing the kept inner values `ws` to it, then
`col.push_back(storage)`. `Inv`: what the loop needs of the states it is resumed in — at most that the outer element is
still in scope. -/
theorem PushSpec.of_storage {C : Ctx D} {nm : Nat → String} {T : Nat → Nat → String → Prop} (hT : Frames nm T) {col : String}
    (hcol : ∀ lo hi, ¬ T lo hi col) {k : KN} {f : Val D → Except Fault (Val D)} {Q : Val D → Prop} {Tok : CExpr → Nat → Prop}
    (decls S : CExpr → Nat → List Stmt) (ty : String) (hi : CExpr → Nat → Nat) (hhi : ∀ cur m, m + 1 ≤ hi cur m)
    (hk : ∀ cur m, k cur none m =
      (decls cur m ++ [.decl (vecTy ty) (nm m) none] ++ S cur m ++ [.push col (.var (nm m))], hi cur m))
    (hdecls : ∀ cur m, DeclsIn nm (m + 1) (hi cur m) (decls cur m) ∧ (∀ d ∈ decls cur m, SimpleDecl C.N d) ∧
      ((decls cur m).map declName).Nodup)
    (h : ∀ cur m v u, OutOfReach T m cur → Tok cur m → Q v → f v = .ok u →
      ∃ ws Inv icur Qw, u = .vec ws ∧ (∀ t : St D, evalE C.N t.env cur = .ok v → Inv t) ∧
        ∀ s0 : St D, evalE C.N s0.env cur = .ok v → DeclsDone C.N (decls cur m) s0.env →
          IsFold C (S cur m) (T (m + 1) (hi cur m)) Inv [.push (nm m) icur] icur Qw ws s0) :
    PushSpec C T col k f Q Tok := by
  intro cur m s v u a hfr htk hcur hQ hcolv hf
  obtain ⟨ws, Inv, icur, Qw, rfl, hInv, hfold⟩ := h cur m v u hfr htk hQ hf
  obtain ⟨hdin, hsimple, hnodup⟩ := hdecls cur m
  obtain ⟨sD, hexD, hrD, hdone, hfrD⟩ := exec_decls C _ s hsimple hnodup
  have hne : ∀ y, InRange nm (m + 1) (hi cur m) y → y ≠ nm m := fun y hy e =>
    hT.disj (Or.inr (Nat.le_refl _)) hy (e ▸ hT.incl ⟨m, Nat.le_refl m, Nat.lt_succ_self m, rfl⟩)
  have hfr0 : ∀ y, ¬ T m (hi cur m) y → (sD.env.set (nm m) (.vec [])) y = s.env y := fun y hy => by
    have h1 : y ≠ nm m := fun e => hy (hT.incl ⟨m, Nat.le_refl m, hhi cur m, e⟩)
    simp only [Env.set, h1, if_false]
    exact hfrD y fun hm => hy (hT.incl ((declsIn_names hdin y hm).mono (Nat.le_succ m) (Nat.le_refl _)))
  -- the storage vector is the fold's accumulator
  obtain ⟨s1, hex1, hr1, hnt1, hfr1⟩ := (hfold ⟨sD.env.set (nm m) (.vec []), sD.rows⟩
    ((hfr.evalE (Nat.le_refl m) C.N hfr0).trans hcur)
    (hdone.transport hdin fun y hy => by simp only [Env.set, hne y hy, if_false])).accAt hT (hhi cur m)
    (β := List (Val D)) .vec (fun b w => .ok (b ++ [w]))
    (fun t ht => hInv t ((hfr.evalE (Nat.le_refl m) C.N fun y hy => (ht y hy).trans (hfr0 y hy)).trans hcur))
    (fun t b b' w hb hg hw _ => by
      cases hg
      simp only [execs, exec_push_ok C t (nm m) _ b w hb hw])
    [] ([] ++ ws) (by simp only [Env.set, if_true]) (foldG_push ws [])
  have hcol1 : s1.env col = some (.val (.vec a)) := ((hfr1 col (hcol _ _)).trans (hfr0 col (hcol _ _))).trans hcolv
  have hnt1' : evalE C.N s1.env (.var (nm m)) = .ok (.vec ws) := by simp only [evalE, hnt1, List.nil_append]
  rw [hk]
  refine ⟨{ s1 with env := s1.env.set col (.vec (a ++ [.vec ws])) }, ?_, hr1.trans hrD, by simp [Env.set], fun z hz hzr => ?_⟩
  · have hdv : exec C (.decl (vecTy ty) (nm m) none) sD = .ok ⟨sD.env.set (nm m) (.vec []), sD.rows⟩ := by
      simp only [exec, isVecType_vecTy, if_true]
    rw [execs_append, execs_append, execs_append, hexD]
    simp only [execs, hdv, hex1, exec_push_ok C s1 col _ a _ hcol1 hnt1']
  · simp only [Env.set, hz, if_false]
    exact (hfr1 z hzr).trans (hfr0 z hzr)

theorem compChain_next_eq (B : Backend) (nm : Nat → String) (c : Chain) (n : Nat) (K : CExpr → Option Ty → List Stmt) :
    (compChain B nm c n K).next = outerNext B nm c n := by
  simp only [compChain, outerNext, condNext, outerIt]
  exact chainBodyT_next_indep nm B.elemPtr (.var (nm (n + 1))) none c.steps (n + 3) K fun _ _ => []

theorem compChainN_next (B : Backend) (nm : Nat → String) (c : Chain) (n : Nat) (k : KN) (hwo : wtOuter c = true) :
    (compChainN B nm c n k).next =
      (k (chainVal B nm c n).1 none (outerNext B nm c n)).2 := by
  simp only [compChainN, chainVal, outerIt]
  rw [wtOuter_ty hwo B.elemPtr]

/-- **one event-level column over an outer chain** — retrieval, the outer loop, and per kept outer element
the continuation appending its value: afterwards the column variable holds exactly the list the query's
`Select` denotes. -/
theorem pushColT_correct (C : Ctx D) (QC : QCtx D) (hN : QC.N = C.N) (hev : QC.ev = C.ev)
    (B : Backend) (hB : BackendBase B) (nm : Nat → String)
    (hinj : ∀ i j, nm i = nm j → i = j) (hres : ∀ j, nm j ≠ "result")
    (hcollT : ∀ name, B.collType name = QC.collType name)
    (c : Chain) (hwo : wtOuter c = true) (n : Nat) (htok : TokChain B nm C c n)
    (col : String) (hcol : ∀ j, nm j ≠ col) (hcolres : col ≠ "result")
    (k : KN) (f : Val D → Except Fault (Val D)) (Q : Val D → Prop) (T : CExpr → Nat → Prop)
    (hspec : PushSpec C (Touch nm) col k f Q T)
    (hT : T (chainVal B nm c n).1 (outerNext B nm c n))
    (hkge : ∀ cur m, m ≤ (k cur none m).2)
    (y : String) (body : Query) (hf : ∀ w, f w = denote QC [(y, w), ("e", evtVal)] body)
    (hct : ChainTyped QC c) (hQ : ∀ cty l, QC.ev.find c.bank = some (cty, .vec l) → ∀ v ∈ l, Q v)
    (s : St D) (hx : (s.env (nm n)).isSome = true) (hpre : s.env col = some (.val (.vec [])))
    (val : Val D) (hden : denote QC [("e", evtVal)] (.select (chainQ "e" c) y body) = .ok val) :
    ∃ us s', val = .vec us ∧ execs C (compChainN B nm c n k).stmts s = .ok s' ∧ s'.rows = s.rows ∧
      s'.env col = some (.val (.vec us)) ∧
      (∀ z, z ≠ col → ¬ Touch nm n (compChainN B nm c n k).next z → s'.env z = s.env z) := by
  rw [denote_select] at hden
  cases hc : denote QC [("e", evtVal)] (chainQ "e" c) with
  | error e => rw [hc] at hden; simp at hden
  | ok cv =>
    rw [hc] at hden
    cases cv with
    | vec ws =>
      simp only [] at hden
      cases hm : mapE (fun v => denote QC [(y, v), ("e", evtVal)] body) ws with
      | error e => rw [hm] at hden; simp at hden
      | ok us =>
        rw [hm] at hden
        simp only [Except.ok.injEq] at hden; subst hden
        have hm' : mapE f ws = .ok us := by rw [← hm]; exact mapE_congr _ _ hf ws
        obtain ⟨cty, l, hcty, hfind, hel⟩ := chainQ_ok QC _ "e" c ws hc
        let m := outerNext B nm c n
        let K : CExpr → Option Ty → List Stmt := fun cur ty => (k cur ty m).1
        have hm3 : n + 3 ≤ m := outerNext_ge B nm c n
        have htynone : (chainVal B nm c n).2 = none := wtOuter_ty hwo B.elemPtr (.var (nm (n + 1)))
        have hnextK : (compChain B nm c n K).next = m := compChain_next_eq B nm c n K
        have hNEXT := compChainN_next B nm c n k hwo
        have hmN : m ≤ (compChainN B nm c n k).next := by rw [hNEXT]; exact hkge _ _
        have hcolT := not_touch_of_ne (fun j e => hcol j e.symm) hcolres
        -- the chain's fold, its frame widened by the continuation's own names; the column is its accumulator
        obtain ⟨s', _, hex, hr, hc', rfl, hfr⟩ :=
          ((compChain_isFold C QC hN B hB nm hinj hres c n htok K cty l ws (by rw [hcollT]; exact hcty)
            (by rw [← hev]; exact hfind) (wtOuter_steps hwo) (hct cty l hfind) Q (hQ cty l hfind) hel s hx).mono
            (frame' := Touch nm n (compChainN B nm c n k).next)
            (fun z hz => by rw [hnextK] at hz; exact hz.imp (·.mono (Nat.le_refl n) hmN) id) (fun _ h => h)).acc
            col (hcolT _ _) (fun (a : List (Val D)) c => c = .vec a) (fun a w => (f w).bind fun u => .ok (a ++ [u]))
            (fun _ _ => trivial)
            (fun t b b' c0 w hc0 hR hg hevw hq => by
              subst hR
              cases hfw : f w with
              | error e => rw [hfw] at hg; cases hg
              | ok u =>
                rw [hfw] at hg; cases hg
                obtain ⟨t', hex', hr', hcol', hfr'⟩ := hspec (chainVal B nm c n).1 m t w u b
                  (.touch fun z hz => by
                    rw [outerCur_vars B nm c n z hz]
                    exact ⟨fun j hj e => by have := hinj _ _ e; omega, hres _⟩)
                  hT hevw (hq.2 htynone) hc0 hfw
                refine ⟨t', _, ?_, hr', hcol', rfl, fun z hz1 hz2 => hfr' z hz1 fun h => hz2 (h.elim (fun h => Or.inl (by
                  rw [hNEXT]; exact h.mono (by omega) (Nat.le_refl _))) Or.inr)⟩
                simp only [K]; rw [htynone]; exact hex')
            [] ([] ++ us) (.vec []) hpre rfl ((foldG_mapE f _ ws us [] hm').trans (foldG_push us []))
        exact ⟨us, s', rfl, hex, hr, by simpa using hc', hfr⟩
    | _ => simp at hden

/-- `pushColT_correct` for a continuation that retrieves nothing -/
theorem pushCol_correct (C : Ctx D) (QC : QCtx D) (hN : QC.N = C.N) (hev : QC.ev = C.ev)
    (B : Backend) (hB : BackendBase B) (nm : Nat → String)
    (hinj : ∀ i j, nm i = nm j → i = j) (hres : ∀ j, nm j ≠ "result")
    (hcollT : ∀ name, B.collType name = QC.collType name)
    (c : Chain) (hwo : wtOuter c = true) (n : Nat) (htok : TokChain B nm C c n)
    (col : String) (hcol : ∀ j, nm j ≠ col) (hcolres : col ≠ "result")
    (k : KN) (f : Val D → Except Fault (Val D)) (Q : Val D → Prop)
    (hspec : PushSpec C (InRange nm) col k f Q (fun _ _ => True))
    (hkge : ∀ cur m, m ≤ (k cur none m).2)
    (y : String) (body : Query) (hf : ∀ w, f w = denote QC [(y, w), ("e", evtVal)] body)
    (hct : ChainTyped QC c) (hQ : ∀ cty l, QC.ev.find c.bank = some (cty, .vec l) → ∀ v ∈ l, Q v)
    (s : St D) (hx : (s.env (nm n)).isSome = true) (hpre : s.env col = some (.val (.vec [])))
    (val : Val D) (hden : denote QC [("e", evtVal)] (.select (chainQ "e" c) y body) = .ok val) :
    ∃ us s', val = .vec us ∧ execs C (compChainN B nm c n k).stmts s = .ok s' ∧ s'.rows = s.rows ∧
      s'.env col = some (.val (.vec us)) ∧
      (∀ z, z ≠ col → ¬ Touch nm n (compChainN B nm c n k).next z → s'.env z = s.env z) :=
  pushColT_correct C QC hN hev B hB nm hinj hres hcollT c hwo n htok col hcol hcolres k f Q (fun _ _ => True)
    (hspec.mono (fun _ _ _ => Or.inl) fun _ _ _ => trivial) trivial hkge y body hf hct hQ s hx hpre val hden

structure PCol where
  c : Chain
  /-- the continuation of the outer loop, given the column variable -/
  kn : String → KN
  ty : String
  q : Query
  /-- the token-table entries of the column's retrievals when it is compiled at supply position `n` -/
  toks : Nat → List (String × String × String)

def PCol.Grows (p : PCol) : Prop := ∀ v cur ty m, m ≤ (p.kn v cur ty m).2

def compPCol (B : Backend) (nm cn : Nat → String) (idx : Nat) (p : PCol) (n : Nat) : ColFrag :=
  let f := compChainN B nm p.c n (p.kn (cn idx))
  ⟨f.decls, f.stmts, [], [.clear (cn idx)], (vecTy p.ty, cn idx), f.next⟩

def compPCols (B : Backend) (nm cn : Nat → String) : List PCol → Nat → Nat → List ColFrag
  | [], _, _ => []
  | p :: ps, idx, n => compPCol B nm cn idx p n :: compPCols B nm cn ps (idx + 1) (compPCol B nm cn idx p n).next

def pcolsToks (B : Backend) (nm cn : Nat → String) : List PCol → Nat → Nat → List (String × String × String)
  | [], _, _ => []
  | p :: ps, idx, n => p.toks n ++ pcolsToks B nm cn ps (idx + 1) (compPCol B nm cn idx p n).next

def pushPackage (B : Backend) (nm cn : Nat → String) (names : List String) (ps : List PCol) : Package :=
  let fs := compPCols B nm cn ps 0 0
  let toks := pcolsToks B nm cn ps 0 0
  { body := .block (fs.flatMap (·.decls) ++ fs.flatMap (·.stmts) ++ [.fill (B.fillTree B.treeName)] ++ fs.flatMap (·.clears)),
    classVars := toks.map (fun t => ("edm::EDGetTokenT<" ++ t.2.1 ++ ">", t.1)) ++ fs.map (·.classVar),
    branches := names.zip (fs.map (·.classVar.2)),
    tree := B.treeName,
    tokens := toks }

def NColsPre (cn : Nat → String) (m idx : Nat) (σ : Env D) : Prop :=
  ∀ k, idx ≤ k → k < idx + m → σ (cn k) = some (.val (.vec []))

theorem nColsPre_one {cn : Nat → String} {σ : Env D} : NColsPre cn 1 0 σ ↔ σ (cn 0) = some (.val (.vec [])) :=
  ⟨fun h => h 0 (Nat.le_refl _) (by omega), fun h k _ hk => (show k = 0 by omega) ▸ h⟩

section
variable (B : Backend) (nm cn : Nat → String)

def PCol.Wf (p : PCol) : Prop := p.Grows ∧ ∀ idx n, TokNames nm (p.toks n) n (compPCol B nm cn idx p n).next

def PCol.OneChain (p : PCol) : Prop := ∀ n, p.toks n = onTok B (chainToks B nm p.c n)

theorem compPCol_next_ge (idx : Nat) {p : PCol} (hk : p.Grows) (n : Nat) : n + 3 ≤ (compPCol B nm cn idx p n).next := by
  have h1 := outerNext_ge B nm p.c n
  have h2 := hk (cn idx) (stepConds B.elemPtr (outerIt nm n) none p.c.steps).2.1
    (stepConds B.elemPtr (outerIt nm n) none p.c.steps).2.2 (outerNext B nm p.c n)
  simp only [compPCol, compChainN]; omega

theorem compPCol_decls (idx : Nat) {p : PCol} (hk : p.Grows) (n : Nat) :
    DeclsIn nm n (compPCol B nm cn idx p n).next (compPCol B nm cn idx p n).decls := by
  have hn := compPCol_next_ge B nm cn idx hk n
  intro d hd
  simp only [compPCol, compChainN, compChain, List.mem_singleton] at hd
  exact ⟨_, _, _, hd, n, Nat.le_refl n, by omega, rfl⟩

theorem compPCols_graph : ∀ (ps : List PCol) (idx n : Nat),
    Cols (fun i m f p => f = compPCol B nm cn i p m) idx n (compPCols B nm cn ps idx n) ps
  | [], _, _ => .nil
  | _ :: ps, idx, _ => .cons rfl (compPCols_graph ps (idx + 1) _)

theorem compPCols_cols (C : Ctx D) : ∀ (ps : List PCol) (idx n : Nat),
    (∀ t ∈ pcolsToks B nm cn ps idx n, C.tokenBank t.1 = some t.2) →
    Cols (fun i m f p => f = compPCol B nm cn i p m ∧ ∀ t ∈ p.toks m, C.tokenBank t.1 = some t.2) idx n
      (compPCols B nm cn ps idx n) ps
  | [], _, _, _ => .nil
  | _ :: ps, idx, _, h => .cons ⟨rfl, fun t ht => h t (List.mem_append_left _ ht)⟩
      (compPCols_cols C ps (idx + 1) _ fun t ht => h t (List.mem_append_right _ ht))

theorem compPCols_length (ps : List PCol) (idx n : Nat) : (compPCols B nm cn ps idx n).length = ps.length :=
  (compPCols_graph B nm cn ps idx n).length

/-- a vector column: filled inside its loop, cleared after the fill -/
theorem compPCol_colVar (idx : Nat) (p : PCol) (n : Nat) : ColVar nm cn idx n (compPCol B nm cn idx p n) :=
  ⟨rfl, Or.inl rfl, Or.inr ⟨rfl, isVecType_vecTy _⟩⟩

theorem compPCols_vars (ps : List PCol) (idx n : Nat) :
    (compPCols B nm cn ps idx n).map (·.classVar.2) = colNames cn ps.length idx := by
  rw [(compPCols_graph B nm cn ps idx n).vars fun i m f p h => h ▸ compPCol_colVar B nm cn i p m, compPCols_length]

theorem compPCol_shape (N : Num D) (hB : BackendBase B) (idx : Nat) {p : PCol} (hg : p.Grows) (n : Nat) :
    ColShape N nm cn idx n (compPCol B nm cn idx p n) :=
  -- `compChain_declsOK_base` reads nothing of its context but `C.N`: any context over `N` will do
  have hc := compChain_declsOK_base ⟨N, ⟨[]⟩, [], []⟩ B hB nm p.c n (fun cur ty => (p.kn (cn idx) cur ty (outerNext B nm p.c n)).1)
  { toColVar := compPCol_colVar B nm cn idx p n
    ge := Nat.le_trans (Nat.le_add_right n 3) (compPCol_next_ge B nm cn idx hg n)
    declsIn := compPCol_decls B nm cn idx hg n
    simple := fun d hd => (hc.1 d hd).toA
    nodup := hc.2 ▸ (by simp : [nm n].Nodup) }

theorem compPCols_end_ge (ps : List PCol) (idx n : Nat) (hg : ∀ p ∈ ps, p.Grows) : n ≤ colsEnd n (compPCols B nm cn ps idx n) :=
  ((compPCols_graph B nm cn ps idx n).imp (T := fun i m f p => f = compPCol B nm cn i p m ∧ p.Grows)
    fun _ _ _ p _ hp h => ⟨h, hg p hp⟩).end_ge
    fun i m _ _ h => h.1 ▸ Nat.le_trans (Nat.le_add_right m 3) (compPCol_next_ge B nm cn i h.2 m)

theorem pushPackage_eq (names : List String) (ps : List PCol) :
    pushPackage B nm cn names ps = eventPackage B names (pcolsToks B nm cn ps 0 0) (compPCols B nm cn ps 0 0) := by
  have h : (compPCols B nm cn ps 0 0).flatMap (·.sets) = [] :=
    List.flatMap_eq_nil_iff.2 fun f hf => by
      obtain ⟨_, _, _, _, _, _, rfl⟩ := (compPCols_graph B nm cn ps 0 0).mem hf; rfl
  simp only [pushPackage, eventPackage, h, List.append_nil]

theorem compPCols_pre (σ : Env D) (ps : List PCol) (idx n : Nat) :
    (∀ f ∈ compPCols B nm cn ps idx n, f.Pre σ) ↔ NColsPre cn ps.length idx σ := by
  induction ps generalizing idx n with
  | nil => exact ⟨fun _ k h1 h2 => absurd h2 (by simp; omega), fun _ _ hf => nomatch hf⟩
  | cons p ps ih =>
    simp only [compPCols, List.forall_mem_cons, ih]
    constructor
    · rintro ⟨h1, h2⟩ k hk1 hk2
      by_cases e : k = idx
      · exact e ▸ h1
      · exact h2 k (by omega) (by simp only [List.length_cons] at hk2; omega)
    · exact fun h => ⟨h idx (Nat.le_refl _) (by simp), fun k hk1 hk2 => h k (by omega) (by simp only [List.length_cons]; omega)⟩

theorem compPCols_classVars_vec : ∀ (ps : List PCol) (idx n : Nat),
    ∀ q ∈ (compPCols B nm cn ps idx n).map (·.classVar), isVecType q.1 = true
  | [], _, _, q, hq => by simp [compPCols] at hq
  | p :: ps, idx, n, q, hq => by
    simp only [compPCols, List.map_cons, List.mem_cons] at hq
    rcases hq with rfl | hq
    · exact isVecType_vecTy _
    · exact compPCols_classVars_vec ps _ _ q hq

theorem PCol.OneChain.wf {p : PCol} (h : p.OneChain B nm) (hg : p.Grows) : p.Wf B nm cn := by
  refine ⟨hg, fun idx n => ?_⟩
  rw [h n, onTok]
  split
  · exact (TokNames.chain B nm p.c n fun _ _ => []).mono (Nat.le_refl n)
      (Nat.le_trans (Nat.le_of_eq (compChain_next_eq B nm p.c n _)) (hg _ _ _ _))
  · exact (TokNames.nil n).mono (Nat.le_refl n) (Nat.le_trans (Nat.le_add_right n 3) (compPCol_next_ge B nm cn idx hg n))

theorem banksOf_pcols : ∀ (ps : List PCol) (idx n : Nat) (rest : List Stmt) (bs : List String),
    (∀ p ∈ ps, p.OneChain B nm) →
    banksOf B ((compPCols B nm cn ps idx n).flatMap (·.stmts) ++ rest) (onTok B (ps.map (·.c.bank)) ++ bs) =
      pcolsToks B nm cn ps idx n ++ banksOf B rest bs
  | [], idx, n, rest, bs, _ => by simp [compPCols, pcolsToks, onTok]
  | p :: ps, idx, n, rest, bs, h => by
    have hc := (Toks.chain B nm p.c n (fun cur ty => (p.kn (cn idx) cur ty (outerNext B nm p.c n)).1)).collect
    rw [compPCols, List.flatMap_cons, pcolsToks, List.map_cons, ← List.singleton_append, Toks.onTok_append, List.append_assoc,
      List.append_assoc, show (compPCol B nm cn idx p n).stmts = (compChain B nm p.c n _).stmts from rfl, hc,
      banksOf_pcols ps _ _ _ _ fun q hq => h q (List.mem_cons_of_mem _ hq), h p (List.mem_cons_self ..) n, List.append_assoc]

/-- for columns whose only retrieval is the outer chain's, the table of `pushPackage` is what `banksOf` collects from
the statements: one entry per column on a token backend, none on a backend that retrieves by bank name -/
theorem banksOf_oneChain (ps : List PCol) (h : ∀ p ∈ ps, p.OneChain B nm) :
    banksOf B ((compPCols B nm cn ps 0 0).flatMap (·.stmts)) (ps.map (·.c.bank)) = pcolsToks B nm cn ps 0 0 := by
  by_cases ht : B.how = "token"
  · simpa [onTok, ht, banksOf] using banksOf_pcols B nm cn ps 0 0 [] [] h
  · simpa [onTok, ht, banksOf] using banksOf_pcols B nm cn ps 0 0 [] (ps.map (·.c.bank)) h

theorem pcolsToks_names : ∀ (ps : List PCol) (idx n : Nat), (∀ p ∈ ps, p.Wf B nm cn) →
    TokNames nm (pcolsToks B nm cn ps idx n) n (colsEnd n (compPCols B nm cn ps idx n))
  | [], _, n, _ => .nil n
  | p :: ps, idx, n, hk =>
    have hp := hk p (List.mem_cons_self ..)
    have hps := fun q hq => hk q (List.mem_cons_of_mem _ hq)
    .append (Nat.le_trans (Nat.le_add_right n 3) (compPCol_next_ge B nm cn idx hp.1 n))
      (compPCols_end_ge B nm cn ps _ _ fun q hq => (hps q hq).1) (hp.2 idx n) (pcolsToks_names ps _ _ hps)

theorem pushPackage_lookup (hinj : ∀ i j, nm i = nm j → i = j) (names : List String) (ps : List PCol)
    (hk : ∀ p ∈ ps, p.Wf B nm cn) (N : Num D) (ev : Event D) :
    ∀ t ∈ pcolsToks B nm cn ps 0 0, ((pushPackage B nm cn names ps).ctx N ev).tokenBank t.1 = some t.2 :=
  tokenBank_of_mem ((pushPackage B nm cn names ps).ctx N ev) ((pcolsToks_names B nm cn ps 0 0 hk).nodup hinj)

theorem pushPackage_tokens_names (names : List String) (ps : List PCol) (hk : ∀ p ∈ ps, p.Wf B nm cn) :
    ∀ t ∈ (pushPackage B nm cn names ps).tokens, ∃ j, t.1 = nm j := by
  intro t hm
  obtain ⟨j, _, _, hj⟩ := (pcolsToks_names B nm cn ps 0 0 hk).names t.1 (List.mem_map.2 ⟨t, hm, rfl⟩)
  exact ⟨j, hj⟩

end

/-- the single-column statement: in a context whose table binds the column's tokens, the column's fragment leaves in the
vector variable exactly the list the column's query denotes (`ColSpec`), wherever the column stands -/
def PColOK (C : Ctx D) (QC : QCtx D) (B : Backend) (nm cn : Nat → String) (p : PCol) : Prop :=
  ∀ (idx n : Nat) (v : Val D), (∀ t ∈ p.toks n, C.tokenBank t.1 = some t.2) → denote QC [("e", evtVal)] p.q = .ok v →
    ColSpec C nm cn idx n (compPCol B nm cn idx p n) v

theorem PColOK.of_pushSpec (C : Ctx D) (QC : QCtx D) (hN : QC.N = C.N) (hev : QC.ev = C.ev)
    (B : Backend) (hB : BackendBase B) (nm cn : Nat → String)
    (hinj : ∀ i j, nm i = nm j → i = j) (hres : ∀ j, nm j ≠ "result")
    (hcres : ∀ k, cn k ≠ "result") (hdisj : ∀ j k, nm j ≠ cn k)
    (hcollT : ∀ name, B.collType name = QC.collType name)
    (p : PCol) (hk : p.Grows) (hwo : wtOuter p.c = true) (hct : ChainTyped QC p.c)
    (y : String) (body : Query) (hq : p.q = .select (chainQ "e" p.c) y body) (Q : Val D → Prop) (T : CExpr → Nat → Prop)
    (hspec : ∀ idx, PushSpec C (Touch nm) (cn idx) (p.kn (cn idx)) (fun v => denote QC [(y, v), ("e", evtVal)] body) Q T)
    (htok : ∀ n, (∀ t ∈ p.toks n, C.tokenBank t.1 = some t.2) →
      TokChain B nm C p.c n ∧ T (chainVal B nm p.c n).1 (outerNext B nm p.c n))
    (hQ : ∀ cty l, QC.ev.find p.c.bank = some (cty, .vec l) → ∀ v ∈ l, Q v) : PColOK C QC B nm cn p :=
  fun idx n v ht hden =>
    { shape := compPCol_shape B nm cn C.N hB idx hk n
      run := fun s hdone hpre => by
        -- the one declaration of the fragment is the chain's retrieval variable
        have hx : (s.env (nm n)).isSome = true := by
          have := hdone (.decl (B.handleTy ((B.collType p.c.coll).getD "?")) (nm n) none) (by simp [compPCol, compChainN, compChain])
          simpa [DeclOKA] using this
        obtain ⟨us, s', rfl, hex, hr, hcol, hfr⟩ := pushColT_correct C QC hN hev B hB nm hinj hres hcollT p.c hwo n (htok n ht).1
          (cn idx) (fun j => hdisj j idx) (hcres idx) (p.kn (cn idx)) _ Q T (hspec idx) (htok n ht).2 (fun cur m => hk _ cur none m)
          y body (fun _ => rfl) hct hQ s hx hpre v (hq ▸ hden)
        exact ⟨s', hex, hr, hcol, hfr⟩
      vec := fun _ => denote_select_vec (hq ▸ hden) }

/-- `PColOK.of_pushSpec` for a column whose only retrieval is the outer chain's -/
theorem PColOK.of_oneChain (C : Ctx D) (QC : QCtx D) (hN : QC.N = C.N) (hev : QC.ev = C.ev)
    (B : Backend) (hB : BackendBase B) (nm cn : Nat → String)
    (hinj : ∀ i j, nm i = nm j → i = j) (hres : ∀ j, nm j ≠ "result")
    (hcres : ∀ k, cn k ≠ "result") (hdisj : ∀ j k, nm j ≠ cn k)
    (hcollT : ∀ name, B.collType name = QC.collType name)
    (p : PCol) (hk : p.Grows) (hone : p.OneChain B nm) (hwo : wtOuter p.c = true) (hct : ChainTyped QC p.c)
    (y : String) (body : Query) (hq : p.q = .select (chainQ "e" p.c) y body) (Q : Val D → Prop)
    (hspec : ∀ idx, PushSpec C (InRange nm) (cn idx) (p.kn (cn idx)) (fun v => denote QC [(y, v), ("e", evtVal)] body) Q
      (fun _ _ => True))
    (hQ : ∀ cty l, QC.ev.find p.c.bank = some (cty, .vec l) → ∀ v ∈ l, Q v) : PColOK C QC B nm cn p :=
  PColOK.of_pushSpec C QC hN hev B hB nm cn hinj hres hcres hdisj hcollT p hk hwo hct y body hq Q _
    (fun idx => (hspec idx).mono (fun _ _ _ => Or.inl) fun _ _ h => h)
    (fun n h => ⟨fun ht => h _ (by rw [hone n, onTok, if_pos ht]; exact List.mem_singleton.2 rfl), trivial⟩) hQ

/-- **event-level rows of vector columns** — for every list of columns with their single-column statements, every
event and every class state in which the column vectors are empty: if the query denotes `rows` (necessarily one
row) on the event, the package writes exactly `rows`, and the class state it leaves behind has the column vectors
empty again. -/
theorem pushEventRows_correct_post (B : Backend) (nm cn : Nat → String) (hsup : Supply nm cn)
    (QC : QCtx D) (names : List String) (ps : List PCol) (hlen : names.length = ps.length)
    (hok : ∀ p ∈ ps, p.Wf B nm cn ∧ PColOK ((pushPackage B nm cn names ps).ctx QC.N QC.ev) QC B nm cn p)
    (σc : Env D) (hσ : NColsPre cn ps.length 0 σc) (rows : List (List (Val D)))
    (hden : denoteRows QC (.select .ds "e" (.dict names (ps.map (·.q)))) = .ok rows) :
    ∃ σ', runEvent (pushPackage B nm cn names ps) QC.N σc QC.ev = .ok (rows, σ') ∧ NColsPre cn ps.length 0 σ' := by
  obtain ⟨vs, hvs, rfl⟩ := eventDict_denote QC _ _ (by simp [hlen]) rows hden
  have hg := compPCols_cols B nm cn _ ps 0 0 (pushPackage_lookup B nm cn hsup.inj names ps (fun p hp => (hok p hp).1) QC.N QC.ev)
  have hspec := hg.withDen QC _ (·.q) vs hvs (T := ColSpec ((pushPackage B nm cn names ps).ctx QC.N QC.ev) nm cn)
    fun i m f p v hp h hd => h.1 ▸ (hok p hp).2 i m v h.2 hd
  rw [pushPackage_eq] at hspec ⊢
  obtain ⟨σ', hrun, hpost⟩ := eventPackage_correct B nm cn hsup QC.N QC.ev names _ _ vs
    (by rw [hlen, ← hg.length]) hspec σc ((compPCols_pre B nm cn σc ps 0 0).2 hσ)
  exact ⟨σ', hrun, (compPCols_pre B nm cn σ' ps 0 0).1 hpost⟩

theorem classInit_vec : ∀ (vars : List (String × String)) (x : String),
    (∀ p ∈ vars, isVecType p.1 = true) → x ∈ vars.map (·.2) → (classInit vars : Env D) x = some (.val (.vec []))
  | [], x, _, h => by simp at h
  | (ty, n) :: rest, x, hv, h => by
    by_cases hx : x = n
    · subst hx; rw [classInit_cons_self, if_pos (hv (ty, x) (List.mem_cons_self ..))]
    · rw [classInit_cons_ne ty n rest hx]
      exact classInit_vec rest x (fun p hp => hv p (List.mem_cons_of_mem _ hp)) (by simpa [hx] using h)

/-- **the initial class state has the column vectors empty** (the token members, declared before the column
variables, do not interfere: their names are generated local names) -/
theorem pushPre_classInit (B : Backend) (nm cn : Nat → String) (hdisj : ∀ j k, nm j ≠ cn k) (names : List String)
    (ps : List PCol) (hk : ∀ p ∈ ps, p.Wf B nm cn) :
    NColsPre cn ps.length 0 (classInit (pushPackage B nm cn names ps).classVars : Env D) := by
  intro k _ hk2
  rw [show (pushPackage B nm cn names ps).classVars =
      (pushPackage B nm cn names ps).tokens.map (fun t => ("edm::EDGetTokenT<" ++ t.2.1 ++ ">", t.1)) ++
        (compPCols B nm cn ps 0 0).map (·.classVar) from rfl,
    classInit_skip_tokens nm cn hdisj _ (pushPackage_tokens_names B nm cn names ps hk)]
  apply classInit_vec _ _ (compPCols_classVars_vec B nm cn _ 0 0)
  rw [List.map_map]
  exact compPCols_vars B nm cn ps 0 0 ▸ mem_colNames cn _ 0 k (Nat.zero_le _) (by omega)

/-- `pushEventRows_correct_post` for a list of named columns of a fragment's own column type, `toP` their translation -/
theorem pushEventRows_of_toP (B : Backend) (nm cn : Nat → String) (hsup : Supply nm cn) (QC : QCtx D) {α : Type}
    (toP : α → PCol) (cols : List (String × α))
    (hok : ∀ p ∈ cols, (toP p.2).Wf B nm cn ∧
      PColOK ((pushPackage B nm cn (cols.map (·.1)) (cols.map fun p => toP p.2)).ctx QC.N QC.ev) QC B nm cn (toP p.2))
    (σc : Env D) (hσ : NColsPre cn cols.length 0 σc) (rows : List (List (Val D)))
    (hden : denoteRows QC (.select .ds "e" (.dict (cols.map (·.1)) (cols.map fun p => (toP p.2).q))) = .ok rows) :
    ∃ σ', runEvent (pushPackage B nm cn (cols.map (·.1)) (cols.map fun p => toP p.2)) QC.N σc QC.ev = .ok (rows, σ') ∧
      NColsPre cn cols.length 0 σ' := by
  have hl : (cols.map fun p => toP p.2).length = cols.length := List.length_map ..
  have h := pushEventRows_correct_post B nm cn hsup QC (cols.map Prod.fst) (cols.map fun p => toP p.2)
    (by rw [hl, List.length_map]) (List.forall_mem_map.2 hok) σc (by rw [hl]; exact hσ) rows (by rw [List.map_map]; exact hden)
  rwa [hl] at h

end FaxVerif.Gen
