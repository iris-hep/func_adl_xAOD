/-
Gen — what the embedded queries (`toQuery`) denote, in terms of the element-at-a-time semantics
`elemsSem` used on the C++ side. The chain part `src.{Select(λ) | Where(λ)}*` is proved once, for any language of
lambda bodies (`QStep`: a step with its body and what the body means for an element; `collStepsG_ok`); the pure chains
of Gen/Lite.lean are the instance `Step.q`, the chains of Gen/Lazy.lean and Gen/Capture.lean the instances
`StepL.q` (Gen/LazyRowsCorrect.lean) and `CStep.q` (Gen/CaptureChainCorrect.lean).
-/
import FaxVerif.Gen.ChainCorrect
namespace FaxVerif.Gen
open FaxVerif.Cpp FaxVerif.Linq
variable {D : Type}

theorem denotes_cons_ok {QC : QCtx D} {ρ : LEnv D} {q : Query} {qs : List Query} {row : List (Val D)} :
    denotes QC ρ (q :: qs) = .ok row ↔ ∃ w ws, denote QC ρ q = .ok w ∧ denotes QC ρ qs = .ok ws ∧ row = w :: ws := by
  simp only [denotes]
  cases denote QC ρ q <;> cases denotes QC ρ qs <;> simp [eq_comm]

theorem denotes_ok_mem {QC : QCtx D} {ρ : LEnv D} : ∀ {qs : List Query} {vs : List (Val D)}, denotes QC ρ qs = .ok vs →
    ∀ q ∈ qs, ∃ v, denote QC ρ q = .ok v
  | [], _, _, _, hq => nomatch hq
  | _ :: _, _, h, q, hq => by
    obtain ⟨v, _, h1, h2, _⟩ := denotes_cons_ok.1 h
    rcases List.mem_cons.1 hq with rfl | hq
    · exact ⟨v, h1⟩
    · exact denotes_ok_mem h2 q hq

theorem denotes_length (C : QCtx D) (ρ : LEnv D) : ∀ (qs : List Query) (vs : List (Val D)),
    denotes C ρ qs = .ok vs → vs.length = qs.length
  | [], vs, h => by cases h; rfl
  | q :: qs, vs, h => by
    obtain ⟨v, vs', _, h2, rfl⟩ := denotes_cons_ok.1 h
    simp [denotes_length C ρ qs vs' h2]

theorem collType_single {QC : QCtx D} {k t : String} (h : QC.collTypes = [(k, t)]) (name : String) :
    QC.collType name = if name = k then some t else none := by
  simp only [QCtx.collType, h, QCtx.collType.go]
  by_cases hn : name = k
  · simp [hn]
  · have hn' : ¬ k = name := fun e => hn e.symm
    simp [hn, hn']

theorem coll_denote_ok {C : QCtx D} {ρ : LEnv D} {ev coll bank : String} {content : Val D}
    (h : denote C ρ (.coll (.var ev) coll bank) = .ok content) :
    ∃ cty, C.collType coll = some cty ∧ C.ev.find bank = some (cty, content) := by
  simp only [denote] at h
  cases hev : ρ.get ev with
  | none => simp [hev] at h
  | some _ =>
    cases hf : C.ev.find bank with
    | none => simp [hev, hf] at h
    | some p =>
      cases hct : C.collType coll with
      | none => simp [hev, hf, hct] at h
      | some want =>
        simp only [hev, hf, hct] at h
        split at h
        · next hw => cases h; exact ⟨want, rfl, by rw [hw]⟩
        · cases h

/-- a step as the query sees it: `Select` / `Where`, the lambda body over the bound variable, and what the body means
for an element -/
structure QStep (D : Type) where
  whr : Bool
  body : String → Query
  sem : Val D → Except Fault (Val D)

def QStep.app (s : QStep D) (src : Query) (x : String) : Query :=
  if s.whr then .where_ src x (s.body x) else .select src x (s.body x)

def stepsQG (var : Nat → String) (src : Query) : List (QStep D) → Nat → Query
  | [], _ => src
  | s :: rest, k => stepsQG var (s.app src (var k)) rest (k + 1)

/-- in the environment `ρ`, with the bound variable called `x`, the body means `sem` -/
def QStep.Faithful (C : QCtx D) (ρ : LEnv D) (s : QStep D) (x : String) : Prop :=
  ∀ v : Val D, denote C ((x, v) :: ρ) (s.body x) = s.sem v

def QStep.list (C : QCtx D) (s : QStep D) (l : List (Val D)) : Except Fault (List (Val D)) :=
  if s.whr then filterE C.N s.sem l else mapE s.sem l

def elemSemG (C : QCtx D) : List (QStep D) → Val D → Except Fault (Option (Val D))
  | [], v => .ok (some v)
  | s :: rest, v => match s.sem v with
    | .error e => .error e
    | .ok w =>
      if s.whr then
        match asBool C.N w with
        | none => .error (.typeErr "Where predicate")
        | some true => elemSemG C rest v
        | some false => .ok none
      else elemSemG C rest w

def chainListG (C : QCtx D) : List (QStep D) → List (Val D) → Except Fault (List (Val D))
  | [], l => .ok l
  | s :: rest, l => match s.list C l with
    | .error e => .error e
    | .ok r => chainListG C rest r

theorem elemsSemG_step (C : QCtx D) (s : QStep D) (rest : List (QStep D)) :
    ∀ (l l1 r : List (Val D)), s.list C l = .ok l1 → optsE (elemSemG C rest) l1 = .ok r →
      optsE (elemSemG C (s :: rest)) l = .ok r
  | [], l1, r, hm, he => by
    have : l1 = [] := by
      unfold QStep.list at hm; split at hm <;> simpa [filterE, mapE, eq_comm] using hm
    subst this; simpa [optsE] using he
  | v :: vs, l1, r, hm, he => by
    unfold QStep.list at hm
    cases hw : s.whr with
    | false =>
      simp only [hw, Bool.false_eq_true, if_false] at hm
      obtain ⟨w, ws, hv, hvs, rfl⟩ := mapE_cons_ok.1 hm
      obtain ⟨o, rs, ho, hr, rfl⟩ := optsE_cons_ok.1 he
      exact optsE_cons_ok.2 ⟨o, rs, by simp only [elemSemG, hv, hw, Bool.false_eq_true, if_false, ho],
        elemsSemG_step C s rest vs ws rs (by simp only [QStep.list, hw, Bool.false_eq_true, if_false, hvs]) hr, rfl⟩
    | true =>
      simp only [hw, if_true] at hm
      obtain ⟨w, b, ws, hv, hb, hvs, rfl⟩ := filterE_cons_ok.1 hm
      have ih := fun r' h' => elemsSemG_step C s rest vs ws r' (by simp only [QStep.list, hw, if_true, hvs]) h'
      cases b with
      | false => exact optsE_cons_ok.2 ⟨none, r, by simp only [elemSemG, hv, hw, if_true, hb], ih r he, rfl⟩
      | true =>
        obtain ⟨o, rs, ho, hr, rfl⟩ := optsE_cons_ok.1 he
        exact optsE_cons_ok.2 ⟨o, rs, by simp only [elemSemG, hv, hw, if_true, hb, ho], ih rs hr, rfl⟩

theorem optsE_nil_steps (C : QCtx D) : ∀ l : List (Val D), optsE (elemSemG C []) l = .ok l
  | [] => rfl
  | v :: vs => optsE_cons_ok.2 ⟨some v, vs, rfl, optsE_nil_steps C vs, rfl⟩

theorem chainListG_elems (C : QCtx D) : ∀ (steps : List (QStep D)) (l r : List (Val D)),
    chainListG C steps l = .ok r → optsE (elemSemG C steps) l = .ok r
  | [], l, r, h => by
    simp only [chainListG, Except.ok.injEq] at h; subst h; exact optsE_nil_steps C l
  | s :: rest, l, r, h => by
    simp only [chainListG] at h
    cases hm : s.list C l with
    | error e => rw [hm] at h; cases h
    | ok l1 => rw [hm] at h; exact elemsSemG_step C s rest l l1 r hm (chainListG_elems C rest l1 r h)

theorem QStep.app_error (C : QCtx D) (ρ : LEnv D) (s : QStep D) (src : Query) (x : String) (e : Fault)
    (h : denote C ρ src = .error e) : denote C ρ (s.app src x) = .error e := by
  unfold QStep.app; split <;> simp [denote, h]

theorem QStep.app_nonvec (C : QCtx D) (ρ : LEnv D) (s : QStep D) (src : Query) (x : String) (u : Val D)
    (hu : ∀ l, u ≠ .vec l) (h : denote C ρ src = .ok u) : ∃ e, denote C ρ (s.app src x) = .error e := by
  unfold QStep.app
  cases u with
  | vec l => exact absurd rfl (hu l)
  | _ => split <;> simp [denote, h]

theorem QStep.app_vec (C : QCtx D) (ρ : LEnv D) (s : QStep D) (src : Query) (x : String) (hs : s.Faithful C ρ x)
    (l : List (Val D)) (h : denote C ρ src = .ok (.vec l)) :
    denote C ρ (s.app src x) = (match s.list C l with
      | .ok r => .ok (.vec r)
      | .error e => .error e) := by
  unfold QStep.app QStep.list
  split
  · rw [show filterE C.N s.sem l = filterE C.N (fun v => denote C ((x, v) :: ρ) (s.body x)) l from
      filterE_congr C.N _ _ (fun v => (hs v).symm) l]
    simp only [denote, h]
    cases filterE C.N (fun v => denote C ((x, v) :: ρ) (s.body x)) l <;> rfl
  · rw [show mapE s.sem l = mapE (fun v => denote C ((x, v) :: ρ) (s.body x)) l from
      mapE_congr _ _ (fun v => (hs v).symm) l]
    simp only [denote, h]
    cases mapE (fun v => denote C ((x, v) :: ρ) (s.body x)) l <;> rfl

theorem stepsQG_error (C : QCtx D) (ρ : LEnv D) (var : Nat → String) (e : Fault) :
    ∀ (steps : List (QStep D)) (src : Query) (k : Nat),
      denote C ρ src = .error e → denote C ρ (stepsQG var src steps k) = .error e
  | [], _, _, h => h
  | s :: rest, src, _, h => stepsQG_error C ρ var e rest _ _ (s.app_error C ρ src _ e h)

theorem stepsQG_denote (C : QCtx D) (ρ : LEnv D) (var : Nat → String) :
    ∀ (steps : List (QStep D)), (∀ s ∈ steps, ∀ k, s.Faithful C ρ (var k)) →
    ∀ (src : Query) (k : Nat) (l : List (Val D)), denote C ρ src = .ok (.vec l) →
      denote C ρ (stepsQG var src steps k) = (match chainListG C steps l with
        | .ok r => .ok (.vec r)
        | .error e => .error e)
  | [], _, _, _, _, h => h
  | s :: rest, hs, src, k, l, h => by
    have ha := s.app_vec C ρ src (var k) (hs s (by simp) k) l h
    simp only [stepsQG, chainListG]
    cases hm : s.list C l with
    | error e => rw [hm] at ha; exact stepsQG_error C ρ var e rest _ _ ha
    | ok r => rw [hm] at ha; exact stepsQG_denote C ρ var rest (fun t ht => hs t (by simp [ht])) _ _ r ha

theorem stepsQG_nonvec (C : QCtx D) (ρ : LEnv D) (var : Nat → String) (u : Val D) (hu : ∀ l, u ≠ .vec l) :
    ∀ (steps : List (QStep D)) (src : Query) (k : Nat), denote C ρ src = .ok u →
      ∀ r, denote C ρ (stepsQG var src steps k) = .ok r → r = u
  | [], _, _, h, r, hr => Except.ok.inj (hr.symm.trans h)
  | s :: rest, src, k, h, r, hr => by
    obtain ⟨e, he⟩ := s.app_nonvec C ρ src (var k) u hu h
    rw [stepsQG, stepsQG_error C ρ var e rest _ _ he] at hr; cases hr

/-- If a chain over an event collection denotes a list, then the bank exists with the collection's container type,
it holds a list, and the value is the list of what the kept elements become. -/
theorem collStepsG_ok (C : QCtx D) (ρ : LEnv D) (var : Nat → String) (ev coll bank : String) (steps : List (QStep D))
    (hs : ∀ s ∈ steps, ∀ k, s.Faithful C ρ (var k)) (ws : List (Val D))
    (h : denote C ρ (stepsQG var (.coll (.var ev) coll bank) steps 0) = .ok (.vec ws)) :
    ∃ cty l, C.collType coll = some cty ∧ C.ev.find bank = some (cty, .vec l) ∧
      optsE (elemSemG C steps) l = .ok ws := by
  cases hsrc : denote C ρ (.coll (.var ev) coll bank) with
  | error e => rw [stepsQG_error C ρ var e steps _ 0 hsrc] at h; cases h
  | ok content =>
    obtain ⟨cty, hct, hf⟩ := coll_denote_ok hsrc
    cases content with
    | vec l =>
      rw [stepsQG_denote C ρ var steps hs _ 0 l hsrc] at h
      cases hcl : chainListG C steps l with
      | error e => rw [hcl] at h; cases h
      | ok r =>
        rw [hcl] at h
        simp only [Except.ok.injEq, Val.vec.injEq] at h
        exact ⟨cty, l, hct, hf, h ▸ chainListG_elems C steps l r hcl⟩
    | _ => exact absurd (stepsQG_nonvec C ρ var _ (by intro l; simp) steps _ 0 hsrc _ h) (by simp)

def Step.q (C : QCtx D) : Step → QStep D
  | .sel f => ⟨false, fun x => peQ x f, fun v => peSem C v f⟩
  | .whr c => ⟨true, fun x => peQ x c, fun v => peSem C v c⟩

theorem steps_faithful (C : QCtx D) (ρ : LEnv D) (steps : List Step) :
    ∀ s ∈ steps.map (Step.q C), ∀ k, s.Faithful C ρ (lamVar k) := fun s hs k v => by
  obtain ⟨t, _, rfl⟩ := List.mem_map.1 hs
  cases t <;> exact peQ_indep C v (lamVar k) "x" ρ [] _

theorem stepsQ_eq (C : QCtx D) : ∀ (steps : List Step) (src : Query) (k : Nat),
    stepsQ src steps k = stepsQG lamVar src (steps.map (Step.q C)) k
  | [], _, _ => rfl
  | .sel _ :: rest, _, k | .whr _ :: rest, _, k => stepsQ_eq C rest _ (k + 1)

theorem elemSem_eq (C : QCtx D) : ∀ (steps : List Step) (v : Val D), elemSem C steps v = elemSemG C (steps.map (Step.q C)) v
  | [], _ => rfl
  | .sel f :: rest, v => by
    simp only [elemSem, List.map_cons, elemSemG, Step.q, Bool.false_eq_true, if_false]
    cases peSem C v f with
    | error e => rfl
    | ok w => exact elemSem_eq C rest w
  | .whr c :: rest, v => by
    simp only [elemSem, List.map_cons, elemSemG, Step.q, if_true]
    cases peSem C v c with
    | error e => rfl
    | ok w =>
      dsimp only
      cases asBool C.N w with
      | none => rfl
      | some b => cases b with
        | false => rfl
        | true => exact elemSem_eq C rest v

theorem chainList_eq (C : QCtx D) : ∀ (steps : List Step) (l : List (Val D)),
    chainList C steps l = chainListG C (steps.map (Step.q C)) l
  | [], _ => rfl
  | .sel f :: rest, l => by
    simp only [chainList, List.map_cons, chainListG, QStep.list, Step.q, Bool.false_eq_true, if_false]
    cases mapE (fun v => peSem C v f) l with
    | error e => rfl
    | ok r => exact chainList_eq C rest r
  | .whr c :: rest, l => by
    simp only [chainList, List.map_cons, chainListG, QStep.list, Step.q, if_true]
    cases filterE C.N (fun v => peSem C v c) l with
    | error e => rfl
    | ok r => exact chainList_eq C rest r

theorem chainList_elems (C : QCtx D) (steps : List Step) (l r : List (Val D))
    (h : chainList C steps l = .ok r) : elemsSem C steps l = .ok r := by
  rw [chainList_eq] at h
  rw [elemsSem_eq_optsE, show elemSem C steps = elemSemG C (steps.map (Step.q C)) from funext (elemSem_eq C steps)]
  exact chainListG_elems C _ l r h

theorem stepsQ_error (C : QCtx D) (ρ : LEnv D) (e : Fault) (steps : List Step) (src : Query) (k : Nat)
    (h : denote C ρ src = .error e) : denote C ρ (stepsQ src steps k) = .error e := by
  rw [stepsQ_eq C]; exact stepsQG_error C ρ lamVar e _ src k h

theorem stepsQ_denote (C : QCtx D) (ρ : LEnv D) (steps : List Step) (src : Query) (k : Nat) (l : List (Val D))
    (h : denote C ρ src = .ok (.vec l)) :
    denote C ρ (stepsQ src steps k) = (match chainList C steps l with
      | .ok r => .ok (.vec r)
      | .error e => .error e) := by
  rw [stepsQ_eq C, chainList_eq]; exact stepsQG_denote C ρ lamVar _ (steps_faithful C ρ steps) src k l h

theorem stepsQ_nonvec (C : QCtx D) (ρ : LEnv D) (x : Val D) (hx : ∀ l, x ≠ .vec l)
    (steps : List Step) (src : Query) (k : Nat) (h : denote C ρ src = .ok x)
    (r : Val D) (hr : denote C ρ (stepsQ src steps k) = .ok r) : r = x := by
  rw [stepsQ_eq C] at hr; exact stepsQG_nonvec C ρ lamVar x hx _ src k h r hr

theorem chainQ_ok (C : QCtx D) (ρ : LEnv D) (ev : String) (c : Chain) (ws : List (Val D))
    (h : denote C ρ (chainQ ev c) = .ok (.vec ws)) :
    ∃ cty l, C.collType c.coll = some cty ∧ C.ev.find c.bank = some (cty, .vec l) ∧
      elemsSem C c.steps l = .ok ws := by
  rw [chainQ, stepsQ_eq C] at h
  obtain ⟨cty, l, h1, h2, h3⟩ := collStepsG_ok C ρ lamVar ev c.coll c.bank _ (steps_faithful C ρ c.steps) ws h
  refine ⟨cty, l, h1, h2, ?_⟩
  rw [elemsSem_eq_optsE, show elemSem C c.steps = elemSemG C (c.steps.map (Step.q C)) from funext (elemSem_eq C c.steps)]
  exact h3

theorem denote_where_ok {QC : QCtx D} {ρ : LEnv D} {src f : Query} {x : String} {r : List (Val D)} :
    denote QC ρ (.where_ src x f) = .ok (.vec r) ↔
      ∃ l, denote QC ρ src = .ok (.vec l) ∧ filterE QC.N (fun v => denote QC ((x, v) :: ρ) f) l = .ok r := by
  simp only [denote]
  cases denote QC ρ src with
  | error e => simp
  | ok sv =>
    cases sv with
    | vec l => cases hf : filterE QC.N (fun v => denote QC ((x, v) :: ρ) f) l <;> simp [hf]
    | _ => simp

theorem denote_select_ok {QC : QCtx D} {ρ : LEnv D} {src f : Query} {x : String} {r : List (Val D)} :
    denote QC ρ (.select src x f) = .ok (.vec r) ↔
      ∃ l, denote QC ρ src = .ok (.vec l) ∧ mapE (fun v => denote QC ((x, v) :: ρ) f) l = .ok r := by
  simp only [denote]
  cases denote QC ρ src with
  | error e => simp
  | ok sv =>
    cases sv with
    | vec l => cases hm : mapE (fun v => denote QC ((x, v) :: ρ) f) l <;> simp [hm]
    | _ => simp

theorem denote_count_ok {QC : QCtx D} {ρ : LEnv D} {src : Query} {w : Val D} :
    denote QC ρ (.count src) = .ok w ↔ ∃ l, denote QC ρ src = .ok (.vec l) ∧ w = .int l.length := by
  simp only [denote]
  cases denote QC ρ src with
  | error e => simp
  | ok sv => cases sv <;> simp [eq_comm]

theorem denote_sum_ok {QC : QCtx D} {ρ : LEnv D} {src : Query} {w : Val D} :
    denote QC ρ (.sum src) = .ok w ↔
      ∃ l, denote QC ρ src = .ok (.vec l) ∧ foldE (fun a v => arith QC.N "+" a v) l (.int 0) = .ok w := by
  simp only [denote]
  cases denote QC ρ src with
  | error e => simp
  | ok sv => cases sv <;> simp

theorem dictQ_denote (QC : QCtx D) (ρ : LEnv D) (names : List String) (qs : List Query) :
    denote QC ρ (.dict names qs) = (match denotes QC ρ qs with
      | .error e => .error e
      | .ok vs => .ok (tupleVal (names.zip vs))) := by
  simp only [denote]
  cases denotes QC ρ qs <;> rfl

theorem denote_select (C : QCtx D) (ρ : LEnv D) (s : Query) (x : String) (f : Query) :
    denote C ρ (.select s x f) = (match denote C ρ s with
      | .error e => .error e
      | .ok (.vec l) => (match mapE (fun v => denote C ((x, v) :: ρ) f) l with
        | .ok r => .ok (.vec r)
        | .error e => .error e)
      | .ok _ => .error (.typeErr "Select source is not a sequence")) := by
  simp only [denote]
  cases denote C ρ s with
  | error e => rfl
  | ok v =>
    cases v with
    | vec l => simp only []; cases mapE (fun v => denote C ((x, v) :: ρ) f) l <;> rfl
    | _ => rfl

theorem denote_select_vec {QC : QCtx D} {ρ : LEnv D} {src f : Query} {x : String} {v : Val D}
    (h : denote QC ρ (.select src x f) = .ok v) : ∃ l, v = .vec l := by
  rw [denote_select] at h
  split at h
  · cases h
  · split at h
    · exact ⟨_, (Except.ok.inj h).symm⟩
    · cases h
  · cases h

-- the one element of `.ds` in `Linq.denote` (Linq/Query.lean), spelled again: `denote_selectMany_ds` holds by this
-- agreement, and `l ++ []` there is `flatMapE` over that one-element list, left as it computes
def evtVal : Val D := .obj "__event__" []

theorem denote_selectMany_ds (C : QCtx D) (x : String) (f : Query) :
    denote C [] (.selectMany .ds x f) = (match denote C [(x, evtVal)] f with
      | .error e => .error e
      | .ok (.vec l) => .ok (.vec (l ++ []))
      | .ok _ => .error (.typeErr "SelectMany body is not a sequence")) := by
  simp only [denote, flatMapE, evtVal]
  cases denote C [(x, Val.obj "__event__" [])] f with
  | error e => rfl
  | ok v => cases v <;> rfl

end FaxVerif.Gen
