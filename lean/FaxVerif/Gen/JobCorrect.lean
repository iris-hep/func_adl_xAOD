/-
Gen — job-level correctness of the translator model.

A single-event theorem (`eventRows_correct_post`, `elemRows_correct_post`, …) says what ONE call of the per-event method
does: from a class state satisfying a precondition it writes the rows the query denotes on that event and leaves a class
state satisfying the precondition again (`EventOK`). Here this is iterated over a job (`Cpp.runJob`: events in order,
class state threaded through, starting from `classInit`). All the job-level statements (C05) need of a package is its
`EventOK` and that `classInit` satisfies the precondition (`JobOK`); the rest is list induction, the same for every
package. Success direction only: every event of the job is one on which the query is defined (`denoteRows = ok`).
-/
import FaxVerif.Cpp.Run
import FaxVerif.Linq.Query
namespace FaxVerif.Linq
open FaxVerif.Cpp
variable {D : Type}

def QCtx.withEvent (QC : QCtx D) (ev : Event D) : QCtx D := { QC with ev := ev }

def denoteJob (QC : QCtx D) (q : Query) : List (Event D) → Except Fault (List (List (Val D)))
  | [] => .ok []
  | ev :: evs => match denoteRows (QC.withEvent ev) q with
    | .error f => .error f
    | .ok rows => match denoteJob QC q evs with
      | .ok more => .ok (rows ++ more)
      | .error f => .error f

-- `[]` where `q` is undefined on the event: a dummy, every statement below has `denoteRows … = .ok (rowsOf …)` beside it
def rowsOf (QC : QCtx D) (q : Query) (ev : Event D) : List (List (Val D)) :=
  match denoteRows (QC.withEvent ev) q with
  | .ok rows => rows
  | .error _ => []

end FaxVerif.Linq

namespace FaxVerif.Gen
open FaxVerif.Cpp FaxVerif.Linq
variable {D : Type}

theorem denoteJob_ok (QC : QCtx D) (q : Query) : ∀ (evs : List (Event D)) (r : List (List (Val D))),
    denoteJob QC q evs = .ok r →
      (∀ ev ∈ evs, denoteRows (QC.withEvent ev) q = .ok (rowsOf QC q ev)) ∧ r = (evs.map (rowsOf QC q)).flatten
  | [], r, h => by simp only [denoteJob, Except.ok.injEq] at h; subst h; simp
  | ev :: evs, r, h => by
    simp only [denoteJob] at h
    cases h1 : denoteRows (QC.withEvent ev) q with
    | error f => rw [h1] at h; simp at h
    | ok rows =>
      rw [h1] at h; simp only [] at h
      cases h2 : denoteJob QC q evs with
      | error f => rw [h2] at h; simp at h
      | ok more =>
        rw [h2] at h; simp only [Except.ok.injEq] at h; subst h
        obtain ⟨ih1, ih2⟩ := denoteJob_ok QC q evs more h2
        have hr : rowsOf QC q ev = rows := by simp [rowsOf, h1]
        refine ⟨?_, by simp [hr, ih2]⟩
        intro e hm
        rcases List.mem_cons.1 hm with rfl | hm
        · rw [hr]; exact h1
        · exact ih1 e hm

theorem denoteJob_of_all (QC : QCtx D) (q : Query) : ∀ (evs : List (Event D)),
    (∀ ev ∈ evs, denoteRows (QC.withEvent ev) q = .ok (rowsOf QC q ev)) →
      denoteJob QC q evs = .ok (evs.map (rowsOf QC q)).flatten
  | [], _ => by simp [denoteJob]
  | ev :: evs, h => by
    have ih := denoteJob_of_all QC q evs (fun e hm => h e (by simp [hm]))
    simp only [denoteJob, h ev (by simp), ih, List.map_cons, List.flatten_cons]

def DenoteBlocks (QC : QCtx D) (q : Query) : List (Event D) → List (List (List (Val D))) → Prop
  | [], [] => True
  | ev :: evs, r :: rs => denoteRows (QC.withEvent ev) q = .ok r ∧ DenoteBlocks QC q evs rs
  | _, _ => False

theorem denoteJob_blocks (QC : QCtx D) (q : Query) : ∀ (evs : List (Event D)) (rs : List (List (List (Val D)))),
    DenoteBlocks QC q evs rs → denoteJob QC q evs = .ok rs.flatten
  | [], [], _ => by simp [denoteJob]
  | [], _ :: _, h => by simp [DenoteBlocks] at h
  | _ :: _, [], h => by simp [DenoteBlocks] at h
  | ev :: evs, r :: rs, h => by
    simp only [DenoteBlocks] at h
    simp only [denoteJob, h.1, denoteJob_blocks QC q evs rs h.2, List.flatten_cons]

theorem runJobFrom_inv (P : Package) (N : Num D) (Inv : Env D → Prop) (rowsOf : Event D → List (List (Val D))) :
    ∀ (evs : List (Event D)) (σ : Env D), Inv σ →
      (∀ ev ∈ evs, ∀ σ, Inv σ → ∃ σ', runEvent P N σ ev = .ok (rowsOf ev, σ') ∧ Inv σ') →
      runJobFrom P N σ evs = .ok (evs.map rowsOf).flatten
  | [], _, _, _ => by simp [runJobFrom]
  | ev :: evs, σ, hσ, h => by
    obtain ⟨σ', hrun, hσ'⟩ := h ev (by simp) σ hσ
    have ih := runJobFrom_inv P N Inv rowsOf evs σ' hσ' (fun e hm => h e (by simp [hm]))
    simp only [runJobFrom, hrun, ih, List.map_cons, List.flatten_cons]

theorem denoteJob_append (QC : QCtx D) (q : Query) (xs ys : List (Event D)) (r₁ r₂ : List (List (Val D)))
    (h₁ : denoteJob QC q xs = .ok r₁) (h₂ : denoteJob QC q ys = .ok r₂) :
    denoteJob QC q (xs ++ ys) = .ok (r₁ ++ r₂) := by
  obtain ⟨a1, e1⟩ := denoteJob_ok QC q xs r₁ h₁
  obtain ⟨a2, e2⟩ := denoteJob_ok QC q ys r₂ h₂
  rw [denoteJob_of_all QC q (xs ++ ys) (fun ev hm => by
    rcases List.mem_append.1 hm with hm | hm
    · exact a1 ev hm
    · exact a2 ev hm)]
  simp [e1, e2]

/-- the single-event theorem of package `P` for query `q`, on the events satisfying `Hyp`: entered in a class
state satisfying `Pre`, on an event where `q` denotes `rows`, the per-event method writes exactly `rows` and
leaves a class state satisfying `Pre` again -/
def EventOK (P : Package) (QC : QCtx D) (q : Query) (Pre : Env D → Prop) (Hyp : Event D → Prop) : Prop :=
  ∀ ev, Hyp ev → ∀ σ, Pre σ → ∀ rows, denoteRows (QC.withEvent ev) q = .ok rows →
    ∃ σ', runEvent P QC.N σ ev = .ok (rows, σ') ∧ Pre σ'

namespace EventOK
variable {P : Package} {QC : QCtx D} {q : Query} {Pre : Env D → Prop} {Hyp : Event D → Prop}

theorem jobFrom (h : EventOK P QC q Pre Hyp) {evs : List (Event D)} (hhyp : ∀ ev ∈ evs, Hyp ev)
    {σ : Env D} (hσ : Pre σ) {rows : List (List (Val D))} (hden : denoteJob QC q evs = .ok rows) :
    runJobFrom P QC.N σ evs = .ok rows := by
  obtain ⟨hall, rfl⟩ := denoteJob_ok QC q evs rows hden
  exact runJobFrom_inv P QC.N Pre (rowsOf QC q) evs σ hσ
    fun ev hm σ hσ' => h ev (hhyp ev hm) σ hσ' _ (hall ev hm)

/-- the rows an event writes do not depend on which admissible class state it is entered with -/
theorem history_free (h : EventOK P QC q Pre Hyp) {ev : Event D} (hev : Hyp ev) {σ₁ σ₂ : Env D}
    (h₁ : Pre σ₁) (h₂ : Pre σ₂) {rows : List (List (Val D))} (hden : denoteRows (QC.withEvent ev) q = .ok rows) :
    ∃ σ₁' σ₂', runEvent P QC.N σ₁ ev = .ok (rows, σ₁') ∧ runEvent P QC.N σ₂ ev = .ok (rows, σ₂') :=
  let ⟨σ₁', hr1, _⟩ := h ev hev σ₁ h₁ rows hden
  let ⟨σ₂', hr2, _⟩ := h ev hev σ₂ h₂ rows hden
  ⟨σ₁', σ₂', hr1, hr2⟩

end EventOK

/-- all the job-level statements need of a package: its single-event theorem, and that the class state a job
starts from satisfies the precondition -/
structure JobOK (P : Package) (QC : QCtx D) (q : Query) (Pre : Env D → Prop) (Hyp : Event D → Prop) : Prop where
  event : EventOK P QC q Pre Hyp
  init : Pre (classInit P.classVars)

namespace JobOK
variable {P : Package} {QC : QCtx D} {q : Query} {Pre : Env D → Prop} {Hyp : Event D → Prop}

/-- a job over ANY list of events on which `q` is defined writes the concatenation of what `q` denotes on each -/
theorem job (h : JobOK P QC q Pre Hyp) {evs : List (Event D)}
    (hhyp : ∀ ev ∈ evs, Hyp ev) {rows : List (List (Val D))} (hden : denoteJob QC q evs = .ok rows) :
    runJob P QC.N evs = .ok rows :=
  h.event.jobFrom hhyp h.init hden

theorem blocks (h : JobOK P QC q Pre Hyp) {evs : List (Event D)}
    (hhyp : ∀ ev ∈ evs, Hyp ev) {rs : List (List (List (Val D)))} (hblk : DenoteBlocks QC q evs rs) :
    runJob P QC.N evs = .ok rs.flatten :=
  h.job hhyp (denoteJob_blocks QC q evs rs hblk)

/-- one job over `xs ++ ys` writes what a job over `xs` followed by a SEPARATE job over `ys` (fresh class
state) write -/
theorem split (h : JobOK P QC q Pre Hyp) {xs ys : List (Event D)}
    (hhyp : ∀ ev ∈ xs ++ ys, Hyp ev) {r₁ r₂ : List (List (Val D))}
    (h₁ : denoteJob QC q xs = .ok r₁) (h₂ : denoteJob QC q ys = .ok r₂) :
    runJob P QC.N xs = .ok r₁ ∧ runJob P QC.N ys = .ok r₂ ∧ runJob P QC.N (xs ++ ys) = .ok (r₁ ++ r₂) :=
  ⟨h.job (fun ev hm => hhyp ev (List.mem_append_left _ hm)) h₁,
   h.job (fun ev hm => hhyp ev (List.mem_append_right _ hm)) h₂,
   h.job hhyp (denoteJob_append QC q xs ys r₁ r₂ h₁ h₂)⟩

/-- in a job `pre ++ ev :: post` the rows written for `ev` are those of running `ev` ALONE from the initial
class state, whatever events preceded it -/
theorem prefix_independent (h : JobOK P QC q Pre Hyp)
    {pre : List (Event D)} {ev : Event D} {post : List (Event D)} (hhyp : ∀ e ∈ pre ++ ev :: post, Hyp e)
    {r : List (List (Val D))} (hden : denoteJob QC q (pre ++ ev :: post) = .ok r) :
    ∃ rp re rq σ',
      runJob P QC.N pre = .ok rp ∧
      runEvent P QC.N (classInit P.classVars) ev = .ok (re, σ') ∧
      denoteRows (QC.withEvent ev) q = .ok re ∧
      runJob P QC.N post = .ok rq ∧
      runJob P QC.N (pre ++ ev :: post) = .ok (rp ++ re ++ rq) := by
  obtain ⟨hall, hr⟩ := denoteJob_ok QC q _ r hden
  have hev := hall ev (by simp)
  obtain ⟨σ', hrun, _⟩ := h.event ev (hhyp ev (by simp)) _ h.init _ hev
  refine ⟨_, _, _, σ',
    h.job (fun e hm => hhyp e (by simp [hm])) (denoteJob_of_all QC q pre fun e hm => hall e (by simp [hm])),
    hrun, hev,
    h.job (fun e hm => hhyp e (by simp [hm])) (denoteJob_of_all QC q post fun e hm => hall e (by simp [hm])), ?_⟩
  rw [h.job hhyp hden, hr]
  simp

/-- processing the events in another order gives what the query denotes in that order: the same rows, permuted -/
theorem perm (h : JobOK P QC q Pre Hyp) {evs evs' : List (Event D)}
    (hp : evs.Perm evs') (hhyp : ∀ ev ∈ evs, Hyp ev) {r : List (List (Val D))}
    (hden : denoteJob QC q evs = .ok r) :
    ∃ r', runJob P QC.N evs = .ok r ∧ runJob P QC.N evs' = .ok r' ∧ denoteJob QC q evs' = .ok r' ∧ r.Perm r' := by
  obtain ⟨hall, hr⟩ := denoteJob_ok QC q evs r hden
  have hden' := denoteJob_of_all QC q evs' fun e hm => hall e (hp.symm.subset hm)
  refine ⟨_, h.job hhyp hden, h.job (fun e hm => hhyp e (hp.symm.subset hm)) hden', hden', ?_⟩
  rw [hr]
  exact (hp.map _).flatten

end JobOK

end FaxVerif.Gen
