/-
Gen/WfCorrect* — the static checkers `WellFormed` / `EventLocal` (Cpp/Check.lean) ACCEPT every package the
translator model `Gen.compile` produces (a syntactic invariant of the generator, proved; on the real
translator's output the checkers are run, per generated query).

This file: lemmas about the checkers themselves, for ARBITRARY statements —
  * the vocabulary of the next three files: `Pend` (a fact is listed, or its guard still known true), `Ext s t` (`t` knows
    more than `s` and promises no more), `Keeps` / `Frame X` (the facts whose guard is not in `X` are kept);
  * `da_frame`: a guard fact `(f, y)` about names of the enclosing scope survives any accepted statement
    that does not write `f` (`C03.writes`: assigned, pushed to, cleared or retrieved into), both as a listed fact
    and as "listed, or `f` still known true" — an instance of `DaRules` (`frame_rules`), as is `da_noLine`;
  * `loop_plain`: a loop whose body writes no guard of a candidate fact is accepted as soon as its
    body is, and keeps every candidate fact;
  * `da_noLine` / `emp_total`: whatever `da` accepts contains no uninterpreted line, and `emp` never
    rejects a program without uninterpreted lines (its loop-invariance check always succeeds, because
    the analysis is pointwise in the tracked name — `emp_pt`).
-/
import FaxVerif.Cpp.CheckRules
import FaxVerif.C03.Spec
namespace FaxVerif.Gen.Wf
open FaxVerif.Cpp

/-- the fact is listed, or its guard is still known to be `true` -/
def Pend (s : DA) (p : String × String) : Prop := p.1 ∈ s.T ∨ p ∈ s.G

theorem eff_of_pend {s : DA} {p : String × String} (h : Pend s p) : s.eff p = true :=
  (eff_iff s p).2 (h.elim (fun h => Or.inr (Or.inr h)) Or.inl)

theorem pend_of_cand {s : DA} {p : String × String} (h : p ∈ loopCand s) : Pend s p :=
  ((mem_loopCand s p).1 h).1.symm

/-- `t` extends `s`: the same scope, more initialised, no fact pending that was not — `t` knows more and promises no more -/
structure Ext (s t : DA) : Prop where
  hD : t.D = s.D
  sub : AsubD t
  hA : ∀ y ∈ s.A, y ∈ t.A
  pend : ∀ p, Pend t p → Pend s p

theorem Ext.refl {s : DA} (hs : AsubD s) : Ext s s := ⟨rfl, hs, fun _ h => h, fun _ h => h⟩

theorem Ext.trans {s t u : DA} (h₁ : Ext s t) (h₂ : Ext t u) : Ext s u :=
  ⟨h₂.hD.trans h₁.hD, h₂.sub, fun y hy => h₂.hA y (h₁.hA y hy), fun p hp => h₁.pend p (h₂.pend p hp)⟩

theorem eff_of_G {s : DA} {p : String × String} (h : p ∈ s.G) : s.eff p = true :=
  (eff_iff s p).2 (Or.inl h)

theorem eff_of_A {s : DA} {p : String × String} (h : p.2 ∈ s.A) : s.eff p = true :=
  (eff_iff s p).2 (Or.inr (Or.inl h))

theorem join_eff_left (D0 : List String) (st se : DA) (p : String × String)
    (h : (DA.join D0 st se).eff p = true) : st.eff p = true := by
  rw [eff_iff] at h ⊢
  rcases h with h | h | h
  · rw [mem_join_G] at h
    rcases h.1 with ⟨h1, _⟩ | ⟨_, h2⟩
    · exact Or.inl h1
    · exact (eff_iff st p).1 h2
  · exact Or.inr (Or.inl ((mem_join_A _ _ _ _).1 h).1.1)
  · exact Or.inr (Or.inr ((mem_join_T _ _ _ _).1 h).1.1)

theorem join_G_of_right (D0 : List String) (st se : DA) (p : String × String)
    (h : p ∈ se.G) (he : st.eff p = true) (h1 : p.1 ∈ D0) (h2 : p.2 ∈ D0) : p ∈ (DA.join D0 st se).G :=
  (mem_join_G _ _ _ _).2 ⟨Or.inr ⟨h, he⟩, h1, h2⟩

theorem join_G_of_left (D0 : List String) (st se : DA) (p : String × String)
    (h : p ∈ st.G) (he : se.eff p = true) (h1 : p.1 ∈ D0) (h2 : p.2 ∈ D0) : p ∈ (DA.join D0 st se).G :=
  (mem_join_G _ _ _ _).2 ⟨Or.inl ⟨h, he⟩, h1, h2⟩

theorem okE_of {s : DA} {e : CExpr} (hc : clean e = true) (hv : ∀ x ∈ vars e, x ∈ s.A) : okE s e = true :=
  okE_iff.2 ⟨hc, hv⟩

theorem okE_mono {s t : DA} {e : CExpr} (h : okE s e = true) (hA : ∀ y ∈ s.A, y ∈ t.A) : okE t e = true :=
  okE_of (okE_iff.1 h).1 fun x hx => hA x ((okE_iff.1 h).2 x hx)

theorem okE_var {s : DA} {x : String} (h : x ∈ s.A) : okE s (.var x) = true :=
  okE_of rfl (by simpa [vars] using h)

theorem okE_bin {s : DA} {op : String} {a b : CExpr} (ha : okE s a = true) (hb : okE s b = true) :
    okE s (.bin op a b) = true := by
  simp only [okE_iff, clean, Bool.and_eq_true, vars, List.mem_append] at ha hb ⊢
  exact ⟨⟨ha.1, hb.1⟩, fun x hx => hx.elim (ha.2 x) (hb.2 x)⟩

theorem okE_cast {s : DA} {ty : String} {a : CExpr} (h : okE s a = true) : okE s (.cast ty a) = true := by
  simpa [okE_iff, clean, vars] using h

theorem okE_un {s : DA} {op : String} {a : CExpr} (h : okE s a = true) : okE s (.un op a) = true := by
  simpa [okE_iff, clean, vars] using h

theorem das_append (C : DACtx) : ∀ (a b : List Stmt) (s : DA),
    das C (a ++ b) s = (match das C a s with
      | some s' => das C b s'
      | none => none)
  | [], b, s => by simp [das]
  | st :: a, b, s => by
    simp only [List.cons_append, das]
    cases da C st s with
    | none => rfl
    | some s' => simp only []; exact das_append C a b s'

theorem das_append_some (C : DACtx) {a b : List Stmt} {s s1 s2 : DA}
    (h1 : das C a s = some s1) (h2 : das C b s1 = some s2) : das C (a ++ b) s = some s2 := by
  rw [das_append, h1]; exact h2

theorem das_single (C : DACtx) (st : Stmt) (s : DA) : das C [st] s = da C st s := by
  simp only [das]; cases da C st s <;> rfl

theorem da_set {C : DACtx} {s : DA} {x : String} {e : CExpr} (hx : x ∈ s.D) (he : okE s e = true) :
    da C (.set x e) s = some (s.assign x) := da_set_iff.2 ⟨hx, he, rfl⟩

theorem da_fill {C : DACtx} {s : DA} {tr : String} (h : ∀ y ∈ C.cols, y ∈ s.A) : da C (.fill tr) s = some s :=
  da_fill_iff.2 ⟨(subset_iff _ _).2 h, rfl⟩

theorem da_ite {C : DACtx} {s st se : DA} {c : CExpr} {thn els : List Stmt} (hc : okE s c = true)
    (ht : das C thn s = some st) (he : das C els (s.knowFalse c) = some se) (hnt : isThrow thn = false) :
    da C (.ite c thn els) s = some (DA.join s.D st se) :=
  da_ite_iff.2 ⟨hc, st, se, ht, he, by simp [hnt]⟩

theorem da_block {C : DACtx} {s s1 : DA} {body : List Stmt} (h : das C body s = some s1) :
    da C (.block body) s = some (s1.restrict s.D) := da_block_iff.2 ⟨s1, h, rfl⟩

theorem das_cons {C : DACtx} {s s1 t : DA} {st : Stmt} {rest : List Stmt}
    (h1 : da C st s = some s1) (h2 : das C rest s1 = some t) : das C (st :: rest) s = some t :=
  das_cons_iff.2 ⟨s1, h1, h2⟩

theorem da_decl_none {C : DACtx} {s : DA} {ty n : String} (hn : n ∉ s.D) (hv : isVecType ty = false) :
    da C (.decl ty n none) s = some { D := n :: s.D, A := s.A, T := (s.fresh n).T, G := (s.fresh n).G } :=
  da_decl_none_iff.2 ⟨hn, by simp [hv]⟩

theorem das_Dsub (C : DACtx) : ∀ (l : List Stmt) (s t : DA), das C l s = some t → ∀ x ∈ s.D, x ∈ t.D :=
  das_Dmono C

theorem writesL_append : ∀ (a b : List Stmt), C03.writesL (a ++ b) = C03.writesL a ++ C03.writesL b
  | [], b => by simp [C03.writesL]
  | s :: a, b => by simp [C03.writesL, writesL_append a b]

def Keeps (s t : DA) (p : String × String) : Prop := (p ∈ s.G → p ∈ t.G) ∧ (Pend s p → Pend t p)

theorem Keeps.trans {s t u : DA} {p : String × String} (h1 : Keeps s t p) (h2 : Keeps t u p) : Keeps s u p :=
  ⟨h2.1 ∘ h1.1, h2.2 ∘ h1.2⟩

theorem Keeps.restrict (s : DA) {D0 : List String} {p : String × String} (h1 : p.1 ∈ D0) (h2 : p.2 ∈ D0) :
    Keeps s (s.restrict D0) p :=
  ⟨fun hg => (mem_restrict_G ..).2 ⟨hg, h1, h2⟩,
    fun hp => hp.imp (fun hT => (mem_restrict_T ..).2 ⟨hT, h1⟩) (fun hG => (mem_restrict_G ..).2 ⟨hG, h1, h2⟩)⟩

theorem Keeps.assign (s : DA) {x : String} {p : String × String} (hx : p.1 ≠ x) : Keeps s (s.assign x) p :=
  ⟨fun hg => (mem_assign_G ..).2 ⟨hg, Or.inl hx⟩,
    fun hp => hp.imp (fun ht => (mem_assign_T ..).2 ⟨ht, hx⟩) (fun hg => (mem_assign_G ..).2 ⟨hg, Or.inl hx⟩)⟩

theorem Keeps.knowFalse (s : DA) (c : CExpr) (p : String × String) : Keeps s (s.knowFalse c) p := by
  unfold Keeps Pend; rw [knowFalse_G, knowFalse_T]; exact ⟨id, id⟩

theorem Keeps.join {s st se : DA} {D0 : List String} {p : String × String} (ht : Keeps s st p) (he : Keeps s se p)
    (h1 : p.1 ∈ D0) (h2 : p.2 ∈ D0) : Keeps s (DA.join D0 st se) p := by
  refine ⟨fun hg => join_G_of_left _ _ _ _ (ht.1 hg) (eff_of_G (he.1 hg)) h1 h2, fun hp => ?_⟩
  rcases ht.2 hp with hT | hG
  · rcases he.2 hp with hT' | hG'
    · exact Or.inl ((mem_join_T _ _ _ _).2 ⟨⟨hT, hT'⟩, h1⟩)
    · exact Or.inr (join_G_of_right _ _ _ _ hG' (eff_of_pend (Or.inl hT)) h1 h2)
  · exact Or.inr (join_G_of_left _ _ _ _ hG (eff_of_pend (he.2 hp)) h1 h2)

/-- every fact about names of `s.D` whose guard is not in `X` is kept from `s` to `t` -/
def Frame (X : List String) (s t : DA) : Prop :=
  ∀ p : String × String, p.1 ∈ s.D → p.2 ∈ s.D → p.1 ∉ X → Keeps s t p

theorem Frame.assign (s : DA) (x : String) : Frame [x] s (s.assign x) :=
  fun _ _ _ hna => .assign s (by simpa using hna)

theorem frame_rules (C : DACtx) : DaRules C (fun st => Frame (C03.writes st)) (fun l => Frame (C03.writesL l)) where
  nil _ _ _ _ := ⟨id, id⟩
  cons {st rest _ _ _} hs1 ih1 ih2 p h1 h2 hna := by
    have hna' : p.1 ∉ C03.writes st ∧ p.1 ∉ C03.writesL rest := by simpa [C03.writesL, not_or] using hna
    exact (ih1 p h1 h2 hna'.1).trans
      (ih2 p (da_Dmono C _ _ _ hs1 _ h1) (da_Dmono C _ _ _ hs1 _ h2) hna'.2)
  block {_ _ s1} _ ih p h1 h2 hna := (ih p h1 h2 hna).trans (.restrict s1 h1 h2)
  loop {x _ _ s sb1 _} _ _ _ ih1 _ _ _ p h1 h2 hna := by
    have key : Pend s p → p ∈ (loopCand s).filter sb1.eff := fun hp =>
      have hc : p ∈ loopCand s := (mem_loopCand s p).2 ⟨hp.symm, h1, h2⟩
      List.mem_filter.2 ⟨hc, eff_of_G ((ih1 p (List.mem_cons_of_mem _ h1) (List.mem_cons_of_mem _ h2) hna).1 hc)⟩
    exact ⟨fun hg => key (Or.inr hg), fun hp => Or.inr (key hp)⟩
  ite {c thn els s _ se} _ _ iht _ ihe p h1 h2 hna := by
    have hna' : p.1 ∉ C03.writesL thn ∧ p.1 ∉ C03.writesL els := by simpa [C03.writes, not_or] using hna
    have he := (Keeps.knowFalse s c p).trans (ihe p (by rw [knowFalse_D]; exact h1) (by rw [knowFalse_D]; exact h2) hna'.2)
    split
    · exact he.trans (.restrict se h1 h2)
    · exact (iht p h1 h2 hna'.1).join he h1 h2
  decl {_ n _ s t} h p h1 h2 _ := by
    obtain ⟨hn, _, hG, hT, _⟩ := da_decl_shape h
    have hn1 : p.1 ≠ n := fun e => hn (e ▸ h1)
    have hg : p ∈ s.G → p ∈ t.G := fun hg => hG ▸ (mem_fresh_G _ _ _).2 ⟨hg, hn1, fun e => hn (e ▸ h2)⟩
    exact ⟨hg, fun hp => hp.imp (fun ht => hT _ ((mem_fresh_T _ _ _).2 ⟨ht, hn1⟩)) hg⟩
  set _ _ := Frame.assign _ _
  push _ _ := Frame.assign _ _
  clear _ := Frame.assign _ _
  fill _ _ _ _ _ := ⟨id, id⟩
  throw _ _ _ _ := ⟨id, id⟩
  retrieve _ _ := Frame.assign _ _

theorem da_frame (C : DACtx) (st : Stmt) (s t : DA) : da C st s = some t →
    ∀ p : String × String, p.1 ∈ s.D → p.2 ∈ s.D → p.1 ∉ C03.writes st → Keeps s t p := (frame_rules C).da st s t

theorem das_frame (C : DACtx) (l : List Stmt) (s t : DA) : das C l s = some t →
    ∀ p : String × String, p.1 ∈ s.D → p.2 ∈ s.D → p.1 ∉ C03.writesL l → Keeps s t p := (frame_rules C).das l s t

theorem loop_plain (C : DACtx) (s : DA) (x : String) (coll : CExpr) (body : List Stmt) (sb : DA)
    (hc : okE s coll = true) (hx : x ∉ s.D)
    (hb : das C body (loopHead s x (loopCand s)) = some sb)
    (hng : ∀ p ∈ loopCand s, p.1 ∉ C03.writesL body) :
    da C (.loop x coll body) s = some { s with T := [], G := loopCand s } := by
  have hall : ∀ p ∈ loopCand s, sb.eff p = true := by
    intro p hp
    obtain ⟨_, h1, h2⟩ := (mem_loopCand s p).1 hp
    exact eff_of_G ((das_frame C body _ sb hb p (List.mem_cons_of_mem _ h1) (List.mem_cons_of_mem _ h2) (hng p hp)).1 hp)
  have hinv : (loopCand s).filter sb.eff = loopCand s := List.filter_eq_self.2 hall
  exact da_loop_iff.2 ⟨hc, hx, sb, sb, hb, hinv.symm ▸ hb, hinv.symm ▸ hall, by rw [hinv]⟩

mutual
  def noLine : Stmt → Bool
    | .block body => noLineL body
    | .loop _ _ body => noLineL body
    | .ite _ thn els => noLineL thn && noLineL els
    | .line _ => false
    | _ => true
  def noLineL : List Stmt → Bool
    | [] => true
    | s :: ss => noLine s && noLineL ss
end

theorem noLineL_append : ∀ (a b : List Stmt), noLineL (a ++ b) = (noLineL a && noLineL b)
  | [], b => by simp [noLineL]
  | s :: a, b => by simp [noLineL, noLineL_append a b, Bool.and_assoc]

theorem noLine_rules (C : DACtx) : DaRules C (fun st _ _ => noLine st = true) (fun l _ _ => noLineL l = true) where
  nil := rfl
  cons _ h1 h2 := by simp only [noLineL, h1, h2]; rfl
  block _ ih := ih
  loop _ _ _ ih _ _ _ := ih
  ite _ _ iht _ ihe := by simp only [noLine, iht, ihe]; rfl
  decl _ := rfl
  set _ _ := rfl
  push _ _ := rfl
  clear _ := rfl
  fill _ := rfl
  throw := rfl
  retrieve _ _ := rfl

theorem da_noLine (C : DACtx) (st : Stmt) (s t : DA) : da C st s = some t → noLine st = true :=
  (noLine_rules C).da st s t

theorem das_noLine (C : DACtx) : ∀ (l : List Stmt) (s t : DA), das C l s = some t → noLineL l = true :=
  (noLine_rules C).das

mutual
  theorem emp_pt : ∀ (st : Stmt) (E1 E2 E1' E2' : List String) (y : String),
      emp st E1 = some E1' → emp st E2 = some E2' → (y ∈ E1 ↔ y ∈ E2) → (y ∈ E1' ↔ y ∈ E2')
    | .block body, E1, E2, E1', E2', y, h1, h2, hy => by
      simp only [emp] at h1 h2; exact emps_pt body E1 E2 E1' E2' y h1 h2 hy
    | .loop x coll body, E1, E2, E1', E2', y, h1, h2, hy => by
      obtain ⟨A1, _, hA1, _, _, rfl⟩ := emp_loop_iff.1 h1
      obtain ⟨A2, _, hA2, _, _, rfl⟩ := emp_loop_iff.1 h2
      have h0 : y ∈ E1.filter (· ≠ x) ↔ y ∈ E2.filter (· ≠ x) := by simp only [List.mem_filter, hy]
      simp only [mem_inter, h0, emps_pt body _ _ A1 A2 y hA1 hA2 h0]
    | .ite c thn els, E1, E2, E1', E2', y, h1, h2, hy => by
      obtain ⟨T1, F1, hT1, hF1, rfl⟩ := emp_ite_iff.1 h1
      obtain ⟨T2, F2, hT2, hF2, rfl⟩ := emp_ite_iff.1 h2
      simp only [mem_inter, emps_pt thn E1 E2 T1 T2 y hT1 hT2 hy, emps_pt els E1 E2 F1 F2 y hF1 hF2 hy]
    | .decl ty n init, E1, E2, E1', E2', y, h1, h2, hy => by
      simp only [emp, Option.some.injEq] at h1 h2; subst h1; subst h2
      split
      · simp only [List.mem_cons, hy]
      · simp only [List.mem_filter, hy]
    | .set x _, E1, E2, E1', E2', y, h1, h2, hy | .push x _, E1, E2, E1', E2', y, h1, h2, hy
    | .retrieve _ _ x _ _, E1, E2, E1', E2', y, h1, h2, hy => by
      simp only [emp, Option.some.injEq] at h1 h2; subst h1; subst h2; simp only [List.mem_filter, hy]
    | .clear x, E1, E2, E1', E2', y, h1, h2, hy => by
      simp only [emp, Option.some.injEq] at h1 h2; subst h1; subst h2; simp only [List.mem_cons, hy]
    | .fill _, E1, E2, E1', E2', y, h1, h2, hy | .throw _, E1, E2, E1', E2', y, h1, h2, hy => by
      simp only [emp, Option.some.injEq] at h1 h2; subst h1; subst h2; exact hy
    | .line _, _, _, _, _, _, h1, _, _ => by simp [emp] at h1
  theorem emps_pt : ∀ (l : List Stmt) (E1 E2 E1' E2' : List String) (y : String),
      emps l E1 = some E1' → emps l E2 = some E2' → (y ∈ E1 ↔ y ∈ E2) → (y ∈ E1' ↔ y ∈ E2')
    | [], E1, E2, E1', E2', y, h1, h2, hy => by
      simp only [emps, Option.some.injEq] at h1 h2; subst h1; subst h2; exact hy
    | st :: rest, E1, E2, E1', E2', y, h1, h2, hy => by
      obtain ⟨M1, hM1, h1⟩ := emps_cons_iff.1 h1
      obtain ⟨M2, hM2, h2⟩ := emps_cons_iff.1 h2
      exact emps_pt rest M1 M2 E1' E2' y h1 h2 (emp_pt st E1 E2 M1 M2 y hM1 hM2 hy)
end

mutual
  theorem emp_total : ∀ (st : Stmt), noLine st = true → ∀ E, ∃ E', emp st E = some E'
    | .block body, h, E => by
      simp only [noLine] at h; simp only [emp]; exact emps_total body h E
    | .loop x coll body, h, E => by
      simp only [noLine] at h
      obtain ⟨E1, h1⟩ := emps_total body h (E.filter (· ≠ x))
      obtain ⟨E2, h2⟩ := emps_total body h (inter (E.filter (· ≠ x)) E1)
      have hsub : subset (inter (E.filter (· ≠ x)) E1) E2 = true := by
        rw [subset_iff]
        intro y hy
        have hy' := (mem_inter _ _ _).1 hy
        exact (emps_pt body _ _ E1 E2 y h1 h2 ⟨fun _ => hy, fun _ => hy'.1⟩).1 hy'.2
      exact ⟨_, emp_loop_iff.2 ⟨E1, E2, h1, h2, hsub, rfl⟩⟩
    | .ite c thn els, h, E => by
      simp only [noLine, Bool.and_eq_true] at h
      obtain ⟨Et, ht⟩ := emps_total thn h.1 E
      obtain ⟨Ee, he⟩ := emps_total els h.2 E
      exact ⟨_, emp_ite_iff.2 ⟨Et, Ee, ht, he, rfl⟩⟩
    | .decl .., _, E | .set .., _, E | .push .., _, E | .clear _, _, E | .fill _, _, E | .throw _, _, E
    | .retrieve .., _, E => ⟨_, rfl⟩
    | .line _, h, _ => by simp [noLine] at h
  theorem emps_total : ∀ (l : List Stmt), noLineL l = true → ∀ E, ∃ E', emps l E = some E'
    | [], _, E => ⟨E, rfl⟩
    | st :: rest, h, E => by
      simp only [noLineL, Bool.and_eq_true] at h
      obtain ⟨E1, h1⟩ := emp_total st h.1 E
      obtain ⟨E2, h2⟩ := emps_total rest h.2 E1
      exact ⟨E2, emps_cons_iff.2 ⟨E1, h1, h2⟩⟩
end

theorem emps_append : ∀ (a b : List Stmt) (E : List String),
    emps (a ++ b) E = (match emps a E with
      | some E' => emps b E'
      | none => none)
  | [], b, E => by simp [emps]
  | st :: a, b, E => by
    simp only [List.cons_append, emps]
    cases emp st E with
    | none => rfl
    | some E' => simp only []; exact emps_append a b E'

end FaxVerif.Gen.Wf
