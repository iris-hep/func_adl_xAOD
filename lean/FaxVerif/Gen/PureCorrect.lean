/-
Gen — pure element expressions. `pe_correct`: the C++ of `compPE` evaluates, in any state where the current-value
expression evaluates to `v`, to exactly what the query expression denotes with its parameter bound to `v` — values and
faults alike — and the value has the statically computed type. The operator nodes are stated against the `Query` node:
`bin_correctUp` (with the int/int division cast of `binV`) and `neg_correctUp` for operands typed UP TO WIDENING
(`TyUp wide`: with `wide`, a floating number may stand where the static type says int — the widened accumulator of
Gen/AggBodyCorrect.lean), `bin_correct` and `neg_correct` their instances at `wide := False`, which is plain typing
(`tyUp_false`); `cmp_correct` asks nothing of the operands' types, `not_correct` a `bool`.

From `strict1` on, the vocabulary in which later files speak of an operator's outcome: `strict1` / `strict2` (the first
fault wins), `Out E P`, `denote_*` in these terms (what the node rules `FragSpec.bin` … invert, and what the fault
direction — Forced, LazyExprCorrect, FaultCorrectCols — is stated in), totality of the operators on typed operands,
`binV_ok` / `binV_err_*`.
-/
import FaxVerif.Gen.LiteSpec
namespace FaxVerif.Gen
open FaxVerif.Cpp FaxVerif.Linq
variable {D : Type}

theorem hasTy_int {v : Val D} (h : HasTy v .int) : ∃ n, v = .int n := by
  cases v <;> simp [HasTy] at h ⊢

theorem hasTy_bool {v : Val D} (h : HasTy v .bool) : ∃ b, v = .bool b := by
  cases v <;> simp [HasTy] at h ⊢

theorem hasTy_num {v : Val D} {t : Ty} (h : HasTy v t) (hn : t.isNum = true) :
    (∃ n, v = .int n ∧ t = .int) ∨ (∃ x, v = .dbl x ∧ (t = .float ∨ t = .double)) := by
  cases v <;> cases t <;> simp [HasTy, Ty.isNum] at h hn ⊢

theorem join_int_iff (a b : Ty) (ha : a.isNum = true) (hb : b.isNum = true) :
    a.join b = .int ↔ a = .int ∧ b = .int := by
  cases a <;> cases b <;> simp [Ty.join, Ty.isNum] at ha hb ⊢

theorem join_num (a b : Ty) (ha : a.isNum = true) (hb : b.isNum = true) : (a.join b).isNum = true := by
  cases a <;> cases b <;> simp [Ty.join, Ty.isNum] at ha hb ⊢

theorem join_fl (a b : Ty) (ha : a.isNum = true) (hb : b.isNum = true) (h : ¬ (a = .int ∧ b = .int)) :
    a.join b = .float ∨ a.join b = .double := by
  cases a <;> cases b <;> simp [Ty.join, Ty.isNum] at ha hb h ⊢

section
variable {wide : Prop}

def TyUp (wide : Prop) (w : Val D) (t : Ty) : Prop := HasTy w t ∨ (wide ∧ t.isNum = true ∧ ∃ y, w = .dbl y)

theorem tyUp_false {w : Val D} {t : Ty} : TyUp False w t ↔ HasTy w t := by simp [TyUp]

theorem tyUp_num {v : Val D} {t : Ty} (h : TyUp wide v t) (hn : t.isNum = true) :
    (∃ n, v = .int n ∧ t = .int) ∨ (∃ y, v = .dbl y ∧ (t ≠ .int ∨ wide)) := by
  rcases h with h | ⟨hw, _, y, rfl⟩
  · rcases hasTy_num h hn with ⟨n, rfl, rfl⟩ | ⟨y, rfl, ht⟩
    · exact Or.inl ⟨n, rfl, rfl⟩
    · exact Or.inr ⟨y, rfl, Or.inl (by rcases ht with rfl | rfl <;> simp)⟩
  · exact Or.inr ⟨y, rfl, Or.inr hw⟩

theorem tyUp_dbl (y : D) {t : Ty} (hn : t.isNum = true) (h : t ≠ .int ∨ wide) : TyUp wide (.dbl y : Val D) t := by
  rcases h with h | h
  · exact Or.inl (by cases t <;> simp [HasTy, Ty.isNum] at hn h ⊢)
  · exact Or.inr ⟨h, hn, y, rfl⟩

/-! As soon as one operand is not of integer kind, `arith` computes in floating point from the operands'
`asD` images (`arith_fl_congr`); Python's `/` always does (`pyArith_div_congr`). -/

theorem arith_fl_congr (N : Num D) (op : String) {a a' b b' : Val D} (h : asInt a = none ∨ asInt b = none)
    (h' : asInt a' = none ∨ asInt b' = none) (ha : asD N a = asD N a') (hb : asD N b = asD N b') :
    arith N op a b = arith N op a' b' := by
  unfold arith
  rw [ha, hb]
  generalize asInt a = o1, asInt b = o2, asInt a' = o1', asInt b' = o2' at h h' ⊢
  rcases h with rfl | rfl <;> rcases h' with rfl | rfl
  · rfl
  · cases o1' <;> rfl
  · cases o1 <;> rfl
  · cases o1 <;> cases o1' <;> rfl

theorem pyArith_aop (N : Num D) (op : AOp) (hop : op ≠ .div) (a b : Val D) :
    pyArith N op.str a b = arith N op.str a b := by
  cases op <;> simp [pyArith, AOp.str] at hop ⊢

theorem pyArith_div (N : Num D) {a b : Val D} {x y : D} (ha : asD N a = some x) (hb : asD N b = some y) :
    pyArith N "/" a b = .ok (.dbl (N.div x y)) := by
  simp only [pyArith, if_true, ha, hb]

theorem pyArith_div_congr (N : Num D) {a a' b b' : Val D} (ha : asD N a = asD N a') (hb : asD N b = asD N b') :
    pyArith N "/" a b = pyArith N "/" a' b' := by
  simp only [pyArith, if_true, ha, hb]

theorem castTo_double (N : Num D) {a : Val D} {x : D} (ha : asD N a = some x) : castTo N "double" a = .ok (.dbl x) := by
  simp only [castTo, true_or, if_true, ha]

theorem arith_aop_int (N : Num D) (op : AOp) (hop : op ≠ .div) (x y : Int) :
    ∃ z, arith N op.str (.int x) (.int y) = .ok (.int z) := by
  cases op
  · exact ⟨_, rfl⟩
  · exact ⟨_, rfl⟩
  · exact ⟨_, rfl⟩
  · exact absurd rfl hop

theorem arith_aop_fl (N : Num D) (op : AOp) (hop : op ≠ .div) {a b : Val D} {x y : D}
    (h : asInt a = none ∨ asInt b = none) (ha : asD N a = some x) (hb : asD N b = some y) :
    ∃ z, arith N op.str a b = .ok (.dbl z) := by
  rw [arith_fl_congr N op.str h (Or.inl rfl) (a' := .dbl x) (b' := .dbl y) ha hb]
  cases op
  · exact ⟨_, rfl⟩
  · exact ⟨_, rfl⟩
  · exact ⟨_, rfl⟩
  · exact absurd rfl hop

theorem tyUp_asD (N : Num D) {v : Val D} {t : Ty} (h : TyUp wide v t) (hn : t.isNum = true) :
    ∃ x, asD N v = some x ∧ (asInt v = none ∨ t = .int) := by
  rcases tyUp_num h hn with ⟨n, rfl, rfl⟩ | ⟨y, rfl, _⟩
  · exact ⟨_, rfl, Or.inr rfl⟩
  · exact ⟨y, rfl, Or.inl rfl⟩

/-- `+ - *` on numbers, typed up to widening: C++ and Python agree, and the result has the joined type -/
theorem arith_numUp (N : Num D) (op : AOp) (hop : op ≠ .div) (va vb : Val D) (ta tb : Ty)
    (ha : TyUp wide va ta) (hb : TyUp wide vb tb) (hna : ta.isNum = true) (hnb : tb.isNum = true) :
    arith N op.str va vb = pyArith N op.str va vb ∧ ∀ w, arith N op.str va vb = .ok w → TyUp wide w (ta.join tb) := by
  refine ⟨(pyArith_aop N op hop va vb).symm, fun w hw => ?_⟩
  have hj := join_num ta tb hna hnb
  have hji := join_int_iff ta tb hna hnb
  -- a floating operand makes the result floating; its type is not int, or widening is on
  rcases tyUp_num ha hna with ⟨x, rfl, rfl⟩ | ⟨x, rfl, hx⟩ <;>
  rcases tyUp_num hb hnb with ⟨y, rfl, rfl⟩ | ⟨y, rfl, hy⟩
  · obtain ⟨z, hz⟩ := arith_aop_int N op hop x y
    rw [hz] at hw; cases hw
    exact Or.inl trivial
  · obtain ⟨z, hz⟩ := arith_aop_fl N op hop (a := .int x) (b := .dbl y) (Or.inr rfl) rfl rfl
    rw [hz] at hw; cases hw
    exact tyUp_dbl _ hj (hy.imp (fun h e => h (hji.1 e).2) id)
  · obtain ⟨z, hz⟩ := arith_aop_fl N op hop (a := .dbl x) (b := .int y) (Or.inl rfl) rfl rfl
    rw [hz] at hw; cases hw
    exact tyUp_dbl _ hj (hx.imp (fun h e => h (hji.1 e).1) id)
  · obtain ⟨z, hz⟩ := arith_aop_fl N op hop (a := .dbl x) (b := .dbl y) (Or.inl rfl) rfl rfl
    rw [hz] at hw; cases hw
    exact tyUp_dbl _ hj (hx.imp (fun h e => h (hji.1 e).1) id)

/-- real division on numbers typed up to widening: the emitted `static_cast<double>(a)/b` (both types int)
or plain `a/b` computes Python's `/`; on a floating operand the cast is the identity -/
theorem div_numUp (N : Num D) (va vb : Val D) (ta tb : Ty)
    (ha : TyUp wide va ta) (hb : TyUp wide vb tb) (hna : ta.isNum = true) (hnb : tb.isNum = true) :
    (if ta.join tb = .int then
        (match castTo N "double" va with
         | .ok c => arith N "/" c vb
         | .error f => .error f)
     else arith N "/" va vb) = pyArith N "/" va vb ∧
    ∀ w, pyArith N "/" va vb = .ok w → HasTy w .double := by
  obtain ⟨x, hx, hxi⟩ := tyUp_asD N ha hna
  obtain ⟨y, hy, hyi⟩ := tyUp_asD N hb hnb
  have hpy := pyArith_div N hx hy
  have hfl : ∀ a, asD N a = some x → asInt a = none ∨ asInt vb = none → arith N "/" a vb = .ok (.dbl (N.div x y)) :=
    fun a h1 h2 => arith_fl_congr N "/" h2 (Or.inl rfl) (a' := .dbl x) (b' := .dbl y) h1 hy
  refine ⟨?_, fun w hw => by rw [hpy] at hw; cases hw; trivial⟩
  rw [hpy]
  split
  · rw [castTo_double N hx]; exact hfl _ rfl (Or.inl rfl)
  · next hj =>
    refine hfl va hx ?_
    rcases hxi with h | h
    · exact Or.inl h
    · rcases hyi with h' | h'
      · exact Or.inr h'
      · exact absurd (by rw [h, h']; rfl) hj

end

theorem arith_num (N : Num D) (op : AOp) (hop : op ≠ .div) (va vb : Val D) (ta tb : Ty)
    (ha : HasTy va ta) (hb : HasTy vb tb) (hna : ta.isNum = true) (hnb : tb.isNum = true) :
    arith N op.str va vb = pyArith N op.str va vb ∧ ∀ w, arith N op.str va vb = .ok w → HasTy w (ta.join tb) :=
  have h := arith_numUp (wide := False) N op hop va vb ta tb (Or.inl ha) (Or.inl hb) hna hnb
  ⟨h.1, fun w hw => tyUp_false.1 (h.2 w hw)⟩

theorem div_num (N : Num D) (va vb : Val D) (ta tb : Ty)
    (ha : HasTy va ta) (hb : HasTy vb tb) (hna : ta.isNum = true) (hnb : tb.isNum = true) :
    (if ta.join tb = .int then
        (match castTo N "double" va with
         | .ok c => arith N "/" c vb
         | .error f => .error f)
     else arith N "/" va vb) = pyArith N "/" va vb ∧
    ∀ w, pyArith N "/" va vb = .ok w → HasTy w .double :=
  div_numUp (wide := False) N va vb ta tb (Or.inl ha) (Or.inl hb) hna hnb

theorem arith_cmp_bool (N : Num D) (op : COp) (a b w : Val D) (h : arith N op.str a b = .ok w) : ∃ r, w = .bool r := by
  unfold arith at h
  split at h
  · cases op <;> simp only [COp.str] at h <;> exact ⟨_, (Except.ok.inj h).symm⟩
  · split at h
    · cases op <;> simp only [COp.str] at h <;> exact ⟨_, (Except.ok.inj h).symm⟩
    · cases h

theorem cmp_num (N : Num D) (op : COp) (va vb : Val D) :
    ∀ w, arith N op.str va vb = .ok w → HasTy w .bool := by
  intro w hw
  obtain ⟨r, rfl⟩ := arith_cmp_bool N op va vb w hw
  trivial

theorem aop_not_logic (op : AOp) : op.str ≠ "&&" ∧ op.str ≠ "||" := by cases op <;> simp [AOp.str]
theorem cop_not_logic (op : COp) : op.str ≠ "&&" ∧ op.str ≠ "||" := by cases op <;> simp [COp.str]

theorem evalE_bin_arith (N : Num D) (σ : Env D) (op : String) (h1 : op ≠ "&&") (h2 : op ≠ "||") (a b : CExpr) :
    evalE N σ (.bin op a b) = (match evalE N σ a with
      | .error f => .error f
      | .ok va => match evalE N σ b with
        | .error f => .error f
        | .ok vb => arith N op va vb) := by
  simp only [evalE, h1, h2, if_false]
  cases evalE N σ a with
  | error f => rfl
  | ok va => cases evalE N σ b <;> rfl

theorem exec_addTo (C : Ctx D) (u : St D) (x : String) (e : CExpr) (a : Val D) (hx : u.env x = some (.val a)) :
    execs C [.set x (.bin "+" (.var x) e)] u =
      match evalE C.N u.env e with
      | .error f => .error f
      | .ok w => match arith C.N "+" a w with
        | .error f => .error f
        | .ok a' => .ok { u with env := u.env.set x a' } := by
  simp only [execs, exec, hx]
  rw [evalE_bin_arith _ _ _ (by simp) (by simp)]
  simp only [evalE, hx]
  cases evalE C.N u.env e with
  | error f => rfl
  | ok w => simp only []; cases arith C.N "+" a w <;> rfl

theorem tyPE_bin (cur : Ty) (op : AOp) (a b : PE) :
    tyPE cur (.bin op a b) = if op = .div then .double else (tyPE cur a).join (tyPE cur b) := by
  cases op <;> rfl

/-- the C++ every compile function emits for `a op b` on operands of static types `ta`, `tb`: `/` on two ints gets
the cast that makes it Python's real division -/
def binV (op : AOp) (ta tb : Ty) (a b : CExpr) : CExpr :=
  if op = .div ∧ ta.join tb = .int then .bin "/" (.cast "double" a) b else .bin op.str a b

/-! `compPE` and `compEE` emit the same C++ for an operator; what it evaluates to is stated once, against the
meaning of the corresponding `Query` node: `a'`, `b'` are the translated operands, `qa`, `qb` the operand
queries, `ta`, `tb` their static types. -/

section
variable {wide : Prop}

theorem bin_correctUp (C : QCtx D) (σ : Env D) (ρ : LEnv D) (op : AOp) (ta tb : Ty)
    (hna : ta.isNum = true) (hnb : tb.isNum = true) (a' b' : CExpr) (qa qb : Query)
    (ha : evalE C.N σ a' = denote C ρ qa) (hb : evalE C.N σ b' = denote C ρ qb)
    (hta : ∀ v, denote C ρ qa = .ok v → TyUp wide v ta) (htb : ∀ v, denote C ρ qb = .ok v → TyUp wide v tb) :
    evalE C.N σ (binV op ta tb a' b') = denote C ρ (.bin op.str qa qb) ∧
    ∀ w, denote C ρ (.bin op.str qa qb) = .ok w → TyUp wide w (if op = .div then .double else ta.join tb) := by
  simp only [denote, binV]
  rw [← ha] at hta ⊢
  rw [← hb] at htb ⊢
  by_cases hc : op = .div ∧ ta.join tb = .int
  · obtain ⟨rfl, hj⟩ := hc
    rw [if_pos ⟨rfl, hj⟩, if_pos rfl, evalE_bin_arith _ _ _ (by decide) (by decide)]
    simp only [evalE]
    cases hea : evalE C.N σ a' with
    | error f => exact ⟨rfl, nofun⟩
    | ok va =>
      obtain ⟨x, hx, _⟩ := tyUp_asD C.N (hta va hea) hna
      simp only [castTo_double C.N hx]
      cases heb : evalE C.N σ b' with
      | error f => exact ⟨rfl, nofun⟩
      | ok vb =>
        have hd := div_numUp C.N va vb ta tb (hta va hea) (htb vb heb) hna hnb
        rw [if_pos hj, castTo_double C.N hx] at hd
        exact ⟨hd.1, fun w hw => Or.inl (hd.2 w hw)⟩
  · rw [if_neg hc, evalE_bin_arith _ _ _ (aop_not_logic op).1 (aop_not_logic op).2]
    cases hea : evalE C.N σ a' with
    | error f => exact ⟨rfl, nofun⟩
    | ok va =>
      cases heb : evalE C.N σ b' with
      | error f => exact ⟨rfl, nofun⟩
      | ok vb =>
        by_cases hdiv : op = .div
        · subst hdiv
          have hd := div_numUp C.N va vb ta tb (hta va hea) (htb vb heb) hna hnb
          rw [if_neg fun h => hc ⟨rfl, h⟩] at hd
          rw [if_pos rfl]
          exact ⟨hd.1, fun w hw => Or.inl (hd.2 w hw)⟩
        · have hn := arith_numUp C.N op hdiv va vb _ _ (hta va hea) (htb vb heb) hna hnb
          rw [if_neg hdiv]
          exact ⟨hn.1, fun w hw => hn.2 w (hn.1 ▸ hw)⟩

theorem neg_correctUp (C : QCtx D) (σ : Env D) (ρ : LEnv D) (ta : Ty) (hna : ta.isNum = true) (a' : CExpr) (qa : Query)
    (ha : evalE C.N σ a' = denote C ρ qa) (hta : ∀ v, denote C ρ qa = .ok v → TyUp wide v ta) :
    evalE C.N σ (.un "-" a') = denote C ρ (.neg qa) ∧ ∀ w, denote C ρ (.neg qa) = .ok w → TyUp wide w ta := by
  simp only [denote, evalE, ha]
  cases hda : denote C ρ qa with
  | error f => simp
  | ok va =>
    refine ⟨rfl, fun w hw => ?_⟩
    rcases tyUp_num (hta va hda) hna with ⟨n, rfl, rfl⟩ | ⟨y, rfl, ht⟩
    · simp [unop] at hw; subst hw; exact Or.inl trivial
    · simp [unop] at hw; subst hw; exact tyUp_dbl _ hna ht

end

theorem bin_correct (C : QCtx D) (σ : Env D) (ρ : LEnv D) (op : AOp) (ta tb : Ty)
    (hna : ta.isNum = true) (hnb : tb.isNum = true) (a' b' : CExpr) (qa qb : Query)
    (ha : evalE C.N σ a' = denote C ρ qa) (hb : evalE C.N σ b' = denote C ρ qb)
    (hta : ∀ v, denote C ρ qa = .ok v → HasTy v ta) (htb : ∀ v, denote C ρ qb = .ok v → HasTy v tb) :
    evalE C.N σ (binV op ta tb a' b') = denote C ρ (.bin op.str qa qb) ∧
    ∀ w, denote C ρ (.bin op.str qa qb) = .ok w → HasTy w (if op = .div then .double else ta.join tb) :=
  have h := bin_correctUp (wide := False) C σ ρ op ta tb hna hnb a' b' qa qb ha hb
    (fun v hv => Or.inl (hta v hv)) (fun v hv => Or.inl (htb v hv))
  ⟨h.1, fun w hw => tyUp_false.1 (h.2 w hw)⟩

theorem cmp_correct (C : QCtx D) (σ : Env D) (ρ : LEnv D) (op : COp) (a' b' : CExpr) (qa qb : Query)
    (ha : evalE C.N σ a' = denote C ρ qa) (hb : evalE C.N σ b' = denote C ρ qb) :
    evalE C.N σ (.bin op.str a' b') = denote C ρ (.cmp op.str qa qb) ∧
    ∀ w, denote C ρ (.cmp op.str qa qb) = .ok w → HasTy w .bool := by
  simp only [denote]
  rw [evalE_bin_arith _ _ _ (cop_not_logic op).1 (cop_not_logic op).2, ha, hb]
  refine ⟨rfl, ?_⟩
  cases denote C ρ qa with
  | error f => simp
  | ok va =>
    cases denote C ρ qb with
    | error f => simp
    | ok vb =>
      intro w hw
      obtain ⟨r, rfl⟩ := arith_cmp_bool C.N op va vb w hw
      trivial

theorem neg_correct (C : QCtx D) (σ : Env D) (ρ : LEnv D) (ta : Ty) (hna : ta.isNum = true) (a' : CExpr) (qa : Query)
    (ha : evalE C.N σ a' = denote C ρ qa) (hta : ∀ v, denote C ρ qa = .ok v → HasTy v ta) :
    evalE C.N σ (.un "-" a') = denote C ρ (.neg qa) ∧ ∀ w, denote C ρ (.neg qa) = .ok w → HasTy w ta :=
  have h := neg_correctUp (wide := False) C σ ρ ta hna a' qa ha (fun v hv => Or.inl (hta v hv))
  ⟨h.1, fun w hw => tyUp_false.1 (h.2 w hw)⟩

theorem not_correct (C : QCtx D) (σ : Env D) (ρ : LEnv D) (a' : CExpr) (qa : Query)
    (ha : evalE C.N σ a' = denote C ρ qa) (hta : ∀ v, denote C ρ qa = .ok v → HasTy v .bool) :
    evalE C.N σ (.un "!" a') = denote C ρ (.not qa) ∧ ∀ w, denote C ρ (.not qa) = .ok w → HasTy w .bool := by
  simp only [denote, evalE, ha]
  cases hda : denote C ρ qa with
  | error f => simp
  | ok va =>
    obtain ⟨b, rfl⟩ := hasTy_bool (hta va hda)
    simp [unop, asBool, HasTy]

theorem ok_inj {ε α : Type} {r : Except ε α} {a b : α} (ha : r = .ok a) (hb : r = .ok b) : a = b :=
  Except.ok.inj (ha.symm.trans hb)

theorem pe_correct (C : QCtx D) (σ : Env D) (cur : CExpr) (curTy : Option Ty) (ptr : Bool)
    (v : Val D) (x : String) (ρ : LEnv D)
    (hcur : evalE C.N σ cur = .ok v) (hty : ∀ t, curTy = some t → HasTy v t) :
    ∀ pe : PE, wtPE curTy pe = true → MethTyped v (methsPE pe) →
      evalE C.N σ (compPE ptr cur (curT curTy) pe) = denote C ((x, v) :: ρ) (peQ x pe) ∧
      ∀ w, denote C ((x, v) :: ρ) (peQ x pe) = .ok w → HasTy w (tyPE (curT curTy) pe)
  | .int n, _, _ => by simp [compPE, peQ, evalE, denote, tyPE, HasTy]
  | .dbl m e, _, _ => by simp [compPE, peQ, evalE, denote, tyPE, HasTy]
  | .bool b, _, _ => by simp [compPE, peQ, evalE, denote, tyPE, HasTy]
  | .it, hw, _ => by
    simp only [wtPE, Option.isSome_iff_exists] at hw
    obtain ⟨t, ht⟩ := hw
    simp only [compPE, peQ, denote, LEnv.get, if_true, hcur, tyPE, true_and]
    intro w hw'
    simp only [Except.ok.injEq] at hw'; subst hw'
    simpa [curT, ht] using hty t ht
  | .meth name ty, _, hm => by
    simp only [compPE, peQ, evalE, hcur, denote, LEnv.get, if_true, evalEs, tyPE, true_and]
    intro w hw'
    exact hm (name, ty) (by simp [methsPE]) w hw'
  | .bin op a b, hw, hm => by
    simp only [wtPE, Bool.and_eq_true] at hw
    obtain ⟨⟨⟨hwa, hwb⟩, hna⟩, hnb⟩ := hw
    have iha := pe_correct C σ cur curTy ptr v x ρ hcur hty a hwa (fun p hp => hm p (by simp [methsPE, hp]))
    have ihb := pe_correct C σ cur curTy ptr v x ρ hcur hty b hwb (fun p hp => hm p (by simp [methsPE, hp]))
    rw [tyPE_bin]
    exact bin_correct C σ _ op _ _ hna hnb _ _ _ _ iha.1 ihb.1 iha.2 ihb.2
  | .cmp op a b, hw, hm => by
    simp only [wtPE, Bool.and_eq_true] at hw
    obtain ⟨⟨⟨hwa, hwb⟩, hna⟩, hnb⟩ := hw
    have iha := pe_correct C σ cur curTy ptr v x ρ hcur hty a hwa (fun p hp => hm p (by simp [methsPE, hp]))
    have ihb := pe_correct C σ cur curTy ptr v x ρ hcur hty b hwb (fun p hp => hm p (by simp [methsPE, hp]))
    exact cmp_correct C σ _ op _ _ _ _ iha.1 ihb.1
  | .neg a, hw, hm => by
    simp only [wtPE, Bool.and_eq_true] at hw
    have iha := pe_correct C σ cur curTy ptr v x ρ hcur hty a hw.1 hm
    exact neg_correct C σ _ _ hw.2 _ _ iha.1 iha.2
  | .not a, hw, hm => by
    simp only [wtPE, Bool.and_eq_true, beq_iff_eq] at hw
    have iha := pe_correct C σ cur curTy ptr v x ρ hcur hty a hw.1 hm
    exact not_correct C σ _ _ _ iha.1 (hw.2 ▸ iha.2)

theorem hasTy_asBool (N : Num D) {w : Val D} {t : Ty} (h : HasTy w t) : ∃ b, asBool N w = some b := by
  cases w with
  | int _ | dbl _ | bool _ => exact ⟨_, rfl⟩
  | _ => exact False.elim h

theorem methTyped_left {v : Val D} {a b : List (String × Ty)} (h : MethTyped v (a ++ b)) : MethTyped v a :=
  fun p hp => h p (List.mem_append_left _ hp)

theorem methTyped_right {v : Val D} {a b : List (String × Ty)} (h : MethTyped v (a ++ b)) : MethTyped v b :=
  fun p hp => h p (List.mem_append_right _ hp)

def strict1 (ra : Except Fault (Val D)) (g : Val D → Except Fault (Val D)) : Except Fault (Val D) :=
  match ra with
  | .error f => .error f
  | .ok wa => g wa

def strict2 (ra rb : Except Fault (Val D)) (g : Val D → Val D → Except Fault (Val D)) : Except Fault (Val D) :=
  match ra with
  | .error f => .error f
  | .ok wa => match rb with
    | .error f => .error f
    | .ok wb => g wa wb

theorem strict1_pure (ra : Except Fault (Val D)) : strict1 ra (fun w => .ok w) = ra := by
  cases ra <;> rfl

theorem strict1_ok {ra : Except Fault (Val D)} {g : Val D → Except Fault (Val D)} {w : Val D}
    (h : strict1 ra g = .ok w) : ∃ wa, ra = .ok wa ∧ g wa = .ok w := by
  cases ra with
  | error e => simp [strict1] at h
  | ok wa => exact ⟨wa, rfl, h⟩

theorem strict2_ok {ra rb : Except Fault (Val D)} {g : Val D → Val D → Except Fault (Val D)} {w : Val D}
    (h : strict2 ra rb g = .ok w) : ∃ wa wb, ra = .ok wa ∧ rb = .ok wb ∧ g wa wb = .ok w := by
  cases ra with
  | error e => simp [strict2] at h
  | ok wa => cases rb with
    | error e => simp [strict2] at h
    | ok wb => exact ⟨wa, wb, rfl, rfl, h⟩

theorem strict2_error {ra rb : Except Fault (Val D)} {g : Val D → Val D → Except Fault (Val D)} {f : Fault}
    (h : strict2 ra rb g = .error f) :
    ra = .error f ∨ ∃ wa, ra = .ok wa ∧ (rb = .error f ∨ ∃ wb, rb = .ok wb ∧ g wa wb = .error f) := by
  cases ra with
  | error e => exact Or.inl h
  | ok wa => cases rb with
    | error e => exact Or.inr ⟨wa, rfl, Or.inl h⟩
    | ok wb => exact Or.inr ⟨wa, rfl, Or.inr ⟨wb, rfl, h⟩⟩

theorem strict1_error {ra : Except Fault (Val D)} {g : Val D → Except Fault (Val D)} {f : Fault}
    (h : strict1 ra g = .error f) : ra = .error f ∨ ∃ wa, ra = .ok wa ∧ g wa = .error f := by
  cases ra with
  | error e => exact Or.inl h
  | ok wa => exact Or.inr ⟨wa, rfl, h⟩

/-- what an outcome can be: a value satisfying `P`, or a fault of the class `E` -/
def Out (E : Fault → Prop) (P : Val D → Prop) (r : Except Fault (Val D)) : Prop :=
  (∀ w, r = .ok w → P w) ∧ (∀ f, r = .error f → E f)

section out
variable {E : Fault → Prop} {P Pa Pb Q : Val D → Prop}

theorem Out.strict1 {ra : Except Fault (Val D)} {g : Val D → Except Fault (Val D)} (ha : Out E P ra)
    (hg : ∀ wa, P wa → ∃ w, g wa = .ok w ∧ Q w) : Out E Q (strict1 ra g) := by
  cases ra with
  | error e => exact ⟨nofun, fun f h => ha.2 f h⟩
  | ok wa =>
    obtain ⟨w, hw, hq⟩ := hg wa (ha.1 wa rfl)
    exact ⟨fun w' h => ok_inj h hw ▸ hq, fun f h => by cases hw.symm.trans h⟩

theorem Out.strict2 {ra rb : Except Fault (Val D)} {g : Val D → Val D → Except Fault (Val D)} (ha : Out E Pa ra)
    (hb : Out E Pb rb) (hg : ∀ wa wb, Pa wa → Pb wb → ∃ w, g wa wb = .ok w ∧ Q w) : Out E Q (strict2 ra rb g) := by
  cases ra with
  | error e => exact ⟨nofun, fun f h => ha.2 f h⟩
  | ok wa => exact hb.strict1 fun wb hwb => hg wa wb (ha.1 wa rfl) hwb

theorem Out.mono {E' : Fault → Prop} {r : Except Fault (Val D)} (h : Out E P r) (hE : ∀ f, E f → E' f) (hP : ∀ w, P w → Q w) :
    Out E' Q r := ⟨fun w hw => hP w (h.1 w hw), fun f hf => hE f (h.2 f hf)⟩

end out

theorem denote_bin (QC : QCtx D) (ρ : LEnv D) (op : String) (a b : Query) :
    denote QC ρ (.bin op a b) = strict2 (denote QC ρ a) (denote QC ρ b) (pyArith QC.N op) := by
  simp only [denote, strict2]
  cases denote QC ρ a with
  | error e => rfl
  | ok va => cases denote QC ρ b <;> rfl

theorem denote_cmp (QC : QCtx D) (ρ : LEnv D) (op : String) (a b : Query) :
    denote QC ρ (.cmp op a b) = strict2 (denote QC ρ a) (denote QC ρ b) (arith QC.N op) := by
  simp only [denote, strict2]
  cases denote QC ρ a with
  | error e => rfl
  | ok va => cases denote QC ρ b <;> rfl

theorem denote_neg (QC : QCtx D) (ρ : LEnv D) (a : Query) :
    denote QC ρ (.neg a) = strict1 (denote QC ρ a) (unop QC.N "-") := by
  simp only [denote, strict1]
  cases denote QC ρ a <;> rfl

theorem denote_not (QC : QCtx D) (ρ : LEnv D) (a : Query) :
    denote QC ρ (.not a) = strict1 (denote QC ρ a) (unop QC.N "!") := by
  simp only [denote, strict1]
  cases denote QC ρ a <;> rfl

theorem pyArith_total (N : Num D) (op : AOp) (va vb : Val D) (ta tb : Ty)
    (ha : HasTy va ta) (hb : HasTy vb tb) (hna : ta.isNum = true) (hnb : tb.isNum = true) :
    ∃ w, pyArith N op.str va vb = .ok w := by
  rcases hasTy_num ha hna with ⟨x, rfl, _⟩ | ⟨x, rfl, _⟩ <;>
  rcases hasTy_num hb hnb with ⟨y, rfl, _⟩ | ⟨y, rfl, _⟩ <;>
  cases op <;> exact ⟨_, rfl⟩

theorem cmp_total (N : Num D) (op : COp) (va vb : Val D) (ta tb : Ty)
    (ha : HasTy va ta) (hb : HasTy vb tb) (hna : ta.isNum = true) (hnb : tb.isNum = true) :
    ∃ w, arith N op.str va vb = .ok w := by
  rcases hasTy_num ha hna with ⟨x, rfl, _⟩ | ⟨x, rfl, _⟩ <;>
  rcases hasTy_num hb hnb with ⟨y, rfl, _⟩ | ⟨y, rfl, _⟩ <;>
  cases op <;> exact ⟨_, rfl⟩

theorem neg_total (N : Num D) (w : Val D) (t : Ty) (h : HasTy w t) (hn : t.isNum = true) :
    ∃ w', unop N "-" w = .ok w' ∧ HasTy w' t := by
  rcases hasTy_num h hn with ⟨x, rfl, rfl⟩ | ⟨x, rfl, ht⟩
  · exact ⟨.int (-x), by simp [unop], by simp [HasTy]⟩
  · exact ⟨.dbl (N.neg x), by simp [unop], by rcases ht with rfl | rfl <;> simp [HasTy]⟩

theorem not_total (N : Num D) (w : Val D) (h : HasTy w .bool) : ∃ w', unop N "!" w = .ok w' ∧ HasTy w' .bool := by
  obtain ⟨b, rfl⟩ := hasTy_bool h
  exact ⟨.bool (!b), by simp [unop, asBool], by simp [HasTy]⟩

theorem binV_err_a (N : Num D) (σ : Env D) (op : AOp) (ta tb : Ty) (a b : CExpr) (f : Fault)
    (h : evalE N σ a = .error f) : evalE N σ (binV op ta tb a b) = .error f := by
  unfold binV
  split
  · rw [evalE_bin_arith _ _ _ (by simp) (by simp)]; simp [evalE, h]
  · rw [evalE_bin_arith _ _ _ (aop_not_logic op).1 (aop_not_logic op).2]; simp [h]

theorem binV_err_b (N : Num D) (σ : Env D) (op : AOp) (ta tb : Ty) (a b : CExpr) (wa : Val D) (f : Fault)
    (hwa : HasTy wa ta) (hna : ta.isNum = true)
    (ha : evalE N σ a = .ok wa) (hb : evalE N σ b = .error f) : evalE N σ (binV op ta tb a b) = .error f := by
  unfold binV
  split
  · rw [evalE_bin_arith _ _ _ (by simp) (by simp)]
    rcases hasTy_num hwa hna with ⟨x, rfl, _⟩ | ⟨x, rfl, _⟩ <;> simp [evalE, ha, hb, castTo, asD]
  · rw [evalE_bin_arith _ _ _ (aop_not_logic op).1 (aop_not_logic op).2]; simp [ha, hb]

theorem binV_ok (N : Num D) (σ : Env D) (op : AOp) (ta tb : Ty) (a b : CExpr) (wa wb : Val D)
    (hwa : HasTy wa ta) (hwb : HasTy wb tb) (hna : ta.isNum = true) (hnb : tb.isNum = true)
    (ha : evalE N σ a = .ok wa) (hb : evalE N σ b = .ok wb) :
    evalE N σ (binV op ta tb a b) = pyArith N op.str wa wb := by
  unfold binV
  by_cases hdiv : op = .div
  · subst hdiv
    have hd := (div_num N wa wb ta tb hwa hwb hna hnb).1
    by_cases hj : ta.join tb = .int
    · simp only [hj, and_self, if_true] at hd ⊢
      rw [evalE_bin_arith _ _ _ (by simp) (by simp)]
      simp only [evalE, ha, hb]
      simp only [AOp.str]
      rw [← hd]
      cases castTo N "double" wa <;> rfl
    · simp only [hj, and_false, if_false] at hd ⊢
      rw [evalE_bin_arith _ _ _ (by simp [AOp.str]) (by simp [AOp.str])]
      simp only [ha, hb, AOp.str]
      exact hd
  · have hne : ¬ (op = .div ∧ ta.join tb = .int) := fun h => hdiv h.1
    simp only [hne, if_false]
    rw [evalE_bin_arith _ _ _ (aop_not_logic op).1 (aop_not_logic op).2]
    simp only [ha, hb]
    exact (arith_num N op hdiv wa wb ta tb hwa hwb hna hnb).1

end FaxVerif.Gen
