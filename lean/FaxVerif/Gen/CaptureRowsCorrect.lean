/-
Gen — the rows level of the captured-variable tower: event-level rows whose columns iterate ANOTHER event collection
with the outer element captured,
    ds.Select(e → {name: e.Coll(bank).Where*.Select(y → XE | e.Coll2(bank2).{Select|Where with y}*), …})
ONE column is `e.Coll(bank).Where*.Select(y → body)`:
  (a) `body` = an expression with captured aggregates → `col.push_back(value)` per kept outer element (`caggK`);
  (b) `body` = a captured chain (2-D column)           → handle variable and `std::vector<T> ntuple;` declared in the
      outer loop body (so the storage vector is EMPTY again for every outer element), retrieval, the inner loop pushing
      into it, `col.push_back(ntuple)` (`ctwoDK`).
Both continuations have a `PushSpec` (Gen/PushColsCorrect.lean) over `Touch nm`: they also touch `result` (the inner
retrieval block) and need the inner chains' tokens. A column is its outer chain with the continuation `caggK` / `ctwoDK`
and the table entries `ccolToks` (`CCol.toP`, `CCol.tokSpec`), so the rows are an instance of `pushEventRows_of_toP`
(`captureEventRows_correct_post`); `cfragJobOK` puts it into the form `JobOK`.
-/
import FaxVerif.Gen.CaptureExprCorrect
import FaxVerif.Gen.PushColsCorrect
import FaxVerif.Gen.JobCorrect
namespace FaxVerif.Gen
open FaxVerif.Cpp FaxVerif.Linq
variable {D : Type}

/-- the bank a captured chain ranges over holds a collection whenever it exists -/
def BankIsVecC (QC : QCtx D) (c : CChain) : Prop := ∀ cty content, QC.ev.find c.bank = some (cty, content) → ∃ l, content = .vec l

theorem caggK_next_ge (B : Backend) (nm : Nat → String) (col : String) (e : XE) (cur : CExpr) (ty : Option Ty) (m : Nat) :
    m ≤ (caggK B nm col e cur ty m).2 := by
  simp only [caggK]; exact compXE_next_ge B nm _ cur e m

theorem caggK_pushSpec (C : Ctx D) (QC : QCtx D) (hN : QC.N = C.N) (hev : QC.ev = C.ev)
    (B : Backend) (hB : BackendBase B) (nm : Nat → String)
    (hinj : ∀ i j, nm i = nm j → i = j) (hres : ∀ j, nm j ≠ "result")
    (hcollT : ∀ name, B.collType name = QC.collType name)
    (col : String) (hcol : ∀ j, nm j ≠ col) (hcolres : col ≠ "result") (e : XE) (hwt : wtXE e = true) (ρ : LEnv D) :
    PushSpec C (Touch nm) col (caggK B nm col e) (fun v => denote QC (("y", v) :: ρ) (xeQ "e" "y" e)) (fun v => XEHyp QC v e)
      (fun cur m => TokXE B nm C (B.elemPtr && (none : Option Ty).isNone) cur e m) :=
  .of_block (not_touch_of_ne (fun j h => hcol j h.symm) hcolres)
    (fun cur m => compXE B nm (B.elemPtr && (none : Option Ty).isNone) cur e m) (fun _ _ => rfl) fun cur m v u hfr htk hQ hf =>
      FragSpec.block (Frames.touch hinj hres) (compXE_layout B nm _ cur e m) (compXE_declsOK C.N B hB nm hinj _ cur e m) hfr
        (compXE_spec C QC hN hev B hB nm hinj hres hcollT _ cur v ρ e m u htk hfr hwt hQ hf)

theorem ctwoDK_next_ge (B : Backend) (nm : Nat → String) (col : String) (ic : CChain) (cur : CExpr) (ty : Option Ty) (m : Nat) :
    m ≤ (ctwoDK B nm col ic cur ty m).2 := by
  have := ccompChain_next B nm (B.elemPtr && ty.isNone) cur ic (m + 1) (pushK (nm m))
  simp only [ctwoDK]; omega

theorem cchainQ_vec (QC : QCtx D) (ρ : LEnv D) (vo : Val D) (hy : ρ.get "y" = some vo) (ic : CChain) (u : Val D)
    (hvec : BankIsVecC QC ic) (h : denote QC ρ (cchainQ "e" "y" ic) = .ok u) : ∃ ws, u = .vec ws := by
  unfold cchainQ at h
  cases hs : denote QC ρ (.coll (.var "e") ic.coll ic.bank) with
  | error e => rw [cstepsQ_error QC ρ "y" e ic.steps _ hs] at h; cases h
  | ok content =>
    obtain ⟨cty, _, hfind⟩ := coll_denote_ok hs
    obtain ⟨l, rfl⟩ := hvec _ _ hfind
    rw [cstepsQ_denote QC ρ vo hy ic.steps _ l hs] at h
    cases hcl : cchainList QC vo ic.steps l with
    | error e => simp [hcl] at h
    | ok r => exact ⟨r, by simpa [hcl, eq_comm] using h⟩

theorem ctwoDK_pushSpec (C : Ctx D) (QC : QCtx D) (hN : QC.N = C.N) (hev : QC.ev = C.ev)
    (B : Backend) (hB : BackendBase B) (nm : Nat → String)
    (hinj : ∀ i j, nm i = nm j → i = j) (hres : ∀ j, nm j ≠ "result")
    (hcollT : ∀ name, B.collType name = QC.collType name)
    (col : String) (hcol : ∀ j, nm j ≠ col) (hcolres : col ≠ "result") (ic : CChain) (hwt : wtCChain ic = true)
    (hct : CChainTyped QC ic) (hbv : BankIsVecC QC ic) (ρ : LEnv D) :
    PushSpec C (Touch nm) col (ctwoDK B nm col ic) (fun v => denote QC (("y", v) :: ρ) (cchainQ "e" "y" ic))
      (fun v => MethTyped v (omethsCSteps ic.steps))
      (fun _ m => TokCChain B nm C ic (m + 1)) := by
  refine .of_storage (Frames.touch hinj hres) (not_touch_of_ne (fun j h => hcol j h.symm) hcolres)
    (fun cur m => (ccompChain B nm (B.elemPtr && (none : Option Ty).isNone) cur ic (m + 1) (pushK (nm m))).decls) _ _
    (fun cur m => (ccompChain B nm (B.elemPtr && (none : Option Ty).isNone) cur ic (m + 1) (pushK (nm m))).next)
    (fun cur m => Nat.le_trans (Nat.le_add_right _ 3) (ccompChain_next B nm _ cur ic (m + 1) (pushK (nm m))))
    (fun _ _ => rfl)
    (fun cur m => ⟨declsIn_singleton (Nat.le_refl _) (Nat.lt_of_lt_of_le (by omega) (ccompChain_next B nm _ cur ic (m + 1) _)) _ _,
      fun _ hd => List.mem_singleton.1 hd ▸ hB.handleNotVec _, by simp [ccompChain]⟩)
    fun cur m v u hofr htk hQ hf => ?_
  obtain ⟨ws, rfl⟩ := cchainQ_vec QC _ v (by simp [LEnv.get]) ic u hbv hf
  obtain ⟨cty, l, hcty, hfind, hel⟩ := cchainQ_ok QC _ "e" v (by simp [LEnv.get]) ic ws hf
  -- `hdone`: the handle variable is declared
  exact ⟨ws, _, _, _, rfl, fun _ h => h, fun s0 _ hdone =>
    ccompChain_isFold C QC hN B hB nm hinj hres _ cur v (m + 1) (hofr.mono (Nat.le_succ m)) ic htk (pushK (nm m)) cty l ws
      (by rw [hcollT]; exact hcty) (by rw [← hev]; exact hfind) (wtCChain_steps hwt) (hct cty l hfind) hQ (fun _ => True)
      (fun _ _ => trivial) hel s0 (hdone _ (List.mem_singleton_self _))⟩

def CCol.chain : CCol → Chain
  | .agg c _ => c
  | .twoD c _ => c

/-- per-event side conditions of one column: static well-typedness; the objects of the outer bank and of the inner banks
return values of the declared kinds; floating captured sums are non-empty; a 2-D column's inner bank holds a collection -/
def CColHyp (QC : QCtx D) : CCol → Prop
  | .agg c e => wtOuter c = true ∧ wtXE e = true ∧ ChainTyped QC c ∧
      (∀ cty l, QC.ev.find c.bank = some (cty, .vec l) → ∀ v ∈ l, XEHyp QC v e)
  | .twoD c ic => wtOuter c = true ∧ wtCChain ic = true ∧ ChainTyped QC c ∧ CChainTyped QC ic ∧ BankIsVecC QC ic ∧
      (∀ cty l, QC.ev.find c.bank = some (cty, .vec l) → ∀ v ∈ l, MethTyped v (omethsCSteps ic.steps))

def CCol.kn (B : Backend) (nm : Nat → String) (v : String) : CCol → KN
  | .agg _ e => caggK B nm v e
  | .twoD _ ic => ctwoDK B nm v ic

def TokCCol (B : Backend) (nm : Nat → String) (C : Ctx D) (col : CCol) (n : Nat) : Prop :=
  TokChain B nm C col.chain n ∧
  (match col with
   | .agg c e => TokXE B nm C (B.elemPtr && (none : Option Ty).isNone) (stepConds B.elemPtr (.var (nm (n + 1))) none c.steps).2.1 e (outerNext B nm c n)
   | .twoD c ic => TokCChain B nm C ic (outerNext B nm c n + 1))

theorem CCol.kn_next_ge (B : Backend) (nm : Nat → String) (v : String) (col : CCol) (cur : CExpr) (ty : Option Ty) (m : Nat) :
    m ≤ (col.kn B nm v cur ty m).2 := by
  cases col with
  | agg c e => exact caggK_next_ge B nm v e cur ty m
  | twoD c ic => exact ctwoDK_next_ge B nm v ic cur ty m

theorem compCCol_stmts (B : Backend) (nm cn : Nat → String) (idx : Nat) (col : CCol) (n : Nat) :
    (compCCol B nm cn idx col n).stmts =
      (compChain B nm col.chain n (fun cur ty => (col.kn B nm (cn idx) cur ty (outerNext B nm col.chain n)).1)).stmts := by
  cases col <;> rfl

/-- every chain of the column list, outer and inner, finds its token bound to its own container type and bank -/
def TokCCols (B : Backend) (nm cn : Nat → String) (C : Ctx D) : List CCol → Nat → Nat → Prop
  | [], _, _ => True
  | c :: cs, idx, n => TokCCol B nm C c n ∧ TokCCols B nm cn C cs (idx + 1) (compCCol B nm cn idx c n).next

theorem tokCCol_of_notToken {B : Backend} (h : B.how ≠ "token") (nm : Nat → String) (C : Ctx D) (col : CCol) (n : Nat) :
    TokCCol B nm C col n := by
  refine ⟨tokChain_of_notToken h nm C col.chain n, ?_⟩
  cases col with
  | agg c e => exact (compXE_tokSpec B nm _ _ e _).of_notToken h C
  | twoD c ic => exact fun e => absurd e h

theorem tokCCols_of_notToken {B : Backend} (h : B.how ≠ "token") (nm cn : Nat → String) (C : Ctx D) :
    ∀ (cols : List CCol) (idx n : Nat), TokCCols B nm cn C cols idx n
  | [], _, _ => trivial
  | c :: cs, _, n => ⟨tokCCol_of_notToken h nm C c n, tokCCols_of_notToken h nm cn C cs _ _⟩

theorem outerCur_eq (B : Backend) (nm : Nat → String) (c : Chain) (n : Nat) :
    outerCur B nm c n = (stepConds B.elemPtr (.var (nm (n + 1))) none c.steps).2.1 := rfl

def CCol.toP (B : Backend) (nm : Nat → String) (col : CCol) : PCol :=
  ⟨col.chain, fun v => col.kn B nm v,
    match col with
    | .agg _ e => (tyXE e).cpp
    | .twoD _ ic => vecTy ((cchainTy none ic.steps).getD .double).cpp,
    ccolQ "e" col, ccolToks B nm col⟩

/-- the column's table entries — the outer chain's, then those of the captured chains of its body — and `TokCCol` from a
table that binds them. (`wtOuter`: the outer chain hands its loop variable on, so the body is compiled as `TokCCol` says.) -/
theorem CCol.tokSpec (B : Backend) (nm cn : Nat → String) (idx : Nat) (col : CCol) (hwo : wtOuter col.chain = true) (n : Nat) :
    TokSpec (B.how = "token") nm (ccolToks B nm col n) n (compPCol B nm cn idx (col.toP B nm) n).next
      (fun C => TokCCol B nm C col n) := by
  have hc := compChain_next_eq B nm col.chain n (fun _ _ => []) ▸ (Toks.chain B nm col.chain n fun _ _ => []).toTokSpec
  have hm : n ≤ outerNext B nm col.chain n := Nat.le_trans (Nat.le_add_right n 3) (outerNext_ge B nm col.chain n)
  rw [show (compPCol B nm cn idx (col.toP B nm) n).next = _ from compChainN_next B nm col.chain n (col.kn B nm (cn idx)) hwo]
  cases col with
  | agg c e =>
    have hty : outerTy B nm c n = none := wtOuter_ty hwo B.elemPtr (outerIt nm n)
    show TokSpec _ nm (onTok B (chainToks B nm c n ++
      xeToks B nm (B.elemPtr && (outerTy B nm c n).isNone) (outerCur B nm c n) e (outerNext B nm c n))) _ _ _
    rw [hty]
    exact (hc.append hm (compXE_next_ge B nm _ _ e _) (compXE_tokSpec B nm _ _ e _)).onTok
  | twoD c ic =>
    exact (hc.append hm (ctwoDK_next_ge B nm (cn idx) ic _ none _)
      ((cchain_tokSpec B nm ic (outerNext B nm c n + 1) _
        (ccompChain_next B nm _ _ ic _ (pushK (nm (outerNext B nm c n))))).imp (fun _ h => h) (Nat.le_succ _) (Nat.le_refl _))).onTok

theorem CCol.toP_wf (B : Backend) (nm cn : Nat → String) (col : CCol)
    (hwo : wtOuter col.chain = true) : (col.toP B nm).Wf B nm cn :=
  ⟨fun v cur ty m => col.kn_next_ge B nm v cur ty m, fun idx n => (col.tokSpec B nm cn idx hwo n).toTokNames⟩

theorem CCol.toP_wfs (B : Backend) (nm cn : Nat → String) (cols : List (String × CCol))
    (hwo : ∀ p ∈ cols, wtOuter p.2.chain = true) : ∀ p ∈ cols.map (fun p => p.2.toP B nm), p.Wf B nm cn :=
  List.forall_mem_map.2 fun c hc => c.2.toP_wf B nm cn (hwo c hc)

theorem compCCols_eq (B : Backend) (nm cn : Nat → String) : ∀ (cols : List CCol) (idx n : Nat),
    compCCols B nm cn cols idx n = compPCols B nm cn (cols.map (CCol.toP B nm)) idx n ∧
    ccolsToks B nm cn cols idx n = pcolsToks B nm cn (cols.map (CCol.toP B nm)) idx n
  | [], _, _ => ⟨rfl, rfl⟩
  | c :: cs, idx, n => by
    have h : compCCol B nm cn idx c n = compPCol B nm cn idx (c.toP B nm) n := by cases c <;> rfl
    simp only [compCCols, ccolsToks, List.map_cons, compPCols, pcolsToks, h, compCCols_eq B nm cn cs]
    exact ⟨trivial, rfl⟩

theorem compileC_eventRows (B : Backend) (nm cn : Nat → String) (cols : List (String × CCol)) :
    compileC B nm cn (.eventRows cols) = pushPackage B nm cn (cols.map (·.1)) (cols.map fun p => p.2.toP B nm) := by
  simp only [compileC, pushPackage, compCCols_eq, List.map_map]; rfl

/-- **one column** — from a state in which the table binds the column's tokens, its outer retrieval variable is declared
and its vector variable is empty: afterwards the vector variable holds exactly the list the column denotes. -/
theorem CCol.toP_ok (C : Ctx D) (QC : QCtx D) (hN : QC.N = C.N) (hev : QC.ev = C.ev)
    (B : Backend) (hB : BackendBase B) (nm cn : Nat → String)
    (hinj : ∀ i j, nm i = nm j → i = j) (hres : ∀ j, nm j ≠ "result")
    (hcres : ∀ k, cn k ≠ "result") (hdisj : ∀ j k, nm j ≠ cn k)
    (hcollT : ∀ name, B.collType name = QC.collType name) (col : CCol) (hhyp : CColHyp QC col) :
    (col.toP B nm).Wf B nm cn ∧ PColOK C QC B nm cn (col.toP B nm) := by
  cases col with
  | agg c e =>
    obtain ⟨hwo, hwt, hct, hq⟩ := hhyp
    have hw := CCol.toP_wf B nm cn (.agg c e) hwo
    exact ⟨hw, PColOK.of_pushSpec C QC hN hev B hB nm cn hinj hres hcres hdisj hcollT _ hw.1 hwo hct outerVar
      (xeQ "e" outerVar e) rfl _ _
      (fun idx => caggK_pushSpec C QC hN hev B hB nm hinj hres hcollT (cn idx) (fun j => hdisj j idx) (hcres idx) e hwt [("e", evtVal)])
      (fun n h => (CCol.tokSpec B nm cn 0 (.agg c e) hwo n).bind C fun _ => h) hq⟩
  | twoD c ic =>
    obtain ⟨hwo, hwt, hct, hcct, hbv, hq⟩ := hhyp
    have hw := CCol.toP_wf B nm cn (.twoD c ic) hwo
    exact ⟨hw, PColOK.of_pushSpec C QC hN hev B hB nm cn hinj hres hcres hdisj hcollT _ hw.1 hwo hct outerVar
      (cchainQ "e" outerVar ic) rfl _ _
      (fun idx => ctwoDK_pushSpec C QC hN hev B hB nm hinj hres hcollT (cn idx) (fun j => hdisj j idx) (hcres idx) ic hwt hcct hbv [("e", evtVal)])
      (fun n h => (CCol.tokSpec B nm cn 0 (.twoD c ic) hwo n).bind C fun _ => h) hq⟩

theorem tokCCols_of_lookup (B : Backend) (nm cn : Nat → String) (C : Ctx D) : ∀ (cols : List CCol) (idx n : Nat),
    (∀ col ∈ cols, wtOuter col.chain = true) →
    (∀ t ∈ ccolsToks B nm cn cols idx n, C.tokenBank t.1 = some t.2) → TokCCols B nm cn C cols idx n
  | [], _, _, _, _ => trivial
  | c :: cs, idx, n, hwo, h =>
    ⟨(c.tokSpec B nm cn idx (hwo c (by simp)) n).bind C fun _ t ht => h t (by simp [ccolsToks, ht]),
      tokCCols_of_lookup B nm cn C cs _ _ (fun col hc => hwo col (by simp [hc])) (fun t ht => h t (by simp [ccolsToks, ht]))⟩

/-- **C01 (event-level rows of captured-variable columns)** — for every list of columns of shapes (a) / (b), every event
and every class state in which the column vectors are empty: if the query denotes `rows` (necessarily one
row) on the event, the package the translator model emits writes exactly `rows`, and the class state it
leaves behind has the column vectors empty again. -/
theorem captureEventRows_correct_post (B : Backend) (hB : BackendBase B) (nm cn : Nat → String) (hsup : Supply nm cn)
    (QC : QCtx D) (hcollT : ∀ name, B.collType name = QC.collType name)
    (cols : List (String × CCol)) (hhyp : ∀ p ∈ cols, CColHyp QC p.2)
    (σc : Env D) (hσ : NColsPre cn cols.length 0 σc)
    (rows : List (List (Val D)))
    (hden : denoteRows QC (CQ.toQuery (.eventRows cols)) = .ok rows) :
    ∃ σ', runEvent (compileC B nm cn (.eventRows cols)) QC.N σc QC.ev = .ok (rows, σ') ∧
      NColsPre cn cols.length 0 σ' := by
  rw [compileC_eventRows]
  exact pushEventRows_of_toP B nm cn hsup QC (CCol.toP B nm) cols
    (fun p hp => p.2.toP_ok _ QC rfl rfl B hB nm cn hsup.inj hsup.res hsup.cres hsup.disj hcollT (hhyp p hp)) σc hσ rows hden

def CQ.cols : CQ → List (String × CCol)
  | .eventRows cols => cols

def CFragHyp (QC : QCtx D) : CQ → Prop
  | .eventRows cols => ∀ p ∈ cols, CColHyp QC p.2

/-- what the class state must satisfy when the per-event method is entered: the column vectors are empty -/
def CFragPre (cn : Nat → String) : CQ → Env D → Prop
  | .eventRows cols, σ => NColsPre cn cols.length 0 σ

theorem cq_wt_wo (nq : CQ) (h : nq.wt = true) :
    ∀ p ∈ nq.cols, wtOuter p.2.chain = true := by
  cases nq with
  | eventRows cols =>
    intro p hp
    simp only [CQ.wt, List.all_eq_true] at h
    have := h p hp
    cases hc : p.2 <;> rw [hc] at this <;> simp only [wtCCol, Bool.and_eq_true] at this
    · exact this.1
    · exact this.1.1

theorem cfragHyp_wo (QC : QCtx D) (nq : CQ) (h : CFragHyp QC nq) :
    ∀ p ∈ nq.cols, wtOuter p.2.chain = true := by
  cases nq with
  | eventRows cols =>
    intro p hp
    have := h p hp
    cases hc : p.2 <;> rw [hc] at this <;> exact this.1

/-- **the initial class state satisfies the precondition** of the single-event theorems (the miniAOD token
members, declared before the column variables, do not interfere: their names are generated local names). -/
theorem cfragPre_classInit (B : Backend) (nm cn : Nat → String)
    (hdisj : ∀ j k, nm j ≠ cn k) (nq : CQ) (hwo : ∀ p ∈ nq.cols, wtOuter p.2.chain = true) :
    CFragPre cn nq (classInit (compileC B nm cn nq).classVars : Env D) := by
  cases nq with
  | eventRows cols =>
    rw [compileC_eventRows]
    simpa [CFragPre] using pushPre_classInit (D := D) B nm cn hdisj (cols.map (·.1)) _ (CCol.toP_wfs B nm cn cols hwo)

theorem cfragJobOK (B : Backend) (hB : BackendBase B) (nm cn : Nat → String) (hsup : Supply nm cn)
    (QC : QCtx D) (hcollT : ∀ name, B.collType name = QC.collType name) (nq : CQ) (hwt : nq.wt = true) :
    JobOK (compileC B nm cn nq) QC nq.toQuery (CFragPre cn nq) (fun ev => CFragHyp (QC.withEvent ev) nq) := by
  refine ⟨?_, cfragPre_classInit B nm cn hsup.disj nq (cq_wt_wo nq hwt)⟩
  cases nq with
  | eventRows cols =>
    exact fun ev hev σ hσ rows hden =>
      captureEventRows_correct_post B hB nm cn hsup (QC.withEvent ev) hcollT cols hev σ hσ rows hden

end FaxVerif.Gen
