/-
Gen — the rows level of the nested tower: rows whose columns iterate inner collections (collections returned by a
method of the outer element), and the job level.
ONE event-level column is `e.Coll(bank).Where*.Select(y → body)`:
  (a) `body` = an expression with inner aggregates  → `col.push_back(value)` per kept outer element (`aggK`);
  (b) `body` = an inner chain (2-D column)           → `std::vector<T> ntuple;` declared in the outer loop body
      (so it is EMPTY again for every outer element), the inner loop pushing into it, `col.push_back(ntuple)` (`twoDK`).
Both continuations have a `PushSpec` (Gen/PushColsCorrect.lean) over `InRange nm`: they retrieve nothing. Event-level
rows of such columns, (a) and (b) mixed, are an instance of `pushEventRows_of_toP` (`NCol.toP`;
`nestedEventRows_correct_post`).
  (c) Element-level rows whose columns are inner aggregates, `ds.SelectMany(e → coll(bank).Where*).Select(r → {name: NE, …})`,
are an instance of `fragRows_correct_post` (Gen/ElemRowsCorrect.lean): `rowKN` is the row code (`fragsRow`) of the
fragments `compNE` (`nestedElemRows_correct_post`). `nfragJobOK` puts both into the form `JobOK`.
-/
import FaxVerif.Gen.NestedExprCorrect
import FaxVerif.Gen.PushColsCorrect
import FaxVerif.Gen.JobCorrect
namespace FaxVerif.Gen
open FaxVerif.Cpp FaxVerif.Linq
variable {D : Type}

theorem aggK_next_ge (B : Backend) (nm : Nat → String) (col : String) (e : NE) (cur : CExpr) (ty : Option Ty) (m : Nat) :
    m ≤ (aggK B nm col e cur ty m).2 := by
  simp only [aggK]; exact compNE_next_ge nm _ cur e m

theorem aggK_pushSpec (C : Ctx D) (QC : QCtx D) (hN : QC.N = C.N) (B : Backend) (nm : Nat → String)
    (hinj : ∀ i j, nm i = nm j → i = j) (col : String) (hcol : ∀ j, nm j ≠ col) (e : NE) (hwt : wtNE e = true)
    (y : String) (ρ : LEnv D) :
    PushSpec C (InRange nm) col (aggK B nm col e) (fun v => denote QC ((y, v) :: ρ) (neQ y e)) (fun v => NEHyp QC v e)
      (fun _ _ => True) :=
  .of_block (fun _ _ ⟨j, _, _, hj⟩ => hcol j hj.symm) (fun cur m => compNE nm (B.elemPtr && (none : Option Ty).isNone) cur e m)
    (fun _ _ => rfl) fun cur m v u hfr _ hQ hf =>
      FragSpec.block (Frames.inRange hinj) (compNE_layout nm _ cur e m) (compNE_declsOK C.N nm hinj _ cur e m) hfr
        (compNE_spec C QC hN nm hinj _ cur v y ρ e m u hfr hwt hQ hf)

/-- the collection-returning method returns a collection whenever it returns -/
def InnerIsVec (v : Val D) (ic : IChain) : Prop := ∀ u, member v ic.meth [] = .ok u → ∃ l, u = .vec l

theorem twoDK_next_ge (B : Backend) (nm : Nat → String) (col : String) (ic : IChain) (cur : CExpr) (ty : Option Ty) (m : Nat) :
    m ≤ (twoDK B nm col ic cur ty m).2 := by
  simp only [twoDK]
  cases h : ic.steps with
  | nil => simp
  | cons st rest =>
    have := innerLoop_next_ge nm cur (B.elemPtr && ty.isNone) ic (m + 1) (pushK (nm m))
    simp only []; omega

theorem ichainQ_vec (QC : QCtx D) (x : String) (v : Val D) (ρ : LEnv D) (ic : IChain) (u : Val D)
    (hvec : InnerIsVec v ic) (h : denote QC ((x, v) :: ρ) (ichainQ x ic) = .ok u) : ∃ ws, u = .vec ws := by
  have hsrc0 : denote QC ((x, v) :: ρ) (.meth (.var x) ic.meth) = member v ic.meth [] := by
    simp [denote, LEnv.get]
  unfold ichainQ at h
  cases hs : member v ic.meth [] with
  | error e => rw [stepsQ_error QC _ e ic.steps _ 0 (by rw [hsrc0, hs])] at h; simp at h
  | ok content =>
    obtain ⟨l, rfl⟩ := hvec content hs
    rw [stepsQ_denote QC _ ic.steps _ 0 l (by rw [hsrc0, hs])] at h
    cases hcl : chainList QC ic.steps l with
    | error e => rw [hcl] at h; simp at h
    | ok r => rw [hcl] at h; simp only [Except.ok.injEq] at h; exact ⟨r, h.symm⟩

theorem twoDK_pushSpec (C : Ctx D) (QC : QCtx D) (hN : QC.N = C.N) (B : Backend) (nm : Nat → String)
    (hinj : ∀ i j, nm i = nm j → i = j) (col : String) (hcol : ∀ j, nm j ≠ col) (ic : IChain) (hwt : wtIChain ic = true)
    (y : String) (ρ : LEnv D) :
    PushSpec C (InRange nm) col (twoDK B nm col ic) (fun v => denote QC ((y, v) :: ρ) (ichainQ y ic))
      (fun v => InnerTyped v ic ∧ InnerIsVec v ic) (fun _ _ => True) := by
  cases hst : ic.steps with
  | nil =>
    intro cur m s v u a hfr _ hcur hQ hcolv hf
    have hu : member v ic.meth [] = .ok u := by
      have : denote QC ((y, v) :: ρ) (.meth (.var y) ic.meth) = .ok u := by
        simpa [ichainQ, hst, stepsQ] using hf
      simpa [denote, LEnv.get] using this
    have hev : evalE C.N s.env (icoll cur (B.elemPtr && (none : Option Ty).isNone) ic) = .ok u := by
      simp [icoll, evalE, hcur, evalEs, hu]
    refine ⟨{ s with env := s.env.set col (.vec (a ++ [u])) }, ?_, rfl, by simp [Env.set], ?_⟩
    · simp only [twoDK, hst, execs, exec_push_ok C s col _ a u hcolv hev]
    · intro z hz _; simp [Env.set, hz]
  | cons st0 rest =>
    refine .of_storage (Frames.inRange hinj) (fun _ _ ⟨j, _, _, hj⟩ => hcol j hj.symm) (fun _ _ => []) _ _
      (fun cur m => (innerLoop nm cur (B.elemPtr && (none : Option Ty).isNone) ic (m + 1) (pushK (nm m))).2)
      (fun cur m => compNE_acc_lt nm _ cur ic m _) (fun cur m => by simp only [twoDK, hst]; rfl)
      (fun _ _ => ⟨nofun, nofun, List.nodup_nil⟩) fun cur m v u hfr _ hQ hf => ?_
    obtain ⟨ws, rfl⟩ := ichainQ_vec QC y v ρ ic u hQ.2 hf
    obtain ⟨l, hmem, hel⟩ := ichainQ_ok QC y v ρ ic ws hf
    exact ⟨ws, fun _ => True, _, _, rfl, fun _ _ => trivial, fun s0 hcur0 _ =>
      innerLoop_correct C QC hN nm hinj cur _ ic (m + 1) (pushK (nm m)) (wtIChain_steps hwt) v l ws hmem hQ.1 hel s0 hcur0⟩

/-- per-event side conditions of one column: static well-typedness; the objects of the bank return values of
the declared kinds (outer conditions, pure parts, elements of the method-returned collections); floating
inner sums are non-empty; a 2-D column's method returns a collection -/
def NColHyp (QC : QCtx D) : NCol → Prop
  | .agg c e => wtOuter c = true ∧ wtNE e = true ∧ ChainTyped QC c ∧
      (∀ cty l, QC.ev.find c.bank = some (cty, .vec l) → ∀ v ∈ l, NEHyp QC v e)
  | .twoD c ic => wtOuter c = true ∧ wtIChain ic = true ∧ ChainTyped QC c ∧
      (∀ cty l, QC.ev.find c.bank = some (cty, .vec l) → ∀ v ∈ l, InnerTyped v ic ∧ InnerIsVec v ic)

def NCol.kn (B : Backend) (nm : Nat → String) (v : String) : NCol → KN
  | .agg _ e => aggK B nm v e
  | .twoD _ ic => twoDK B nm v ic

theorem NCol.kn_next_ge (B : Backend) (nm : Nat → String) (v : String) (col : NCol) (cur : CExpr) (ty : Option Ty) (m : Nat) :
    m ≤ (col.kn B nm v cur ty m).2 := by
  cases col with
  | agg c e => exact aggK_next_ge B nm v e cur ty m
  | twoD c ic => exact twoDK_next_ge B nm v ic cur ty m

theorem compNCol_stmts (B : Backend) (nm cn : Nat → String) (idx : Nat) (col : NCol) (n : Nat) :
    (compNCol B nm cn idx col n).stmts =
      (compChain B nm col.chain n (fun cur ty => (col.kn B nm (cn idx) cur ty (outerNext B nm col.chain n)).1)).stmts := by
  cases col <;> rfl

theorem ncolQ_eq (ev : String) (col : NCol) : ∃ body, ncolQ ev col = .select (chainQ ev col.chain) outerVar body ∧
    body = (match col with
      | .agg _ e => neQ outerVar e
      | .twoD _ ic => ichainQ outerVar ic) := by
  cases col <;> exact ⟨_, rfl, rfl⟩

def NCol.toP (B : Backend) (nm : Nat → String) (col : NCol) : PCol :=
  ⟨col.chain, fun v => col.kn B nm v,
    match col with
    | .agg _ e => (tyNE e).cpp
    | .twoD _ ic => vecTy ((ichainTy ic).getD .double).cpp,
    ncolQ "e" col, fun n => onTok B (chainToks B nm col.chain n)⟩

theorem compNCols_eq (B : Backend) (nm cn : Nat → String) : ∀ (cols : List NCol) (idx n : Nat),
    compNCols B nm cn cols idx n = compPCols B nm cn (cols.map (NCol.toP B nm)) idx n
  | [], _, _ => rfl
  | c :: cs, idx, n => by
    have h : compNCol B nm cn idx c n = compPCol B nm cn idx (c.toP B nm) n := by cases c <;> rfl
    simp only [compNCols, List.map_cons, compPCols, h, compNCols_eq B nm cn cs]

theorem compileN_eventRows (B : Backend) (nm cn : Nat → String) (cols : List (String × NCol)) :
    compileN B nm cn (.eventRows cols) = pushPackage B nm cn (cols.map (·.1)) (cols.map fun p => p.2.toP B nm) := by
  have h := banksOf_oneChain B nm cn (cols.map fun p => p.2.toP B nm) (fun p hp => by
    obtain ⟨c, _, rfl⟩ := List.mem_map.1 hp
    exact fun _ => rfl)
  simp only [List.map_map] at h
  simp only [compileN, pushPackage, compNCols_eq, List.map_map, ← h]; rfl

theorem NCol.toP_wf (B : Backend) (nm cn : Nat → String) (col : NCol) : (col.toP B nm).Wf B nm cn :=
  PCol.OneChain.wf B nm cn (fun _ => rfl) (fun v cur ty m => col.kn_next_ge B nm v cur ty m)

theorem NCol.toP_wfs (B : Backend) (nm cn : Nat → String) (cols : List (String × NCol)) :
    ∀ p ∈ cols.map (fun p => p.2.toP B nm), p.Wf B nm cn :=
  List.forall_mem_map.2 fun c _ => c.2.toP_wf B nm cn

/-- **one column** — from a state in which the column's retrieval variable is declared and its vector
variable is empty: afterwards the vector variable holds exactly the list the column denotes. -/
theorem NCol.toP_ok (C : Ctx D) (QC : QCtx D) (hN : QC.N = C.N) (hev : QC.ev = C.ev)
    (B : Backend) (hB : BackendBase B) (nm cn : Nat → String)
    (hinj : ∀ i j, nm i = nm j → i = j) (hres : ∀ j, nm j ≠ "result")
    (hcres : ∀ k, cn k ≠ "result") (hdisj : ∀ j k, nm j ≠ cn k)
    (hcollT : ∀ name, B.collType name = QC.collType name) (col : NCol) (hhyp : NColHyp QC col) :
    (col.toP B nm).Wf B nm cn ∧ PColOK C QC B nm cn (col.toP B nm) := by
  have hg := (col.toP_wf B nm cn).1
  refine ⟨col.toP_wf B nm cn, ?_⟩
  cases col with
  | agg c e =>
    obtain ⟨hwo, hwt, hct, hq⟩ := hhyp
    exact PColOK.of_oneChain C QC hN hev B hB nm cn hinj hres hcres hdisj hcollT _ hg (fun _ => rfl) hwo hct outerVar (neQ outerVar e) rfl _
      (fun idx => aggK_pushSpec C QC hN B nm hinj (cn idx) (fun j => hdisj j idx) e hwt outerVar [("e", evtVal)]) hq
  | twoD c ic =>
    obtain ⟨hwo, hwt, hct, hq⟩ := hhyp
    exact PColOK.of_oneChain C QC hN hev B hB nm cn hinj hres hcres hdisj hcollT _ hg (fun _ => rfl) hwo hct outerVar (ichainQ outerVar ic) rfl _
      (fun idx => twoDK_pushSpec C QC hN B nm hinj (cn idx) (fun j => hdisj j idx) ic hwt outerVar [("e", evtVal)]) hq

/-- **C01 (event-level rows of nested columns)** — for every list of columns of shapes (a) / (b), every event
and every class state in which the column vectors are empty: if the query denotes `rows` (necessarily one
row) on the event, the package the translator model emits writes exactly `rows`, and the class state it
leaves behind has the column vectors empty again. -/
theorem nestedEventRows_correct_post (B : Backend) (hB : BackendBase B) (nm cn : Nat → String) (hsup : Supply nm cn)
    (QC : QCtx D) (hcollT : ∀ name, B.collType name = QC.collType name)
    (cols : List (String × NCol)) (hhyp : ∀ p ∈ cols, NColHyp QC p.2)
    (σc : Env D) (hσ : NColsPre cn cols.length 0 σc)
    (rows : List (List (Val D)))
    (hden : denoteRows QC (NQ.toQuery (.eventRows cols)) = .ok rows) :
    ∃ σ', runEvent (compileN B nm cn (.eventRows cols)) QC.N σc QC.ev = .ok (rows, σ') ∧
      NColsPre cn cols.length 0 σ' := by
  rw [compileN_eventRows]
  exact pushEventRows_of_toP B nm cn hsup QC (NCol.toP B nm) cols
    (fun p hp => p.2.toP_ok _ QC rfl rfl B hB nm cn hsup.inj hsup.res hsup.cres hsup.disj hcollT (hhyp p hp)) σc hσ rows hden

theorem colVarsN_names (cn : Nat → String) : ∀ (es : List NE) (idx : Nat),
    (colVarsN cn es idx).map (·.2) = colNames cn es.length idx
  | [], _ => rfl
  | e :: rest, idx => by simp [colVarsN, colNames, colVarsN_names cn rest (idx + 1)]

/-- per-event side conditions of shape (c): the outer chain keeps objects and is well typed, the column
expressions are well typed; every object of the bank returns values of the declared kinds — for the outer
conditions, the pure parts of the columns, and (through `InnerTyped`) the elements of the collections its
methods return; floating inner sums are non-empty -/
def NElemHyp (QC : QCtx D) (c : Chain) (cols : List (String × NE)) : Prop :=
  wtOuter c = true ∧ (∀ p ∈ cols, wtNE p.2 = true) ∧
  (∀ cty l, QC.ev.find c.bank = some (cty, .vec l) →
    ∀ v ∈ l, MethTyped v (methsSteps c.steps) ∧ ∀ p ∈ cols, NEHyp QC v p.2)

/-- **C01 (element-level rows of inner aggregates)** — if the query denotes `rows` on the event, the package
the translator model emits writes exactly `rows`, and the class state it leaves behind again has the column
variables declared (the precondition of the next event). -/
theorem nestedElemRows_correct_post (B : Backend) (hB : BackendBase B) (nm cn : Nat → String) (hsup : Supply nm cn)
    (QC : QCtx D) (hcollT : ∀ name, B.collType name = QC.collType name)
    (c : Chain) (cols : List (String × NE)) (hhyp : NElemHyp QC c cols)
    (σc : Env D) (hσ : ∀ k, k < cols.length → (σc (cn k)).isSome = true)
    (rows : List (List (Val D)))
    (hden : denoteRows QC (NQ.toQuery (.elemRows c cols)) = .ok rows) :
    ∃ σ', runEvent (compileN B nm cn (.elemRows c cols)) QC.N σc QC.ev = .ok (rows, σ') ∧
      ∀ k, k < cols.length → (σ' (cn k)).isSome = true := by
  obtain ⟨hwo, hwtc, hmt⟩ := hhyp
  exact fragRows_correct_post B hB hsup QC hcollT (compNE nm (B.elemPtr && (none : Option Ty).isNone)) (neQ "r") c cols _ _
    (fun cur n => by simp only [rowKN, compNEs_eq]) (by rw [colVarsN_names]; simp) hwo (fun v => ∀ p ∈ cols, NEHyp QC v p.2) hmt
    (fun cur e n => .of (compNE_layout nm _ cur e n) (compNE_declsOK _ nm hsup.inj _ cur e n))
    (fun cur v hQ p hp n w hfr hden =>
      (compNE_spec _ QC rfl nm hsup.inj _ cur v "r" [] p.2 n w hfr (hwtc p hp) (hQ p hp) hden).mono fun _ h => h.1)
    σc hσ rows hden

theorem tokens_names_nestedElemRows (B : Backend) (nm cn : Nat → String) (c : Chain) (cols : List (String × NE)) :
    ∀ t ∈ (compileN B nm cn (.elemRows c cols)).tokens, ∃ j, t.1 = nm j :=
  rowPackageF_tokens_names B nm _ _ c 0 _ rfl _

def NFragHyp (QC : QCtx D) : NQ → Prop
  | .eventRows cols => ∀ p ∈ cols, NColHyp QC p.2
  | .elemRows c cols => NElemHyp QC c cols

/-- what the class state must satisfy when the per-event method is entered:
event-level rows — the column vectors are empty; element-level rows — the column variables are declared -/
def NFragPre (cn : Nat → String) : NQ → Env D → Prop
  | .eventRows cols, σ => NColsPre cn cols.length 0 σ
  | .elemRows _ cols, σ => ∀ k, k < cols.length → (σ (cn k)).isSome = true

/-- **the initial class state satisfies the precondition** of the single-event theorems (the miniAOD token
members, declared before the column variables, do not interfere: their names are generated local names). -/
theorem nfragPre_classInit (B : Backend) (nm cn : Nat → String) (hdisj : ∀ j k, nm j ≠ cn k) (nq : NQ) :
    NFragPre cn nq (classInit (compileN B nm cn nq).classVars : Env D) := by
  cases nq with
  | eventRows cols =>
    rw [compileN_eventRows]
    simpa [NFragPre] using pushPre_classInit (D := D) B nm cn hdisj (cols.map (·.1)) _ (NCol.toP_wfs B nm cn cols)
  | elemRows c cols =>
    exact fun k hk => (rowPackageF_books B _ _ _ (by rw [colVarsN_names]; simp)).classInit_decl (by simpa using hk)

/-- **one event, with the state it leaves** — for every query of the nested fragment: from a class state
satisfying `NFragPre`, on an event where the query denotes `rows`, the emitted package writes exactly `rows`
and leaves a class state satisfying `NFragPre` again. -/
theorem nfragEvent_correct_post (B : Backend) (hB : BackendBase B) (nm cn : Nat → String) (hsup : Supply nm cn)
    (QC : QCtx D) (hcollT : ∀ name, B.collType name = QC.collType name)
    (nq : NQ) (hhyp : NFragHyp QC nq) (σc : Env D) (hσ : NFragPre cn nq σc)
    (rows : List (List (Val D))) (hden : denoteRows QC nq.toQuery = .ok rows) :
    ∃ σ', runEvent (compileN B nm cn nq) QC.N σc QC.ev = .ok (rows, σ') ∧ NFragPre cn nq σ' := by
  cases nq with
  | eventRows cols =>
    exact nestedEventRows_correct_post B hB nm cn hsup QC hcollT cols hhyp σc hσ rows hden
  | elemRows c cols =>
    exact nestedElemRows_correct_post B hB nm cn hsup QC hcollT c cols hhyp σc hσ rows hden

theorem nfragJobOK (B : Backend) (hB : BackendBase B) (nm cn : Nat → String) (hsup : Supply nm cn)
    (QC : QCtx D) (hcollT : ∀ name, B.collType name = QC.collType name) (nq : NQ) :
    JobOK (compileN B nm cn nq) QC nq.toQuery (NFragPre cn nq) (fun ev => NFragHyp (QC.withEvent ev) nq) :=
  ⟨fun ev hev σ hσ rows hden =>
      nfragEvent_correct_post B hB nm cn hsup (QC.withEvent ev) hcollT nq hev σ hσ rows hden,
    nfragPre_classInit B nm cn hsup.disj nq⟩

/-- **split** — one job over `xs ++ ys` writes what a job over `xs` followed by a SEPARATE job over `ys`
(fresh class state) write. -/
theorem nested_job_split (B : Backend) (hB : BackendBase B) (nm cn : Nat → String)
    (hinj : ∀ i j, nm i = nm j → i = j) (hcinj : ∀ i j, cn i = cn j → i = j)
    (hres : ∀ j, nm j ≠ "result") (hcres : ∀ k, cn k ≠ "result") (hdisj : ∀ j k, nm j ≠ cn k)
    (QC : QCtx D) (hcollT : ∀ name, B.collType name = QC.collType name)
    (nq : NQ) (xs ys : List (Event D)) (hhyp : ∀ ev ∈ xs ++ ys, NFragHyp (QC.withEvent ev) nq)
    (r₁ r₂ : List (List (Val D)))
    (h₁ : denoteJob QC nq.toQuery xs = .ok r₁) (h₂ : denoteJob QC nq.toQuery ys = .ok r₂) :
    runJob (compileN B nm cn nq) QC.N xs = .ok r₁ ∧ runJob (compileN B nm cn nq) QC.N ys = .ok r₂ ∧
    runJob (compileN B nm cn nq) QC.N (xs ++ ys) = .ok (r₁ ++ r₂) :=
  (nfragJobOK B hB nm cn ⟨hinj, hcinj, hres, hcres, hdisj⟩ QC hcollT nq).split hhyp h₁ h₂

end FaxVerif.Gen
