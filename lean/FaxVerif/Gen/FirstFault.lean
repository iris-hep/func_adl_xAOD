/-
Gen — the FAULT direction for event-level rows, the part that does not depend on why a column
fails: if the columns before it are defined and the statements of one column fault wherever they
are compiled, the per-event method faults there (`eventRows_col_fault`: `eventPackage_fault` of
Gen/ColsCorrect.lean for the columns of `compile`); no row is written and nothing after the failing column runs.

First instance: a `First()` column over a sequence that is empty after its filters fails loudly —
it never writes a row with a default or stale value — and there the query's column is itself
undefined, with a loud fault.
-/
import FaxVerif.Gen.EventRowsCorrect
namespace FaxVerif.Gen
open FaxVerif.Cpp FaxVerif.Linq
variable {D : Type}

def firstMsg : String := "First() called on an empty sequence"

theorem compCol_first_fault_tok (C : Ctx D) (QC : QCtx D) (hN : QC.N = C.N) (hev : QC.ev = C.ev)
    (B : Backend) (hB : BackendBase B) (nm cn : Nat → String)
    (hinj : ∀ i j, nm i = nm j → i = j) (hres : ∀ j, nm j ≠ "result")
    (hcres : ∀ k, cn k ≠ "result") (hdisj : ∀ j k, nm j ≠ cn k)
    (hcollT : ∀ name, B.collType name = QC.collType name)
    (c : Chain) (idx n : Nat) (htok : TokChain B nm C c (n + 1)) (s : St D)
    (hdone : DeclsDone C.N (compCol B nm cn idx (.first c) n).decls s.env)
    (hpre : ColPre (.first c) (cn idx) s.env) (hhyp : ColHyp QC (.first c))
    (hden : denote QC [("e", evtVal)] (chainQ "e" c) = .ok (.vec [])) :
    execs C (compCol B nm cn idx (.first c) n).stmts s = .error (.loud firstMsg) := by
  obtain ⟨hwt, hct, _⟩ := hhyp
  obtain ⟨cty, l, hcty, hfind, hel⟩ := chainQ_ok QC _ "e" c [] hden
  have hx : (s.env (nm (n + 1))).isSome = true := by
    have := hdone (.decl (B.handleTy ((B.collType c.coll).getD "?")) (nm (n + 1)) none) (by simp [compCol, compChain])
    simpa [DeclOK] using this
  have hfl : s.env (nm n) = some (.val (.bool true)) := by
    have := hdone (.decl "bool" (nm n) (some (.bool true))) (by simp [compCol])
    simpa [DeclOK, initValOf, litOf, castTo, asBool] using this
  obtain ⟨hfail, _⟩ := first_idiom_tok C QC hN B hB nm hinj hres c n htok (cn idx) (fun j h => hdisj j idx h.symm) (hcres idx)
    firstMsg cty l []
    (by rw [hcollT]; exact hcty) (by rw [← hev]; exact hfind) hwt (hct cty l hfind) hel s hx hfl hpre
  simpa [compCol, firstMsg] using hfail rfl

/-- **event-level rows, one failing column** — declarations, the loops of the earlier columns, then
the fault: the assignments, the `Fill` and the clears are not reached (`eventPackage_fault` for the columns of `compile`). -/
theorem eventRows_col_fault (B : Backend) (hB : BackendBase B) (nm cn : Nat → String) (hsup : Supply nm cn)
    (QC : QCtx D) (hcollT : ∀ name, B.collType name = QC.collType name)
    (cols : List (String × Col)) (pre : List Col) (col : Col) (post : List Col)
    (hcs : cols.map (·.2) = pre ++ col :: post) (hhyp : ∀ p ∈ pre, ColHyp QC p)
    (σc : Env D) (hσ : ColsPre cn (cols.map (·.2)) 0 σc) (vs : List (Val D))
    (hpre : denotes QC [("e", evtVal)] (pre.map (colQ "e")) = .ok vs) (R : Fault → Prop)
    (hcol : ∀ C : Ctx D, QC.N = C.N → QC.ev = C.ev → ∀ (idx n : Nat) (s : St D), TokCol B nm C col n →
      DeclsDone C.N (compCol B nm cn idx col n).decls s.env → ColPre col (cn idx) s.env →
      ∃ f', execs C (compCol B nm cn idx col n).stmts s = .error f' ∧ R f') :
    ∃ f', runEvent (compile B nm cn (.eventRows cols)) QC.N σc QC.ev = .error f' ∧ R f' := by
  have hg := compCols_cols B nm cn ((compile B nm cn (.eventRows cols)).ctx QC.N QC.ev) _ 0 0
    (tokCols_eventRows B nm cn hsup.inj cols QC.N QC.ev)
  rw [compile_eventRows] at hg ⊢
  refine eventPackage_fault B nm cn hsup QC.N QC.ev _ _ _ (S := fun i m f c => f = compCol B nm cn i c m ∧ TokCol B nm _ c m)
    (fun i m f c h => h.1 ▸ compCol_shape _ B hB nm cn hsup.inj i c m) R pre col post (by rw [← hcs]; exact hg)
    (fun i m f c hc h => ?_) (fun i m f h s hdone hp => ?_) σc ((compCols_pre B nm cn σc _ 0 0).2 hσ)
  · obtain ⟨v, hv⟩ := denotes_ok_mem hpre _ (List.mem_map_of_mem hc)
    exact ⟨v, h.1 ▸ compCol_spec _ QC rfl rfl B hB nm cn hsup.inj hsup.res hsup.cres hsup.disj hcollT c i m h.2 v (hhyp c hc) hv⟩
  · obtain ⟨rfl, htk⟩ := h
    exact hcol _ rfl rfl i m s htk
      (fun d hd => (declOK_iff_A ((compCol_declsOK_base _ B hB nm cn hsup.inj i col m).1 d hd)).2 (hdone d hd))
      ((compCol_pre B nm cn i col m s.env).1 hp)

theorem denotes_append_error (QC : QCtx D) (ρ : LEnv D) : ∀ (pre : List Query) (q : Query) (post : List Query)
    (vs : List (Val D)) (f : Fault), denotes QC ρ pre = .ok vs → denote QC ρ q = .error f →
    denotes QC ρ (pre ++ q :: post) = .error f
  | [], q, post, _, f, _, hq => by simp only [List.nil_append, denotes, hq]
  | p :: pre, q, post, _, f, hpre, hq => by
    obtain ⟨v, vs', h1, h2, _⟩ := denotes_cons_ok.1 hpre
    simp only [List.cons_append, denotes, h1, denotes_append_error QC ρ pre q post vs' f h2 hq]

/-- **C04 (event-level rows, fault direction)** — a row `{…pre…, name: chain.First(), …post…}` on an
event where the columns `pre` are defined and `chain` keeps no element, on every backend satisfying
`BackendBase` (CMS miniAOD included: the token hypothesis is discharged by the table `compile` emits):
  * the query's column is undefined there: it denotes a loud fault;
  * the package the translator model emits fails LOUDLY on that event — from any class state in
    which the column variables are declared and the vector columns empty — so no row with a default
    or stale value is written, and nothing after the failing column is executed. -/
theorem eventRows_first_empty_loud_tok (B : Backend) (hB : BackendBase B) (nm cn : Nat → String) (hsup : Supply nm cn)
    (QC : QCtx D) (hcollT : ∀ name, B.collType name = QC.collType name)
    (pre : List (String × Col)) (name : String) (c : Chain) (post : List (String × Col))
    (hhyp : ∀ p ∈ pre, ColHyp QC p.2) (hc : ColHyp QC (.first c))
    (σc : Env D) (hσ : ColsPre cn ((pre ++ (name, .first c) :: post).map (·.2)) 0 σc)
    (vs : List (Val D))
    (hpre : denotes QC [("e", evtVal)] ((pre.map (·.2)).map (colQ "e")) = .ok vs)
    (hempty : denote QC [("e", evtVal)] (chainQ "e" c) = .ok (.vec [])) :
    runEvent (compile B nm cn (.eventRows (pre ++ (name, .first c) :: post))) QC.N σc QC.ev = .error (.loud firstMsg) ∧
    ∃ m, denote QC [("e", evtVal)] (colQ "e" (.first c)) = .error (.loud m) := by
  refine ⟨?_, by simp only [colQ, denote, hempty]; exact ⟨_, rfl⟩⟩
  obtain ⟨f', hrun, rfl⟩ := eventRows_col_fault B hB nm cn hsup QC hcollT
    (pre ++ (name, .first c) :: post) (pre.map (·.2)) (.first c) (post.map (·.2)) (by simp)
    (fun q hq => by obtain ⟨p, hp, rfl⟩ := List.mem_map.1 hq; exact hhyp p hp) σc hσ vs hpre (· = .loud firstMsg)
    (fun C hN hev idx n s htk hdone hpre1 => ⟨_, compCol_first_fault_tok C QC hN hev B hB nm cn hsup.inj hsup.res hsup.cres hsup.disj hcollT
      c idx n htk s hdone hpre1 hc hempty, rfl⟩)
  exact hrun

end FaxVerif.Gen
