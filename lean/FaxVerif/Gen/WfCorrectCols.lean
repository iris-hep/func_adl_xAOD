/-
Gen/WfCorrectCols — the definite-assignment checker on the loop code of event-level scalars (`compEE`), columns (`compCol`)
and column lists (`compCols`).

`SInv DS Dst s`: the analysis state of the statement phase — the hoisted declarations `DS` are declared, the initialised
ones initialised, every guard of a fact is a `First()` flag of `DS`.
`Acc … ss ds toks lo hi P Q`: what the checker does on a piece `ss` of that code, stated so that it composes along the code
(`Acc.append`), like `Toks` and `FragLayout`: the piece draws the local names `[lo, hi)`, its hoisted declarations `ds` and
its tokens `toks` have distinct names of that range, it assigns only such names, `result` and column variables, and from
`SInv` with the precondition `P` it is accepted, leads to a state that extends the start (`Ext`, which keeps `SInv`:
`SInv.mono`) and establishes `Q`. One induction per level of the compiler: `compEE_acc`, `compCol_acc`, `compCols_acc`.
-/
import FaxVerif.Gen.WfCorrectChain
namespace FaxVerif.Gen.Wf
open FaxVerif.Cpp FaxVerif.Gen

theorem eq_of_nodup_map {α β : Type} (f : α → β) : ∀ (l : List α), (l.map f).Nodup →
    ∀ a ∈ l, ∀ b ∈ l, f a = f b → a = b
  | [], _, a, ha, _, _, _ => by simp at ha
  | x :: l, h, a, ha, b, hb, e => by
    simp only [List.map_cons, List.nodup_cons] at h
    rcases List.mem_cons.1 ha with ea | ha <;> rcases List.mem_cons.1 hb with eb | hb
    · rw [ea, eb]
    · exact absurd (List.mem_map.2 ⟨b, hb, by rw [← e, ea]⟩) h.1
    · exact absurd (List.mem_map.2 ⟨a, ha, by rw [e, eb]⟩) h.1
    · exact eq_of_nodup_map f l h.2 a ha b hb e

/-- what is fixed during the statement phase: the hoisted declarations `DS` have pairwise distinct generated
names, all declared in `Dst` (the declared set, constant at top level), and `result` is not declared -/
structure Glob (nm : Nat → String) (DS : List Stmt) (Dst : List String) : Prop where
  nodup : (DS.map declName).Nodup
  inD : ∀ d ∈ DS, declName d ∈ Dst
  isNm : ∀ d ∈ DS, ∃ k, declName d = nm k
  nores : "result" ∉ Dst

structure SInv (DS : List Stmt) (Dst : List String) (s : DA) : Prop where
  hD : s.D = Dst
  sub : AsubD s
  init : ∀ ty x e, Stmt.decl ty x (some e) ∈ DS → x ∈ s.A
  guards : ∀ f, (f ∈ s.T ∨ ∃ y, (f, y) ∈ s.G) → Stmt.decl "bool" f (some (.bool true)) ∈ DS

theorem SInv.pend {DS : List Stmt} {Dst : List String} {s : DA} (hs : SInv DS Dst s) {p : String × String}
    (hp : Pend s p) : Stmt.decl "bool" p.1 (some (.bool true)) ∈ DS :=
  hs.guards p.1 (hp.imp id fun h => ⟨p.2, h⟩)

theorem SInv.of_pend {DS : List Stmt} {Dst : List String} {s : DA} (hD : s.D = Dst) (hsub : AsubD s)
    (hinit : ∀ ty x e, Stmt.decl ty x (some e) ∈ DS → x ∈ s.A)
    (hg : ∀ p, Pend s p → Stmt.decl "bool" p.1 (some (.bool true)) ∈ DS) : SInv DS Dst s :=
  ⟨hD, hsub, hinit, fun f hf => hf.elim (fun h => hg (f, f) (Or.inl h)) fun ⟨y, h⟩ => hg (f, y) (Or.inr h)⟩

theorem SInv.mono {DS : List Stmt} {Dst : List String} {s t : DA} (hs : SInv DS Dst s) (h : Ext s t) : SInv DS Dst t :=
  .of_pend (h.hD.trans hs.hD) h.sub (fun ty x e hd => h.hA x (hs.init ty x e hd)) fun p hp => hs.pend (h.pend p hp)

theorem Glob.guard_ne {nm : Nat → String} {DS : List Stmt} {Dst : List String} (hg : Glob nm DS Dst)
    {f x ty : String} {e : CExpr} (h1 : Stmt.decl "bool" f (some (.bool true)) ∈ DS)
    (h2 : Stmt.decl ty x (some e) ∈ DS) (he : e ≠ .bool true) : f ≠ x := by
  intro hfx
  have := eq_of_nodup_map declName DS hg.nodup _ h1 _ h2 (by simp [declName, hfx])
  simp only [Stmt.decl.injEq, Option.some.injEq] at this
  exact he this.2.2.symm

theorem Glob.guard_ne_cn {nm cn : Nat → String} {DS : List Stmt} {Dst : List String} (hg : Glob nm DS Dst)
    (hdisj : ∀ j k, nm j ≠ cn k) {f : String} (h1 : Stmt.decl "bool" f (some (.bool true)) ∈ DS) (k : Nat) : f ≠ cn k := by
  obtain ⟨j, e⟩ := hg.isNm _ h1
  simp only [declName] at e
  rw [e]; exact hdisj j k

theorem fresh_of {nm : Nat → String} (hinj : ∀ i j, nm i = nm j → i = j) (Dst : List String) (L : List Nat) (k : Nat)
    (hk : k ∉ L) (h : nm k ∈ Dst → nm k ∈ L.map nm) : nm k ∉ Dst := by
  intro hm
  obtain ⟨j, hj, e⟩ := List.mem_map.1 (h hm)
  exact hk (hinj _ _ e ▸ hj)

theorem compChain_asg (B : Backend) (nm : Nat → String) (c : Chain) (n : Nat) (K : CExpr → Option Ty → List Stmt) :
    ∀ y ∈ C03.writesL (compChain B nm c n K).stmts, Touch nm n (compChain B nm c n K).next y ∨
      y ∈ C03.writesL (K (chainVal B nm c n).1 (chainVal B nm c n).2) := by
  intro y hy
  have hn := compChain_next B nm c n K
  have h : C03.writesL (compChain B nm c n K).stmts =
      ["result", nm n] ++ C03.writesL (chainBody nm B.elemPtr (.var (nm (n + 1))) c.steps (n + 3) K).1 := by
    simp [compChain_stmts, C03.writesL, C03.writes, retrBlock]
  rw [h] at hy
  simp only [List.cons_append, List.nil_append, List.mem_cons] at hy
  rcases hy with hy | hy | hy
  · exact Or.inl (Or.inr hy)
  · exact Or.inl (Or.inl ⟨n, Nat.le_refl _, by omega, hy⟩)
  · exact (guardBody_asg nm _ _ _ y hy).imp (fun r => Or.inl (r.mono (by omega) (Nat.le_refl _))) id

theorem compCol_stmts_first (B : Backend) (nm cn : Nat → String) (idx : Nat) (c : Chain) (n : Nat) :
    (compCol B nm cn idx (.first c) n).stmts =
      (compChain B nm c (n + 1) (fun cur _ => [firstK (nm n) (cn idx) cur])).stmts ++
        [.ite (.var (nm n)) [.throw "First() called on an empty sequence"] []] := rfl

/-- after its loops the variable of a vector or `First()` column is initialised (a scalar column is assigned afterwards) -/
def colPost (cn : Nat → String) (idx : Nat) : Col → DA → Prop
  | .scalar _, _ => True
  | _, t => cn idx ∈ t.A

def colsPost (cn : Nat → String) : List Col → Nat → DA → Prop
  | [], _, _ => True
  | c :: cs, idx, t => colPost cn idx c t ∧ colsPost cn cs (idx + 1) t

theorem colsPost_mono {cn : Nat → String} {s t : DA} (hA : ∀ y ∈ s.A, y ∈ t.A) :
    ∀ (cols : List Col) (idx : Nat), colsPost cn cols idx s → colsPost cn cols idx t
  | [], _, _ => trivial
  | .scalar _ :: cs, idx, h => ⟨trivial, colsPost_mono hA cs (idx + 1) h.2⟩
  | .seq _ :: cs, idx, h | .first _ :: cs, idx, h => ⟨hA _ h.1, colsPost_mono hA cs (idx + 1) h.2⟩

/-- `P` looks only at what is initialised and at the pending facts whose guard is a local name of `[lo, hi)` -/
def Stable (nm : Nat → String) (lo hi : Nat) (P : DA → Prop) : Prop :=
  ∀ s t : DA, t.D = s.D → (∀ y ∈ s.A, y ∈ t.A) →
    (∀ p : String × String, p.1 ∈ s.D → p.2 ∈ s.D → InRange nm lo hi p.1 → Pend s p → Pend t p) → P s → P t

theorem Stable.mono {nm : Nat → String} {lo hi lo' hi' : Nat} {P : DA → Prop} (h : Stable nm lo hi P) (h1 : lo' ≤ lo) (h2 : hi ≤ hi') :
    Stable nm lo' hi' P :=
  fun s t hD hA hp => h s t hD hA fun p p1 p2 hr => hp p p1 p2 (hr.mono h1 h2)

theorem Stable.and {nm : Nat → String} {lo mid hi : Nat} {P₁ P₂ : DA → Prop} (h₁ : Stable nm lo mid P₁) (h₂ : Stable nm mid hi P₂)
    (hlo : lo ≤ mid) (hhi : mid ≤ hi) : Stable nm lo hi fun s => P₁ s ∧ P₂ s :=
  fun s t hD hA hp hP => ⟨h₁.mono (Nat.le_refl _) hhi s t hD hA hp hP.1, h₂.mono hlo (Nat.le_refl _) s t hD hA hp hP.2⟩

structure Acc (C : DACtx) (B : Backend) (nm cn : Nat → String) (DS : List Stmt) (Dst : List String)
    (ss ds : List Stmt) (toks : List String) (lo hi : Nat) (P Q : DA → Prop) : Prop where
  declsIn : DeclsIn nm lo hi ds
  toksIn : ∀ y ∈ toks, InRange nm lo hi y
  disj : ∀ y ∈ ds.map declName, y ∉ toks
  asg : ∀ y ∈ C03.writesL ss, Touch nm lo hi y ∨ ∃ k, y = cn k
  stable : Stable nm lo hi P
  mono : ∀ s t : DA, (∀ y ∈ s.A, y ∈ t.A) → Q s → Q t
  /-- the hoisted declarations are done, of the names `[lo, hi)` only they and the tokens are in scope, the tokens are booked -/
  run : ∀ s, Glob nm DS Dst → SInv DS Dst s → (∀ d ∈ ds, d ∈ DS) → (∀ k, lo ≤ k → k < hi → nm k ∈ Dst → nm k ∈ ds.map declName ++ toks) →
    (B.how = "token" → ∀ y ∈ toks, y ∈ C.tokens) → P s →
    ∃ t, das C ss s = some t ∧ Ext s t ∧ Q t

namespace Acc
variable {C : DACtx} {B : Backend} {nm cn : Nat → String} {DS : List Stmt} {Dst : List String}

theorem nil (n : Nat) : Acc C B nm cn DS Dst [] [] [] n n (fun _ => True) (fun _ => True) where
  declsIn _ h := nomatch h
  toksIn _ h := nomatch h
  disj _ h := nomatch h
  asg _ h := nomatch h
  stable _ _ _ _ _ _ := trivial
  mono _ _ _ _ := trivial
  run s _ hs _ _ _ _ := ⟨s, rfl, .refl hs.sub, trivial⟩

theorem imp {ss ds : List Stmt} {toks : List String} {lo hi lo' hi' : Nat} {P Q P' Q' : DA → Prop}
    (h : Acc C B nm cn DS Dst ss ds toks lo hi P Q) (h1 : lo' ≤ lo) (h2 : hi ≤ hi')
    (hP : ∀ s, P' s → P s) (hQ : ∀ t, Q t → Q' t) (hst : Stable nm lo' hi' P')
    (hmo : ∀ s t : DA, (∀ y ∈ s.A, y ∈ t.A) → Q' s → Q' t) :
    Acc C B nm cn DS Dst ss ds toks lo' hi' P' Q' where
  declsIn := h.declsIn.mono h1 h2
  toksIn y hy := (h.toksIn y hy).mono h1 h2
  disj := h.disj
  asg y hy := (h.asg y hy).imp (·.imp (·.mono h1 h2) id) id
  stable := hst
  mono := hmo
  run s hg hs hsub hfresh htok hp :=
    let ⟨t, e, ht, hq⟩ := h.run s hg hs hsub (fun k k1 k2 => hfresh k (by omega) (by omega)) htok (hP s hp)
    ⟨t, e, ht, hQ t hq⟩

/-- **two pieces in sequence**: the second starts where the first stopped. What the second needs survives the first
(the first assigns no guard of the second's range), what the first established survives the second. -/
theorem append (hinj : ∀ i j, nm i = nm j → i = j) (hres : ∀ j, nm j ≠ "result") (hdisj : ∀ j k, nm j ≠ cn k)
    {s₁ s₂ d₁ d₂ : List Stmt} {t₁ t₂ : List String} {lo mid hi : Nat} {P₁ Q₁ P₂ Q₂ : DA → Prop}
    (hlo : lo ≤ mid) (hhi : mid ≤ hi)
    (h₁ : Acc C B nm cn DS Dst s₁ d₁ t₁ lo mid P₁ Q₁) (h₂ : Acc C B nm cn DS Dst s₂ d₂ t₂ mid hi P₂ Q₂) :
    Acc C B nm cn DS Dst (s₁ ++ s₂) (d₁ ++ d₂) (t₁ ++ t₂) lo hi (fun s => P₁ s ∧ P₂ s) (fun t => Q₁ t ∧ Q₂ t) where
  declsIn := (h₁.declsIn.mono (Nat.le_refl _) hhi).append (h₂.declsIn.mono hlo (Nat.le_refl _))
  toksIn y hy := (List.mem_append.1 hy).elim (fun h => (h₁.toksIn y h).mono (Nat.le_refl _) hhi)
    (fun h => (h₂.toksIn y h).mono hlo (Nat.le_refl _))
  disj y hy ht := by
    rw [List.map_append, List.mem_append] at hy
    rcases hy with hy | hy <;> rcases List.mem_append.1 ht with ht | ht
    · exact h₁.disj y hy ht
    · exact inRange_disjoint hinj (h₂.toksIn y ht) (declsIn_names h₁.declsIn y hy)
    · exact inRange_disjoint hinj (declsIn_names h₂.declsIn y hy) (h₁.toksIn y ht)
    · exact h₂.disj y hy ht
  asg y hy := by
    rw [writesL_append, List.mem_append] at hy
    exact hy.elim (fun h => (h₁.asg y h).imp (·.imp (·.mono (Nat.le_refl _) hhi) id) id)
      (fun h => (h₂.asg y h).imp (·.imp (·.mono hlo (Nat.le_refl _)) id) id)
  stable := h₁.stable.and h₂.stable hlo hhi
  mono s t hA hq := ⟨h₁.mono s t hA hq.1, h₂.mono s t hA hq.2⟩
  run s hg hs hsub hfresh htok hp := by
    obtain ⟨u, e1, hu, hq1⟩ := h₁.run s hg hs (fun d hd => hsub d (List.mem_append_left _ hd))
      (fun k k1 k2 hm => by
        have h := hfresh k k1 (by omega) hm
        rw [List.map_append, List.append_assoc, List.mem_append, List.mem_append, List.mem_append] at h
        rcases h with h | h | h | h
        · exact List.mem_append_left _ h
        · obtain ⟨j, j1, _, e⟩ := declsIn_names h₂.declsIn _ h; have := hinj _ _ e; omega
        · exact List.mem_append_right _ h
        · obtain ⟨j, j1, _, e⟩ := h₂.toksIn _ h; have := hinj _ _ e; omega)
      (fun ht y hy => htok ht y (List.mem_append_left _ hy)) hp.1
    have hp2 : P₂ u := by
      refine h₂.stable s u hu.hD hu.hA (fun p p1 p2 hr hpd => ?_) hp.2
      refine (das_frame C s₁ s u e1 p p1 p2 fun hm => ?_).2 hpd
      obtain ⟨j, j1, _, ej⟩ := hr
      rcases h₁.asg _ hm with (⟨i, _, i2, ei⟩ | h) | ⟨k, h⟩
      · have := hinj _ _ (ej.symm.trans ei); omega
      · exact hres j (ej.symm.trans h)
      · exact hdisj j k (ej.symm.trans h)
    obtain ⟨t, e2, ht, hq2⟩ := h₂.run u hg (hs.mono hu) (fun d hd => hsub d (List.mem_append_right _ hd))
      (fun k k1 k2 hm => by
        have h := hfresh k (by omega) k2 hm
        rw [List.map_append, List.append_assoc, List.mem_append, List.mem_append, List.mem_append] at h
        rcases h with h | h | h | h
        · obtain ⟨j, _, j2, e⟩ := declsIn_names h₁.declsIn _ h; have := hinj _ _ e; omega
        · exact List.mem_append_left _ h
        · obtain ⟨j, _, j2, e⟩ := h₁.toksIn _ h; have := hinj _ _ e; omega
        · exact List.mem_append_right _ h)
      (fun ht y hy => htok ht y (List.mem_append_right _ hy)) hp2
    exact ⟨t, das_append_some C e1 e2, hu.trans ht, h₁.mono u t ht.hA hq1, hq2⟩

end Acc

/-- Count / Sum: the accumulator `nm n`, then the chain at `n + 1` -/
theorem agg_acc (C : DACtx) (B : Backend) (hB : BackendBase B) (nm cn : Nat → String) (hinj : ∀ i j, nm i = nm j → i = j)
    (DS : List Stmt) (Dst : List String) (c : Chain) (n : Nat) (ty : String) (g : CExpr → CExpr)
    (hgok : ∀ (sp : DA) (cur : CExpr), okE sp cur = true → okE sp (g cur) = true) :
    Acc C B nm cn DS Dst (compChain B nm c (n + 1) (fun cur _ => [.set (nm n) (.bin "+" (.var (nm n)) (g cur))])).stmts
      ((compChain B nm c (n + 1) (fun cur _ => [.set (nm n) (.bin "+" (.var (nm n)) (g cur))])).decls ++
        [.decl ty (nm n) (some (.int 0))])
      ((chainToks B nm c (n + 1)).map (·.1)) n
      (compChain B nm c (n + 1) (fun cur _ => [.set (nm n) (.bin "+" (.var (nm n)) (g cur))])).next
      (fun _ => True) (fun _ => True) := by
  have hn := compChain_next B nm c (n + 1) (fun cur _ => [.set (nm n) (.bin "+" (.var (nm n)) (g cur))])
  refine ⟨((compChain_decls B nm c (n + 1) _).mono (Nat.le_succ n) (Nat.le_refl _)).append
      (declsIn_singleton (Nat.le_refl n) (by omega) _ _),
    fun y hy => ((TokNames.chain B nm c (n + 1) _).names y hy).mono (Nat.le_succ n) (Nat.le_refl _),
    fun y hy ht => ?_, fun y hy => Or.inl ?_, fun _ _ _ _ _ _ => trivial, fun _ _ _ _ => trivial,
    fun s hg hs hsub hfresh htok _ => ?_⟩
  · simp only [compChain, chainToks, declName, List.map_cons, List.map_nil, List.cons_append, List.nil_append, List.mem_cons,
      List.not_mem_nil, or_false] at hy ht
    rcases hy with rfl | rfl <;> (have := hinj _ _ ht; omega)
  · rcases compChain_asg B nm c (n + 1) _ y hy with h | h
    · exact h.imp (·.mono (Nat.le_succ n) (Nat.le_refl _)) id
    · exact Or.inl ⟨n, Nat.le_refl _, by omega, List.mem_singleton.1 h⟩
  · have hacc := hsub _ (List.mem_append_right _ (List.mem_singleton_self _))
    obtain ⟨t, et, ht⟩ := chain_plain C B hB nm hinj c (n + 1)
      (fun cur _ => [.set (nm n) (.bin "+" (.var (nm n)) (g cur))]) s hs.sub
      (by rw [hs.hD]; exact hg.inD _ (hsub _ (List.mem_append_left _ (List.mem_cons_self ..)))) (by rw [hs.hD]; exact hg.nores)
      (fun k k1 k2 k3 => by
        rw [hs.hD]
        exact fresh_of hinj Dst [n + 1, n, n + 3] k (by simp; omega) fun hm => by
          simpa [compChain, chainToks, declName] using hfresh k (by omega) k2 hm)
      (fun ht => htok ht _ (List.mem_singleton_self _))
      (fun sp hDp hAp hip => ⟨_, by
        rw [das_single]
        exact da_set (hDp _ (hs.hD ▸ hg.inD _ hacc)) (okE_bin (okE_var (hAp _ (hs.init _ _ _ hacc))) (hgok sp _ (stepConds_ok _ _ hip).2))⟩)
      rfl (fun p hp hm => hg.guard_ne (hs.pend hp) hacc (by simp) (List.mem_singleton.1 hm))
    exact ⟨t, et, ht, trivial⟩

/-- the loop code of an event-level scalar: the accumulator loops of its Counts and Sums, one after the other -/
theorem compEE_acc (C : DACtx) (B : Backend) (hB : BackendBase B) (nm cn : Nat → String)
    (hinj : ∀ i j, nm i = nm j → i = j) (hres : ∀ j, nm j ≠ "result") (hdisj : ∀ j k, nm j ≠ cn k)
    (DS : List Stmt) (Dst : List String) : ∀ (e : EE) (n : Nat),
    Acc C B nm cn DS Dst (compEE B nm e n).stmts (compEE B nm e n).decls ((eeToks B nm e n).map (·.1)) n (compEE B nm e n).next
      (fun _ => True) (fun _ => True)
  | .int _, n | .dbl _ _, n | .bool _, n => Acc.nil n
  | .count c, n => agg_acc C B hB nm cn hinj DS Dst c n "int" (fun _ => .int 1) (fun _ _ _ => by simp [okE, clean, vars, subset])
  | .sum c, n => agg_acc C B hB nm cn hinj DS Dst c n _ id (fun _ _ h => h)
  | .bin _ a b, n | .cmp _ a b, n => by
    simp only [compEE, eeToks, List.map_append]
    exact (Acc.append hinj hres hdisj (compEE_next_ge B nm a n) (compEE_next_ge B nm b _)
      (compEE_acc C B hB nm cn hinj hres hdisj DS Dst a n) (compEE_acc C B hB nm cn hinj hres hdisj DS Dst b _)).imp
      (Nat.le_refl _) (Nat.le_refl _) (fun _ _ => ⟨trivial, trivial⟩) (fun _ _ => trivial) (fun _ _ _ _ _ _ => trivial)
      (fun _ _ _ _ => trivial)
  | .neg a, n | .not a, n => compEE_acc C B hB nm cn hinj hres hdisj DS Dst a n

/-- what the loop code of column `idx`, compiled at `n`, needs of the state it starts from: a vector column initialised
(empty, by `EventLocal`); for `First()` the flag `nm n` and the column variable in scope and "flag false ⇒ column set" pending -/
def colPre (nm cn : Nat → String) (idx n : Nat) : Col → DA → Prop
  | .scalar _, _ => True
  | .seq _, s => cn idx ∈ s.A
  | .first _, s => nm n ∈ s.D ∧ cn idx ∈ s.D ∧ Pend s (nm n, cn idx)

theorem colPre_stable (B : Backend) (nm cn : Nat → String) (idx : Nat) (col : Col) (n : Nat) :
    Stable nm n (compCol B nm cn idx col n).next (colPre nm cn idx n col) := by
  intro s t hD hA hp h
  cases col with
  | scalar e => trivial
  | seq c => exact hA _ h
  | first c =>
    have hn := compChain_next B nm c (n + 1) (fun cur _ => [.ite (.var (nm n)) [.set (nm n) (.bool false), .set (cn idx) cur] []])
    exact ⟨hD ▸ h.1, hD ▸ h.2.1, hp _ h.1 h.2.1 ⟨n, Nat.le_refl n, by simp only [compCol]; omega, rfl⟩ h.2.2⟩

/-- the loop code of one column: a scalar is `compEE_acc`; a vector column is `chain_plain` with the push for continuation;
`First()` is `chain_first`, which leaves the fact `(flag, cn idx)`, then `if (flag) throw …`, after which the flag is known
false and the fact makes `cn idx` initialised -/
theorem compCol_acc (C : DACtx) (B : Backend) (hB : BackendBase B) (nm cn : Nat → String)
    (hinj : ∀ i j, nm i = nm j → i = j) (hres : ∀ j, nm j ≠ "result") (hdisj : ∀ j k, nm j ≠ cn k)
    (DS : List Stmt) (Dst : List String) (idx : Nat) (col : Col) (n : Nat) :
    Acc C B nm cn DS Dst (compCol B nm cn idx col n).stmts (compCol B nm cn idx col n).decls ((colToks B nm col n).map (·.1)) n
      (compCol B nm cn idx col n).next (colPre nm cn idx n col) (colPost cn idx col) := by
  cases col with
  | scalar e =>
    exact (compEE_acc C B hB nm cn hinj hres hdisj DS Dst e n).imp (Nat.le_refl _) (Nat.le_refl _) (fun _ _ => trivial)
      (fun _ _ => trivial) (colPre_stable B nm cn idx (.scalar e) n) (fun _ _ _ _ => trivial)
  | seq c =>
    have hn := compChain_next B nm c n (fun cur _ => [.push (cn idx) cur])
    refine ⟨compChain_decls B nm c n _, (TokNames.chain B nm c n _).names, fun y hy ht => ?_,
      fun y hy => (compChain_asg B nm c n _ y hy).imp id fun h => ⟨idx, List.mem_singleton.1 h⟩,
      colPre_stable B nm cn idx (.seq c) n, fun _ _ hA h => hA _ h, fun s hg hs hsub hfresh htok hvA => ?_⟩
    · simp only [compCol, compChain, colToks, chainToks, declName, List.map_cons, List.map_nil, List.mem_singleton] at hy ht
      have := hinj _ _ (hy.symm.trans ht); omega
    · obtain ⟨t, et, ht⟩ := chain_plain C B hB nm hinj c n (fun cur _ => [.push (cn idx) cur]) s hs.sub
        (by rw [hs.hD]; exact hg.inD _ (hsub _ (List.mem_singleton_self _))) (by rw [hs.hD]; exact hg.nores)
        (fun k k1 k2 k3 => by
          rw [hs.hD]
          exact fresh_of hinj Dst [n, n + 2] k (by simp; omega) fun hm => by
            simpa [compCol, compChain, colToks, chainToks, declName] using hfresh k (by omega) k2 hm)
        (fun ht => htok ht _ (List.mem_singleton_self _))
        (fun sp _ hAp hip => ⟨_, by rw [das_single]; exact da_push_iff.2 ⟨hAp _ hvA, (stepConds_ok _ _ hip).2, rfl⟩⟩)
        rfl (fun p hp hm => hg.guard_ne_cn hdisj (hs.pend hp) idx (List.mem_singleton.1 hm))
      exact ⟨t, et, ht, ht.hA _ hvA⟩
  | first c =>
    have hn : n + 1 + 3 ≤ (compCol B nm cn idx (.first c) n).next :=
      compChain_next B nm c (n + 1) (fun cur _ => [firstK (nm n) (cn idx) cur])
    refine ⟨((compChain_decls B nm c (n + 1) _).mono (Nat.le_succ n) (Nat.le_refl _)).append
        (declsIn_singleton (Nat.le_refl n) (Nat.lt_of_lt_of_le (by omega : n < n + 1 + 3) hn) _ _),
      fun y hy => ((TokNames.chain B nm c (n + 1) _).names y hy).mono (Nat.le_succ n) (Nat.le_refl _),
      fun y hy ht => ?_, fun y hy => ?_, colPre_stable B nm cn idx (.first c) n, fun _ _ hA h => hA _ h,
      fun s hg hs hsub hfresh htok hpre => ?_⟩
    · simp only [compCol, compChain, colToks, chainToks, declName, List.map_cons, List.map_nil, List.cons_append, List.nil_append,
        List.mem_cons, List.not_mem_nil, or_false] at hy ht
      rcases hy with rfl | rfl <;> (have := hinj _ _ ht; omega)
    · rw [compCol_stmts_first, writesL_append, List.mem_append] at hy
      rcases hy with hy | hy
      · rcases compChain_asg B nm c (n + 1) _ y hy with h | h
        · exact Or.inl (h.imp (·.mono (Nat.le_succ n) (Nat.le_refl _)) id)
        · rcases List.mem_cons.1 (writesL_firstK _ _ _ ▸ h) with h | h
          · exact Or.inl (Or.inl ⟨n, Nat.le_refl _, by omega, h⟩)
          · exact Or.inr ⟨idx, List.mem_singleton.1 h⟩
      · simp [C03.writesL, C03.writes] at hy
    · have hfl : Stmt.decl "bool" (nm n) (some (.bool true)) ∈ DS := hsub _ (by simp [compCol])
      have hd : Stmt.decl (B.handleTy ((B.collType c.coll).getD "?")) (nm (n + 1)) none ∈ DS := hsub _ (by simp [compCol, compChain])
      rw [compCol_stmts_first]
      obtain ⟨t, et, ht, hfv⟩ := chain_first C B hB nm hinj c (n + 1) (nm n) (cn idx) s hs.sub
        (by rw [hs.hD]; exact hg.inD _ hd) (by rw [hs.hD]; exact hg.nores)
        (fun k k1 k2 k3 => by
          rw [hs.hD]
          exact fresh_of hinj Dst [n + 1, n, n + 3] k (by simp; omega) fun hm => by
            simpa [compCol, compChain, colToks, chainToks, declName] using hfresh k (by omega) k2 hm)
        (fun ht => htok ht _ (List.mem_singleton_self _))
        (hs.init _ _ _ hfl) hpre.2.1 (fun e => by have := hinj _ _ e; omega) (hres n)
        hpre.2.2 (fun p hp => hg.guard_ne_cn hdisj (hs.pend hp) idx)
      have e2 : da C (.ite (.var (nm n)) [.throw "First() called on an empty sequence"] []) t =
          some ((t.knowFalse (.var (nm n))).restrict t.D) :=
        da_ite_iff.2 ⟨okE_var (ht.hA _ (hs.init _ _ _ hfl)), t, _, rfl, rfl, rfl⟩
      obtain ⟨hs2, hA2⟩ := da_mono C _ t _ e2 ht.sub
      have hvD : cn idx ∈ t.D := ht.hD ▸ hpre.2.1
      refine ⟨(t.knowFalse (.var (nm n))).restrict t.D, das_append_some C et ((das_single C _ t).trans e2),
        ht.trans ⟨rfl, hs2, hA2, fun p hp => hp.imp ?_ ?_⟩, ?_⟩
      · exact fun hf => knowFalse_T t _ ▸ ((mem_restrict_T _ _ _).1 hf).1
      · exact fun hy => knowFalse_G t _ ▸ ((mem_restrict_G _ _ _).1 hy).1
      · exact (mem_restrict_A _ _ _).2 ⟨(mem_knowFalse_A t (nm n) (cn idx)).2 (Or.inl ⟨hfv, hvD⟩), hvD⟩

def colsPre (B : Backend) (nm cn : Nat → String) : List Col → Nat → Nat → DA → Prop
  | [], _, _, _ => True
  | c :: cs, idx, n, s => colPre nm cn idx n c s ∧ colsPre B nm cn cs (idx + 1) (compCol B nm cn idx c n).next s

/-- **the loop code of all columns is accepted**; afterwards every vector and `First()` column variable is initialised -/
theorem compCols_acc (C : DACtx) (B : Backend) (hB : BackendBase B) (nm cn : Nat → String)
    (hinj : ∀ i j, nm i = nm j → i = j) (hres : ∀ j, nm j ≠ "result") (hdisj : ∀ j k, nm j ≠ cn k)
    (DS : List Stmt) (Dst : List String) : ∀ (cols : List Col) (idx n : Nat),
    Acc C B nm cn DS Dst ((compCols B nm cn cols idx n).flatMap (·.stmts)) ((compCols B nm cn cols idx n).flatMap (·.decls))
      ((colsToks B nm cn cols idx n).map (·.1)) n (colsNext B nm cn cols idx n) (colsPre B nm cn cols idx n)
      (colsPost cn cols idx)
  | [], _, n => Acc.nil n
  | c :: cs, idx, n => by
    simp only [compCols, colsToks, List.flatMap_cons, List.map_append]
    exact Acc.append hinj hres hdisj (compCol_next_ge B nm cn idx c n) (colsNext_ge B nm cn cs _ _)
      (compCol_acc C B hB nm cn hinj hres hdisj DS Dst idx c n) (compCols_acc C B hB nm cn hinj hres hdisj DS Dst cs (idx + 1) _)

end FaxVerif.Gen.Wf
