/-
Gen — end-to-end correctness of event-level rows:
    ds.Select(e -> {name: col, …})     col = scalar (Count/Sum/arithmetic) | chain (vector) | First(chain)
One column (`compCol_correct_tok`, by cases: `compEE_correct_tok`, the vector push as `IsFold.accEnc`, `first_idiom_tok`)
is a `ColSpec` (`compCol_spec`), and `compile … (.eventRows cols)` is an `eventPackage`: `eventRows_correct_post` is
`eventPackage_correct`. Then, for either query shape of the fragment F0-lite (`FragHyp`, `FragPre`), the single-event
theorem with the class state it leaves (`fragEvent_correct_post`) and, with `fragPre_classInit`, the form the job-level
statements take it in (`fragJobOK`). `compCols_correct`, `clears_correct`: the loops and the clears of `compCols` stated
on their own.
-/
import FaxVerif.Gen.TokenTable
import FaxVerif.Gen.FirstCorrect
import FaxVerif.Gen.ColsCorrect
import FaxVerif.Gen.JobCorrect
namespace FaxVerif.Gen
open FaxVerif.Cpp FaxVerif.Linq
variable {D : Type}

def BankIsVec (QC : QCtx D) (c : Chain) : Prop :=
  ∀ cty content, QC.ev.find c.bank = some (cty, content) → ∃ l, content = .vec l

def ColHyp (QC : QCtx D) : Col → Prop
  | .scalar e => wtEE e = true ∧ (∀ c ∈ chainsEE e, ChainTyped QC c) ∧ (∀ c ∈ sumChainsEE e, SumNonEmpty QC c)
  | .seq c => wtSteps none c.steps = true ∧ ChainTyped QC c ∧ BankIsVec QC c
  | .first c => wtSteps none c.steps = true ∧ ChainTyped QC c ∧ BankIsVec QC c

def ColPre (col : Col) (v : String) (σ : Env D) : Prop :=
  match col with
  | .seq _ => σ v = some (.val (.vec []))
  | _ => (σ v).isSome = true

theorem chainQ_vec (QC : QCtx D) (ρ : LEnv D) (ev : String) (c : Chain) (v : Val D)
    (hb : BankIsVec QC c) (h : denote QC ρ (chainQ ev c) = .ok v) : ∃ ws, v = .vec ws := by
  unfold chainQ at h
  cases hs : denote QC ρ (.coll (.var ev) c.coll c.bank) with
  | error e => rw [stepsQ_error QC ρ e c.steps _ 0 hs] at h; cases h
  | ok content =>
    obtain ⟨cty, _, hf⟩ := coll_denote_ok hs
    obtain ⟨l, rfl⟩ := hb cty content hf
    rw [stepsQ_denote QC ρ c.steps _ 0 l hs] at h
    cases hcl : chainList QC c.steps l with
    | error e => simp [hcl] at h
    | ok r => simp only [hcl, Except.ok.injEq] at h; exact ⟨r, h.symm⟩

/-- one column on the declaration predicates `DeclsDone` / `ColPre`, the form `compCol_correct` needs; what the package
theorem takes is `compCol_spec`, the same statement as a `ColSpec` -/
theorem compCol_correct_tok (C : Ctx D) (QC : QCtx D) (hN : QC.N = C.N) (hev : QC.ev = C.ev)
    (B : Backend) (hB : BackendBase B) (nm cn : Nat → String)
    (hinj : ∀ i j, nm i = nm j → i = j) (hres : ∀ j, nm j ≠ "result")
    (hcres : ∀ k, cn k ≠ "result") (hdisj : ∀ j k, nm j ≠ cn k)
    (hcollT : ∀ name, B.collType name = QC.collType name)
    (col : Col) (idx n : Nat) (htok : TokCol B nm C col n) (s : St D) (v : Val D)
    (hdone : DeclsDone C.N (compCol B nm cn idx col n).decls s.env)
    (hpre : ColPre col (cn idx) s.env) (hhyp : ColHyp QC col)
    (hden : denote QC [("e", evtVal)] (colQ "e" col) = .ok v) :
    ∃ s', execs C (compCol B nm cn idx col n).stmts s = .ok s' ∧ s'.rows = s.rows ∧
      ColReady C.N (compCol B nm cn idx col n) v s'.env ∧
      (∀ y, y ≠ cn idx → ¬ Touch nm n (compCol B nm cn idx col n).next y → s'.env y = s.env y) := by
  have hcolT : ∀ lo hi, ¬ Touch nm lo hi (cn idx) := not_touch_of_ne (fun j h => hdisj j idx h.symm) (hcres idx)
  cases col with
  | scalar e =>
    obtain ⟨hwt, hct, hsn⟩ := hhyp
    obtain ⟨s', h1, h2, h3, _, h5⟩ := compEE_correct_tok C QC hN hev B hB nm hinj hres hcollT e n s v htok
      (by simpa [compCol] using hdone) hwt hct hsn (by simpa [colQ] using hden)
    refine ⟨s', by simpa [compCol] using h1, h2, ?_, fun y _ hy => h5 y (by simpa [compCol] using hy)⟩
    simp only [ColReady, compCol]
    refine ⟨h3, ?_⟩
    rw [h5 (cn idx) (hcolT _ _)]
    exact hpre
  | seq c =>
    obtain ⟨hwt, hct, hbv⟩ := hhyp
    simp only [colQ] at hden
    obtain ⟨ws, rfl⟩ := chainQ_vec QC _ "e" c v hbv hden
    obtain ⟨cty, l, hcty, hfind, hel⟩ := chainQ_ok QC _ "e" c ws hden
    let K : CExpr → Option Ty → List Stmt := fun cur _ => [.push (cn idx) cur]
    have hx : (s.env (nm n)).isSome = true := by
      have := hdone (.decl (B.handleTy ((B.collType c.coll).getD "?")) (nm n) none) (by simp [compCol, compChain])
      simpa [DeclOK] using this
    obtain ⟨s', hex, hr, hv, hfr⟩ := (compChain_isFold C QC hN B hB nm hinj hres c n htok K cty l ws
      (by rw [hcollT]; exact hcty) (by rw [← hev]; exact hfind) hwt (hct cty l hfind) (fun _ => True) (fun _ _ => trivial) hel s hx).accEnc
      (cn idx) (hcolT _ _) Val.vec (fun a w => .ok (a ++ [w])) (fun _ _ => trivial)
      (fun t b b' w hb hg hevw _ => by cases hg; simp only [K, execs, exec, hb, hevw])
      [] ([] ++ ws) hpre (foldG_push ws [])
    refine ⟨s', by simpa [compCol] using hex, hr, ?_, by simpa [compCol] using hfr⟩
    simpa [ColReady, compCol] using hv
  | first c =>
    obtain ⟨hwt, hct, hbv⟩ := hhyp
    simp only [colQ, denote] at hden
    cases hc : denote QC [("e", evtVal)] (chainQ "e" c) with
    | error e => rw [hc] at hden; simp at hden
    | ok cv =>
      rw [hc] at hden
      obtain ⟨ws, rfl⟩ := chainQ_vec QC _ "e" c cv hbv hc
      obtain ⟨cty, l, hcty, hfind, hel⟩ := chainQ_ok QC _ "e" c ws hc
      cases ws with
      | nil => simp at hden
      | cons w rest =>
        simp only [Except.ok.injEq] at hden; subst hden
        have hx : (s.env (nm (n + 1))).isSome = true := by
          have := hdone (.decl (B.handleTy ((B.collType c.coll).getD "?")) (nm (n + 1)) none) (by simp [compCol, compChain])
          simpa [DeclOK] using this
        have hfl : s.env (nm n) = some (.val (.bool true)) := by
          have := hdone (.decl "bool" (nm n) (some (.bool true))) (by simp [compCol])
          simpa [DeclOK, initValOf, litOf, castTo, asBool] using this
        obtain ⟨_, hok⟩ := first_idiom_tok C QC hN B hB nm hinj hres c n htok (cn idx) (fun j h => hdisj j idx h.symm) (hcres idx)
          "First() called on an empty sequence" cty l (w :: rest)
          (by rw [hcollT]; exact hcty) (by rw [← hev]; exact hfind) hwt (hct cty l hfind) hel s hx hfl hpre
        obtain ⟨s', hex, hcv, hr, hfr⟩ := hok w rest rfl
        refine ⟨s', by simpa [compCol] using hex, hr, ?_, by simpa [compCol] using hfr⟩
        simpa [ColReady, compCol] using hcv

theorem compCol_correct (C : Ctx D) (QC : QCtx D) (hN : QC.N = C.N) (hev : QC.ev = C.ev)
    (B : Backend) (hB : BackendOK B) (nm cn : Nat → String)
    (hinj : ∀ i j, nm i = nm j → i = j) (hres : ∀ j, nm j ≠ "result")
    (hcres : ∀ k, cn k ≠ "result") (hdisj : ∀ j k, nm j ≠ cn k)
    (hcollT : ∀ name, B.collType name = QC.collType name)
    (col : Col) (idx n : Nat) (s : St D) (v : Val D)
    (hdone : DeclsDone C.N (compCol B nm cn idx col n).decls s.env)
    (hpre : ColPre col (cn idx) s.env) (hhyp : ColHyp QC col)
    (hden : denote QC [("e", evtVal)] (colQ "e" col) = .ok v) :
    ∃ s', execs C (compCol B nm cn idx col n).stmts s = .ok s' ∧ s'.rows = s.rows ∧
      ColReady C.N (compCol B nm cn idx col n) v s'.env ∧
      (∀ y, y ≠ cn idx → ¬ Touch nm n (compCol B nm cn idx col n).next y → s'.env y = s.env y) :=
  compCol_correct_tok C QC hN hev B hB.base nm cn hinj hres hcres hdisj hcollT col idx n
    (tokCol_of_notToken hB.notToken nm C col n) s v hdone hpre hhyp hden

def ColsPre (cn : Nat → String) : List Col → Nat → Env D → Prop
  | [], _, _ => True
  | c :: cs, idx, σ => ColPre c (cn idx) σ ∧ ColsPre cn cs (idx + 1) σ

theorem colsPre_congr (cn : Nat → String) : ∀ (cols : List Col) (idx : Nat) (σ σ' : Env D),
    (∀ k, idx ≤ k → k < idx + cols.length → σ' (cn k) = σ (cn k)) → ColsPre cn cols idx σ → ColsPre cn cols idx σ'
  | [], _, _, _, _, _ => trivial
  | c :: cs, idx, σ, σ', hag, h => by
    simp only [ColsPre] at h ⊢
    refine ⟨?_, colsPre_congr cn cs (idx + 1) σ σ' (fun k hk1 hk2 => hag k (by omega) (by simp only [List.length_cons]; omega)) h.2⟩
    cases c <;> simp only [ColPre] at h ⊢ <;> rw [hag idx (Nat.le_refl _) (by simp only [List.length_cons]; omega)] <;> exact h.1

theorem compCols_graph (B : Backend) (nm cn : Nat → String) : ∀ (cols : List Col) (idx n : Nat),
    Cols (fun i m f c => f = compCol B nm cn i c m) idx n (compCols B nm cn cols idx n) cols
  | [], _, _ => .nil
  | _ :: cs, idx, _ => .cons rfl (compCols_graph B nm cn cs (idx + 1) _)

theorem compCols_cols (B : Backend) (nm cn : Nat → String) (C : Ctx D) : ∀ (cols : List Col) (idx n : Nat),
    TokCols B nm cn C cols idx n →
      Cols (fun i m f c => f = compCol B nm cn i c m ∧ TokCol B nm C c m) idx n (compCols B nm cn cols idx n) cols
  | [], _, _, _ => .nil
  | _ :: cs, idx, _, h => .cons ⟨rfl, h.1⟩ (compCols_cols B nm cn C cs (idx + 1) _ h.2)

theorem colsEnd_compCols (B : Backend) (nm cn : Nat → String) : ∀ (cols : List Col) (idx n : Nat),
    colsEnd n (compCols B nm cn cols idx n) = colsNext B nm cn cols idx n
  | [], _, _ => rfl
  | _ :: cs, idx, _ => colsEnd_compCols B nm cn cs (idx + 1) _

/-- a scalar column is assigned after the loops, a vector column filled inside its loop and cleared after the fill,
a `First` column captured inside its loop -/
theorem compCol_colVar (B : Backend) (nm cn : Nat → String) (idx : Nat) (col : Col) (n : Nat) :
    ColVar nm cn idx n (compCol B nm cn idx col n) where
  var := by cases col <;> rfl
  sets := by
    cases col with
    | scalar e => exact Or.inr ⟨_, rfl, compEE_val_vars B nm e n⟩
    | seq c | first c => exact Or.inl rfl
  clears := by
    cases col with
    | seq c => exact Or.inr ⟨rfl, isVecType_vector _⟩
    | scalar e | first c => exact Or.inl rfl

theorem compCols_length (B : Backend) (nm cn : Nat → String) (cols : List Col) (idx n : Nat) :
    (compCols B nm cn cols idx n).length = cols.length :=
  (compCols_graph B nm cn cols idx n).length

theorem compCol_shape (C : Ctx D) (B : Backend) (hB : BackendBase B) (nm cn : Nat → String)
    (hinj : ∀ i j, nm i = nm j → i = j) (idx : Nat) (col : Col) (n : Nat) :
    ColShape C.N nm cn idx n (compCol B nm cn idx col n) where
  toColVar := compCol_colVar B nm cn idx col n
  ge := compCol_next_ge B nm cn idx col n
  declsIn := compCol_decls B nm cn idx col n
  simple := fun d hd => ((compCol_declsOK_base C B hB nm cn hinj idx col n).1 d hd).toA
  nodup := (compCol_declsOK_base C B hB nm cn hinj idx col n).2

theorem compCol_pre (B : Backend) (nm cn : Nat → String) (idx : Nat) (col : Col) (n : Nat) (σ : Env D) :
    (compCol B nm cn idx col n).Pre σ ↔ ColPre col (cn idx) σ := by
  cases col <;> exact Iff.rfl

theorem compCols_pre (B : Backend) (nm cn : Nat → String) (σ : Env D) : ∀ (cols : List Col) (idx n : Nat),
    (∀ f ∈ compCols B nm cn cols idx n, f.Pre σ) ↔ ColsPre cn cols idx σ
  | [], _, _ => by simp [compCols, ColsPre]
  | c :: cs, idx, n => by
    simp only [compCols, List.forall_mem_cons, ColsPre, compCol_pre, compCols_pre B nm cn σ cs]

theorem compCol_spec (C : Ctx D) (QC : QCtx D) (hN : QC.N = C.N) (hev : QC.ev = C.ev)
    (B : Backend) (hB : BackendBase B) (nm cn : Nat → String)
    (hinj : ∀ i j, nm i = nm j → i = j) (hres : ∀ j, nm j ≠ "result")
    (hcres : ∀ k, cn k ≠ "result") (hdisj : ∀ j k, nm j ≠ cn k)
    (hcollT : ∀ name, B.collType name = QC.collType name)
    (col : Col) (idx n : Nat) (htok : TokCol B nm C col n) (v : Val D) (hhyp : ColHyp QC col)
    (hden : denote QC [("e", evtVal)] (colQ "e" col) = .ok v) : ColSpec C nm cn idx n (compCol B nm cn idx col n) v where
  shape := compCol_shape C B hB nm cn hinj idx col n
  run := fun s hdone hpre => compCol_correct_tok C QC hN hev B hB nm cn hinj hres hcres hdisj hcollT col idx n htok s v
    (fun d hd => (declOK_iff_A ((compCol_declsOK_base C B hB nm cn hinj idx col n).1 d hd)).2 (hdone d hd))
    ((compCol_pre B nm cn idx col n s.env).1 hpre) hhyp hden
  vec := by
    cases col with
    | seq ch => exact fun _ => chainQ_vec QC _ "e" ch v hhyp.2.2 hden
    | scalar e | first ch => exact fun h => absurd rfl h

theorem eventRows_denote (QC : QCtx D) (cols : List (String × Col)) (rows : List (List (Val D)))
    (h : denoteRows QC (FQ.toQuery (.eventRows cols)) = .ok rows) :
    ∃ vs, denotes QC [("e", evtVal)] ((cols.map (·.2)).map (colQ "e")) = .ok vs ∧ rows = [vs] := by
  rw [List.map_map]
  exact eventDict_denote QC _ _ (by simp) rows h

theorem compile_eventRows (B : Backend) (nm cn : Nat → String) (cols : List (String × Col)) :
    compile B nm cn (.eventRows cols) = eventPackage B (cols.map (·.1))
      (banksOf B ((compCols B nm cn (cols.map (·.2)) 0 0).flatMap (·.stmts)) (colBanks (cols.map (·.2))))
      (compCols B nm cn (cols.map (·.2)) 0 0) := rfl

theorem compile_eventRows_books (B : Backend) (nm cn : Nat → String) (cols : List (String × Col)) :
    Books (compile B nm cn (.eventRows cols)) cn (cols.map (·.1)) ((compCols B nm cn (cols.map (·.2)) 0 0).map (·.classVar.1)) :=
  eventPackage_books B _ _ (compCols_graph B nm cn (cols.map (·.2)) 0 0) (fun i m f c h => h ▸ compCol_colVar B nm cn i c m)
    (by simp [compCols_length])

/-- **C01 (event-level rows)** — for every list of columns (scalars built from Count / Sum /
arithmetic, vector columns from chains, First of a chain), every event and every class state in
which the column variables are declared and the vector columns empty: if the query denotes `rows`
(necessarily one row) on the event, the package the translator model emits writes exactly `rows`,
and the class state it leaves behind satisfies the same precondition again (the emitted `clear`s
have emptied the vector columns; the scalar columns stay declared). All three backends: on the
token idiom the table `compile` emits binds every chain's token (`tokCols_eventRows`). -/
theorem eventRows_correct_post (B : Backend) (hB : BackendBase B) (nm cn : Nat → String)
    (hinj : ∀ i j, nm i = nm j → i = j) (hcinj : ∀ i j, cn i = cn j → i = j)
    (hres : ∀ j, nm j ≠ "result") (hcres : ∀ k, cn k ≠ "result") (hdisj : ∀ j k, nm j ≠ cn k)
    (QC : QCtx D) (hcollT : ∀ name, B.collType name = QC.collType name)
    (cols : List (String × Col)) (hhyp : ∀ p ∈ cols, ColHyp QC p.2)
    (σc : Env D) (hσ : ColsPre cn (cols.map (·.2)) 0 σc)
    (rows : List (List (Val D)))
    (hden : denoteRows QC (FQ.toQuery (.eventRows cols)) = .ok rows) :
    ∃ σ', runEvent (compile B nm cn (.eventRows cols)) QC.N σc QC.ev = .ok (rows, σ') ∧
      ColsPre cn (cols.map (·.2)) 0 σ' := by
  obtain ⟨vs, hvs, rfl⟩ := eventRows_denote QC cols rows hden
  have hspec := (compCols_cols B nm cn _ _ 0 0 (tokCols_eventRows B nm cn hinj cols QC.N QC.ev)).withDen QC _ (colQ "e") vs hvs
    (T := ColSpec ((compile B nm cn (.eventRows cols)).ctx QC.N QC.ev) nm cn)
    fun i m f c v hc h hd => h.1 ▸ compCol_spec _ QC rfl rfl B hB nm cn hinj hres hcres hdisj hcollT c i m h.2 v
      (by obtain ⟨p, hp, rfl⟩ := List.mem_map.1 hc; exact hhyp p hp) hd
  rw [compile_eventRows] at hspec ⊢
  obtain ⟨σ', hrun, hpost⟩ := eventPackage_correct B nm cn ⟨hinj, hcinj, hres, hcres, hdisj⟩ QC.N QC.ev (cols.map (·.1)) _ _ vs
    (by rw [hspec.length, denotes_length QC _ _ vs hvs]; simp) hspec σc ((compCols_pre B nm cn σc _ 0 0).2 hσ)
  exact ⟨σ', hrun, (compCols_pre B nm cn σ' _ 0 0).1 hpost⟩

/-- `eventRows_correct_post` without the post-state (the statement `C01.eventRows_correct_partial` wraps). -/
theorem eventRows_correct (B : Backend) (hB : BackendOK B) (nm cn : Nat → String)
    (hinj : ∀ i j, nm i = nm j → i = j) (hcinj : ∀ i j, cn i = cn j → i = j)
    (hres : ∀ j, nm j ≠ "result") (hcres : ∀ k, cn k ≠ "result") (hdisj : ∀ j k, nm j ≠ cn k)
    (QC : QCtx D) (hcollT : ∀ name, B.collType name = QC.collType name)
    (cols : List (String × Col)) (hhyp : ∀ p ∈ cols, ColHyp QC p.2)
    (σc : Env D) (hσ : ColsPre cn (cols.map (·.2)) 0 σc)
    (rows : List (List (Val D)))
    (hden : denoteRows QC (FQ.toQuery (.eventRows cols)) = .ok rows) :
    ∃ σ', runEvent (compile B nm cn (.eventRows cols)) QC.N σc QC.ev = .ok (rows, σ') := by
  obtain ⟨σ', h, _⟩ := eventRows_correct_post B hB.base nm cn hinj hcinj hres hcres hdisj QC hcollT cols hhyp σc hσ rows hden
  exact ⟨σ', h⟩

/-- per-event side conditions of the single-event theorems, for either query shape:
event-level rows — `ColHyp` for every column (static well-typedness, accessors return the declared
kinds, banks hold collections, a floating `Sum` ranges over ≥ 1 element);
element-level rows — the chain and the column expressions are well typed and the bank's objects
return the declared kinds. -/
def FragHyp (QC : QCtx D) : FQ → Prop
  | .eventRows cols => ∀ p ∈ cols, ColHyp QC p.2
  | .elemRows c cols => wtSteps none c.steps = true ∧ (∀ p ∈ cols, wtPE (chainTy none c.steps) p.2 = true) ∧
      (∀ cty l, QC.ev.find c.bank = some (cty, .vec l) →
        ∀ v ∈ l, MethTyped v (methsSteps c.steps) ∧ ∀ p ∈ cols, MethTyped v (methsPE p.2))

/-- what the class state must satisfy when the per-event method is entered:
event-level rows — `ColsPre`: vector columns empty, the other column variables declared;
element-level rows — the column variables declared. -/
def FragPre (cn : Nat → String) : FQ → Env D → Prop
  | .eventRows cols, σ => ColsPre cn (cols.map (·.2)) 0 σ
  | .elemRows _ cols, σ => ∀ k, k < cols.length → (σ (cn k)).isSome = true

/-- **the initial class state satisfies the precondition** of the single-event theorems (the
miniAOD token members, declared before the column variables, do not interfere: their names are
generated local names). -/
theorem fragPre_classInit (B : Backend) (nm cn : Nat → String)
    (hcinj : ∀ i j, cn i = cn j → i = j) (hdisj : ∀ j k, nm j ≠ cn k) (fq : FQ) :
    FragPre cn fq (classInit (compile B nm cn fq).classVars : Env D) := by
  cases fq with
  | eventRows cols =>
    have hS : ∀ i m f c, f = compCol B nm cn i c m → ColVar nm cn i m f := fun i m f c h => h ▸ compCol_colVar B nm cn i c m
    have hg := compCols_graph B nm cn (cols.map (·.2)) 0 0
    refine (compCols_pre B nm cn _ _ 0 0).1 fun f hf => ?_
    obtain ⟨i, m, c, _, _, _, hs⟩ := hg.mem hf
    exact (hS _ _ _ _ hs).pre_congr (classInit_skip_tokens nm cn hdisj _ (tokens_names_eventRows B nm cn cols) _ i)
      (hg.pre_classInit hcinj hS f hf)
  | elemRows c cols =>
    exact fun k hk => (compile_elemRows_books B nm cn c cols).classInit_decl (by simpa using hk)

/-- **one event, with the state it leaves** — for every fragment query: from a class state
satisfying `FragPre`, on an event where the query denotes `rows`, the emitted package writes
exactly `rows` and leaves a class state satisfying `FragPre` again. -/
theorem fragEvent_correct_post (B : Backend) (hB : BackendBase B) (nm cn : Nat → String) (hsup : Supply nm cn)
    (QC : QCtx D) (hcollT : ∀ name, B.collType name = QC.collType name)
    (fq : FQ) (hhyp : FragHyp QC fq) (σc : Env D) (hσ : FragPre cn fq σc)
    (rows : List (List (Val D))) (hden : denoteRows QC fq.toQuery = .ok rows) :
    ∃ σ', runEvent (compile B nm cn fq) QC.N σc QC.ev = .ok (rows, σ') ∧ FragPre cn fq σ' := by
  cases fq with
  | eventRows cols =>
    exact eventRows_correct_post B hB nm cn hsup.inj hsup.cinj hsup.res hsup.cres hsup.disj QC hcollT cols hhyp σc hσ rows hden
  | elemRows c cols =>
    obtain ⟨h1, h2, h3⟩ := hhyp
    exact elemRows_correct_post B hB nm cn hsup.inj hsup.cinj hsup.res hsup.cres hsup.disj QC hcollT c cols h1 h2 h3 σc hσ rows hden

-- The loops and the clears of `compCols` as statements of their own, on the list predicates `AllReady` / `AllVecOk` /
-- `VarsHold`. `eventPackage_correct` does both phases by `Cols.phase` and uses neither `compCols_correct` nor `clears_correct`.

def AllReady (N : Num D) : List ColFrag → List (Val D) → Env D → Prop
  | [], [], _ => True
  | f :: fs, v :: vs, σ => ColReady N f v σ ∧ AllReady N fs vs σ
  | _, _, _ => False

def ColVecOk : Col → Val D → Prop
  | .seq _, v => ∃ l, v = .vec l
  | _, _ => True

def AllVecOk : List Col → List (Val D) → Prop
  | [], [] => True
  | c :: cs, v :: vs => ColVecOk c v ∧ AllVecOk cs vs
  | _, _ => False

theorem allReady_of_cols {N : Num D} {σ : Env D} {idx n : Nat} {fs : List ColFrag} {vs : List (Val D)}
    (h : Cols (fun _ _ f v => ColReady N f v σ) idx n fs vs) : AllReady N fs vs σ := by
  induction h with
  | nil => trivial
  | cons h1 _ ih => exact ⟨h1, ih⟩

theorem allVecOk_of_cols {cs : List Col} {vs : List (Val D)} {S : Nat → Nat → ColFrag → Col → Prop}
    {T : Nat → Nat → ColFrag → Val D → Prop} {idx n : Nat} {fs : List ColFrag} (hs : Cols S idx n fs cs)
    (h : ∀ i m f c v, S i m f c → T i m f v → ColVecOk c v) : Cols T idx n fs vs → AllVecOk cs vs := by
  induction hs generalizing vs with
  | nil => intro ht; cases ht; trivial
  | cons s1 _ ih => intro ht; cases ht with | cons t1 t2 => exact ⟨h _ _ _ _ _ s1 t1, ih t2⟩

theorem compCols_correct (C : Ctx D) (QC : QCtx D) (hN : QC.N = C.N) (hev : QC.ev = C.ev)
    (B : Backend) (hB : BackendOK B) (nm cn : Nat → String)
    (hinj : ∀ i j, nm i = nm j → i = j) (hcinj : ∀ i j, cn i = cn j → i = j) (hres : ∀ j, nm j ≠ "result")
    (hcres : ∀ k, cn k ≠ "result") (hdisj : ∀ j k, nm j ≠ cn k)
    (hcollT : ∀ name, B.collType name = QC.collType name)
    (cols : List Col) (idx n : Nat) (s : St D) (vs : List (Val D))
    (hdone : DeclsDone C.N ((compCols B nm cn cols idx n).flatMap (·.decls)) s.env)
    (hpre : ColsPre cn cols idx s.env) (hhyp : ∀ col ∈ cols, ColHyp QC col)
    (hden : denotes QC [("e", evtVal)] (cols.map (colQ "e")) = .ok vs) :
    ∃ s', execs C ((compCols B nm cn cols idx n).flatMap (·.stmts)) s = .ok s' ∧ s'.rows = s.rows ∧
      AllReady C.N (compCols B nm cn cols idx n) vs s'.env ∧ AllVecOk cols vs ∧
      (∀ y, (∀ k, idx ≤ k → y ≠ cn k) → ¬ Touch nm n (colsNext B nm cn cols idx n) y → s'.env y = s.env y) := by
  have hg := compCols_cols B nm cn C cols idx n (tokCols_of_notToken hB.notToken nm cn C cols idx n)
  have hspec := hg.withDen QC _ (colQ "e") vs hden (T := ColSpec C nm cn)
    fun i m f c v hc h hd => h.1 ▸ compCol_spec C QC hN hev B hB.base nm cn hinj hres hcres hdisj hcollT c i m h.2 v (hhyp c hc) hd
  obtain ⟨s', hex, hr, hready, hfr⟩ := hspec.run ⟨hinj, hcinj, hres, hcres, hdisj⟩ s
    (fun d hd => (declOK_iff_A ((compCols_declsOK_base C B hB.base nm cn hinj cols idx n).1 d hd)).1 (hdone d hd))
    ((compCols_pre B nm cn s.env cols idx n).2 hpre)
  refine ⟨s', hex, hr, allReady_of_cols hready, allVecOk_of_cols hg (fun i m f c v h hs => ?_) hspec,
    colsEnd_compCols B nm cn cols idx n ▸ hfr⟩
  cases c with
  | seq ch => exact hs.vec (h.1 ▸ List.cons_ne_nil _ _)
  | _ => trivial

theorem allReady_length (N : Num D) : ∀ (fs : List ColFrag) (vs : List (Val D)) (σ : Env D), AllReady N fs vs σ → vs.length = fs.length
  | [], [], _, _ => rfl
  | [], _ :: _, _, h => by simp [AllReady] at h
  | _ :: _, [], _, h => by simp [AllReady] at h
  | f :: fs, v :: vs, σ, h => by simp [allReady_length N fs vs σ h.2]

theorem varsHold_stable (cn : Nat → String) : ∀ (vs : List (Val D)) (idx : Nat) (σ σ' : Env D),
    (∀ k, idx ≤ k → σ' (cn k) = σ (cn k)) → VarsHold cn idx vs σ → VarsHold cn idx vs σ'
  | [], _, _, _, _, _ => trivial
  | v :: vs, idx, σ, σ', hag, h => ⟨by rw [hag idx (Nat.le_refl _)]; exact h.1,
      varsHold_stable cn vs (idx + 1) σ σ' (fun k hk => hag k (by omega)) h.2⟩

/-- the clears succeed (only column variables are touched: no hypothesis on the local names) -/
theorem Cols.clears_run {C : Ctx D} {nm cn : Nat → String} (hcinj : ∀ i j, cn i = cn j → i = j)
    {S : Nat → Nat → ColFrag → Val D → Prop}
    (hS : ∀ i m f v, S i m f v → ColVar nm cn i m f ∧ (f.clears ≠ [] → ∃ l, v = .vec l))
    {idx n : Nat} {fs : List ColFrag} {vs : List (Val D)} (h : Cols S idx n fs vs) :
    ∀ s : St D, VarsHold cn idx vs s.env → ∃ s', execs C (fs.flatMap (·.clears)) s = .ok s' ∧ s'.rows = s.rows := by
  induction h with
  | nil => exact fun s _ => ⟨s, rfl, rfl⟩
  | @cons idx n f v fs vs h1 _ ih =>
    intro s hv
    obtain ⟨s1, hex1, hr1, _, hfr1⟩ := (hS _ _ _ _ h1).1.clears_ok C (hS _ _ _ _ h1).2 s hv.1
    obtain ⟨s', hex, hr⟩ := ih s1 (varsHold_stable cn vs (idx + 1) s.env s1.env
      (fun k hk => hfr1 _ fun e => by have := hcinj _ _ e; omega) hv.2)
    exact ⟨s', by rw [List.flatMap_cons, execs_append, hex1]; exact hex, by rw [hr, hr1]⟩

theorem clears_correct (C : Ctx D) (B : Backend) (nm cn : Nat → String) (hcinj : ∀ i j, cn i = cn j → i = j) :
    ∀ (cols : List Col) (idx n : Nat) (s : St D) (vs : List (Val D)),
      VarsHold cn idx vs s.env → AllVecOk cols vs →
      ∃ s', execs C ((compCols B nm cn cols idx n).flatMap (·.clears)) s = .ok s' ∧ s'.rows = s.rows := by
  intro cols idx n s vs hv hok
  have hg : Cols (fun i m f v => ColVar nm cn i m f ∧ (f.clears ≠ [] → ∃ l, v = Val.vec l)) idx n (compCols B nm cn cols idx n) vs := by
    induction cols generalizing idx n vs with
    | nil => cases vs with
      | nil => exact .nil
      | cons _ _ => exact hok.elim
    | cons c cs ih => cases vs with
      | nil => exact hok.elim
      | cons v vs =>
        refine .cons ⟨compCol_colVar B nm cn idx c n, fun hc => ?_⟩ (ih _ _ vs hv.2 hok.2)
        cases c with
        | seq ch => exact hok.1
        | _ => exact absurd rfl hc
  exact hg.clears_run hcinj (fun _ _ _ _ h => h) s hv

/-- the fragment's package in the form the job-level statements (`JobOK.job`, …) take it -/
theorem fragJobOK (B : Backend) (hB : BackendBase B) (nm cn : Nat → String) (hsup : Supply nm cn)
    (QC : QCtx D) (hcollT : ∀ name, B.collType name = QC.collType name) (fq : FQ) :
    JobOK (compile B nm cn fq) QC fq.toQuery (FragPre cn fq) (fun ev => FragHyp (QC.withEvent ev) fq) :=
  ⟨fun ev hev σ hσ rows hden =>
      fragEvent_correct_post B hB nm cn hsup (QC.withEvent ev) hcollT fq hev σ hσ rows hden,
    fragPre_classInit B nm cn hsup.cinj hsup.disj fq⟩

end FaxVerif.Gen
