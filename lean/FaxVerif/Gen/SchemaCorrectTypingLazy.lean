/-
Gen — the column types `compileL` declares (lazy `and` / `or` → `bool`, conditional → `double`) are the types
the independent typing model assigns to the embedded query — on queries whose `and` / `or` operands are all
boolean (`boolOpsLE`): for other operands the translator model books `bool` (it casts), the typing model
assigns no type (Python's value of `a and b` is one of the operands).
-/
import FaxVerif.Gen.SchemaCorrectTyping
import FaxVerif.Gen.SchemaCorrect
namespace FaxVerif.Gen
open FaxVerif.Cpp FaxVerif.Linq FaxVerif.C03

mutual
  /-- every operand of every `and` / `or` of the expression is boolean (in the translator model's typing) -/
  def boolOpsLE (cur : Ty) : LE → Bool
    | .bin _ a b => boolOpsLE cur a && boolOpsLE cur b
    | .cmp _ a b => boolOpsLE cur a && boolOpsLE cur b
    | .neg a => boolOpsLE cur a
    | .not a => boolOpsLE cur a
    | .bop _ a rest => boolOpsLE cur a && (tyLE cur a == .bool) && boolOperands cur rest
    | .ite c x y => boolOpsLE cur c && boolOpsLE cur x && boolOpsLE cur y
    | _ => true
  def boolOperands (cur : Ty) : List LE → Bool
    | [] => true
    | b :: bs => boolOpsLE cur b && (tyLE cur b == .bool) && boolOperands cur bs
end

theorem Ty.isFl_isNum {t : Ty} (h : t.isFl = true) : t.cty.isNum = true := by
  cases t <;> first | rfl | cases h

theorem iteTy_cty (c : Ty) {a b : Ty} (ha : a.isFl = true) (hb : b.isFl = true) : iteTy c.cty a.cty b.cty = .ok .double := by
  simp [iteTy, Ty.cty_isScalar, Ty.isFl_isNum ha, Ty.isFl_isNum hb]

theorem typeOf_opq (S : Sig) (Γ : TyEnv) (op : LOp) (a b : Query)
    (ha : typeOf S Γ a = .ok .bool) (hb : typeOf S Γ b = .ok .bool) : typeOf S Γ (op.q a b) = .ok .bool := by
  cases op <;> simp [LOp.q, typeOf, ha, hb, boolOpTy]

def LETyped (S : Sig) (cls : String) (cur : Option Ty) (Γ : TyEnv) (x : String) (le : LE) : Prop :=
  wtLE cur le = true → boolOpsLE (curT cur) le = true → sigMeths S cls (methsLE le) = true →
    typeOf S Γ (leQ x le) = .ok (tyLE (curT cur) le).cty

theorem typeOf_bopQ_of {S : Sig} {cls : String} {cur : Option Ty} {Γ : TyEnv} {x : String} (op : LOp) {rest : List LE}
    (h : ∀ b ∈ rest, LETyped S cls cur Γ x b) (acc : Query) (hacc : typeOf S Γ acc = .ok Ty.bool.cty)
    (hwt : wtLEs cur rest = true) (hbo : boolOperands (curT cur) rest = true) (hs : sigMeths S cls (methsLEs rest) = true) :
    typeOf S Γ (bopQ x op acc rest) = .ok Ty.bool.cty := by
  induction rest generalizing acc with
  | nil => simpa [bopQ] using hacc
  | cons b bs ih =>
    simp only [wtLEs, boolOperands, methsLEs, sigMeths_append, Bool.and_eq_true, beq_iff_eq] at hwt hbo hs
    have hb := h b List.mem_cons_self hwt.1 hbo.1.1 hs.1
    rw [hbo.1.2] at hb
    exact ih (fun b hb => h b (List.mem_cons_of_mem _ hb)) _ (typeOf_opq S Γ op _ _ hacc hb) hwt.2 hbo.2 hs.2

theorem typeOf_leQ (S : Sig) (cls : String) (cur : Option Ty) (Γ : TyEnv) (x : String)
    (hx : assoc Γ x = some (curCTy cls cur)) (le : LE) : LETyped S cls cur Γ x le := by
  -- the hypotheses are unfolded at the constructor first (the two list cases have nothing to unfold)
  induction le using LE.rec (motive_2 := fun rest => ∀ b ∈ rest, LETyped S cls cur Γ x b) with
    (try (intro hwt hbo hs
          simp only [wtLE, boolOpsLE, methsLE, sigMeths_append, Bool.and_eq_true, beq_iff_eq] at hwt hbo hs))
  | nil b hb => exact absurd hb List.not_mem_nil
  | cons b bs ih ihs b' hb' =>
    rcases List.mem_cons.mp hb' with rfl | hb'
    · exact ih
    · exact ihs b' hb'
  | int _ | dbl _ _ | bool _ => rfl
  | it =>
    obtain ⟨t, rfl⟩ := Option.isSome_iff_exists.mp hwt
    simp [leQ, typeOf, hx, tyLE, curT, curCTy]
  | meth name ty =>
    cases Option.isNone_iff_eq_none.mp hwt
    simp only [sigMeths, List.all_cons, List.all_nil, Bool.and_true, decide_eq_true_eq] at hs
    simp [leQ, typeOf, hx, curCTy, hs, tyLE]
  | bin op a b iha ihb =>
    have h := typeOf_binQ op (iha hwt.1.1.1 hbo.1 hs.1) (ihb hwt.1.1.2 hbo.2 hs.2) hwt.1.2 hwt.2
    cases op <;> exact h
  | cmp op a b iha ihb => exact typeOf_cmpQ op (iha hwt.1.1.1 hbo.1 hs.1) (ihb hwt.1.1.2 hbo.2 hs.2)
  | neg a ih => exact typeOf_negQ (ih hwt.1 hbo hs) hwt.2
  | not a ih => exact typeOf_notQ (ih hwt.1 hbo hs)
  | bop op a rest iha ihr =>
    have ha := iha hwt.1.1 hbo.1.1 hs.1
    rw [hbo.1.2] at ha
    exact typeOf_bopQ_of op ihr (leQ x a) ha hwt.1.2 hbo.2 hs.2
  | ite c a b ihc iha ihb =>
    have hc := ihc hwt.1.1.1.1 hbo.1.1 hs.1
    have ha := iha hwt.1.1.1.2 hbo.1.2 hs.2.1
    have hb := ihb hwt.1.1.2 hbo.2 hs.2.2
    simp only [leQ, typeOf, hc, ha, hb, iteTy_cty _ hwt.1.2 hwt.2, tyLE]; rfl

theorem typeOf_bopQ (S : Sig) (cls : String) (cur : Option Ty) (Γ : TyEnv) (x : String)
    (hx : assoc Γ x = some (curCTy cls cur)) (op : LOp) :
    ∀ (rest : List LE) (acc : Query), typeOf S Γ acc = .ok Ty.bool.cty → wtLEs cur rest = true →
      boolOperands (curT cur) rest = true → sigMeths S cls (methsLEs rest) = true →
      typeOf S Γ (bopQ x op acc rest) = .ok Ty.bool.cty :=
  fun _ => typeOf_bopQ_of op fun b _ => typeOf_leQ S cls cur Γ x hx b

def boolOpsStepsL : Option Ty → List StepL → Bool
  | _, [] => true
  | t, .sel f :: rest => boolOpsStepsL (some (tyPE (curT t) f)) rest
  | t, .whr c :: rest => boolOpsLE (curT t) c && boolOpsStepsL t rest

theorem typeOf_stepsQL (S : Sig) (cls : String) (Γ : TyEnv) : ∀ (steps : List StepL) (src : Query) (k : Nat) (t : Option Ty),
    typeOf S Γ src = .ok (.vec (curCTy cls t)) → wtStepsL t steps = true → boolOpsStepsL t steps = true →
    sigMeths S cls (methsStepsL steps) = true →
    typeOf S Γ (stepsQL src steps k) = .ok (.vec (curCTy cls (chainTyL t steps)))
  | [], _, _, _, hsrc, _, _, _ => by simpa [stepsQL, chainTyL] using hsrc
  | .sel f :: rest, src, k, t, hsrc, hwt, hbo, hs => by
    simp only [wtStepsL, Bool.and_eq_true] at hwt
    simp only [boolOpsStepsL] at hbo
    simp only [methsStepsL, sigMeths_append, Bool.and_eq_true] at hs
    have hf := typeOf_peQ S cls t ((lamVar k, curCTy cls t) :: Γ) (lamVar k) (assoc_head _ _ _) f hwt.1 hs.1
    simp only [stepsQL, chainTyL]
    refine typeOf_stepsQL S cls Γ rest _ (k + 1) (some (tyPE (curT t) f)) ?_ hwt.2 hbo hs.2
    simp only [typeOf, hsrc, hf]; rfl
  | .whr c :: rest, src, k, t, hsrc, hwt, hbo, hs => by
    simp only [wtStepsL, Bool.and_eq_true] at hwt
    simp only [boolOpsStepsL, Bool.and_eq_true] at hbo
    simp only [methsStepsL, sigMeths_append, Bool.and_eq_true] at hs
    have hf := typeOf_leQ S cls t ((lamVar k, curCTy cls t) :: Γ) (lamVar k) (assoc_head _ _ _) c hwt.1 hbo.1 hs.1
    simp only [stepsQL, chainTyL]
    refine typeOf_stepsQL S cls Γ rest _ (k + 1) t ?_ hwt.2 hbo.2 hs.2
    simp only [typeOf, hsrc, hf, Ty.cty_isScalar, if_true]

/-- static well-typedness in the sense of the translator model (the hypotheses of `elemRowsL_correct_post`) -/
def FQL.wt : FQL → Bool
  | .elemRows c cols => wtStepsL none c.steps && cols.all fun p => wtLE (chainTyL none c.steps) p.2

def FQL.boolOps : FQL → Bool
  | .elemRows c cols => boolOpsStepsL none c.steps && cols.all fun p => boolOpsLE ((chainTyL none c.steps).getD .double) p.2

def FQL.sigOk (S : Sig) : FQL → Bool
  | .elemRows c cols => match S.collElem c.coll with
    | some cls => sigMeths S cls (methsStepsL c.steps) && cols.all fun p => sigMeths S cls (methsLE p.2)
    | none => false

def FQL.ctys : FQL → List CTy
  | .elemRows c cols => cols.map fun p => (tyLE ((chainTyL none c.steps).getD .double) p.2).cty

theorem FQL.ctys_cppName (fq : FQL) : (FQL.ctys fq).map cppName = FQL.types fq := by
  obtain ⟨c, cols⟩ := fq
  simp [FQL.ctys, FQL.types, List.map_map, Function.comp_def, Ty.cppName_cty]

theorem FQL.ctys_length (fq : FQL) : (FQL.ctys fq).length = (FQL.names fq).length := by
  obtain ⟨c, cols⟩ := fq
  simp [FQL.ctys, FQL.names]

theorem finalColumns_FQL (S : Sig) (fq : FQL) (hwt : fq.wt = true) (hbo : fq.boolOps = true) (hs : fq.sigOk S = true) :
    finalColumns S (FQL.toQuery fq) = .ok ((FQL.names fq).zip (FQL.ctys fq)) := by
  obtain ⟨c, cols⟩ := fq
  simp only [FQL.wt, Bool.and_eq_true, List.all_eq_true] at hwt
  simp only [FQL.boolOps, Bool.and_eq_true, List.all_eq_true] at hbo
  simp only [FQL.sigOk] at hs
  split at hs
  · rename_i cls hc
    simp only [Bool.and_eq_true, List.all_eq_true] at hs
    refine finalColumns_select_dict S _ "r" _ _ (curCTy cls (chainTyL none c.steps)) _ ?_ ?_ (by simp [FQL.ctys]) ?_
    · have hch : typeOf S [("e", .event)] (chainQL "e" c) = .ok (.vec (curCTy cls (chainTyL none c.steps))) := by
        unfold chainQL
        apply typeOf_stepsQL S cls _ c.steps _ 0 none _ hwt.1 hbo.1 hs.1
        simp [typeOf, assoc, hc, curCTy]
      simp [typeOf, hch]
    · exact typeOfs_map S _ _ _ cols fun p hp =>
        typeOf_leQ S cls (chainTyL none c.steps) _ "r" (assoc_head _ _ _) p.2 (hwt.2 p hp) (hbo.2 p hp) (hs.2 p hp)
    · exact allShapes_iff.mpr (List.forall_mem_map.mpr fun p _ => Ty.colShape_cty _)
  · cases hs

end FaxVerif.Gen
