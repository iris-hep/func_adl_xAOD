/-
Gen — the rows level of the arbitrary-depth tower, and the job level.
One event-level vector column, `e.Coll(bank).Where*.Select(y → DE)`: the continuation `aggKD` (the block of the
expression — loops nested as deep as the expression —, then `col.push_back(value)`) has a `PushSpec`
(Gen/PushColsCorrect.lean), so `PColOK.of_oneChain` (retrieval, the outer loop, the lowered outer condition) applies;
event-level rows `ds.Select(e → {name: e.Coll(bank).Where*.Select(y → DE), …})` are an instance of
`pushEventRows_of_toP` (`DCol.toP`; `deepEventRows_correct_post`).
Element-level rows, `ds.SelectMany(e → e.Coll(bank).Where*).Select(r → {name: DE, …})`: `fragRows_correct_post` of
Gen/ElemRowsCorrect.lean, `rowKD` being the row code (`fragsRow`) of the fragments `compDE` (`deepElemRows_correct_post`).
`dfragJobOK` puts both into the form `JobOK`.
-/
import FaxVerif.Gen.DeepExprCorrect
import FaxVerif.Gen.PushColsCorrect
import FaxVerif.Gen.JobCorrect
namespace FaxVerif.Gen
open FaxVerif.Cpp FaxVerif.Linq
variable {D : Type}

theorem aggKD_next_ge (B : Backend) (nm : Nat → String) (hinj : ∀ i j, nm i = nm j → i = j) (N : Num D)
    (col : String) (e : DE) (cur : CExpr) (ty : Option Ty) (m : Nat) : m ≤ (aggKD B nm col e cur ty m).2 := by
  simp only [aggKD]; exact (compDE_shape N nm hinj e _ none cur m).ge

theorem aggKD_pushSpec (C : Ctx D) (QC : QCtx D) (hN : QC.N = C.N) (B : Backend) (nm : Nat → String)
    (hinj : ∀ i j, nm i = nm j → i = j) (col : String) (hcol : ∀ j, nm j ≠ col) (e : DE) (hwt : wtDE none e = true)
    (y : String) (ρ : LEnv D) :
    PushSpec C (InRange nm) col (aggKD B nm col e) (fun v => denote QC ((y, v) :: ρ) (deQ 0 y e)) (fun v => DEHyp QC e 0 y ρ v)
      (fun _ _ => True) :=
  .of_block (fun _ _ ⟨j, _, _, hj⟩ => hcol j hj.symm) (fun cur m => compDE nm (B.elemPtr && (none : Option Ty).isNone) none cur e m)
    (fun _ _ => rfl) fun cur m v u hfr _ hQ hf =>
      StmtSpec.block hinj (compDE_shape C.N nm hinj e _ none cur m) hfr.ne
        (compDE_correct C QC hN nm hinj e _ none cur v 0 y ρ m u hfr (by intro t ht; cases ht) hwt hQ hf)

/-- per-event side conditions of one column: static well-typedness; the objects of the bank return values of the
declared kinds at every level (`DEHyp`) -/
def DColHyp (QC : QCtx D) (col : DCol) : Prop :=
  wtOuter col.c = true ∧ wtDE none col.e = true ∧ ChainTyped QC col.c ∧
    (∀ cty l, QC.ev.find col.c.bank = some (cty, .vec l) → ∀ v ∈ l, DEHyp QC col.e 0 outerVar [("e", evtVal)] v)

def DCol.toP (B : Backend) (nm : Nat → String) (col : DCol) : PCol :=
  ⟨col.c, fun v => aggKD B nm v col.e, (tyDE none col.e).cpp, dcolQ "e" col,
    fun n => onTok B (chainToks B nm col.c n)⟩

theorem compDCols_eq (B : Backend) (nm cn : Nat → String) : ∀ (cols : List DCol) (idx n : Nat),
    compDCols B nm cn cols idx n = compPCols B nm cn (cols.map (DCol.toP B nm)) idx n
  | [], _, _ => rfl
  | c :: cs, idx, n => by
    have h : compDCol B nm cn idx c n = compPCol B nm cn idx (c.toP B nm) n := rfl
    simp only [compDCols, List.map_cons, compPCols, h, compDCols_eq B nm cn cs]

theorem compileD_eventRows (B : Backend) (nm cn : Nat → String) (cols : List (String × DCol)) :
    compileD B nm cn (.eventRows cols) = pushPackage B nm cn (cols.map (·.1)) (cols.map fun p => p.2.toP B nm) := by
  have h := banksOf_oneChain B nm cn (cols.map fun p => p.2.toP B nm) (fun p hp => by
    obtain ⟨c, _, rfl⟩ := List.mem_map.1 hp
    exact fun _ => rfl)
  simp only [List.map_map] at h
  simp only [compileD, pushPackage, compDCols_eq, List.map_map, ← h]; rfl

theorem DCol.toP_wf (N : Num D) (B : Backend) (nm cn : Nat → String) (hinj : ∀ i j, nm i = nm j → i = j) (col : DCol) :
    (col.toP B nm).Wf B nm cn :=
  PCol.OneChain.wf B nm cn (fun _ => rfl) (fun v cur ty m => aggKD_next_ge B nm hinj N v col.e cur ty m)

theorem DCol.toP_wfs (N : Num D) (B : Backend) (nm cn : Nat → String) (hinj : ∀ i j, nm i = nm j → i = j)
    (cols : List (String × DCol)) : ∀ p ∈ cols.map (fun p => p.2.toP B nm), p.Wf B nm cn :=
  List.forall_mem_map.2 fun c _ => c.2.toP_wf N B nm cn hinj

/-- **one column** — from a state in which the column's retrieval variable is declared and its vector variable is
empty: afterwards the vector variable holds exactly the list the column denotes. -/
theorem DCol.toP_ok (C : Ctx D) (QC : QCtx D) (hN : QC.N = C.N) (hev : QC.ev = C.ev)
    (B : Backend) (hB : BackendBase B) (nm cn : Nat → String)
    (hinj : ∀ i j, nm i = nm j → i = j) (hres : ∀ j, nm j ≠ "result")
    (hcres : ∀ k, cn k ≠ "result") (hdisj : ∀ j k, nm j ≠ cn k)
    (hcollT : ∀ name, B.collType name = QC.collType name) (col : DCol) (hhyp : DColHyp QC col) :
    (col.toP B nm).Wf B nm cn ∧ PColOK C QC B nm cn (col.toP B nm) := by
  have hw := col.toP_wf C.N B nm cn hinj
  obtain ⟨hwo, hwt, hct, hq⟩ := hhyp
  exact ⟨hw, PColOK.of_oneChain C QC hN hev B hB nm cn hinj hres hcres hdisj hcollT _ hw.1 (fun _ => rfl) hwo hct outerVar (deQ 0 outerVar col.e)
    rfl _ (fun idx => aggKD_pushSpec C QC hN B nm hinj (cn idx) (fun j => hdisj j idx) col.e hwt outerVar [("e", evtVal)]) hq⟩

/-- **C01 (event-level rows of columns nested to any depth)** — for every list of columns, every event and every
class state in which the column vectors are empty: if the query denotes `rows` (necessarily one row) on the
event, the package the translator model emits writes exactly `rows`, and the class state it leaves behind has
the column vectors empty again. -/
theorem deepEventRows_correct_post (B : Backend) (hB : BackendBase B) (nm cn : Nat → String) (hsup : Supply nm cn)
    (QC : QCtx D) (hcollT : ∀ name, B.collType name = QC.collType name)
    (cols : List (String × DCol)) (hhyp : ∀ p ∈ cols, DColHyp QC p.2)
    (σc : Env D) (hσ : NColsPre cn cols.length 0 σc)
    (rows : List (List (Val D)))
    (hden : denoteRows QC (DQ.toQuery (.eventRows cols)) = .ok rows) :
    ∃ σ', runEvent (compileD B nm cn (.eventRows cols)) QC.N σc QC.ev = .ok (rows, σ') ∧
      NColsPre cn cols.length 0 σ' := by
  rw [compileD_eventRows]
  exact pushEventRows_of_toP B nm cn hsup QC (DCol.toP B nm) cols
    (fun p hp => p.2.toP_ok _ QC rfl rfl B hB nm cn hsup.inj hsup.res hsup.cres hsup.disj hcollT (hhyp p hp)) σc hσ rows hden

theorem compDEs_eq (nm : Nat → String) (ptr : Bool) (cur : CExpr) : ∀ (es : List DE) (n : Nat),
    compDEs nm ptr cur es n = fragsRow (compDE nm ptr none cur) es n
  | [], _ => rfl
  | e :: rest, n => by simp only [compDEs, fragsRow, compDEs_eq nm ptr cur rest]

theorem colVarsD_names (cn : Nat → String) : ∀ (es : List DE) (idx : Nat),
    (colVarsD cn es idx).map (·.2) = colNames cn es.length idx
  | [], _ => rfl
  | e :: rest, idx => by simp [colVarsD, colNames, colVarsD_names cn rest (idx + 1)]

def DElemHyp (QC : QCtx D) (c : Chain) (cols : List (String × DE)) : Prop :=
  wtOuter c = true ∧ (∀ p ∈ cols, wtDE none p.2 = true) ∧
  (∀ cty l, QC.ev.find c.bank = some (cty, .vec l) →
    ∀ v ∈ l, MethTyped v (methsSteps c.steps) ∧ ∀ p ∈ cols, DEHyp QC p.2 0 "r" [] v)

/-- **C01 (element-level rows of expressions nested to any depth)** — if the query denotes `rows` on the event, the
package the translator model emits writes exactly `rows`, and the class state it leaves behind again has the
column variables declared (the precondition of the next event). -/
theorem deepElemRows_correct_post (B : Backend) (hB : BackendBase B) (nm cn : Nat → String) (hsup : Supply nm cn)
    (QC : QCtx D) (hcollT : ∀ name, B.collType name = QC.collType name)
    (c : Chain) (cols : List (String × DE)) (hhyp : DElemHyp QC c cols)
    (σc : Env D) (hσ : ∀ k, k < cols.length → (σc (cn k)).isSome = true)
    (rows : List (List (Val D)))
    (hden : denoteRows QC (DQ.toQuery (.elemRows c cols)) = .ok rows) :
    ∃ σ', runEvent (compileD B nm cn (.elemRows c cols)) QC.N σc QC.ev = .ok (rows, σ') ∧
      ∀ k, k < cols.length → (σ' (cn k)).isSome = true := by
  obtain ⟨hwo, hwtc, hmt⟩ := hhyp
  exact fragRows_correct_post B hB hsup QC hcollT (fun cur => compDE nm (B.elemPtr && (none : Option Ty).isNone) none cur)
    (deQ 0 "r") c cols _ _ (fun cur n => by simp only [rowKD, compDEs_eq]) (by rw [colVarsD_names]; simp) hwo
    (fun v => ∀ p ∈ cols, DEHyp QC p.2 0 "r" [] v) hmt (fun cur e n => compDE_shape _ nm hsup.inj e _ none cur n)
    (fun cur v hQ p hp n w hfr hden =>
      (compDE_correct _ QC rfl nm hsup.inj p.2 _ none cur v 0 "r" [] n w hfr nofun (hwtc p hp) (hQ p hp) hden).mono fun _ h => h.1)
    σc hσ rows hden

def DFragHyp (QC : QCtx D) : DQ → Prop
  | .eventRows cols => ∀ p ∈ cols, DColHyp QC p.2
  | .elemRows c cols => DElemHyp QC c cols

def DFragPre (cn : Nat → String) : DQ → Env D → Prop
  | .eventRows cols, σ => NColsPre cn cols.length 0 σ
  | .elemRows _ cols, σ => ∀ k, k < cols.length → (σ (cn k)).isSome = true

theorem tokens_names_deepElemRows (B : Backend) (nm cn : Nat → String) (c : Chain) (cols : List (String × DE)) :
    ∀ t ∈ (compileD B nm cn (.elemRows c cols)).tokens, ∃ j, t.1 = nm j := by
  exact rowPackageF_tokens_names B nm _ _ c 0 _ rfl _

/-- **the initial class state satisfies the precondition** of the single-event theorems -/
theorem dfragPre_classInit (B : Backend) (nm cn : Nat → String) (hinj : ∀ i j, nm i = nm j → i = j)
    (hdisj : ∀ j k, nm j ≠ cn k) (N : Num D) (dq : DQ) :
    DFragPre cn dq (classInit (compileD B nm cn dq).classVars : Env D) := by
  cases dq with
  | eventRows cols =>
    rw [compileD_eventRows]
    simpa [DFragPre] using pushPre_classInit (D := D) B nm cn hdisj (cols.map (·.1)) _ (DCol.toP_wfs N B nm cn hinj cols)
  | elemRows c cols =>
    exact fun k hk => (rowPackageF_books B _ _ _ (by rw [colVarsD_names]; simp)).classInit_decl (by simpa using hk)

theorem dfragJobOK (B : Backend) (hB : BackendBase B) (nm cn : Nat → String) (hsup : Supply nm cn)
    (QC : QCtx D) (hcollT : ∀ name, B.collType name = QC.collType name) (dq : DQ) :
    JobOK (compileD B nm cn dq) QC dq.toQuery (DFragPre cn dq) (fun ev => DFragHyp (QC.withEvent ev) dq) := by
  refine ⟨fun ev hev σ hσ rows hden => ?_, dfragPre_classInit B nm cn hsup.inj hsup.disj QC.N dq⟩
  cases dq with
  | eventRows cols =>
    exact deepEventRows_correct_post B hB nm cn hsup (QC.withEvent ev) hcollT cols hev σ hσ rows hden
  | elemRows c cols =>
    exact deepElemRows_correct_post B hB nm cn hsup (QC.withEvent ev) hcollT c cols hev σ hσ rows hden

end FaxVerif.Gen
