/-
The per-event body of `Gen.compile` is accepted by `da` from the class-level analysis state: hoisted
declarations, loop code (`compCols_acc`, Gen/WfCorrectCols), scalar assignments, the fill, the clears;
element-level rows through `chain_plain`. Then `WellFormed` and `EventLocal` of the whole package
(`compile_wf`, `compile_el`), the class-level part of `WellFormed` from the booking alone (`wf_of_books`), and
`backendBase_mkBackend`: the three backend records of Gen/Render.lean satisfy `BackendBase`.
-/
import FaxVerif.Gen.WfCorrectCols
import FaxVerif.Gen.EventRowsCorrect
import FaxVerif.Gen.Render
namespace FaxVerif.Gen.Wf
open FaxVerif.Cpp FaxVerif.Gen

/-- a declaration the model hoists: uninitialised non-vector, or initialised by a closed clean expression -/
def SD : Stmt → Prop
  | .decl ty _ none => isVecType ty = false
  | .decl _ _ (some e) => clean e = true ∧ vars e = []
  | _ => False

/-- one hoisted declaration is accepted; what `da_decl_shape` does not say about the resulting state -/
theorem sd_da (C : DACtx) {ty x : String} {init : Option CExpr} {s : DA} (hd : SD (.decl ty x init)) (hx : x ∉ s.D) :
    ∃ t, da C (.decl ty x init) s = some t ∧ (∀ e, init = some e → x ∈ t.A) ∧
      (∀ f ∈ t.T, f ∈ s.T ∨ (f = x ∧ ty = "bool" ∧ init = some (.bool true))) ∧
      (ty = "bool" → init = some (.bool true) → x ∈ t.T) := by
  cases init with
  | none => exact ⟨_, da_decl_none hx hd, nofun, fun f hf => Or.inl ((mem_fresh_T _ _ _).1 hf).1, nofun⟩
  | some e =>
    refine ⟨_, da_decl_some_iff.2 ⟨hx, okE_of hd.1 (by simp [hd.2]), rfl⟩, fun _ _ => List.mem_cons_self ..,
      fun f hf => ?_, fun hty he => ?_⟩
    · rcases mem_ite_cons.1 hf with ⟨hb, e'⟩ | hf'
      · exact Or.inr ⟨e', hb.1, by rw [isTrueLit_eq hb.2]⟩
      · exact Or.inl ((mem_fresh_T _ _ _).1 hf').1
    · obtain rfl := Option.some.inj he
      exact mem_ite_cons.2 (Or.inl ⟨⟨hty, rfl⟩, rfl⟩)

/-- exactly their names get declared, the initialised ones initialised, the `First()` flags (and no other new
name) known `true`, no fact added -/
theorem decls_da (C : DACtx) : ∀ (ds : List Stmt) (s : DA), (∀ d ∈ ds, SD d) → (ds.map declName).Nodup →
    (∀ d ∈ ds, declName d ∉ s.D) → AsubD s →
    ∃ t, das C ds s = some t ∧ (∀ y, y ∈ t.D ↔ y ∈ ds.map declName ∨ y ∈ s.D) ∧
      (∀ ty x e, Stmt.decl ty x (some e) ∈ ds → x ∈ t.A) ∧
      (∀ f ∈ t.T, f ∈ s.T ∨ Stmt.decl "bool" f (some (.bool true)) ∈ ds) ∧ (∀ p ∈ t.G, p ∈ s.G) ∧
      (∀ f ∈ s.T, f ∉ ds.map declName → f ∈ t.T) ∧
      (∀ x, Stmt.decl "bool" x (some (.bool true)) ∈ ds → x ∈ t.T)
  | [], s, _, _, _, _ => ⟨s, rfl, by simp, by simp, fun _ h => Or.inl h, fun _ h => h, fun _ h _ => h, by simp⟩
  | .decl ty x init :: ds, s, hsd, hnd, hfr, hs => by
    simp only [List.map_cons, List.nodup_cons, declName] at hnd
    have hx0 : x ∉ s.D := hfr _ (List.mem_cons_self ..)
    obtain ⟨s1, e1, hI1, hT1, hFl1⟩ := sd_da C (hsd _ (List.mem_cons_self ..)) hx0
    obtain ⟨_, hD1, hG1, hF1, _⟩ := da_decl_shape e1
    obtain ⟨t, et, hDt, hIt, hTt, hGt, hFt, hFlt⟩ := decls_da C ds s1
      (fun d' hd' => hsd d' (List.mem_cons_of_mem _ hd')) hnd.2
      (by
        intro d' hd' hm
        rw [hD1] at hm
        rcases List.mem_cons.1 hm with e | hm
        · exact hnd.1 (List.mem_map.2 ⟨d', hd', e⟩)
        · exact hfr d' (List.mem_cons_of_mem _ hd') hm)
      (da_mono C _ s s1 e1 hs).1
    have hAt := (das_mono C ds s1 t et (da_mono C _ s s1 e1 hs).1).2
    refine ⟨t, das_cons e1 et, fun y => ?_, ?_, ?_, ?_, ?_, ?_⟩
    · rw [hDt y, hD1]
      simp only [List.map_cons, List.mem_cons, declName, or_assoc, or_left_comm]
    · intro ty' x' e' hm
      rcases List.mem_cons.1 hm with e | hm
      · obtain ⟨_, rfl, rfl⟩ := Stmt.decl.inj e
        exact hAt _ (hI1 e' rfl)
      · exact hIt ty' x' e' hm
    · intro f hf
      rcases hTt f hf with h | h
      · rcases hT1 f h with h | ⟨rfl, rfl, rfl⟩
        · exact Or.inl h
        · exact Or.inr (List.mem_cons_self ..)
      · exact Or.inr (List.mem_cons_of_mem _ h)
    · exact fun p hp => ((mem_fresh_G _ _ _).1 (hG1 ▸ hGt p hp)).1
    · intro f hf hn
      simp only [List.map_cons, List.mem_cons, declName, not_or] at hn
      exact hFt f (hF1 f ((mem_fresh_T _ _ _).2 ⟨hf, hn.1⟩)) hn.2
    · intro x' hm
      rcases List.mem_cons.1 hm with e | hm
      · obtain ⟨rfl, rfl, rfl⟩ := Stmt.decl.inj e
        exact hFt _ (hFl1 rfl rfl) hnd.1
      · exact hFlt x' hm
  | .block _ :: _, _, hsd, _, _, _ | .loop .. :: _, _, hsd, _, _, _ | .ite .. :: _, _, hsd, _, _, _
  | .set .. :: _, _, hsd, _, _, _ | .push .. :: _, _, hsd, _, _, _ | .clear _ :: _, _, hsd, _, _, _
  | .fill _ :: _, _, hsd, _, _, _ | .throw _ :: _, _, hsd, _, _, _ | .retrieve .. :: _, _, hsd, _, _, _
  | .line _ :: _, _, hsd, _, _, _ => (hsd _ (List.mem_cons_self ..)).elim

/-- a number model, only to instantiate the shape lemmas about the model's declarations -/
def unitNum : Num Unit :=
  { ofInt := fun _ => (), ofDec := fun _ _ => (), add := fun _ _ => (), sub := fun _ _ => (), mul := fun _ _ => (),
    div := fun _ _ => (), neg := fun _ => (), lt := fun _ _ => false, le := fun _ _ => false, eq := fun _ _ => false,
    toInt := fun _ => 0, fn := fun _ _ => none }

def unitCtx : Ctx Unit := { N := unitNum, ev := { banks := [] }, cols := [], tokens := [] }

theorem sd_of_simple {D : Type} (N : Num D) (d : Stmt) (h : SimpleDecl N d) : SD d := by
  cases d with
  | decl ty x init =>
    cases init with
    | none => exact h
    | some e =>
      obtain ⟨v, _, hl, _⟩ := h
      cases e <;> simp [litOf] at hl <;> simp [SD, clean, vars]
  | _ => simp [SimpleDecl] at h

theorem compCols_sd (B : Backend) (hB : BackendBase B) (nm cn : Nat → String) (hinj : ∀ i j, nm i = nm j → i = j)
    (cols : List Col) (idx n : Nat) :
    (∀ d ∈ (compCols B nm cn cols idx n).flatMap (·.decls), SD d) ∧
    (((compCols B nm cn cols idx n).flatMap (·.decls)).map declName).Nodup := by
  obtain ⟨h1, h2⟩ := compCols_declsOK_base unitCtx B hB nm cn hinj cols idx n
  exact ⟨fun d hd => sd_of_simple _ d (h1 d hd), h2⟩

theorem compEE_val_ok (B : Backend) (nm : Nat → String) : ∀ (e : EE) (n : Nat) (s : DA),
    (∀ ty x e0, Stmt.decl ty x (some e0) ∈ (compEE B nm e n).decls → x ∈ s.A) → okE s (compEE B nm e n).val = true
  | .int _, n, s, _ | .dbl _ _, n, s, _ | .bool _, n, s, _ => by simp [compEE, okE, clean, vars, subset]
  | .count c, n, s, h => okE_var (h "int" (nm n) (.int 0) (by simp [compEE]))
  | .sum c, n, s, h =>
    okE_var (h (Ty.join .int ((chainTy none c.steps).getD .double)).cpp (nm n) (.int 0) (by simp [compEE]))
  | .bin op a b, n, s, h => by
    have ha := compEE_val_ok B nm a n s (fun ty x e0 hm => h ty x e0 (by simp [compEE, hm]))
    have hb := compEE_val_ok B nm b (compEE B nm a n).next s (fun ty x e0 hm => h ty x e0 (by simp [compEE, hm]))
    simp only [compEE]
    split
    · exact okE_bin (okE_cast ha) hb
    · exact okE_bin ha hb
  | .cmp op a b, n, s, h => by
    have ha := compEE_val_ok B nm a n s (fun ty x e0 hm => h ty x e0 (by simp [compEE, hm]))
    have hb := compEE_val_ok B nm b (compEE B nm a n).next s (fun ty x e0 hm => h ty x e0 (by simp [compEE, hm]))
    simp only [compEE]
    exact okE_bin ha hb
  | .neg a, n, s, h | .not a, n, s, h => by
    simp only [compEE]; exact okE_un (compEE_val_ok B nm a n s (by simpa [compEE] using h))

/-- the scalar assignments; afterwards every column variable is initialised -/
theorem sets_da (C : DACtx) (B : Backend) (nm cn : Nat → String) : ∀ (cols : List Col) (idx n : Nat) (s : DA),
    (∀ ty x e0, Stmt.decl ty x (some e0) ∈ (compCols B nm cn cols idx n).flatMap (·.decls) → x ∈ s.A) →
    (∀ j, idx ≤ j → j < idx + cols.length → cn j ∈ s.D) → colsPost cn cols idx s →
    ∃ t, das C ((compCols B nm cn cols idx n).flatMap (·.sets)) s = some t ∧ (∀ y ∈ s.A, y ∈ t.A) ∧
      ∀ j, idx ≤ j → j < idx + cols.length → cn j ∈ t.A
  | [], idx, n, s, _, _, _ => ⟨s, by simp [compCols, das], fun _ h => h, fun j j1 j2 => by simp at j2; omega⟩
  | c :: cs, idx, n, s, hinit, hv, hpost => by
    have ih := sets_da C B nm cn cs (idx + 1) (compCol B nm cn idx c n).next
    have hinit' : ∀ ty x e0, Stmt.decl ty x (some e0) ∈
        (compCols B nm cn cs (idx + 1) (compCol B nm cn idx c n).next).flatMap (·.decls) → x ∈ s.A :=
      fun ty x e0 hm => hinit ty x e0 (by simp [compCols, hm])
    have hv' : ∀ j, idx + 1 ≤ j → j < idx + 1 + cs.length → cn j ∈ s.D :=
      fun j j1 j2 => hv j (by omega) (by simp only [List.length_cons]; omega)
    have hlast : ∀ {t : DA}, cn idx ∈ t.A → (∀ j, idx + 1 ≤ j → j < idx + 1 + cs.length → cn j ∈ t.A) →
        ∀ j, idx ≤ j → j < idx + (c :: cs).length → cn j ∈ t.A := fun h0 hr j j1 j2 => by
      by_cases hj : j = idx
      · exact hj ▸ h0
      · exact hr j (by omega) (by simp only [List.length_cons] at j2; omega)
    cases c with
    | scalar e =>
      have hsets : (compCol B nm cn idx (.scalar e) n).sets = [.set (cn idx) (compEE B nm e n).val] := rfl
      have hdecls : (compCol B nm cn idx (.scalar e) n).decls = (compEE B nm e n).decls := rfl
      have hvD : cn idx ∈ s.D := hv idx (Nat.le_refl _) (by simp)
      have e1 : da C (.set (cn idx) (compEE B nm e n).val) s = some (s.assign (cn idx)) :=
        da_set hvD (compEE_val_ok B nm e n s (fun ty x e0 hm => hinit ty x e0 (by simp [compCols, hdecls, hm])))
      obtain ⟨t, et, hAt, hCt⟩ := ih (s.assign (cn idx))
        (fun ty x e0 hm => List.mem_cons_of_mem _ (hinit' ty x e0 hm)) hv'
        ((colsPost_mono fun y hy => List.mem_cons_of_mem _ hy) cs (idx + 1) hpost.2)
      refine ⟨t, ?_, fun y hy => hAt y (List.mem_cons_of_mem _ hy), hlast (hAt _ (List.mem_cons_self ..)) hCt⟩
      simp only [compCols, List.flatMap_cons, hsets]
      exact das_cons e1 et
    | seq ch | first ch =>
      obtain ⟨t, et, hAt, hCt⟩ := ih s hinit' hv' hpost.2
      exact ⟨t, et, hAt, hlast (hAt _ hpost.1) hCt⟩

theorem clears_da (C : DACtx) : ∀ (l : List Stmt) (s : DA), (∀ st ∈ l, ∃ v, st = .clear v ∧ v ∈ s.A) →
    ∃ t, das C l s = some t
  | [], s, _ => ⟨s, rfl⟩
  | st :: l, s, h => by
    obtain ⟨v, rfl, hv⟩ := h st (by simp)
    obtain ⟨t, et⟩ := clears_da C l (s.assign v) (fun st' hst' => by
      obtain ⟨v', e, hv'⟩ := h st' (List.mem_cons_of_mem _ hst')
      exact ⟨v', e, List.mem_cons_of_mem _ hv'⟩)
    exact ⟨t, das_cons (da_clear_iff.2 ⟨hv, rfl⟩) et⟩

theorem mem_clears {B : Backend} {nm cn : Nat → String} {cols : List Col} {idx n : Nat} {st : Stmt} :
    st ∈ (compCols B nm cn cols idx n).flatMap (·.clears) ↔
      ∃ f ∈ compCols B nm cn cols idx n, isVecType f.classVar.1 = true ∧ st = .clear f.classVar.2 := by
  simp only [List.mem_flatMap]
  refine exists_congr fun f => and_congr_right fun hf => ?_
  obtain ⟨j, m, c, _, _, _, rfl⟩ := (compCols_graph B nm cn cols idx n).mem hf
  cases c <;> simp [compCol, isVec_cpp, isVecType_vector]

theorem handleTy_ok (pre suf : String) (c : Char) (cs : List Char) (hpre : pre.toList = c :: cs)
    (hc : c ≠ 's' ∧ c ≠ 'd' ∧ c ≠ 'f' ∧ c ≠ 'i' ∧ c ≠ 'b') (t : String) :
    isVecType (pre ++ t ++ suf) = false ∧
      (pre ++ t ++ suf ≠ "double" ∧ pre ++ t ++ suf ≠ "float" ∧ pre ++ t ++ suf ≠ "int" ∧ pre ++ t ++ suf ≠ "bool") := by
  have h : (pre ++ t ++ suf).toList = c :: (cs ++ t.toList ++ suf.toList) := by
    simp [String.toList_append, hpre]
  have hne : ∀ (c' : Char) (r : String), c ≠ c' → r.toList.head? = some c' → pre ++ t ++ suf ≠ r :=
    fun c' r hcc hr e => hcc (by rw [← e, h] at hr; simpa using hr)
  refine ⟨?_, hne 'd' _ hc.2.1 rfl, hne 'f' _ hc.2.2.1 rfl, hne 'i' _ hc.2.2.2.1 rfl, hne 'b' _ hc.2.2.2.2 rfl⟩
  simp only [isVecType, h]
  simp [List.isPrefixOf, hc.1.symm]

theorem isVec_token (x : String) : isVecType ("edm::EDGetTokenT<" ++ x ++ ">") = false :=
  (handleTy_ok "edm::EDGetTokenT<" ">" 'e' _ rfl (by decide) x).1

theorem colsPre_init (B : Backend) (nm cn : Nat → String) : ∀ (cols : List Col) (idx n : Nat) (s : DA),
    (∀ f ∈ compCols B nm cn cols idx n, isVecType f.classVar.1 = true → f.classVar.2 ∈ s.A) →
    (∀ x, Stmt.decl "bool" x (some (.bool true)) ∈ (compCols B nm cn cols idx n).flatMap (·.decls) → x ∈ s.T ∧ x ∈ s.D) →
    (∀ j, idx ≤ j → j < idx + cols.length → cn j ∈ s.D) → colsPre B nm cn cols idx n s
  | [], _, _, _, _, _, _ => trivial
  | c :: cs, idx, n, s, hvec, h, hv => by
    refine ⟨?_, colsPre_init B nm cn cs (idx + 1) (compCol B nm cn idx c n).next s (fun f hf => hvec f (by simp [compCols, hf]))
      (fun x hx => h x (by simp [compCols, hx])) (fun j j1 j2 => hv j (by omega) (by simp only [List.length_cons]; omega))⟩
    cases c with
    | scalar e => trivial
    | seq ch => exact hvec (compCol B nm cn idx (.seq ch) n) (by simp [compCols]) (isVecType_vector _)
    | first ch =>
      obtain ⟨hT, hD⟩ := h (nm n) (by simp [compCols, compCol])
      exact ⟨hD, hv idx (Nat.le_refl _) (by simp), Or.inl hT⟩

/-- the token table collected from a piece of code: its tokens on the token backend, empty otherwise -/
theorem toks_cases {B : Backend} {nm : Nat → String} {ss : List Stmt} {banks : List String} {toks : List (String × String × String)}
    {lo hi : Nat} {T : ∀ {D : Type}, Ctx D → Prop} (h : Toks B nm ss banks toks lo hi T) :
    (B.how = "token" ∧ banksOf B ss banks = toks) ∨ (B.how ≠ "token" ∧ banksOf B ss banks = []) := by
  rw [h.table, onTok]
  split
  next ht => exact Or.inl ⟨ht, rfl⟩
  next ht => exact Or.inr ⟨ht, rfl⟩

theorem eventRows_body_da (B : Backend) (hB : BackendBase B) (nm cn : Nat → String)
    (hinj : ∀ i j, nm i = nm j → i = j) (hdisj : ∀ j k, nm j ≠ cn k)
    (hnres : ∀ j, nm j ≠ "result") (hcres : ∀ k, cn k ≠ "result")
    (P : Package) (cl : List Col) (x : String) {names types : List String} (hb : Books P cn names types)
    (hl : names.length = cl.length)
    (htoks : P.tokens = banksOf B ((compCols B nm cn cl 0 0).flatMap (·.stmts)) (colBanks cl))
    (hvars : ∀ f ∈ compCols B nm cn cl 0 0, f.classVar ∈ P.classVars) :
    ∃ t, das P.daCtx ((compCols B nm cn cl 0 0).flatMap (·.decls) ++ (compCols B nm cn cl 0 0).flatMap (·.stmts) ++
      (compCols B nm cn cl 0 0).flatMap (·.sets) ++ [.fill x] ++ (compCols B nm cn cl 0 0).flatMap (·.clears))
      (classDA P.classVars) = some t := by
  have hnames := hl ▸ hb.classNames
  have hbr := hl ▸ hb.vars_eq
  obtain ⟨hsd, hnd⟩ := compCols_sd B hB nm cn hinj cl 0 0
  have hrange := declsIn_names (compCols_declsIn B nm cn cl 0 0)
  have htk : (B.how = "token" → ∀ t ∈ colsToks B nm cn cl 0 0, t.1 ∈ P.tokens.map (·.1)) ∧
      ∀ y ∈ P.tokens.map (·.1), y ∈ (colsToks B nm cn cl 0 0).map (·.1) := by
    rw [htoks]
    rcases toks_cases (compCols_toks B nm cn cl 0 0) with ⟨_, h⟩ | ⟨hn, h⟩ <;> rw [h]
    · exact ⟨fun _ tk hm => List.mem_map.2 ⟨tk, hm, rfl⟩, fun _ h => h⟩
    · exact ⟨fun ht => absurd ht hn, nofun⟩
  have hD0 : ∀ y ∈ P.classVars.map (·.2), y ∈ (colsToks B nm cn cl 0 0).map (·.1) ∨ ∃ j, y = cn j := by
    intro y hy
    rw [hnames, List.mem_append] at hy
    rcases hy with h | h
    · exact Or.inl (htk.2 y h)
    · obtain ⟨j, _, _, e⟩ := colNames_mem cn _ _ _ h; exact Or.inr ⟨j, e⟩
  have hcols : ∀ j, j < cl.length → cn j ∈ P.classVars.map (·.2) := fun j hj =>
    hnames ▸ List.mem_append.2 (Or.inr (mem_colNames cn _ 0 j (Nat.zero_le _) (by omega)))
  have hvec : ∀ f ∈ compCols B nm cn cl 0 0, isVecType f.classVar.1 = true → f.classVar.2 ∈ (classDA P.classVars).A :=
    fun f hf hv => List.mem_map.2 ⟨f.classVar, List.mem_filter.2 ⟨hvars f hf, hv⟩, rfl⟩
  obtain ⟨s1, e1, hD1, hI1, hT1, hG1, _, hFl1⟩ := decls_da P.daCtx _ (classDA P.classVars) hsd hnd (by
    intro d hd hm
    have hdn : declName d ∈ ((compCols B nm cn cl 0 0).flatMap (·.decls)).map declName := List.mem_map.2 ⟨d, hd, rfl⟩
    rcases hD0 _ hm with h | ⟨j, h⟩
    · exact (compCols_acc P.daCtx B hB nm cn hinj hnres hdisj [] [] cl 0 0).disj _ hdn h
    · obtain ⟨k, _, _, e⟩ := hrange _ hdn
      exact hdisj k j (e ▸ h)) (classDA_AsubD _)
  obtain ⟨hs1, hA1⟩ := das_mono P.daCtx _ _ s1 e1 (classDA_AsubD _)
  have hres : "result" ∉ s1.D := by
    intro hm
    rcases (hD1 _).1 hm with h | h
    · obtain ⟨k, _, _, e⟩ := hrange _ h; exact hnres k e.symm
    · rcases hD0 _ h with h | ⟨j, h⟩
      · obtain ⟨k, _, _, e⟩ := (compCols_toks B nm cn cl 0 0).names _ h; exact hnres k e.symm
      · exact hcres j h.symm
  have hg : Glob nm ((compCols B nm cn cl 0 0).flatMap (·.decls)) s1.D :=
    ⟨hnd, fun d hd => (hD1 _).2 (Or.inl (List.mem_map.2 ⟨d, hd, rfl⟩)),
      fun d hd => by obtain ⟨k, _, _, e⟩ := hrange _ (List.mem_map.2 ⟨d, hd, rfl⟩); exact ⟨k, e⟩, hres⟩
  have hinv : SInv ((compCols B nm cn cl 0 0).flatMap (·.decls)) s1.D s1 :=
    .of_pend rfl hs1 hI1 fun p hp => hp.elim (fun hf => (hT1 _ hf).resolve_left nofun) (fun hy => nomatch hG1 _ hy)
  have hv1 : ∀ j, 0 ≤ j → j < 0 + cl.length → cn j ∈ s1.D :=
    fun j _ j2 => (hD1 _).2 (Or.inr (hcols j (by omega)))
  obtain ⟨s2, e2, hx2, hF2⟩ := (compCols_acc P.daCtx B hB nm cn hinj hnres hdisj _ s1.D cl 0 0).run s1 hg hinv (fun _ h => h)
    (by
      intro k _ _ hm
      rcases (hD1 _).1 hm with h | h
      · exact List.mem_append.2 (Or.inl h)
      · rcases hD0 _ h with h | ⟨j, h⟩
        · exact List.mem_append.2 (Or.inr h)
        · exact absurd h (hdisj k j))
    (fun ht y hy => let ⟨t, h, e⟩ := List.mem_map.1 hy; e ▸ htk.1 ht t h)
    (colsPre_init B nm cn cl 0 0 s1 (fun f hf hv => hA1 _ (hvec f hf hv))
      (fun x' hx' => ⟨hFl1 x' hx', (hD1 _).2 (Or.inl (List.mem_map.2 ⟨_, hx', rfl⟩))⟩) hv1)
  obtain ⟨s3, e3, hA3, hS3⟩ := sets_da P.daCtx B nm cn cl 0 0 s2 (hinv.mono hx2).init
    (fun j j1 j2 => by rw [hx2.hD]; exact hv1 j j1 j2) hF2
  have hA03 : ∀ y ∈ (classDA P.classVars).A, y ∈ s3.A := fun y hy => hA3 y (hx2.hA y (hA1 y hy))
  have e4 : da P.daCtx (.fill x) s3 = some s3 :=
    da_fill fun y hy => by
      have hy' : y ∈ P.branches.map (·.2) := hy
      obtain ⟨j, j1, j2, rfl⟩ := colNames_mem cn _ _ _ (hbr ▸ hy')
      exact hS3 j j1 j2
  obtain ⟨s5, e5⟩ := clears_da P.daCtx _ s3 fun st hst => by
    obtain ⟨f, hf, hv, rfl⟩ := mem_clears.1 hst
    exact ⟨_, rfl, hA03 _ (hvec f hf hv)⟩
  exact ⟨s5, das_append_some _ (das_append_some _ (das_append_some _ (das_append_some _ e1 e2) e3)
    (by rw [das_single]; exact e4)) e5⟩

/-- the class-level part of `WellFormed`, from the booking; the body's part is `hda` -/
theorem wf_of_books {P : Package} {cn : Nat → String} {names types : List String} (hb : Books P cn names types)
    (nm : Nat → String) (hcinj : ∀ i j, cn i = cn j → i = j) (hdisj : ∀ j k, nm j ≠ cn k)
    (htn : (P.tokens.map (·.1)).Nodup) (htk : ∀ t ∈ P.tokens, ∃ j, t.1 = nm j)
    (hda : ∃ t, da P.daCtx P.body (classDA P.classVars) = some t) : WellFormed P = true := by
  refine (wellFormed_iff P).2 ⟨hda, ?_, fun b hb' => ?_⟩
  · rw [classNames, hb.classNames, List.nodup_append]
    exact ⟨htn, colNames_nodup cn hcinj _ _, fun a ha b hb' hab => token_ne_col hdisj htk hb' (hab ▸ ha)⟩
  · rw [classNames, hb.classNames]
    exact List.mem_append.2 (Or.inr (hb.vars_eq ▸ List.mem_map.2 ⟨b, hb', rfl⟩))

theorem setCols_da (C : DACtx) (cn : Nat → String) (ptr : Bool) (cur : CExpr) (ty : Option Ty) (hc : clean cur = true) :
    ∀ (pes : List PE) (idx : Nat) (sp : DA), (∀ x ∈ vars cur, x ∈ sp.A) →
      (∀ j, idx ≤ j → j < idx + pes.length → cn j ∈ sp.D) →
      ∃ t, das C (setCols cn ptr cur ty pes idx) sp = some t ∧ t.D = sp.D ∧ (∀ y ∈ sp.A, y ∈ t.A) ∧
        (∀ j, idx ≤ j → j < idx + pes.length → cn j ∈ t.A)
  | [], idx, sp, _, _ => ⟨sp, by simp [setCols, das], rfl, fun _ h => h, fun j j1 j2 => by simp at j2; omega⟩
  | pe :: rest, idx, sp, hv, hD => by
    have e1 : da C (.set (cn idx) (compPE (ptr && ty.isNone) cur (ty.getD .double) pe)) sp = some (sp.assign (cn idx)) :=
      da_set (hD idx (Nat.le_refl _) (by simp))
        (okE_of (clean_compPE _ _ _ hc pe) (fun x hx => hv x (vars_compPE _ _ _ pe x hx)))
    obtain ⟨t, et, hDt, hAt, hCt⟩ := setCols_da C cn ptr cur ty hc rest (idx + 1) (sp.assign (cn idx))
      (fun x hx => List.mem_cons_of_mem _ (hv x hx))
      (fun j j1 j2 => hD j (by omega) (by simp only [List.length_cons]; omega))
    refine ⟨t, by simp only [setCols]; exact das_cons e1 et, hDt, fun y hy => hAt y (List.mem_cons_of_mem _ hy), ?_⟩
    intro j j1 j2
    by_cases hj : j = idx
    · subst hj; exact hAt _ (List.mem_cons_self ..)
    · exact hCt j (by omega) (by simp only [List.length_cons] at j2; omega)

section
variable (B : Backend) (hB : BackendBase B) (nm cn : Nat → String)
  (hinj : ∀ i j, nm i = nm j → i = j) (hcinj : ∀ i j, cn i = cn j → i = j) (hdisj : ∀ j k, nm j ≠ cn k)
  (hnres : ∀ j, nm j ≠ "result") (hcres : ∀ k, cn k ≠ "result")

include hB hinj hdisj hnres hcres in
theorem elemRows_body_da (P : Package) (c : Chain) (pes : List PE) (x : String) {names types : List String}
    (hb : Books P cn names types) (hl : names.length = pes.length)
    (htoks : (B.how = "token" ∧ P.tokens = chainToks B nm c 0) ∨ (B.how ≠ "token" ∧ P.tokens = [])) :
    ∃ t, das P.daCtx (.decl (B.handleTy ((B.collType c.coll).getD "?")) (nm 0) none ::
        (compChain B nm c 0 (fun cur ty => setCols cn B.elemPtr cur ty pes 0 ++ [.fill x])).stmts)
      (classDA P.classVars) = some t := by
  have hnames := hl ▸ hb.classNames
  have hbr := hl ▸ hb.vars_eq
  have hD0 : ∀ y ∈ P.classVars.map (·.2), y = nm 2 ∨ ∃ j, y = cn j := by
    intro y hy
    rw [hnames, List.mem_append] at hy
    rcases hy with h | h
    · rcases htoks with ⟨_, e⟩ | ⟨_, e⟩ <;> rw [e] at h
      · exact Or.inl (by simpa [chainToks] using h)
      · simp at h
    · obtain ⟨j, _, _, e⟩ := colNames_mem cn _ _ _ h; exact Or.inr ⟨j, e⟩
  have hcn : ∀ j, j < pes.length → cn j ∈ P.classVars.map (·.2) := fun j hj =>
    hnames ▸ List.mem_append.2 (Or.inr (mem_colNames cn _ 0 j (Nat.zero_le _) (by omega)))
  have hfr : ∀ k, k ≠ 2 → nm k ∉ P.classVars.map (·.2) := by
    intro k hk hm
    rcases hD0 _ hm with h | ⟨j, h⟩
    · exact hk (hinj _ _ h)
    · exact hdisj k j h
  have hres0 : "result" ∉ P.classVars.map (·.2) := by
    intro hm
    rcases hD0 _ hm with h | ⟨j, h⟩
    · exact hnres 2 h.symm
    · exact hcres j h.symm
  obtain ⟨s1, e1, hs1, hD1, hT1, hG1⟩ : ∃ s1 : DA, da P.daCtx
      (.decl (B.handleTy ((B.collType c.coll).getD "?")) (nm 0) none) (classDA P.classVars) = some s1 ∧
      AsubD s1 ∧ s1.D = nm 0 :: P.classVars.map (·.2) ∧ s1.T = [] ∧ s1.G = [] :=
    ⟨_, da_decl_none (hfr 0 (by omega)) (hB.handleNotVec ((B.collType c.coll).getD "?")),
      fun y hy => List.mem_cons_of_mem _ (classDA_AsubD _ y hy), rfl, rfl, rfl⟩
  obtain ⟨t, et, _⟩ := chain_plain P.daCtx B hB nm hinj c 0
    (fun cur ty => setCols cn B.elemPtr cur ty pes 0 ++ [.fill x]) s1 hs1
    (by rw [hD1]; exact List.mem_cons_self ..)
    (by
      rw [hD1]
      intro hm
      rcases List.mem_cons.1 hm with h | h
      · exact hnres 0 h.symm
      · exact hres0 h)
    (by
      intro k k1 _ k3 hm
      rw [hD1] at hm
      rcases List.mem_cons.1 hm with h | h
      · have := hinj _ _ h; omega
      · exact hfr k (by omega) h)
    (by
      intro ht
      show nm (0 + 2) ∈ P.tokens.map (·.1)
      rcases htoks with ⟨_, e⟩ | ⟨hn, _⟩
      · rw [e]; simp [chainToks]
      · exact absurd ht hn)
    (by
      intro sp hDp _ hip
      obtain ⟨t1, et1, _, _, hC1⟩ := setCols_da P.daCtx cn B.elemPtr
        (chainVal B nm c 0).1 (chainVal B nm c 0).2
        (stepConds_clean B.elemPtr c.steps _ none rfl).2 pes 0 sp
        (fun y hy => List.mem_singleton.1 ((stepConds_vars B.elemPtr c.steps (.var (nm (0 + 1))) none).2 y hy) ▸ hip)
        (fun j _ j2 => hDp _ (by rw [hD1]; exact List.mem_cons_of_mem _ (hcn j (by omega))))
      have e4 : da P.daCtx (.fill x) t1 = some t1 :=
        da_fill fun y hy => by
          have hy' : y ∈ P.branches.map (·.2) := hy
          obtain ⟨j, j1, j2, e⟩ := colNames_mem cn _ _ _ (hbr ▸ hy')
          rw [e]; exact hC1 j j1 j2
      exact ⟨t1, das_append_some _ et1 (by rw [das_single]; exact e4)⟩)
    (by cases pes <;> rfl)
    (fun p hp => (hp.elim (hT1 ▸ List.not_mem_nil) (hG1 ▸ List.not_mem_nil)).elim)
  exact ⟨t, das_cons e1 et⟩

include hB hinj hcinj hdisj hnres hcres in
/-- the statement `C02.compile_wellFormed` wraps; the work is `eventRows_body_da` / `elemRows_body_da`, the rest is `wf_of_books` -/
theorem compile_wf (fq : FQ) : WellFormed (compile B nm cn fq) = true := by
  cases fq with
  | eventRows cols =>
    have hb := compile_eventRows_books B nm cn cols
    obtain ⟨t, et⟩ := eventRows_body_da B hB nm cn hinj hdisj hnres hcres (compile B nm cn (.eventRows cols))
      (cols.map (·.2)) (B.fillTree B.treeName) hb (by simp) rfl
      (fun f hf => List.mem_append.2 (Or.inr (List.mem_map.2 ⟨f, hf, rfl⟩)))
    refine wf_of_books hb nm hcinj hdisj ?_ (tokens_names_eventRows B nm cn cols) ⟨_, da_block et⟩
    show ((banksOf B ((compCols B nm cn (cols.map (·.2)) 0 0).flatMap (·.stmts)) (colBanks (cols.map (·.2)))).map (·.1)).Nodup
    rcases toks_cases (compCols_toks B nm cn (cols.map (·.2)) 0 0) with ⟨_, h⟩ | ⟨_, h⟩ <;> rw [h]
    · exact (compCols_toks B nm cn _ 0 0).nodup hinj
    · simp
  | elemRows c cols =>
    have hb := compile_elemRows_books B nm cn c cols
    obtain ⟨t, et⟩ := elemRows_body_da B hB nm cn hinj hdisj hnres hcres (compile B nm cn (.elemRows c cols)) c
      (cols.map (·.2)) (B.fillTree B.treeName) hb (by simp) (toks_cases (Toks.chain B nm c 0 _))
    refine wf_of_books hb nm hcinj hdisj ?_ (tokens_names_elemRows B nm cn c cols) ⟨_, da_block et⟩
    rcases toks_cases (Toks.chain B nm c 0 _) with ⟨_, h⟩ | ⟨_, h⟩ <;>
      (show (List.map _ (banksOf B _ [c.bank])).Nodup; rw [h]; simp [chainToks])

end

/-- what `da` accepts, `emp` does not reject; so `EventLocal` only needs the vector columns known empty at the end -/
theorem eventLocal_of (P : Package) (hwf : WellFormed P = true)
    (hE : ∀ E, emp P.body (vecCols P) = some E → subset (vecCols P) E = true) : EventLocal P = true := by
  obtain ⟨⟨t, ht⟩, _⟩ := (wellFormed_iff P).1 hwf
  obtain ⟨E, hEe⟩ := emp_total P.body (da_noLine _ _ _ _ ht) (vecCols P)
  exact (eventLocal_iff P).2 ⟨hwf, E, hEe, (subset_iff _ _).1 (hE E hEe)⟩

theorem emps_clears : ∀ (l : List Stmt) (E : List String), (∀ st ∈ l, ∃ v, st = .clear v) →
    ∃ E', emps l E = some E' ∧ (∀ y ∈ E, y ∈ E') ∧ ∀ v, Stmt.clear v ∈ l → v ∈ E'
  | [], E, _ => ⟨E, rfl, fun _ h => h, by simp⟩
  | st :: l, E, h => by
    obtain ⟨v, rfl⟩ := h st (by simp)
    obtain ⟨E', e, hm, hc⟩ := emps_clears l (v :: E) (fun st' hst' => h st' (List.mem_cons_of_mem _ hst'))
    refine ⟨E', by simp only [emps, emp]; exact e, fun y hy => hm y (List.mem_cons_of_mem _ hy), ?_⟩
    intro v' hv'
    rcases List.mem_cons.1 hv' with e' | hv'
    · simp only [Stmt.clear.injEq] at e'; subst e'; exact hm _ (List.mem_cons_self ..)
    · exact hc v' hv'

theorem colVars_notVec (cn : Nat → String) (t : Option Ty) : ∀ (pes : List PE) (idx : Nat),
    ∀ p ∈ colVars cn t pes idx, isVecType p.1 = false
  | [], _, p, h => by simp [colVars] at h
  | pe :: rest, idx, p, h => by
    simp only [colVars, List.mem_cons] at h
    rcases h with h | h
    · subst h; exact isVec_cpp _
    · exact colVars_notVec cn t rest (idx + 1) p h

section
variable (B : Backend) (hB : BackendBase B) (nm cn : Nat → String)
  (hinj : ∀ i j, nm i = nm j → i = j) (hcinj : ∀ i j, cn i = cn j → i = j) (hdisj : ∀ j k, nm j ≠ cn k)
  (hnres : ∀ j, nm j ≠ "result") (hcres : ∀ k, cn k ≠ "result")
include hB hinj hcinj hdisj hnres hcres

/-- the statement `C05.compile_eventLocal` wraps: by `eventLocal_of`, what is left is that every vector column has its
`clear` after the fill (event-level rows) or that there is none (element-level rows) -/
theorem compile_el (fq : FQ) : EventLocal (compile B nm cn fq) = true := by
  refine eventLocal_of _ (compile_wf B hB nm cn hinj hcinj hdisj hnres hcres fq) ?_
  cases fq with
  | eventRows cols =>
    intro E hE
    have hbody : (compile B nm cn (.eventRows cols)).body = .block
        (((compCols B nm cn (cols.map (·.2)) 0 0).flatMap (·.decls) ++ (compCols B nm cn (cols.map (·.2)) 0 0).flatMap (·.stmts) ++
          (compCols B nm cn (cols.map (·.2)) 0 0).flatMap (·.sets) ++ [.fill (B.fillTree B.treeName)]) ++
          (compCols B nm cn (cols.map (·.2)) 0 0).flatMap (·.clears)) := rfl
    rw [hbody] at hE
    simp only [emp] at hE
    rw [emps_append] at hE
    split at hE
    · rename_i E1 _
      obtain ⟨E', e, _, hc⟩ := emps_clears _ E1 fun st hst => by
        obtain ⟨f, _, _, rfl⟩ := mem_clears.1 hst
        exact ⟨_, rfl⟩
      rw [e] at hE
      simp only [Option.some.injEq] at hE; subst hE
      rw [subset_iff]
      intro y hy
      simp only [vecCols, List.mem_map, List.mem_filter] at hy
      obtain ⟨p, ⟨hp, hv⟩, rfl⟩ := hy
      simp only [compile, List.mem_append, List.mem_map] at hp
      rcases hp with ⟨t, _, rfl⟩ | ⟨f, hf, rfl⟩
      · simp [isVec_token] at hv
      · exact hc _ (mem_clears.2 ⟨f, hf, hv, rfl⟩)
    · simp at hE
  | elemRows c cols =>
    intro E _
    have : vecCols (compile B nm cn (.elemRows c cols)) = [] := by
      simp only [vecCols, List.map_eq_nil_iff, List.filter_eq_nil_iff]
      intro p hp
      simp only [compile, List.mem_append, List.mem_map] at hp
      rcases hp with ⟨t, _, rfl⟩ | hp
      · simp [isVec_token]
      · simp [colVars_notVec cn _ _ 0 p hp]
    rw [this]; rfl

end

/-- all three records `mkBackend` builds (ATLAS, CMS AOD, CMS miniAOD; any collection table) are `BackendBase` -/
theorem backendBase_mkBackend (name : String) (colls : List (String × String × String)) :
    BackendBase (mkBackend name colls) := by
  unfold mkBackend
  split
  · have h := handleTy_ok "const " "*" 'c' _ rfl (by decide)
    exact ⟨fun t => (h t).1, fun t => (h t).2, Or.inr rfl⟩
  · split
    · have h := handleTy_ok "edm::Handle<" ">" 'e' _ rfl (by decide)
      exact ⟨fun t => (h t).1, fun t => (h t).2, Or.inl rfl⟩
    · have h := handleTy_ok "Handle<" ">" 'H' _ rfl (by decide)
      exact ⟨fun t => (h t).1, fun t => (h t).2, Or.inl rfl⟩

end FaxVerif.Gen.Wf
