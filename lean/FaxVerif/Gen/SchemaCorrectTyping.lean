/-
Gen — the column types the translator model declares are the types the INDEPENDENT typing model
`Linq.typeOf` / `finalColumns` assigns to the embedded user-level query (lemmas; the property theorems are in
`C03/TheoremsGen.lean`). One-loop fragment (`Gen/Lite.lean`).

The data-model table `Sig` must declare the accessors the query uses as the query's own annotations say
(`sigMeths`, `sigChain`).
-/
import FaxVerif.C03.Theorems
import FaxVerif.Linq.FinalShape
namespace FaxVerif.Gen
open FaxVerif.Cpp FaxVerif.Linq FaxVerif.C03

def Ty.cty : Ty → CTy
  | .int => .int | .float => .float | .double => .double | .bool => .bool

theorem Ty.cppName_cty (t : Ty) : cppName t.cty = t.cpp := by cases t <;> rfl

theorem Ty.cty_isScalar (t : Ty) : t.cty.isScalar = true := by cases t <;> rfl

theorem Ty.cty_isNum {t : Ty} (h : t.isNum = true) : t.cty.isNum = true := by cases t <;> first | rfl | cases h

theorem Ty.join_cty {a b : Ty} (ha : a.isNum = true) (hb : b.isNum = true) :
    Linq.join a.cty b.cty = some (a.join b).cty := by
  cases a <;> cases b <;> first | rfl | exact absurd ha (by decide) | exact absurd hb (by decide)

theorem Ty.join_isNum {a b : Ty} (ha : a.isNum = true) (hb : b.isNum = true) : (a.join b).isNum = true := by
  cases a <;> cases b <;> first | rfl | exact absurd ha (by decide) | exact absurd hb (by decide)

theorem Ty.negTy_cty {t : Ty} (h : t.isNum = true) : negTy t.cty = .ok t.cty := by
  cases t <;> first | rfl | cases h

/-- the type of the value a lambda ranges over: an object of class `cls` (`none`) or a number -/
def curCTy (cls : String) : Option Ty → CTy
  | none => .obj cls
  | some t => t.cty

def sigMeths (S : Sig) (cls : String) (ms : List (String × Ty)) : Bool :=
  ms.all fun p => decide (S.method cls p.1 = some p.2.cty)

theorem sigMeths_append (S : Sig) (cls : String) (a b : List (String × Ty)) :
    sigMeths S cls (a ++ b) = (sigMeths S cls a && sigMeths S cls b) := by
  simp [sigMeths, List.all_append]

theorem AOp.str_arith (op : AOp) (h : op ≠ .div) : op.str ∈ arithOps ∧ op.str ≠ "/" ∧ op.str ≠ "**" := by
  cases op <;> first | exact absurd rfl h | (refine ⟨by decide, by decide, by decide⟩)

theorem COp.str_cmp (op : COp) : op.str ∈ cmpOps := by cases op <;> decide

theorem binTy_div {a b : Ty} (ha : a.isNum = true) (hb : b.isNum = true) : binTy "/" a.cty b.cty = .ok .double := by
  simp [binTy, Ty.join_cty ha hb]

theorem binTy_arith {a b : Ty} (ha : a.isNum = true) (hb : b.isNum = true) (op : AOp) (h : op ≠ .div) :
    binTy op.str a.cty b.cty = .ok (a.join b).cty := by
  obtain ⟨h1, h2, h3⟩ := AOp.str_arith op h
  simp [binTy, Ty.join_cty ha hb, h1, h2, h3]

theorem cmpTy_cty (op : COp) (a b : Ty) : cmpTy op.str a.cty b.cty = .ok .bool := by
  simp [cmpTy, COp.str_cmp, Ty.cty_isScalar]

/-! Each fragment's expressions (`PE`, `EE`, `LE`, `NE`) embed `bin` / `cmp` / `neg` / `not` in the same way; these
lemmas give the embedded operator the type the translator model computes, from the types of the operands. -/

theorem typeOf_binQ {S : Sig} {Γ : TyEnv} {qa qb : Query} {a b : Ty} (op : AOp)
    (ha : typeOf S Γ qa = .ok a.cty) (hb : typeOf S Γ qb = .ok b.cty) (hna : a.isNum = true) (hnb : b.isNum = true) :
    typeOf S Γ (.bin op.str qa qb) = .ok (match op with | .div => Ty.double | _ => a.join b).cty := by
  by_cases hop : op = .div
  · subst hop
    simp only [typeOf, ha, hb, AOp.str, binTy_div hna hnb]; rfl
  · have h := binTy_arith hna hnb op hop
    cases op <;> first | exact absurd rfl hop | simp only [typeOf, ha, hb, h]

theorem typeOf_cmpQ {S : Sig} {Γ : TyEnv} {qa qb : Query} {a b : Ty} (op : COp)
    (ha : typeOf S Γ qa = .ok a.cty) (hb : typeOf S Γ qb = .ok b.cty) :
    typeOf S Γ (.cmp op.str qa qb) = .ok Ty.bool.cty := by
  simp only [typeOf, ha, hb, cmpTy_cty]; rfl

theorem typeOf_negQ {S : Sig} {Γ : TyEnv} {qa : Query} {a : Ty} (ha : typeOf S Γ qa = .ok a.cty) (hn : a.isNum = true) :
    typeOf S Γ (.neg qa) = .ok a.cty := by
  simp only [typeOf, ha, Ty.negTy_cty hn]

theorem typeOf_notQ {S : Sig} {Γ : TyEnv} {qa : Query} {a : Ty} (ha : typeOf S Γ qa = .ok a.cty) :
    typeOf S Γ (.not qa) = .ok Ty.bool.cty := by
  simp only [typeOf, ha, notTy, Ty.cty_isScalar, if_true]; rfl

theorem Ty.colShape_cty (t : Ty) : colShape t.cty = true := by cases t <;> rfl

theorem typeOf_peQ (S : Sig) (cls : String) (cur : Option Ty) (Γ : TyEnv) (x : String)
    (hx : assoc Γ x = some (curCTy cls cur)) (pe : PE) (hwt : wtPE cur pe = true)
    (hs : sigMeths S cls (methsPE pe) = true) : typeOf S Γ (peQ x pe) = .ok (tyPE (curT cur) pe).cty := by
  induction pe with (simp only [wtPE, methsPE, sigMeths_append, Bool.and_eq_true] at hwt hs)
  | int _ | dbl _ _ | bool _ => rfl
  | it =>
    obtain ⟨t, rfl⟩ := Option.isSome_iff_exists.mp hwt
    simp [peQ, typeOf, hx, tyPE, curT, curCTy]
  | meth name ty =>
    cases Option.isNone_iff_eq_none.mp hwt
    simp only [sigMeths, List.all_cons, List.all_nil, Bool.and_true, decide_eq_true_eq] at hs
    simp [peQ, typeOf, hx, curCTy, hs, tyPE]
  | bin op a b iha ihb =>
    have h := typeOf_binQ op (iha hwt.1.1.1 hs.1) (ihb hwt.1.1.2 hs.2) hwt.1.2 hwt.2
    cases op <;> exact h
  | cmp op a b iha ihb => exact typeOf_cmpQ op (iha hwt.1.1.1 hs.1) (ihb hwt.1.1.2 hs.2)
  | neg a ih => exact typeOf_negQ (ih hwt.1 hs) hwt.2
  | not a ih => exact typeOf_notQ (ih hwt.1 hs)

theorem assoc_head (Γ : TyEnv) (x : String) (t : CTy) : assoc ((x, t) :: Γ) x = some t := by simp [assoc]

theorem typeOf_stepsQ (S : Sig) (cls : String) (Γ : TyEnv) : ∀ (steps : List Step) (src : Query) (k : Nat) (t : Option Ty),
    typeOf S Γ src = .ok (.vec (curCTy cls t)) → wtSteps t steps = true → sigMeths S cls (methsSteps steps) = true →
    typeOf S Γ (stepsQ src steps k) = .ok (.vec (curCTy cls (chainTy t steps)))
  | [], _, _, _, hsrc, _, _ => by simpa [stepsQ, chainTy] using hsrc
  | .sel f :: rest, src, k, t, hsrc, hwt, hs => by
    simp only [wtSteps, Bool.and_eq_true] at hwt
    simp only [methsSteps, sigMeths_append, Bool.and_eq_true] at hs
    have hf := typeOf_peQ S cls t ((lamVar k, curCTy cls t) :: Γ) (lamVar k) (assoc_head _ _ _) f hwt.1 hs.1
    simp only [stepsQ, chainTy]
    refine typeOf_stepsQ S cls Γ rest _ (k + 1) (some (tyPE (curT t) f)) ?_ hwt.2 hs.2
    simp only [typeOf, hsrc, hf]; rfl
  | .whr c :: rest, src, k, t, hsrc, hwt, hs => by
    simp only [wtSteps, Bool.and_eq_true] at hwt
    simp only [methsSteps, sigMeths_append, Bool.and_eq_true] at hs
    have hf := typeOf_peQ S cls t ((lamVar k, curCTy cls t) :: Γ) (lamVar k) (assoc_head _ _ _) c hwt.1.1 hs.1
    simp only [stepsQ, chainTy]
    refine typeOf_stepsQ S cls Γ rest _ (k + 1) t ?_ hwt.2 hs.2
    simp only [typeOf, hsrc, hf, Ty.cty_isScalar, if_true]

def sigChain (S : Sig) (c : Chain) : Bool :=
  match S.collElem c.coll with
  | some cls => sigMeths S cls (methsSteps c.steps)
  | none => false

theorem sigChain_cls {S : Sig} {c : Chain} (h : sigChain S c = true) :
    ∃ cls, S.collElem c.coll = some cls ∧ sigMeths S cls (methsSteps c.steps) = true := by
  unfold sigChain at h
  split at h
  · exact ⟨_, by assumption, h⟩
  · cases h

theorem typeOf_chainQ (S : Sig) (Γ : TyEnv) (ev : String) (hev : assoc Γ ev = some .event) (c : Chain) (cls : String)
    (hc : S.collElem c.coll = some cls) (hs : sigMeths S cls (methsSteps c.steps) = true) (hwt : wtSteps none c.steps = true) :
    typeOf S Γ (chainQ ev c) = .ok (.vec (curCTy cls (chainTy none c.steps))) := by
  unfold chainQ
  apply typeOf_stepsQ S cls Γ c.steps _ 0 none _ hwt hs
  simp [typeOf, hev, hc, curCTy]

def sigEE (S : Sig) (e : EE) : Bool := (chainsEE e).all (sigChain S)

theorem chainNumTy_some {c : Chain} (h : (chainNumTy c).isSome = true) :
    ∃ t, chainTy none c.steps = some t ∧ t.isNum = true := by
  unfold chainNumTy at h
  split at h
  · rename_i t ht
    by_cases hn : t.isNum = true
    · exact ⟨t, ht, hn⟩
    · simp [hn] at h
  · cases h

theorem sumTy_cty {t : Ty} (h : t.isNum = true) : sumTy t.cty = .ok (Ty.join .int t).cty := by
  cases t <;> first | rfl | cases h

theorem typeOf_eeQ (S : Sig) (Γ : TyEnv) (ev : String) (hev : assoc Γ ev = some .event) (e : EE)
    (hwt : wtEE e = true) (hs : sigEE S e = true) : typeOf S Γ (eeQ ev e) = .ok (tyEE e).cty := by
  induction e with
    (simp only [wtEE, sigEE, chainsEE, List.all_cons, List.all_nil, List.all_append, Bool.and_true, Bool.and_eq_true] at hwt hs)
  | int _ | dbl _ _ | bool _ => rfl
  | count c =>
    obtain ⟨cls, hc, hm⟩ := sigChain_cls hs
    simp only [eeQ, typeOf, typeOf_chainQ S Γ ev hev c cls hc hm hwt, tyEE, Ty.cty]
  | sum c =>
    obtain ⟨cls, hc, hm⟩ := sigChain_cls hs
    obtain ⟨t, ht, hn⟩ := chainNumTy_some hwt.2
    simp only [eeQ, typeOf, typeOf_chainQ S Γ ev hev c cls hc hm hwt.1, tyEE, ht, curCTy, sumTy_cty hn, Option.getD_some]
  | bin op a b iha ihb =>
    have h := typeOf_binQ op (iha hwt.1.1.1 hs.1) (ihb hwt.1.1.2 hs.2) hwt.1.2 hwt.2
    cases op <;> exact h
  | cmp op a b iha ihb => exact typeOf_cmpQ op (iha hwt.1.1.1 hs.1) (ihb hwt.1.1.2 hs.2)
  | neg a ih => exact typeOf_negQ (ih hwt.1 hs) hwt.2
  | not a ih => exact typeOf_notQ (ih hwt.1 hs)

/-- static well-typedness of a column (the static part of `ColHyp`) -/
def wtCol : Col → Bool
  | .scalar e => wtEE e
  | .seq c => wtSteps none c.steps
  | .first c => wtSteps none c.steps

/-- a vector / `First()` column ranges over a chain that ENDS IN SCALARS (not in objects). The translator
model books `std::vector<double>` / `double` for a chain of objects (`getD .double`); the typing model assigns
no column type to a sequence of objects. -/
def Col.scalarElems : Col → Bool
  | .scalar _ => true
  | .seq c => (chainTy none c.steps).isSome
  | .first c => (chainTy none c.steps).isSome

def sigCol (S : Sig) : Col → Bool
  | .scalar e => sigEE S e
  | .seq c => sigChain S c
  | .first c => sigChain S c

def Col.cty : Col → CTy
  | .scalar e => (tyEE e).cty
  | .seq c => .vec ((chainTy none c.steps).getD .double).cty
  | .first c => ((chainTy none c.steps).getD .double).cty

theorem Col.cppName_cty (col : Col) : cppName col.cty = col.cppTy := by
  cases col <;> simp [Col.cty, Col.cppTy, cppName, Ty.cppName_cty]

theorem Col.colShape_cty (col : Col) : colShape col.cty = true := by
  cases col with
  | scalar e => exact Ty.colShape_cty _
  | seq c => simp only [Col.cty]; cases (chainTy none c.steps).getD .double <;> rfl
  | first c => exact Ty.colShape_cty _

theorem typeOf_colQ (S : Sig) (Γ : TyEnv) (ev : String) (hev : assoc Γ ev = some .event) (col : Col)
    (hwt : wtCol col = true) (hsc : col.scalarElems = true) (hs : sigCol S col = true) :
    typeOf S Γ (colQ ev col) = .ok col.cty := by
  cases col with
  | scalar e => exact typeOf_eeQ S Γ ev hev e hwt hs
  | seq c =>
    obtain ⟨cls, hc, hm⟩ := sigChain_cls hs
    simp only [Col.scalarElems, Option.isSome_iff_exists] at hsc
    obtain ⟨t, ht⟩ := hsc
    simp only [colQ, typeOf_chainQ S Γ ev hev c cls hc hm hwt, Col.cty, ht, curCTy, Option.getD_some]
  | first c =>
    obtain ⟨cls, hc, hm⟩ := sigChain_cls hs
    simp only [Col.scalarElems, Option.isSome_iff_exists] at hsc
    obtain ⟨t, ht⟩ := hsc
    simp only [colQ, typeOf, typeOf_chainQ S Γ ev hev c cls hc hm hwt, Col.cty, ht, curCTy, Option.getD_some, elemTy]

/-- static well-typedness of a fragment query in the sense of the translator model (the static part of `FragHyp`) -/
def FQ.wt : FQ → Bool
  | .eventRows cols => cols.all fun p => wtCol p.2
  | .elemRows c cols => wtSteps none c.steps && cols.all fun p => wtPE (chainTy none c.steps) p.2

/-- the data-model table declares the accessors the query uses as the query's `meth name ty` annotations say -/
def FQ.sigOk (S : Sig) : FQ → Bool
  | .eventRows cols => cols.all fun p => sigCol S p.2
  | .elemRows c cols => match S.collElem c.coll with
    | some cls => sigMeths S cls (methsSteps c.steps) && cols.all fun p => sigMeths S cls (methsPE p.2)
    | none => false

def FQ.scalarElems : FQ → Bool
  | .eventRows cols => cols.all fun p => p.2.scalarElems
  | .elemRows _ _ => true

def FQ.ctys : FQ → List CTy
  | .eventRows cols => cols.map fun p => p.2.cty
  | .elemRows c cols => cols.map fun p => (tyPE ((chainTy none c.steps).getD .double) p.2).cty

theorem FQ.ctys_cppName (fq : FQ) : (FQ.ctys fq).map cppName = FQ.types fq := by
  cases fq with
  | eventRows cols => simp [FQ.ctys, FQ.types, List.map_map, Function.comp_def, Col.cppName_cty]
  | elemRows c cols => simp [FQ.ctys, FQ.types, List.map_map, Function.comp_def, Ty.cppName_cty]

theorem FQ.ctys_length (fq : FQ) : (FQ.ctys fq).length = (FQ.names fq).length := by
  cases fq <;> simp [FQ.ctys, FQ.names]

theorem finalColumns_FQ (S : Sig) (fq : FQ) (hwt : fq.wt = true) (hsc : fq.scalarElems = true) (hs : fq.sigOk S = true) :
    finalColumns S (FQ.toQuery fq) = .ok ((FQ.names fq).zip (FQ.ctys fq)) := by
  cases fq with
  | eventRows cols =>
    simp only [FQ.wt, List.all_eq_true] at hwt
    simp only [FQ.scalarElems, List.all_eq_true] at hsc
    simp only [FQ.sigOk, List.all_eq_true] at hs
    refine finalColumns_select_dict S .ds "e" _ _ .event _ rfl ?_ (by simp [FQ.ctys]) ?_
    · exact typeOfs_map S _ _ _ cols fun p hp => typeOf_colQ S _ "e" (assoc_head _ _ _) p.2 (hwt p hp) (hsc p hp) (hs p hp)
    · exact allShapes_iff.mpr (List.forall_mem_map.mpr fun p _ => Col.colShape_cty p.2)
  | elemRows c cols =>
    simp only [FQ.wt, Bool.and_eq_true, List.all_eq_true] at hwt
    simp only [FQ.sigOk] at hs
    split at hs
    · rename_i cls hc
      simp only [Bool.and_eq_true, List.all_eq_true] at hs
      refine finalColumns_select_dict S _ "r" _ _ (curCTy cls (chainTy none c.steps)) _ ?_ ?_ (by simp [FQ.ctys]) ?_
      · have hch := typeOf_chainQ S [("e", .event)] "e" (assoc_head _ _ _) c cls hc hs.1 hwt.1
        simp [typeOf, hch]
      · exact typeOfs_map S _ _ _ cols fun p hp =>
          typeOf_peQ S cls (chainTy none c.steps) _ "r" (assoc_head _ _ _) p.2 (hwt.2 p hp) (hs.2 p hp)
      · exact allShapes_iff.mpr (List.forall_mem_map.mpr fun p _ => Ty.colShape_cty _)
    · cases hs

end FaxVerif.Gen
