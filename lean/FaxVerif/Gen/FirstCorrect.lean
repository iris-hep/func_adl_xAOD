/-
Gen — the statement shape emitted for `First()` of a chain (is_first flag outside the loop, guarded capture inside,
throw-if-still-first after the loop). `FirstInv` is the one invariant of the idiom; `IsFold.first` proves the idiom with it
against ANY fold (`IsFold.own` with the flag and the column as the owned variables), so that the `First()` columns of
the core and of the lazy tower (Gen/FirstLazyCorrect.lean) are instances; `first_idiom_tok` is the instance for the core's chain `compChain`.
-/
import FaxVerif.Gen.IsFold
namespace FaxVerif.Gen
open FaxVerif.Cpp FaxVerif.Linq
variable {D : Type}

def keepFirst (b : Option (Val D)) (w : Val D) : Option (Val D) :=
  match b with
  | none => some w
  | some w0 => some w0

theorem foldG_first : ∀ (ws : List (Val D)) (b : Option (Val D)),
    foldG (fun b w => (.ok (keepFirst b w) : Except Fault _)) ws b =
      .ok (match b with | none => ws.head? | some w0 => some w0)
  | [], b => by cases b <;> simp [foldG]
  | w :: ws, b => by
    simp only [foldG]
    rw [foldG_first ws]
    cases b <;> simp [keepFirst]

/-- The `is_first` flag idiom between two kept elements, `b` being the first kept value so far: the flag
is true and the column declared as long as nothing was kept; afterwards the flag is false and the column
holds the first kept value. -/
def FirstInv (fl col : String) (σ : Env D) : Option (Val D) → Prop
  | none => σ fl = some (.val (.bool true)) ∧ (σ col).isSome = true
  | some w => σ fl = some (.val (.bool false)) ∧ σ col = some (.val w)

theorem FirstInv.congr {fl col : String} {σ σ' : Env D} {b : Option (Val D)} (h : FirstInv fl col σ b)
    (hfl : σ' fl = σ fl) (hcol : σ' col = σ col) : FirstInv fl col σ' b := by
  cases b <;> simpa only [FirstInv, hfl, hcol] using h

/-- the guarded capture `if (is_first) { is_first = false; col = value; }` keeps the first value -/
theorem firstCapture_step (C : Ctx D) (t : St D) (fl col : String) (cur : CExpr) (w : Val D) (b : Option (Val D))
    (hne : col ≠ fl) (hcv : ∀ x ∈ vars cur, x ≠ fl) (hP : FirstInv fl col t.env b)
    (hev : evalE C.N t.env cur = .ok w) :
    ∃ t', execs C [.ite (.var fl) [.set fl (.bool false), .set col cur] []] t = .ok t' ∧
      FirstInv fl col t'.env (keepFirst b w) ∧ t'.rows = t.rows ∧ ∀ y, y ≠ fl → y ≠ col → t'.env y = t.env y := by
  cases b with
  | some w0 =>
    have hite := exec_ite_of C t (.var fl) [.set fl (.bool false), .set col cur] [] (.bool false) false
      (by simp [evalE, hP.1]) (by simp [asBool])
    exact ⟨t, by simp [execs, hite], hP, rfl, fun _ _ _ => rfl⟩
  | none =>
    have hite := exec_ite_of C t (.var fl) [.set fl (.bool false), .set col cur] [] (.bool true) true
      (by simp [evalE, hP.1]) (by simp [asBool])
    let t1 : St D := { t with env := t.env.set fl (.bool false) }
    have hs1 : exec C (.set fl (.bool false)) t = .ok t1 :=
      exec_set_ok C t fl (.bool false) (.bool false) (by simp [hP.1]) (by simp [evalE])
    have hs2 := exec_set_ok C t1 col cur w (by simpa [t1, Env.set, hne] using hP.2)
      (by rw [← hev]; exact evalE_congr _ _ _ _ (fun x hx => by simp [t1, Env.set, hcv x hx]))
    refine ⟨{ t1 with env := t1.env.set col w }, ?_, ⟨?_, by simp [Env.set]⟩, rfl, fun y h1 h2 => ?_⟩
    · simp only [execs, hite, ↓reduceIte, hs1, hs2]
    · simp [t1, Env.set, hne.symm]
    · simp [t1, Env.set, h1, h2]

/-- the check after the loop `if (is_first) throw …;` fails exactly if nothing was kept -/
theorem firstCheck (C : Ctx D) (t : St D) (fl col msg : String) (b : Option (Val D)) (hP : FirstInv fl col t.env b) :
    execs C [.ite (.var fl) [.throw msg] []] t = (match b with | none => .error (.loud msg) | some _ => .ok t) := by
  cases b with
  | none =>
    have hite := exec_ite_of C t (.var fl) [.throw msg] [] (.bool true) true (by simp [evalE, hP.1]) (by simp [asBool])
    simp only [execs, hite]
    simp [execs, exec]
  | some w0 =>
    have hite := exec_ite_of C t (.var fl) [.throw msg] [] (.bool false) false (by simp [evalE, hP.1]) (by simp [asBool])
    simp only [execs, hite]
    simp [execs]

/-- **the is_first idiom against any fold** — flag and column outside the loop's frame, the continuation is the guarded
capture, the check follows the loop: loud if nothing is kept, otherwise the column holds the FIRST kept value -/
theorem IsFold.first {C : Ctx D} {S : List Stmt} {frame : String → Prop} {Inv : St D → Prop} {cur : CExpr}
    {Qw : Val D → Prop} {ws : List (Val D)} {s : St D} (fl col msg : String)
    (h : IsFold C S frame Inv [.ite (.var fl) [.set fl (.bool false), .set col cur] []] cur Qw ws s)
    (hflF : ¬ frame fl) (hcolF : ¬ frame col) (hne : col ≠ fl) (hcv : ∀ x ∈ vars cur, x ≠ fl)
    (hInv : ∀ t : St D, (∀ y, ¬ (y = fl ∨ y = col) → ¬ frame y → t.env y = s.env y) → Inv t)
    (hfl : s.env fl = some (.val (.bool true))) (hcd : (s.env col).isSome = true) :
    (ws = [] → execs C (S ++ [.ite (.var fl) [.throw msg] []]) s = .error (.loud msg)) ∧
    (∀ w rest, ws = w :: rest → ∃ s', execs C (S ++ [.ite (.var fl) [.throw msg] []]) s = .ok s' ∧
        s'.env col = some (.val w) ∧ s'.rows = s.rows ∧ ∀ y, ¬ (y = fl ∨ y = col) → ¬ frame y → s'.env y = s.env y) := by
  obtain ⟨s', hex, ⟨hP', hr'⟩, hfr'⟩ := h.own (fun y => y = fl ∨ y = col)
    (fun y hy => hy.elim (· ▸ hflF) (· ▸ hcolF))
    (fun (b : Option (Val D)) t => FirstInv fl col t.env b ∧ t.rows = s.rows) (fun b w => .ok (keepFirst b w))
    (fun b t t' hPt hr hfr => ⟨hPt.1.congr (hfr fl (Or.inl rfl)) (hfr col (Or.inr rfl)), hr.trans hPt.2⟩) hInv
    (fun t b b' w hPt hg hev _ => by
      cases hg
      obtain ⟨t', hext, hP, hr, hfr⟩ := firstCapture_step C t fl col cur w b hne hcv hPt.1 hev
      exact ⟨t', hext, ⟨hP, hr.trans hPt.2⟩, fun y hy _ => hfr y (fun e => hy (Or.inl e)) (fun e => hy (Or.inr e))⟩)
    none ws.head? ⟨⟨hfl, hcd⟩, rfl⟩ (by simpa using foldG_first ws none)
  rw [execs_append, hex]
  simp only []
  rw [firstCheck C s' fl col msg _ hP']
  constructor
  · rintro rfl; rfl
  · rintro w rest rfl
    exact ⟨s', rfl, hP'.2, hr', hfr'⟩

/-- **first idiom** — the code emitted for `First()` of a chain
(`bool is_first (true);` outside the loop, `if (is_first) { is_first = false; col = value; }` inside,
`if (is_first) throw …;` after the loop):
  * if the query keeps at least one element, the column variable ends up holding the FIRST kept
    element's value — never a later or a stale one — and nothing is thrown;
  * if the sequence is empty after its filters, the code fails loudly (`Fault.loud`), it never
    continues with a default or previous value. -/
theorem first_idiom_tok (C : Ctx D) (QC : QCtx D) (hN : QC.N = C.N)
    (B : Backend) (hB : BackendBase B) (nm : Nat → String)
    (hinj : ∀ i j, nm i = nm j → i = j) (hres : ∀ j, nm j ≠ "result")
    (c : Chain) (n : Nat) (htok : TokChain B nm C c (n + 1)) (col : String) (hcol : ∀ j, col ≠ nm j) (hcolr : col ≠ "result") (msg : String)
    (cty : String) (l ws : List (Val D))
    (hcoll : B.collType c.coll = some cty) (hfind : C.ev.find c.bank = some (cty, .vec l))
    (hwt : wtSteps none c.steps = true) (hmt : ∀ v ∈ l, MethTyped v (methsSteps c.steps))
    (hel : elemsSem QC c.steps l = .ok ws)
    (s : St D) (hx : (s.env (nm (n + 1))).isSome = true)
    (hfl : s.env (nm n) = some (.val (.bool true))) (hcd : (s.env col).isSome = true) :
    let K : CExpr → Option Ty → List Stmt := fun cur _ => [.ite (.var (nm n)) [.set (nm n) (.bool false), .set col cur] []]
    let prog := (compChain B nm c (n + 1) K).stmts ++ [.ite (.var (nm n)) [.throw msg] []]
    (ws = [] → execs C prog s = .error (.loud msg)) ∧
    (∀ w rest, ws = w :: rest → ∃ s', execs C prog s = .ok s' ∧ s'.env col = some (.val w) ∧ s'.rows = s.rows ∧
        (∀ y, y ≠ col → ¬ Touch nm n (compChain B nm c (n + 1) K).next y → s'.env y = s.env y)) := by
  intro K prog
  have hnext := compChain_next B nm c (n + 1) K
  obtain ⟨h1, h2⟩ := IsFold.first (nm n) col msg
    (compChain_isFold C QC hN B hB nm hinj hres c (n + 1) htok K cty l ws hcoll hfind hwt hmt (fun _ => True)
      (fun _ _ => trivial) hel s hx)
    (not_touch_below hinj hres (Nat.lt_succ_self n) _) (not_touch_of_ne hcol hcolr _ _) (hcol n)
    (fun x hx' e => by
      have := (stepConds_vars B.elemPtr c.steps (.var (nm (n + 1 + 1))) none).2 x hx'
      simp only [vars, List.mem_singleton] at this
      have := hinj _ _ (this.symm.trans e); omega)
    (fun _ _ => trivial) hfl hcd
  refine ⟨h1, fun w rest hw => ?_⟩
  obtain ⟨s', hex, hc, hr, hfr⟩ := h2 w rest hw
  exact ⟨s', hex, hc, hr, fun y hy1 hy2 => hfr y
    (fun e => e.elim (fun e => hy2 (Or.inl ⟨n, Nat.le_refl n, by omega, e⟩)) hy1)
    fun h => hy2 (h.mono (Nat.le_succ n) (Nat.le_refl _))⟩

/-- **first idiom** on a backend that retrieves by bank name (the statement `C04.first_idiom` wraps). -/
theorem first_idiom (C : Ctx D) (QC : QCtx D) (hN : QC.N = C.N)
    (B : Backend) (hB : BackendOK B) (nm : Nat → String)
    (hinj : ∀ i j, nm i = nm j → i = j) (hres : ∀ j, nm j ≠ "result")
    (c : Chain) (n : Nat) (col : String) (hcol : ∀ j, col ≠ nm j) (hcolr : col ≠ "result") (msg : String)
    (cty : String) (l ws : List (Val D))
    (hcoll : B.collType c.coll = some cty) (hfind : C.ev.find c.bank = some (cty, .vec l))
    (hwt : wtSteps none c.steps = true) (hmt : ∀ v ∈ l, MethTyped v (methsSteps c.steps))
    (hel : elemsSem QC c.steps l = .ok ws)
    (s : St D) (hx : (s.env (nm (n + 1))).isSome = true)
    (hfl : s.env (nm n) = some (.val (.bool true))) (hcd : (s.env col).isSome = true) :
    let K : CExpr → Option Ty → List Stmt := fun cur _ => [.ite (.var (nm n)) [.set (nm n) (.bool false), .set col cur] []]
    let prog := (compChain B nm c (n + 1) K).stmts ++ [.ite (.var (nm n)) [.throw msg] []]
    (ws = [] → execs C prog s = .error (.loud msg)) ∧
    (∀ w rest, ws = w :: rest → ∃ s', execs C prog s = .ok s' ∧ s'.env col = some (.val w) ∧ s'.rows = s.rows ∧
        (∀ y, y ≠ col → ¬ Touch nm n (compChain B nm c (n + 1) K).next y → s'.env y = s.env y)) :=
  first_idiom_tok C QC hN B hB.base nm hinj hres c n (tokChain_of_notToken hB.notToken nm C c _) col hcol hcolr msg cty l ws
    hcoll hfind hwt hmt hel s hx hfl hcd

end FaxVerif.Gen
