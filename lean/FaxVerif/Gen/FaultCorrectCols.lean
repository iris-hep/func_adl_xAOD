/-
Gen — the fault direction, one column of an event-level row: the vector column and `First()` over an undefined chain
are instances of `chain_sim`; scalar expressions go by induction (`compEE_fault_tok`), the two-operand node once in
`compEE_fault_seq2`.
-/
import FaxVerif.Gen.FaultCorrectChain
import FaxVerif.Gen.EventRowsCorrect
import FaxVerif.Gen.FirstCorrect
namespace FaxVerif.Gen
open FaxVerif.Cpp FaxVerif.Linq
variable {D : Type}

theorem seq_fault_tok (C : Ctx D) (QC : QCtx D) (hN : QC.N = C.N) (hev : QC.ev = C.ev)
    (B : Backend) (hB : BackendBase B) (nm cn : Nat → String)
    (hinj : ∀ i j, nm i = nm j → i = j) (hres : ∀ j, nm j ≠ "result")
    (hcres : ∀ k, cn k ≠ "result") (hdisj : ∀ j k, nm j ≠ cn k)
    (hcollT : ∀ name, B.collType name = QC.collType name)
    (c : Chain) (idx n : Nat) (htok : TokChain B nm C c n) (s : St D) (f : Fault)
    (hdone : DeclsDone C.N (compCol B nm cn idx (.seq c) n).decls s.env)
    (hpre : ColPre (.seq c) (cn idx) s.env)
    (hwt : wtSteps none c.steps = true) (hst : strictSteps true c.steps = true)
    (hmt : ChainTyped QC c) (hbt : BankTyped QC c)
    (hden : denote QC [("e", evtVal)] (chainQ "e" c) = .error f) :
    ∃ f', execs C (compCol B nm cn idx (.seq c) n).stmts s = .error f' ∧ ChainFaultRel QC c f f' := by
  let K : CExpr → Option Ty → List Stmt := fun cur _ => [.push (cn idx) cur]
  have hcolT : ∀ lo hi, ¬ Touch nm lo hi (cn idx) := not_touch_of_ne (fun j h => hdisj j idx h.symm) (hcres idx)
  have hx : (s.env (nm n)).isSome = true := by
    have := hdone (.decl (B.handleTy ((B.collType c.coll).getD "?")) (nm n) none) (by simp [compCol, compChain])
    simpa [DeclOK] using this
  have := (chain_sim (β := List (Val D)) C QC hN hev B hB nm hinj hres hcollT c n htok K True true hwt (fun _ => hst) hmt
    (fun _ => hbt)
    (fun t l0 => t.env (cn idx) = some (.val (.vec l0))) (fun a w => .ok (a ++ [w])) (fun _ => True)
    (fun _ _ _ _ _ => trivial)
    (by intro t t' b hPt _ hfr; rw [hfr _ (hcolT _ _)]; exact hPt)
    (.of_parts (by
      intro t b b' w hPt hg hevw _ _
      simp only [Except.ok.injEq] at hg; subst hg
      refine ⟨{ t with env := t.env.set (cn idx) (.vec (b ++ [w])) }, ?_, by simp [Env.set]⟩
      simp only [K, execs, exec, hPt, hevw])
     (by intro t b e w _ hg; simp at hg)
     (by
      intro _ _ t b e hPt hevw
      simp only [K, execs, exec, hPt, hevw]))
    (methsSteps c.steps) (fun _ hp => hp) (fun _ => True) (fun _ _ _ _ _ _ _ _ _ => trivial)
    (by intro v w b0 e _ _ _ _ hg; simp at hg)
    "" s [] hx hpre trivial).error trivial (by rw [hden]; rfl)
  simpa [compCol] using this

/-- `First()` over a chain that is itself undefined on the event (missing bank, member fault): the
loop faults before the emptiness check is reached. The consumer captures the value only for the
first kept element, so the chain must be `strictSteps false`. -/
theorem first_chain_fault_tok (C : Ctx D) (QC : QCtx D) (hN : QC.N = C.N) (hev : QC.ev = C.ev)
    (B : Backend) (hB : BackendBase B) (nm cn : Nat → String)
    (hinj : ∀ i j, nm i = nm j → i = j) (hres : ∀ j, nm j ≠ "result")
    (hcres : ∀ k, cn k ≠ "result") (hdisj : ∀ j k, nm j ≠ cn k)
    (hcollT : ∀ name, B.collType name = QC.collType name)
    (c : Chain) (idx n : Nat) (htok : TokChain B nm C c (n + 1)) (s : St D) (f : Fault)
    (hdone : DeclsDone C.N (compCol B nm cn idx (.first c) n).decls s.env)
    (hpre : ColPre (.first c) (cn idx) s.env)
    (hwt : wtSteps none c.steps = true) (hst : strictSteps false c.steps = true)
    (hmt : ChainTyped QC c) (hbt : BankTyped QC c)
    (hden : denote QC [("e", evtVal)] (chainQ "e" c) = .error f) :
    ∃ f', execs C (compCol B nm cn idx (.first c) n).stmts s = .error f' ∧ ChainFaultRel QC c f f' := by
  let K : CExpr → Option Ty → List Stmt := fun cur _ => [.ite (.var (nm n)) [.set (nm n) (.bool false), .set (cn idx) cur] []]
  have hx : (s.env (nm (n + 1))).isSome = true := by
    have := hdone (.decl (B.handleTy ((B.collType c.coll).getD "?")) (nm (n + 1)) none) (by simp [compCol, compChain])
    simpa [DeclOK] using this
  have hfl : s.env (nm n) = some (.val (.bool true)) := by
    have := hdone (.decl "bool" (nm n) (some (.bool true))) (by simp [compCol])
    simpa [DeclOK, initValOf, litOf, castTo, asBool] using this
  have hflT : ¬ Touch nm (n + 1) (compChain B nm c (n + 1) K).next (nm n) :=
    not_touch_below hinj hres (Nat.lt_succ_self n) _
  have hcolT : ¬ Touch nm (n + 1) (compChain B nm c (n + 1) K).next (cn idx) :=
    not_touch_of_ne (fun j h => hdisj j idx h.symm) (hcres idx) _ _
  obtain ⟨f', hex, hrel⟩ := (chain_sim (β := Option (Val D)) C QC hN hev B hB nm hinj hres hcollT c (n + 1) htok K True false hwt
    (fun _ => hst) hmt (fun _ => hbt)
    (fun t b => FirstInv (nm n) (cn idx) t.env b)
    (fun b w => .ok (keepFirst b w)) (fun _ => True) (fun _ _ _ _ _ => trivial)
    (fun t t' _ hPt _ hfr => hPt.congr (hfr _ hflT) (hfr _ hcolT))
    (.of_parts (by
      intro t b b' w hPt hg hevw _ _
      simp only [Except.ok.injEq] at hg; subst hg
      obtain ⟨t', hext, hP, _⟩ := firstCapture_step C t (nm n) (cn idx) _ w b (fun e => hdisj n idx e.symm)
        (fun x hx' e => by
          have := (stepConds_vars B.elemPtr c.steps (.var (nm (n + 1 + 1))) none).2 x hx'
          simp only [vars, List.mem_singleton] at this
          have := hinj _ _ (this.symm.trans e); omega)
        hPt hevw
      exact ⟨t', hext, hP⟩)
     (by intro t b e w _ hg; simp at hg)
     (by intro h; simp at h))
    (methsSteps c.steps) (fun _ hp => hp) (fun _ => True) (fun _ _ _ _ _ _ _ _ _ => trivial)
    (by intro v w b0 e _ _ _ _ hg; simp at hg)
    "" s none hx ⟨hfl, hpre⟩ trivial).error trivial (by rw [hden]; rfl)
  refine ⟨f', ?_, hrel⟩
  have hstm : (compCol B nm cn idx (.first c) n).stmts =
      (compChain B nm c (n + 1) K).stmts ++ [.ite (.var (nm n)) [.throw "First() called on an empty sequence"] []] := rfl
  rw [hstm, execs_append, hex]

def eeStrict : EE → Bool
  | .count c => strictSteps false c.steps
  | .sum c => strictSteps true c.steps
  | .bin _ a b => eeStrict a && eeStrict b
  | .cmp _ a b => eeStrict a && eeStrict b
  | .neg a => eeStrict a
  | .not a => eeStrict a
  | _ => true

/-- if the first undefined operand is the second, the loops of the first run (success direction) and
leave the declarations of the second as they were -/
theorem compEE_fault_seq2 (C : Ctx D) (QC : QCtx D) (hN : QC.N = C.N) (hev : QC.ev = C.ev)
    (B : Backend) (hB : BackendBase B) (nm : Nat → String)
    (hinj : ∀ i j, nm i = nm j → i = j) (hres : ∀ j, nm j ≠ "result")
    (hcollT : ∀ name, B.collType name = QC.collType name) (a b : EE) (n : Nat) (s : St D) (f : Fault)
    (g : Val D → Val D → Except Fault (Val D))
    (htk : TokEE B nm C a n ∧ TokEE B nm C b (compEE B nm a n).next)
    (hdone : DeclsDone C.N ((compEE B nm a n).decls ++ (compEE B nm b (compEE B nm a n).next).decls) s.env)
    (hwa : wtEE a = true) (hwb : wtEE b = true)
    (hct : ∀ c ∈ chainsEE a ++ chainsEE b, ChainTyped QC c)
    (hsn : ∀ c ∈ sumChainsEE a ++ sumChainsEE b, SumNonEmpty QC c)
    (iha : ∀ e, denote QC [("e", evtVal)] (eeQ "e" a) = .error e →
      ∃ f', execs C (compEE B nm a n).stmts s = .error f' ∧ ∃ c ∈ chainsEE a, ChainFaultRel QC c e f')
    (ihb : ∀ (s1 : St D) e, DeclsDone C.N (compEE B nm b (compEE B nm a n).next).decls s1.env →
      denote QC [("e", evtVal)] (eeQ "e" b) = .error e →
      ∃ f', execs C (compEE B nm b (compEE B nm a n).next).stmts s1 = .error f' ∧ ∃ c ∈ chainsEE b, ChainFaultRel QC c e f')
    (hg : ∀ va vb, HasTy va (tyEE a) → HasTy vb (tyEE b) → ∃ w, g va vb = .ok w)
    (hden : strict2 (denote QC [("e", evtVal)] (eeQ "e" a)) (denote QC [("e", evtVal)] (eeQ "e" b)) g = .error f) :
    ∃ f', execs C ((compEE B nm a n).stmts ++ (compEE B nm b (compEE B nm a n).next).stmts) s = .error f' ∧
      ∃ c ∈ chainsEE a ++ chainsEE b, ChainFaultRel QC c f f' := by
  have hdb' : DeclsDone C.N (compEE B nm b (compEE B nm a n).next).decls s.env := fun d hd => hdone d (by simp [hd])
  have hcorr := fun va => compEE_correct_tok C QC hN hev B hB nm hinj hres hcollT a n s va htk.1
    (fun d hd => hdone d (by simp [hd])) hwa
    (fun c hc => hct c (List.mem_append_left _ hc)) (fun c hc => hsn c (List.mem_append_left _ hc))
  rcases strict2_error hden with hda | ⟨va, hda, hdb | ⟨vb, hdb, hf⟩⟩
  · obtain ⟨f', h1, c, hc, h2⟩ := iha f hda
    exact ⟨f', by rw [execs_append, h1], c, List.mem_append_left _ hc, h2⟩
  · obtain ⟨s1, hex1, _, _, _, hf1⟩ := hcorr va hda
    obtain ⟨f', h1, c, hc, h2⟩ := ihb s1 f (hdb'.transport (compEE_decls B nm b _) (fun y hy => hf1 y ((Frames.touch hinj hres).disj (.inr (Nat.le_refl _)) hy))) hdb
    exact ⟨f', by rw [execs_append, hex1]; exact h1, c, List.mem_append_right _ hc, h2⟩
  · obtain ⟨_, _, _, _, hta, _⟩ := hcorr va hda
    obtain ⟨_, _, _, _, htb, _⟩ := compEE_correct_tok C QC hN hev B hB nm hinj hres hcollT b _ s vb htk.2 hdb' hwb
      (fun c hc => hct c (List.mem_append_right _ hc)) (fun c hc => hsn c (List.mem_append_right _ hc)) hdb
    obtain ⟨w, hw⟩ := hg va vb hta htb
    rw [hw] at hf; cases hf

/-- **event-level scalar expressions, fault direction** — the operands are evaluated left to right on
both sides and arithmetic on numbers is total, so the query's fault is the fault of its first
undefined chain; the loops before it run (success direction), that chain's loop faults. -/
theorem compEE_fault_tok (C : Ctx D) (QC : QCtx D) (hN : QC.N = C.N) (hev : QC.ev = C.ev)
    (B : Backend) (hB : BackendBase B) (nm : Nat → String)
    (hinj : ∀ i j, nm i = nm j → i = j) (hres : ∀ j, nm j ≠ "result")
    (hcollT : ∀ name, B.collType name = QC.collType name) :
    ∀ (e : EE) (n : Nat) (s : St D) (f : Fault), TokEE B nm C e n →
      DeclsDone C.N (compEE B nm e n).decls s.env →
      wtEE e = true → (∀ c ∈ chainsEE e, ChainTyped QC c) → (∀ c ∈ sumChainsEE e, SumNonEmpty QC c) →
      (∀ c ∈ chainsEE e, BankTyped QC c) → eeStrict e = true →
      denote QC [("e", evtVal)] (eeQ "e" e) = .error f →
      ∃ f', execs C (compEE B nm e n).stmts s = .error f' ∧ ∃ c ∈ chainsEE e, ChainFaultRel QC c f f'
  | .int k, n, s, f, _, _, _, _, _, _, _, hden => by simp [eeQ, denote] at hden
  | .dbl m e, n, s, f, _, _, _, _, _, _, _, hden => by simp [eeQ, denote] at hden
  | .bool b, n, s, f, _, _, _, _, _, _, _, hden => by simp [eeQ, denote] at hden
  | .count c, n, s, f, htk, hdone, hwt, hct, _, hbt, hst, hden => by
    simp only [wtEE] at hwt
    simp only [eeStrict] at hst
    obtain ⟨f', h1, h2⟩ := count_fault_tok C QC hN hev B hB nm hinj hres hcollT c n htk s f hdone hwt hst
      (hct c (by simp [chainsEE])) (hbt c (by simp [chainsEE])) hden
    exact ⟨f', h1, c, by simp [chainsEE], h2⟩
  | .sum c, n, s, f, htk, hdone, hwt, hct, _, hbt, hst, hden => by
    simp only [wtEE, Bool.and_eq_true, chainNumTy] at hwt
    simp only [eeStrict] at hst
    cases hty : chainTy none c.steps with
    | none => rw [hty] at hwt; simp at hwt
    | some t =>
      rw [hty] at hwt
      have htn : t.isNum = true := by
        by_cases h : t.isNum = true
        · exact h
        · simp [h] at hwt
      obtain ⟨f', h1, h2⟩ := sum_fault_tok C QC hN hev B hB nm hinj hres hcollT c n htk s f hdone hwt.1 t hty htn hst
        (hct c (by simp [chainsEE])) (hbt c (by simp [chainsEE])) hden
      exact ⟨f', h1, c, by simp [chainsEE], h2⟩
  | .bin op a b, n, s, f, htk, hdone, hwt, hct, hsn, hbt, hst, hden => by
    simp only [wtEE, Bool.and_eq_true] at hwt
    obtain ⟨⟨⟨hwa, hwb⟩, hna⟩, hnb⟩ := hwt
    simp only [eeStrict, Bool.and_eq_true] at hst
    simp only [eeQ] at hden
    rw [denote_bin] at hden
    simp only [compEE] at hdone ⊢
    simp only [chainsEE, sumChainsEE] at hct hsn hbt ⊢
    exact compEE_fault_seq2 C QC hN hev B hB nm hinj hres hcollT a b n s f _ htk hdone hwa hwb hct hsn
      (fun e h => compEE_fault_tok C QC hN hev B hB nm hinj hres hcollT a n s e htk.1 (fun d hd => hdone d (by simp [hd])) hwa
        (fun c hc => hct c (List.mem_append_left _ hc)) (fun c hc => hsn c (List.mem_append_left _ hc))
        (fun c hc => hbt c (List.mem_append_left _ hc)) hst.1 h)
      (fun s1 e hd h => compEE_fault_tok C QC hN hev B hB nm hinj hres hcollT b _ s1 e htk.2 hd hwb
        (fun c hc => hct c (List.mem_append_right _ hc)) (fun c hc => hsn c (List.mem_append_right _ hc))
        (fun c hc => hbt c (List.mem_append_right _ hc)) hst.2 h)
      (fun va vb hta htb => pyArith_total QC.N op va vb _ _ hta htb hna hnb) hden
  | .cmp op a b, n, s, f, htk, hdone, hwt, hct, hsn, hbt, hst, hden => by
    simp only [wtEE, Bool.and_eq_true] at hwt
    obtain ⟨⟨⟨hwa, hwb⟩, hna⟩, hnb⟩ := hwt
    simp only [eeStrict, Bool.and_eq_true] at hst
    simp only [eeQ] at hden
    rw [denote_cmp] at hden
    simp only [compEE] at hdone ⊢
    simp only [chainsEE, sumChainsEE] at hct hsn hbt ⊢
    exact compEE_fault_seq2 C QC hN hev B hB nm hinj hres hcollT a b n s f _ htk hdone hwa hwb hct hsn
      (fun e h => compEE_fault_tok C QC hN hev B hB nm hinj hres hcollT a n s e htk.1 (fun d hd => hdone d (by simp [hd])) hwa
        (fun c hc => hct c (List.mem_append_left _ hc)) (fun c hc => hsn c (List.mem_append_left _ hc))
        (fun c hc => hbt c (List.mem_append_left _ hc)) hst.1 h)
      (fun s1 e hd h => compEE_fault_tok C QC hN hev B hB nm hinj hres hcollT b _ s1 e htk.2 hd hwb
        (fun c hc => hct c (List.mem_append_right _ hc)) (fun c hc => hsn c (List.mem_append_right _ hc))
        (fun c hc => hbt c (List.mem_append_right _ hc)) hst.2 h)
      (fun va vb hta htb => cmp_total QC.N op va vb _ _ hta htb hna hnb) hden
  | .neg a, n, s, f, htk, hdone, hwt, hct, hsn, hbt, hst, hden => by
    simp only [wtEE, Bool.and_eq_true] at hwt
    simp only [eeQ] at hden
    rw [denote_neg] at hden
    rcases strict1_error hden with hda | ⟨va, hda, hf⟩
    · exact compEE_fault_tok C QC hN hev B hB nm hinj hres hcollT a n s f htk hdone hwt.1 hct hsn hbt hst hda
    · obtain ⟨_, _, _, _, hta, _⟩ := compEE_correct_tok C QC hN hev B hB nm hinj hres hcollT a n s va htk hdone hwt.1 hct hsn hda
      obtain ⟨w, hw, _⟩ := neg_total QC.N va _ hta hwt.2
      rw [hw] at hf; cases hf
  | .not a, n, s, f, htk, hdone, hwt, hct, hsn, hbt, hst, hden => by
    simp only [wtEE, Bool.and_eq_true, beq_iff_eq] at hwt
    simp only [eeQ] at hden
    rw [denote_not] at hden
    rcases strict1_error hden with hda | ⟨va, hda, hf⟩
    · exact compEE_fault_tok C QC hN hev B hB nm hinj hres hcollT a n s f htk hdone hwt.1 hct hsn hbt hst hda
    · obtain ⟨_, _, _, _, hta, _⟩ := compEE_correct_tok C QC hN hev B hB nm hinj hres hcollT a n s va htk hdone hwt.1 hct hsn hda
      obtain ⟨w, hw, _⟩ := not_total QC.N va (hwt.2 ▸ hta)
      rw [hw] at hf; cases hf

end FaxVerif.Gen
