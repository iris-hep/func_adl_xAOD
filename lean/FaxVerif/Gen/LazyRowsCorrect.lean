/-
Gen — chains with lazy `Where` conditions and rows of lazy columns, element at a time.
The query side: what `chainQL` denotes (`elemSemL`, an instance of the `QStep` of Gen/QueryLemmas.lean: `chainQL_ok`).
The C++ side: the fused `Where`s (`andLowerL_correct`: the lowered conjunction; a later condition's statements run only
if all earlier ones were true), one element through the loop body (`elem_correctL`, `bodyL_correct`), the columns of
one row (`colsL_correct`; `rowK_correct` through `rowOfCols_correct` of Gen/ElemRowsCorrect.lean).
-/
import FaxVerif.Gen.LazyExprCorrect
import FaxVerif.Gen.ElemRowsCorrect
namespace FaxVerif.Gen
open FaxVerif.Cpp FaxVerif.Linq
variable {D : Type}

def leSem (C : QCtx D) (v : Val D) (le : LE) : Except Fault (Val D) := denote C [("x", v)] (leQ "x" le)

/-- what one element becomes going through the steps: dropped (`none`), a value, or a fault -/
def elemSemL (C : QCtx D) : List StepL → Val D → Except Fault (Option (Val D))
  | [], v => .ok (some v)
  | .sel f :: rest, v => match peSem C v f with
    | .error e => .error e
    | .ok w => elemSemL C rest w
  | .whr c :: rest, v => match leSem C v c with
    | .error e => .error e
    | .ok r => match asBool C.N r with
      | none => .error (.typeErr "Where predicate")
      | some true => elemSemL C rest v
      | some false => .ok none

abbrev elemsSemL (C : QCtx D) (steps : List StepL) : List (Val D) → Except Fault (List (Val D)) :=
  optsE (elemSemL C steps)

def StepL.q (C : QCtx D) : StepL → QStep D
  | .sel f => ⟨false, fun x => peQ x f, fun v => peSem C v f⟩
  | .whr c => ⟨true, fun x => leQ x c, fun v => leSem C v c⟩

theorem stepsL_faithful (C : QCtx D) (ρ : LEnv D) (steps : List StepL) :
    ∀ s ∈ steps.map (StepL.q C), ∀ k, s.Faithful C ρ (lamVar k) := fun s hs k v => by
  obtain ⟨t, _, rfl⟩ := List.mem_map.1 hs
  cases t
  · exact peQ_indep C v (lamVar k) "x" ρ [] _
  · exact leQ_indep C v (lamVar k) "x" ρ [] _

theorem stepsQL_eq (C : QCtx D) : ∀ (steps : List StepL) (src : Query) (k : Nat),
    stepsQL src steps k = stepsQG lamVar src (steps.map (StepL.q C)) k
  | [], _, _ => rfl
  | .sel _ :: rest, _, k | .whr _ :: rest, _, k => stepsQL_eq C rest _ (k + 1)

theorem elemSemL_eq (C : QCtx D) : ∀ (steps : List StepL) (v : Val D),
    elemSemL C steps v = elemSemG C (steps.map (StepL.q C)) v
  | [], _ => rfl
  | .sel f :: rest, v => by
    simp only [elemSemL, List.map_cons, elemSemG, StepL.q, Bool.false_eq_true, if_false]
    cases peSem C v f with
    | error e => rfl
    | ok w => exact elemSemL_eq C rest w
  | .whr c :: rest, v => by
    simp only [elemSemL, List.map_cons, elemSemG, StepL.q, if_true]
    cases leSem C v c with
    | error e => rfl
    | ok w =>
      dsimp only
      cases asBool C.N w with
      | none => rfl
      | some b => cases b with
        | false => rfl
        | true => exact elemSemL_eq C rest v

theorem chainQL_ok (C : QCtx D) (ρ : LEnv D) (ev : String) (c : ChainL) (ws : List (Val D))
    (h : denote C ρ (chainQL ev c) = .ok (.vec ws)) :
    ∃ cty l, C.collType c.coll = some cty ∧ C.ev.find c.bank = some (cty, .vec l) ∧
      elemsSemL C c.steps l = .ok ws := by
  rw [chainQL, stepsQL_eq C] at h
  obtain ⟨cty, l, h1, h2, h3⟩ := collStepsG_ok C ρ lamVar ev c.coll c.bank _ (stepsL_faithful C ρ c.steps) ws h
  refine ⟨cty, l, h1, h2, ?_⟩
  show optsE (elemSemL C c.steps) l = _
  rw [show elemSemL C c.steps = elemSemG C (c.steps.map (StepL.q C)) from funext (elemSemL_eq C c.steps)]
  exact h3

def CondOK (C : Ctx D) (nm : Nat → String) (EF : Fault → Prop) (Pre : Env D → Prop) (n0 : Nat)
    (c : CondL) (r : Except Fault (Val D)) : Prop :=
  (∀ k, n0 ≤ k → Sound C nm EF Pre k (compCond nm c k) r) ∧ (∀ w, r = .ok w → HasTy w c.resTy)

/-- lazy conjunction of conditions given in REVERSE order (last condition first): a condition is
evaluated only if all earlier ones were true -/
inductive CondsEvalR (OK : CondL → Except Fault (Val D) → Prop) (N : Num D) : List CondL → Bool → Prop
  | nil : CondsEvalR OK N [] true
  | skip (c : CondL) (rest : List CondL) : CondsEvalR OK N rest false → CondsEvalR OK N (c :: rest) false
  | eval (c : CondL) (rest : List CondL) (w : Val D) (b : Bool) :
      CondsEvalR OK N rest true → OK c (.ok w) → asBool N w = some b → CondsEvalR OK N (c :: rest) b

theorem condsEvalR_snoc_false {OK : CondL → Except Fault (Val D) → Prop} {N : Num D} (c0 : CondL) (w : Val D)
    (hok : OK c0 (.ok w)) (hb : asBool N w = some false) : ∀ l : List CondL, CondsEvalR OK N (l ++ [c0]) false
  | [] => CondsEvalR.eval c0 [] w false CondsEvalR.nil hok hb
  | c :: l => CondsEvalR.skip c (l ++ [c0]) (condsEvalR_snoc_false c0 w hok hb l)

theorem condsEvalR_snoc_true {OK : CondL → Except Fault (Val D) → Prop} {N : Num D} (c0 : CondL) (w : Val D)
    (hok : OK c0 (.ok w)) (hb : asBool N w = some true) : ∀ (l : List CondL) (b : Bool),
    CondsEvalR OK N l b → CondsEvalR OK N (l ++ [c0]) b
  | [], b, h => by
    cases h
    exact CondsEvalR.eval c0 [] w true CondsEvalR.nil hok hb
  | c :: l, b, h => by
    cases h with
    | skip _ _ h' => exact CondsEvalR.skip c (l ++ [c0]) (condsEvalR_snoc_true c0 w hok hb l false h')
    | eval _ _ w' _ h' hok' hb' =>
      exact CondsEvalR.eval c (l ++ [c0]) w' b (condsEvalR_snoc_true c0 w hok hb l true h') hok' hb'

theorem compCond_next_ge (nm : Nat → String) (c : CondL) (n : Nat) : n ≤ (compCond nm c n).next :=
  compLE_next_ge nm c.ptr c.cur c.ty c.c n

theorem andLowerL_layout (nm : Nat → String) : ∀ (rc : List CondL) (n : Nat),
    LLayout nm (fun y => ∃ c ∈ rc, y ∈ vars c.cur) n (andLowerL nm rc n).1
  | [], n => .pure n (by simp [vars])
  | [c], n => (compLE_layout nm c.ptr c.cur c.ty c.c n).wider fun _ hy => ⟨c, List.mem_singleton.2 rfl, hy⟩
  | c :: c2 :: rest, n => (andLowerL_layout nm (c2 :: rest) (n + 1)).res (compCond_next_ge nm c _) "bool" (by decide) _

/-- **fused `Where`s** — the lowered conjunction is sound for (a value whose truth value is) the lazy
conjunction of the conditions; a later condition's statements run only if all earlier ones were true. -/
theorem andLowerL_correct (C : Ctx D) (nm : Nat → String) (EF : Fault → Prop) (Pre : Env D → Prop) (n0 : Nat)
    (hst : Stable nm n0 Pre) :
    ∀ (rc : List CondL) (n : Nat) (b : Bool), n0 ≤ n → CondsEvalR (CondOK C nm EF Pre n0) C.N rc b →
      ∃ w, asBool C.N w = some b ∧ HasTy w (andLowerL nm rc n).2 ∧ Sound C nm EF Pre n (andLowerL nm rc n).1 (.ok w)
  | [], n, b, _, h => by
    cases h
    refine ⟨.bool true, by simp [asBool], by simp [andLowerL, HasTy], ?_⟩
    exact sound_pure C nm EF Pre n _ _ rfl (fun σ _ => by simp [andLowerL, evalE, Match])
  | [c], n, b, hn, h => by
    cases h with
    | skip _ _ h' => cases h'
    | eval _ _ w _ h' hok hb =>
      exact ⟨w, hb, by simpa [andLowerL] using hok.2 w rfl, by simpa [andLowerL] using hok.1 n hn⟩
  | c :: c2 :: rest, n, b, hn, h => by
    have hk1 := (andLowerL_layout nm (c2 :: rest) (n + 1)).ge
    have hk2 := compCond_next_ge nm c (andLowerL nm (c2 :: rest) (n + 1)).1.next
    -- two or more conditions: the fragment of `inner and c`, `c` required to be sound only if `inner` is true
    have hlop : ∀ (b1 : Bool) (rb : Except Fault (Val D)), CondsEvalR (CondOK C nm EF Pre n0) C.N (c2 :: rest) b1 →
        (b1 = true → CondOK C nm EF Pre n0 c rb) →
        ∃ w1, asBool C.N w1 = some b1 ∧
          Sound C nm EF Pre n (andLowerL nm (c :: c2 :: rest) n).1 (opRes C.N .and (.ok w1) rb) := by
      intro b1 rb h1 hc
      obtain ⟨w1, hb1, hty1, hS1⟩ := andLowerL_correct C nm EF Pre n0 hst (c2 :: rest) (n + 1) b1 (by omega) h1
      refine ⟨w1, hb1, sound_lop C nm EF Pre n (hst.mono hn) .and _ (compCond nm c _) _ c.resTy (.ok w1) rb hk1 hk2 hS1
        (fun w hw => Except.ok.inj hw ▸ hty1) (compLE_layout nm _ _ _ _ _).decls fun va acc hva hacc hr => ?_⟩
      cases hva
      obtain rfl : b1 = acc := Option.some.inj (hb1.symm.trans hacc)
      exact ⟨(hc hr).1 _ (by omega), (hc hr).2⟩
    cases h with
    | skip _ _ h' =>
      obtain ⟨w1, hb1, hS⟩ := hlop false (.ok (.bool false)) h' nofun
      exact ⟨.bool false, rfl, by simp [andLowerL, HasTy], by simpa [opRes, hb1, LOp.runs] using hS⟩
    | eval _ _ w _ h' hok hb =>
      obtain ⟨w1, hb1, hS⟩ := hlop true (.ok w) h' fun _ => hok
      exact ⟨.bool b, rfl, by simp [andLowerL, HasTy], by simpa [opRes, hb1, LOp.runs, strict1, toBoolG, hb] using hS⟩

def CurAt (C : Ctx D) (i : String) (v0 : Val D) (cur : CExpr) (v : Val D) : Prop :=
  ∀ σ : Env D, σ i = some (.val v0) → evalE C.N σ cur = .ok v

def LoopVar (i : String) (v0 : Val D) : Env D → Prop := fun σ => σ i = some (.val v0)

theorem stable_loopVar (nm : Nat → String) (i : String) (v0 : Val D) (n : Nat) (hi : ∀ j, n ≤ j → i ≠ nm j) :
    Stable nm n (LoopVar (D := D) i v0) := by
  intro σ σ' hp h
  unfold LoopVar at *
  rw [h i hi]; exact hp

theorem stepCondsL_vars (ptr : Bool) : ∀ (steps : List StepL) (cur : CExpr) (curTy : Option Ty),
    ∀ y ∈ vars (stepCondsL ptr cur curTy steps).2.1, y ∈ vars cur
  | [], _, _, _, h => h
  | .sel f :: rest, _, _, y, h => vars_compPE _ _ _ f y (stepCondsL_vars ptr rest _ _ y h)
  | .whr _ :: rest, cur, curTy, y, h => stepCondsL_vars ptr rest cur curTy y h

/-- **one element** — if the query sends element `v` through the steps successfully, the emitted
conditions (in reverse order) evaluate lazily to "kept / dropped" accordingly, and for a kept element
the final value expression evaluates to the query's value, with its static type. -/
theorem elem_correctL (C : Ctx D) (QC : QCtx D) (hN : QC.N = C.N) (nm : Nat → String) (hinj : ∀ i j, nm i = nm j → i = j)
    (ptr : Bool) (i : String) (v0 : Val D) (n0 : Nat) (hi : ∀ j, n0 ≤ j → i ≠ nm j) :
    ∀ (steps : List StepL) (cur : CExpr) (curTy : Option Ty) (v : Val D) (o : Option (Val D)),
      (∀ y ∈ vars cur, y = i) → CurAt C i v0 cur v → (∀ t, curTy = some t → HasTy v t) →
      wtStepsL curTy steps = true → MethTyped v (methsStepsL steps) → elemSemL QC steps v = .ok o →
      CondsEvalR (CondOK C nm (fun _ => True) (LoopVar i v0) n0) C.N (stepCondsL ptr cur curTy steps).1.reverse o.isSome ∧
      (∀ w, o = some w → CurAt C i v0 (stepCondsL ptr cur curTy steps).2.1 w ∧
          (∀ t, (stepCondsL ptr cur curTy steps).2.2 = some t → HasTy w t) ∧
          ((stepCondsL ptr cur curTy steps).2.2 = none → w = v ∧ curTy = none))
  | [], cur, curTy, v, o, hv, hcur, hty, _, _, hs => by
    simp only [elemSemL, Except.ok.injEq] at hs; subst hs
    simp only [stepCondsL, List.reverse_nil, Option.isSome_some]
    refine ⟨CondsEvalR.nil, fun w hw => ?_⟩
    simp only [Option.some.injEq] at hw; subst hw
    exact ⟨hcur, hty, fun h => ⟨rfl, h⟩⟩
  | .sel f :: rest, cur, curTy, v, o, hv, hcur, hty, hwt, hm, hs => by
    simp only [wtStepsL, Bool.and_eq_true] at hwt
    simp only [elemSemL, peSem] at hs
    cases hd : denote QC [("x", v)] (peQ "x" f) with
    | error e => rw [hd] at hs; simp at hs
    | ok w' =>
      rw [hd] at hs
      simp only [] at hs
      have hpe : ∀ σ : Env D, σ i = some (.val v0) →
          evalE C.N σ (compPE (ptr && curTy.isNone) cur (curT curTy) f) = .ok w' ∧ HasTy w' (tyPE (curT curTy) f) := by
        intro σ hσ
        have := pe_correct QC σ cur curTy (ptr && curTy.isNone) v "x" [] (by rw [hN]; exact hcur σ hσ) hty f hwt.1
          (fun p hp => hm p (by simp [methsStepsL, hp]))
        exact ⟨by rw [← hN, this.1]; exact hd, this.2 w' hd⟩
      have hw'ty : HasTy w' (tyPE (curT curTy) f) := by
        have := pe_correct QC (fun y => if y = i then some (.val v0) else none) cur curTy (ptr && curTy.isNone) v "x" []
          (by rw [hN]; exact hcur _ (by simp)) hty f hwt.1 (fun p hp => hm p (by simp [methsStepsL, hp]))
        exact this.2 w' hd
      have ih := elem_correctL C QC hN nm hinj ptr i v0 n0 hi rest (compPE (ptr && curTy.isNone) cur (curT curTy) f)
        (some (tyPE (curT curTy) f)) w' o
        (fun y hy => hv y (vars_compPE _ _ _ f y hy))
        (fun σ hσ => (hpe σ hσ).1)
        (fun t ht => by simp only [Option.some.injEq] at ht; subst ht; exact hw'ty)
        hwt.2 (methTyped_of_hasTy hw'ty _) hs
      simp only [stepCondsL]
      refine ⟨ih.1, fun w hw => ?_⟩
      obtain ⟨h1, h3, h4⟩ := ih.2 w hw
      refine ⟨h1, h3, fun hn => ?_⟩
      have := (h4 hn).2
      simp at this
  | .whr c :: rest, cur, curTy, v, o, hv, hcur, hty, hwt, hm, hs => by
    simp only [wtStepsL, Bool.and_eq_true] at hwt
    simp only [elemSemL, leSem] at hs
    cases hd : denote QC [("x", v)] (leQ "x" c) with
    | error e => rw [hd] at hs; simp at hs
    | ok r0 =>
      rw [hd] at hs
      simp only [] at hs
      have hok : CondOK C nm (fun _ => True) (LoopVar i v0) n0 ⟨ptr && curTy.isNone, cur, curTy.getD .double, c⟩ (.ok r0) := by
        constructor
        · intro k hk
          have hfr : ∀ y ∈ vars cur, ∀ j, k ≤ j → y ≠ nm j := fun y hy j hj => by rw [hv y hy]; exact hi j (by omega)
          have := (le_sound C QC hN nm hinj (ptr && curTy.isNone) cur curTy v "x" [] hty c k hwt.1
            (fun p hp => hm p (by simp [methsStepsL, hp])) hfr).1
          rw [hd] at this
          exact sound_weaken C nm _ this (fun σ hσ => hcur σ hσ) (fun _ _ => trivial)
        · intro w hw
          cases hw
          exact leQ_typed QC curTy v "x" [] hty c hwt.1 (fun p hp => hm p (by simp [methsStepsL, hp])) r0 hd
      simp only [stepCondsL, List.reverse_cons]
      cases hb : asBool QC.N r0 with
      | none => rw [hb] at hs; simp at hs
      | some b =>
        rw [hb] at hs
        have hb' : asBool C.N r0 = some b := by rw [← hN]; exact hb
        cases b with
        | false =>
          simp only [Except.ok.injEq] at hs; subst hs
          exact ⟨condsEvalR_snoc_false _ r0 hok hb' _, by simp⟩
        | true =>
          simp only [] at hs
          have ih := elem_correctL C QC hN nm hinj ptr i v0 n0 hi rest cur curTy v o hv hcur hty hwt.2
            (fun p hp => hm p (by simp [methsStepsL, hp])) hs
          exact ⟨condsEvalR_snoc_true _ r0 hok hb' _ _ ih.1, ih.2⟩

/-- the supply position the continuation of a chain's loop body starts from -/
def condsNext (nm : Nat → String) (ptr : Bool) (it : CExpr) (steps : List StepL) (n : Nat) : Nat :=
  (andLowerL nm (stepCondsL ptr it none steps).1.reverse n).1.next

theorem condsNext_ge (nm : Nat → String) (ptr : Bool) (it : CExpr) (steps : List StepL) (n : Nat) :
    n ≤ condsNext nm ptr it steps n := (andLowerL_layout nm _ n).ge

theorem bodyL_next (nm : Nat → String) (ptr : Bool) (it : CExpr) (steps : List StepL) (n : Nat)
    (K : CExpr → Option Ty → Nat → List Stmt × Nat) :
    (bodyL nm ptr it steps n K).2 =
      (K (stepCondsL ptr it none steps).2.1 (stepCondsL ptr it none steps).2.2 (condsNext nm ptr it steps n)).2 := by
  cases h : (stepCondsL ptr it none steps).1 with
  | nil => simp only [bodyL, condsNext, h, andLowerL, List.reverse_nil]
  | cons c cs => simp only [bodyL, condsNext, h]

theorem bodyL_correct (C : Ctx D) (QC : QCtx D) (hN : QC.N = C.N) (nm : Nat → String)
    (hinj : ∀ i j, nm i = nm j → i = j) (ptr : Bool) (i : String) (steps : List StepL) (n : Nat)
    (hi : ∀ j, n ≤ j → i ≠ nm j) (K : CExpr → Option Ty → Nat → List Stmt × Nat)
    (s : St D) (v : Val D) (o : Option (Val D))
    (hiv : s.env i = some (.val v)) (hwt : wtStepsL none steps = true)
    (hm : MethTyped v (methsStepsL steps)) (hs : elemSemL QC steps v = .ok o) :
    let r := stepCondsL ptr (.var i) none steps
    BodyStep C (bodyL nm ptr (.var i) steps n K).1 (K r.2.1 r.2.2 (condsNext nm ptr (.var i) steps n)).1
      (InRange nm n (condsNext nm ptr (.var i) steps n)) r.2.1
      (fun w => (∀ t, r.2.2 = some t → HasTy w t) ∧ (r.2.2 = none → w = v)) o s := by
  intro r
  have hel := elem_correctL C QC hN nm hinj ptr i v n hi steps (.var i) none v o
    (by intro y hy; simpa [vars] using hy) (by intro σ hσ; simp [evalE, hσ]) (by simp) hwt hm hs
  have hst := stable_loopVar (D := D) nm i v n hi
  cases hc : (stepCondsL ptr (.var i) none steps).1 with
  | nil =>
    have hbody : bodyL nm ptr (.var i) steps n K =
        K (stepCondsL ptr (.var i) none steps).2.1 (stepCondsL ptr (.var i) none steps).2.2 n := by
      simp only [bodyL]; rw [hc]
    have hn1 : condsNext nm ptr (.var i) steps n = n := by simp [condsNext, hc, andLowerL]
    rw [hbody, hn1]
    refine ⟨s, rfl, fun _ _ => rfl, ?_, ?_⟩
    · intro ho
      have h1 := hel.1
      rw [hc, ho] at h1
      cases h1
    · intro w hw
      obtain ⟨h1, h3, h4⟩ := hel.2 w hw
      exact ⟨rfl, h1 s.env hiv, h3, fun h => (h4 h).1⟩
  | cons c0 cs =>
    have hbody : (bodyL nm ptr (.var i) steps n K).1 =
        (andLowerL nm (c0 :: cs).reverse n).1.decls ++ (andLowerL nm (c0 :: cs).reverse n).1.stmts ++
          [.ite (andLowerL nm (c0 :: cs).reverse n).1.val
            (K (stepCondsL ptr (.var i) none steps).2.1 (stepCondsL ptr (.var i) none steps).2.2
              (andLowerL nm (c0 :: cs).reverse n).1.next).1 []] := by
      simp only [bodyL]; rw [hc]
    have hn1 : condsNext nm ptr (.var i) steps n = (andLowerL nm (c0 :: cs).reverse n).1.next := by
      simp only [condsNext]; rw [hc]
    rw [hbody, hn1]
    have hev := hel.1
    rw [hc] at hev
    obtain ⟨wc, hbc, _, hS⟩ := andLowerL_correct C nm (fun _ => True) (LoopVar i v) n hst (c0 :: cs).reverse n o.isSome
      (Nat.le_refl n) hev
    obtain ⟨σ', hpre, hfr', _, hval⟩ := sound_block C nm _ hst _ wc hS (andLowerL_layout nm _ n).decls s.env s.rows hiv
    have hg := execs_guard C _ _ (K (stepCondsL ptr (.var i) none steps).2.1 (stepCondsL ptr (.var i) none steps).2.2
      (andLowerL nm (c0 :: cs).reverse n).1.next).1 s σ' wc o.isSome hpre hval hbc
    refine ⟨⟨σ', s.rows⟩, rfl, hfr', fun ho => by rw [hg, ho]; rfl, fun w hw => ?_⟩
    obtain ⟨h1, h3, h4⟩ := hel.2 w hw
    exact ⟨by rw [hg, hw]; rfl, h1 σ' (hst.frame (Nat.le_refl n) hiv hfr'), h3, fun h => (h4 h).1⟩

theorem compColsL_layout (nm : Nat → String) (ptr : Bool) (cur : CExpr) (t : Ty) : ∀ (les : List LE) (n : Nat),
    n ≤ (compColsL nm ptr cur t les n).next ∧
    (∀ d ∈ (compColsL nm ptr cur t les n).decls, LDecl d ∧ InRange nm n (compColsL nm ptr cur t les n).next (dname d)) ∧
    ∀ e ∈ (compColsL nm ptr cur t les n).vals, ∀ y ∈ vars e, y ∈ vars cur ∨ InRange nm n (compColsL nm ptr cur t les n).next y
  | [], n => ⟨Nat.le_refl n, nofun, nofun⟩
  | le :: rest, n => by
    have hl := compLE_layout nm ptr cur t le n
    obtain ⟨h1, h2, h3⟩ := compColsL_layout nm ptr cur t rest (compLE nm ptr cur t le n).next
    refine ⟨Nat.le_trans hl.ge h1, fun d hd => ?_, fun e he y hy => ?_⟩
    · exact (List.mem_append.1 hd).elim (fun h => (hl.decls d h).imp_right (·.mono (Nat.le_refl n) h1))
        fun h => (h2 d h).imp_right (·.mono hl.ge (Nat.le_refl _))
    · rcases List.mem_cons.1 he with rfl | he
      · exact (hl.valVars y hy).imp_right (·.mono (Nat.le_refl n) h1)
      · exact (h3 e he y hy).imp_right (·.mono hl.ge (Nat.le_refl _))

theorem compColsL_vals_length (nm : Nat → String) (ptr : Bool) (cur : CExpr) (t : Ty) :
    ∀ (les : List LE) (n : Nat), (compColsL nm ptr cur t les n).vals.length = les.length
  | [], n => by simp [compColsL]
  | le :: rest, n => by simp [compColsL, compColsL_vals_length nm ptr cur t rest]

/-- **the columns of a row** — every column's statements in order; afterwards every column's value
expression evaluates to the value the query's column expression denotes -/
theorem colsL_correct (C : Ctx D) (QC : QCtx D) (hN : QC.N = C.N) (nm : Nat → String) (hinj : ∀ i j, nm i = nm j → i = j)
    (ptr : Bool) (cur : CExpr) (curTy : Option Ty) (w : Val D) (hty : ∀ t, curTy = some t → HasTy w t) :
    ∀ (les : List LE) (n : Nat) (row : List (Val D)),
      (∀ le ∈ les, wtLE curTy le = true) → (∀ le ∈ les, MethTyped w (methsLE le)) →
      (∀ y ∈ vars cur, ∀ j, n ≤ j → y ≠ nm j) → denotes QC [("r", w)] (les.map (leQ "r")) = .ok row →
      ∀ (σ : Env D) (rows : List (List (Val D))), CurIs C cur w σ →
        Declared σ (compColsL nm ptr cur (curT curTy) les n).decls →
        ∃ σ', execs C (compColsL nm ptr cur (curT curTy) les n).stmts ⟨σ, rows⟩ = .ok ⟨σ', rows⟩ ∧
          Frame nm n (compColsL nm ptr cur (curT curTy) les n).next σ σ' ∧ Mono σ σ' ∧
          evalsTo C.N σ' (compColsL nm ptr cur (curT curTy) les n).vals row
  | [], n, row, _, _, _, hrow, σ, rows, _, _ => by
    simp only [List.map_nil, denotes, Except.ok.injEq] at hrow; subst hrow
    exact ⟨σ, by simp [compColsL, execs], Frame.refl nm _ _ σ, Mono.refl σ, by simp [compColsL, evalsTo]⟩
  | le :: rest, n, row, hwt, hmt, hfr, hrow, σ, rows, hp, hd => by
    rw [List.map_cons] at hrow
    obtain ⟨v0, vs, h1, h2, rfl⟩ := denotes_cons_ok.1 hrow
    have hk := compLE_next_ge nm ptr cur (curT curTy) le n
    have hk2 := (compColsL_layout nm ptr cur (curT curTy) rest (compLE nm ptr cur (curT curTy) le n).next).1
    simp only [compColsL] at hd ⊢
    have hS := (le_sound C QC hN nm hinj ptr cur curTy w "r" [] hty le n (hwt le (by simp)) (hmt le (by simp)) hfr).1
    rw [h1] at hS
    obtain ⟨σa, hexa, hfra, hmoa, hva⟩ := agrees_ok C nm _ (hS σ rows hp (fun d h => hd d (List.mem_append_left _ h)))
    have hst := stable_curIs C nm cur w n hfr
    have hpa : CurIs C cur w σa := hst.frame (Nat.le_refl n) hp hfra
    obtain ⟨σ', hex, hfr', hmo, hvs⟩ := colsL_correct C QC hN nm hinj ptr cur curTy w hty rest _ vs
      (fun l hl => hwt l (by simp [hl])) (fun l hl => hmt l (by simp [hl])) (fun y hy j hj => hfr y hy j (by omega)) h2
      σa rows hpa (Declared.mono (fun d h => hd d (List.mem_append_right _ h)) hmoa)
    refine ⟨σ', ?_, hfra.trans hfr' (Nat.le_refl _) (by omega) hk (Nat.le_refl _), hmoa.trans hmo, ?_, hvs⟩
    · rw [execs_append, hexa]; exact hex
    · rw [(OutOfReach.inRange (compLE_val_fresh nm hinj ptr cur (curT curTy) le n hfr)).evalE (Nat.le_refl _) C.N hfr']
      exact hva

/-- **one row** — declarations, the columns' statements, the assignments, the fill: `rowOfCols_correct`, the declarations
(none with an initialiser) run by `run_decls` -/
theorem rowK_correct (C : Ctx D) (QC : QCtx D) (hN : QC.N = C.N) (B : Backend) (nm cn : Nat → String)
    (hinj : ∀ i j, nm i = nm j → i = j) (hcinj : ∀ i j, cn i = cn j → i = j) (hdisj : ∀ j k, nm j ≠ cn k)
    (les : List LE) (cur : CExpr) (ty : Option Ty) (w : Val D) (n : Nat)
    (hcols : C.cols = colNames cn les.length 0)
    (hcv : ∀ y ∈ vars cur, (∀ j, n ≤ j → y ≠ nm j) ∧ ∀ k, y ≠ cn k)
    (hty : ∀ t, ty = some t → HasTy w t)
    (hwt : ∀ le ∈ les, wtLE ty le = true) (hmt : ∀ le ∈ les, MethTyped w (methsLE le))
    (row : List (Val D)) (hrow : denotes QC [("r", w)] (les.map (leQ "r")) = .ok row)
    (s : St D) (hcur : evalE C.N s.env cur = .ok w)
    (hdecl : ∀ k, k < les.length → (s.env (cn k)).isSome = true) :
    ∃ s', execs C (rowK B nm cn les cur ty n).1 s = .ok s' ∧ s'.rows = s.rows ++ [row] ∧
      ∀ k, k < les.length → (s'.env (cn k)).isSome = true := by
  have hlay := compColsL_layout nm (B.elemPtr && ty.isNone) cur (curT ty) les n
  exact rowOfCols_correct C B hcinj hdisj (compColsL nm (B.elemPtr && ty.isNone) cur (curT ty) les n) cur w n les.length hcols hcv
    (Declared · (compColsL nm (B.elemPtr && ty.isNone) cur (curT ty) les n).decls)
    (fun s => let ⟨σd, hex, hfr, _, hd⟩ := run_decls C nm n _ _ s.env s.rows hlay.2.1; ⟨⟨σd, s.rows⟩, hex, rfl, hd, hfr⟩)
    hlay.2.2 (compColsL_vals_length nm _ cur _ les n) row
    (fun s hcur hdone =>
      let ⟨σ1, hex1, hfr1, _, hvals⟩ := colsL_correct C QC hN nm hinj _ cur ty w hty les n row hwt hmt
        (fun y hy => (hcv y hy).1) hrow s.env s.rows hcur hdone
      ⟨⟨σ1, s.rows⟩, hex1, rfl, hvals, hfr1⟩)
    s hcur hdecl

end FaxVerif.Gen
