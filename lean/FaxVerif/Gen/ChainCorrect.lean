/-
Gen — the conditions of a chain `coll.{Select|Where}*`, before any loop is run. The lowering of a (fused) conjunction of
`Where` conditions to `bool r; r = a; if (r) { r = b; }` computes the conjunction and is as lazy as the query, value or
fault (`andLower_sim`; `andLower_correct` is its success direction); `condsR` / `condsF` are that conjunction over the
reversed / the written order, `stepConds_*` say which variables and type the threaded conditions and value have.
`chainList` is the query's list-at-a-time semantics (that it is the element-at-a-time one when it succeeds:
`chainList_elems`, Gen/QueryLemmas.lean). What the conditions and values do for one element: `elem_sim`, Gen/Forced.lean.
Here too, the vocabulary of every later frame condition: the names a fragment laid out over the supply range `[lo, hi)`
may write (`InRange nm`; `Touch nm`: `result` as well; `Frames`: the three facts — monotone in the range, a name drawn
in one range is outside the set of a disjoint range, `InRange` included — that later lemmas use of either) and
`OutOfReach`, an expression no fragment from `n` on disturbs.
-/
import FaxVerif.Gen.PureCorrect
import FaxVerif.Cpp.Frame
import FaxVerif.Linq.Combinators
namespace FaxVerif.Gen
open FaxVerif.Cpp FaxVerif.Linq
variable {D : Type}

theorem vars_compPE (ptr : Bool) (cur : CExpr) (t : Ty) :
    ∀ pe : PE, ∀ x ∈ vars (compPE ptr cur t pe), x ∈ vars cur
  | .int _, x, h | .dbl _ _, x, h | .bool _, x, h => by simp [compPE, vars] at h
  | .it, x, h => by simpa [compPE] using h
  | .meth _ _, x, h => by simpa [compPE, vars, varsL] using h
  | .bin op a b, x, h => by
    simp only [compPE] at h
    split at h <;> simp only [vars, List.mem_append] at h <;>
      exact h.elim (vars_compPE ptr cur t a x) (vars_compPE ptr cur t b x)
  | .cmp _ a b, x, h => by
    simp only [compPE, vars, List.mem_append] at h
    exact h.elim (vars_compPE ptr cur t a x) (vars_compPE ptr cur t b x)
  | .neg a, x, h | .not a, x, h => by simp only [compPE, vars] at h; exact vars_compPE ptr cur t a x h

/-- evaluate a condition expression to a truth value, as `if (c)` does -/
def evalB (N : Num D) (σ : Env D) (c : CExpr) : Except Fault Bool :=
  match evalE N σ c with
  | .error f => .error f
  | .ok v => match asBool N v with
    | some b => .ok b
    | none => .error (.typeErr "condition")

/-- lazy conjunction of conditions given in REVERSE order (last condition first) -/
def condsR (N : Num D) (σ : Env D) : List CExpr → Except Fault Bool
  | [] => .ok true
  | c :: rest => match condsR N σ rest with
    | .error f => .error f
    | .ok false => .ok false
    | .ok true => evalB N σ c

/-- the same conjunction over the conditions in the order written (first condition first): `condsF_eq_condsR` -/
def condsF (N : Num D) (σ : Env D) : List CExpr → Except Fault Bool
  | [] => .ok true
  | c :: cs => match evalB N σ c with
    | .error f => .error f
    | .ok false => .ok false
    | .ok true => condsF N σ cs

theorem evalB_ok (N : Num D) (σ : Env D) (c : CExpr) (r : Bool) (h : evalB N σ c = .ok r) :
    ∃ v, evalE N σ c = .ok v ∧ asBool N v = some r := by
  unfold evalB at h
  cases he : evalE N σ c with
  | error f => simp [he] at h
  | ok v =>
    cases hb : asBool N v with
    | none => simp [he, hb] at h
    | some b => simp only [he, hb, Except.ok.injEq] at h; exact ⟨v, rfl, h ▸ hb⟩

theorem evalB_of (N : Num D) (σ : Env D) (c : CExpr) (v : Val D) (r : Bool)
    (h1 : evalE N σ c = .ok v) (h2 : asBool N v = some r) : evalB N σ c = .ok r := by
  simp only [evalB, h1, h2]

theorem condsR_cons (N : Num D) (σ : Env D) (c : CExpr) (rest : List CExpr) :
    condsR N σ (c :: rest) = (match condsR N σ rest with
      | .error f => .error f
      | .ok false => .ok false
      | .ok true => evalB N σ c) := rfl

theorem evalB_congr (N : Num D) (σ σ' : Env D) (c : CExpr) (h : ∀ x ∈ vars c, σ x = σ' x) :
    evalB N σ c = evalB N σ' c := by
  simp only [evalB, evalE_congr N σ σ' c h]

theorem condsR_congr (N : Num D) (σ σ' : Env D) : ∀ (cs : List CExpr), (∀ c ∈ cs, ∀ x ∈ vars c, σ x = σ' x) →
    condsR N σ cs = condsR N σ' cs
  | [], _ => rfl
  | c :: rest, h => by
    simp only [condsR, condsR_congr N σ σ' rest (fun c' hc' => h c' (by simp [hc'])),
      evalB_congr N σ σ' c (h c (by simp))]

theorem condsR_snoc (N : Num D) (σ : Env D) (c : CExpr) : ∀ l : List CExpr,
    condsR N σ (l ++ [c]) = (match evalB N σ c with
      | .error f => .error f
      | .ok false => .ok false
      | .ok true => condsR N σ l)
  | [] => by
    simp only [List.nil_append, condsR]
    cases evalB N σ c with
    | error f => rfl
    | ok b => cases b <;> rfl
  | d :: l => by
    simp only [List.cons_append, condsR, condsR_snoc N σ c l]
    cases evalB N σ c with
    | error f => rfl
    | ok b => cases b <;> rfl

theorem condsF_eq_condsR (N : Num D) (σ : Env D) : ∀ cs : List CExpr, condsF N σ cs = condsR N σ cs.reverse
  | [] => rfl
  | c :: cs => by
    simp only [List.reverse_cons, condsR_snoc, condsF, condsF_eq_condsR N σ cs]

/-- the names a fragment laid out over the supply range `[lo, hi)` may write when it retrieves nothing: `nm j`,
`lo ≤ j < hi` -/
def InRange (nm : Nat → String) (lo hi : Nat) (y : String) : Prop := ∃ j, lo ≤ j ∧ j < hi ∧ y = nm j

theorem InRange.mono {nm : Nat → String} {lo hi lo' hi' : Nat} {y : String} (h : InRange nm lo hi y)
    (h1 : lo' ≤ lo) (h2 : hi ≤ hi') : InRange nm lo' hi' y := by
  obtain ⟨j, a, b, c⟩ := h; exact ⟨j, by omega, by omega, c⟩

/-- the names a fragment over `[lo, hi)` may write when it retrieves a collection: `result` as well -/
def Touch (nm : Nat → String) (lo hi : Nat) (y : String) : Prop := InRange nm lo hi y ∨ y = "result"

theorem Touch.mono {nm : Nat → String} {lo hi lo' hi' : Nat} {y : String} (h : Touch nm lo hi y)
    (h1 : lo' ≤ lo) (h2 : hi ≤ hi') : Touch nm lo' hi' y :=
  h.imp (·.mono h1 h2) id

theorem not_touch_of_ne {nm : Nat → String} {y : String} (h1 : ∀ j, y ≠ nm j) (h2 : y ≠ "result") (lo hi : Nat) :
    ¬ Touch nm lo hi y := by
  rintro (⟨j, _, _, h⟩ | h)
  · exact h1 j h
  · exact h2 h

/-- what later lemmas use of the family `T` of name sets in a frame condition, `InRange nm` or `Touch nm`: monotone in the
range, `InRange nm` included, and (`disj`) a name DRAWN in one range is outside the set of a disjoint range — `InRange`
against `T`, since two `Touch` sets both hold `result` and are never disjoint from each other -/
structure Frames (nm : Nat → String) (T : Nat → Nat → String → Prop) : Prop where
  mono : ∀ {lo hi lo' hi' : Nat} {y : String}, lo ≤ lo' → hi' ≤ hi → T lo' hi' y → T lo hi y
  disj : ∀ {lo hi lo' hi' : Nat} {y : String}, hi ≤ lo' ∨ hi' ≤ lo → InRange nm lo hi y → ¬ T lo' hi' y
  incl : ∀ {lo hi : Nat} {y : String}, InRange nm lo hi y → T lo hi y

theorem Frames.inRange {nm : Nat → String} (hinj : ∀ i j, nm i = nm j → i = j) : Frames nm (InRange nm) where
  mono h1 h2 h := h.mono h1 h2
  disj := by
    rintro lo hi lo' hi' y hd ⟨j, _, _, rfl⟩ ⟨j', _, _, e⟩
    have := hinj _ _ e; omega
  incl := id

theorem inRange_disjoint {nm : Nat → String} (hinj : ∀ i j, nm i = nm j → i = j) {a b c : Nat} {y : String}
    (h1 : InRange nm b c y) : ¬ InRange nm a b y :=
  fun h => (Frames.inRange hinj).disj (.inl (Nat.le_refl b)) h h1

theorem Frames.touch {nm : Nat → String} (hinj : ∀ i j, nm i = nm j → i = j) (hres : ∀ j, nm j ≠ "result") :
    Frames nm (Touch nm) where
  mono h1 h2 h := h.mono h1 h2
  disj := by
    rintro lo hi lo' hi' y hd hy (h | h)
    · exact (Frames.inRange hinj).disj hd hy h
    · obtain ⟨j, _, _, rfl⟩ := hy; exact hres j h
  incl := Or.inl

theorem not_touch_below {nm : Nat → String} (hinj : ∀ i j, nm i = nm j → i = j) (hres : ∀ j, nm j ≠ "result")
    {k lo : Nat} (h : k < lo) (hi : Nat) : ¬ Touch nm lo hi (nm k) :=
  (Frames.touch hinj hres).disj (.inl h) ⟨k, Nat.le_refl k, Nat.lt_succ_self k, rfl⟩

/-- no fragment laid out from supply position `n` on touches a variable of `e` (the expression for the element in
scope); `T` is the family of name sets a fragment over `[lo, hi)` may write, `InRange nm` or `Touch nm` -/
def OutOfReach (T : Nat → Nat → String → Prop) (n : Nat) (e : CExpr) : Prop :=
  ∀ y ∈ vars e, ∀ lo hi, n ≤ lo → ¬ T lo hi y

theorem OutOfReach.mono {T : Nat → Nat → String → Prop} {n m : Nat} {e : CExpr} (h : OutOfReach T n e) (hnm : n ≤ m) :
    OutOfReach T m e :=
  fun y hy lo hi hlo => h y hy lo hi (Nat.le_trans hnm hlo)

theorem OutOfReach.inRange {nm : Nat → String} {n : Nat} {e : CExpr} (h : ∀ y ∈ vars e, ∀ j, n ≤ j → y ≠ nm j) :
    OutOfReach (InRange nm) n e :=
  fun y hy _ _ hlo ⟨j, hj1, _, hj3⟩ => h y hy j (Nat.le_trans hlo hj1) hj3

theorem OutOfReach.ne {nm : Nat → String} {n : Nat} {e : CExpr} (h : OutOfReach (InRange nm) n e) :
    ∀ y ∈ vars e, ∀ j, n ≤ j → y ≠ nm j :=
  fun y hy j hj e => h y hy j (j + 1) hj ⟨j, Nat.le_refl j, Nat.lt_succ_self j, e⟩

theorem OutOfReach.touch {nm : Nat → String} {n : Nat} {e : CExpr}
    (h : ∀ y ∈ vars e, (∀ j, n ≤ j → y ≠ nm j) ∧ y ≠ "result") : OutOfReach (Touch nm) n e :=
  fun y hy _ _ hlo ht => ht.elim (fun ⟨j, hj1, _, hj3⟩ => (h y hy).1 j (Nat.le_trans hlo hj1) hj3) (h y hy).2

theorem OutOfReach.closed {T : Nat → Nat → String → Prop} {n : Nat} {e : CExpr} (h : vars e = []) : OutOfReach T n e :=
  fun y hy => by rw [h] at hy; cases hy

theorem OutOfReach.var {nm : Nat → String} {n : Nat} {i : String} (h : ∀ j, n ≤ j → i ≠ nm j) :
    OutOfReach (InRange nm) n (.var i) :=
  .inRange fun y hy => by rw [List.mem_singleton.1 hy]; exact h

theorem OutOfReach.vars_sub {T : Nat → Nat → String → Prop} {n : Nat} {e e' : CExpr} (h : OutOfReach T n e)
    (hsub : ∀ y ∈ vars e', y ∈ vars e) : OutOfReach T n e' :=
  fun y hy => h y (hsub y hy)

theorem OutOfReach.vars_sub₂ {T : Nat → Nat → String → Prop} {n : Nat} {a b e : CExpr} (ha : OutOfReach T n a)
    (hb : OutOfReach T n b) (hsub : ∀ y ∈ vars e, y ∈ vars a ∨ y ∈ vars b) : OutOfReach T n e :=
  fun y hy => (hsub y hy).elim (ha y) (hb y)

theorem OutOfReach.evalE {T : Nat → Nat → String → Prop} {n lo hi : Nat} {e : CExpr} (h : OutOfReach T n e) (hlo : n ≤ lo)
    (N : Num D) {σ σ' : Env D} (hag : ∀ y, ¬ T lo hi y → σ' y = σ y) : evalE N σ' e = evalE N σ e :=
  evalE_congr N σ' σ e fun y hy => hag y (h y hy lo hi hlo)

theorem andLower_next_ge (nm : Nat → String) : ∀ (rc : List CExpr) (n : Nat), n ≤ (andLower nm rc n).next
  | [], n => by simp [andLower]
  | [_], n => by simp [andLower]
  | _ :: c2 :: rest, n => by
    have := andLower_next_ge nm (c2 :: rest) (n + 1)
    simp only [andLower]; omega

/-- **and-lowering, both directions** — the lowered statements followed by the test of their result
expression compute the lazy conjunction of the conditions, fault or truth value. -/
theorem andLower_sim (C : Ctx D) (nm : Nat → String) (hinj : ∀ i j, nm i = nm j → i = j) :
    ∀ (rc : List CExpr) (n : Nat) (σ : Env D) (rows : List (List (Val D))),
      (∀ c ∈ rc, OutOfReach (InRange nm) n c) →
      (∃ f, execs C ((andLower nm rc n).decls ++ (andLower nm rc n).stmts) ⟨σ, rows⟩ = .error f ∧
        condsR C.N σ rc = .error f) ∨
      ∃ σ', execs C ((andLower nm rc n).decls ++ (andLower nm rc n).stmts) ⟨σ, rows⟩ = .ok ⟨σ', rows⟩ ∧
        evalB C.N σ' (andLower nm rc n).val = condsR C.N σ rc ∧
        (∀ y, ¬ InRange nm n (andLower nm rc n).next y → σ' y = σ y)
  | [], n, σ, rows, _ =>
    Or.inr ⟨σ, by simp [andLower, execs], by simp [andLower, evalB, evalE, asBool, condsR], fun _ _ => rfl⟩
  | [c], n, σ, rows, _ => Or.inr ⟨σ, by simp [andLower, execs], by simp [andLower, condsR], fun _ _ => rfl⟩
  | c :: c2 :: rest, n, σ, rows, hfresh => by
    -- `bool nm n;` comes first, then the tail `c2 :: rest` laid out from `n + 1`, run with `nm n` declared: no condition
    -- mentions `nm n` (`hcongr`), so the tail computes its conjunction over `σ`. Then `nm n = tail; if (nm n) nm n = c;`,
    -- and `c` (the LAST condition) still reads `σ`, the tail having written inside `[n + 1, next)` only.
    have hfresh' : ∀ c' ∈ c2 :: rest, OutOfReach (InRange nm) (n + 1) c' :=
      fun c' hc' => (hfresh c' (List.mem_cons_of_mem _ hc')).mono (Nat.le_succ n)
    have hge := andLower_next_ge nm (c2 :: rest) (n + 1)
    have hcongr : condsR C.N (σ.declare (nm n)) (c2 :: rest) = condsR C.N σ (c2 :: rest) := by
      apply condsR_congr
      intro c' hc' x hx
      have : x ≠ nm n := (hfresh c' (List.mem_cons_of_mem _ hc')).ne x hx n (Nat.le_refl n)
      simp [Env.declare, this]
    have hval : (andLower nm (c :: c2 :: rest) n).val = .var (nm n) := rfl
    have hnext : (andLower nm (c :: c2 :: rest) n).next = (andLower nm (c2 :: rest) (n + 1)).next := rfl
    have hstart : execs C ((andLower nm (c :: c2 :: rest) n).decls ++ (andLower nm (c :: c2 :: rest) n).stmts) ⟨σ, rows⟩ =
        execs C (((andLower nm (c2 :: rest) (n + 1)).decls ++ (andLower nm (c2 :: rest) (n + 1)).stmts) ++ [.set (nm n) (andLower nm (c2 :: rest) (n + 1)).val, .ite (.var (nm n)) [.set (nm n) c] []]) ⟨σ.declare (nm n), rows⟩ := by
      have hvt : isVecType "bool" = false := by decide
      have hshape : (andLower nm (c :: c2 :: rest) n).decls ++ (andLower nm (c :: c2 :: rest) n).stmts =
          .decl "bool" (nm n) none :: (((andLower nm (c2 :: rest) (n + 1)).decls ++ (andLower nm (c2 :: rest) (n + 1)).stmts) ++ [.set (nm n) (andLower nm (c2 :: rest) (n + 1)).val, .ite (.var (nm n)) [.set (nm n) c] []]) := by
        simp [andLower, List.append_assoc]
      rw [hshape]
      simp only [execs, exec, hvt, Bool.false_eq_true, if_false]
    rw [hstart, execs_append, condsR_cons, ← hcongr, hval, hnext]
    rcases andLower_sim C nm hinj (c2 :: rest) (n + 1) (σ.declare (nm n)) rows hfresh' with ⟨f, hex1, hr1⟩ | ⟨σ1, hex1, hval1, hfr1⟩
    · exact Or.inl ⟨f, by rw [hex1], by rw [hr1]⟩
    rw [hex1, ← hval1]
    simp only []
    have hbdecl : σ1 (nm n) = some .uninit := by
      rw [hfr1 (nm n) (by rintro ⟨j, hj1, _, hj3⟩; have := hinj _ _ hj3; omega)]
      simp [Env.declare]
    cases hv1 : evalE C.N σ1 (andLower nm (c2 :: rest) (n + 1)).val with
    | error f =>
      rw [show evalB C.N σ1 (andLower nm (c2 :: rest) (n + 1)).val = .error f by simp only [evalB, hv1]]
      exact Or.inl ⟨f, by simp only [execs, exec, hbdecl, hv1], rfl⟩
    | ok v1 =>
      let σ2 : Env D := σ1.set (nm n) v1
      have hset : execs C [.set (nm n) (andLower nm (c2 :: rest) (n + 1)).val, .ite (.var (nm n)) [.set (nm n) c] []] ⟨σ1, rows⟩ =
          execs C [.ite (.var (nm n)) [.set (nm n) c] []] ⟨σ2, rows⟩ := by
        simp only [execs, exec, hbdecl, hv1]; rfl
      have hσ2 : ∀ y, ¬ InRange nm n (andLower nm (c2 :: rest) (n + 1)).next y → σ2 y = σ y := by
        intro y hy
        have hyb : y ≠ nm n := fun e => hy ⟨n, Nat.le_refl n, by omega, e⟩
        simp only [σ2, Env.set, hyb, if_false]
        rw [hfr1 y (fun ⟨j, hj1, hj2, hj3⟩ => hy ⟨j, by omega, hj2, hj3⟩)]
        simp [Env.declare, hyb]
      have hvarb : evalE C.N σ2 (.var (nm n)) = .ok v1 := by simp [evalE, σ2, Env.set]
      have hσ2b : σ2 (nm n) = some (.val v1) := by simp [σ2, Env.set]
      rw [hset]
      cases hb1 : asBool C.N v1 with
      | none =>
        rw [show evalB C.N σ1 (andLower nm (c2 :: rest) (n + 1)).val = .error (.typeErr "condition") by
          simp only [evalB, hv1, hb1]]
        exact Or.inl ⟨_, by simp only [execs, exec, hvarb, hb1], rfl⟩
      | some b1 =>
        rw [evalB_of _ _ _ _ _ hv1 hb1]
        cases b1 with
        | false =>
          exact Or.inr ⟨σ2, by simp only [execs, exec, hvarb, hb1], evalB_of _ _ _ _ _ hvarb hb1, hσ2⟩
        | true =>
          have hc : evalB C.N σ c = evalB C.N σ2 c :=
            evalB_congr _ _ _ _ fun x hx => (hσ2 x (hfresh c (by simp) x hx _ _ (Nat.le_refl n))).symm
          simp only []
          rw [hc]
          cases hvc : evalE C.N σ2 c with
          | error f =>
            exact Or.inl ⟨f, by simp only [execs, exec, hvarb, hb1, hσ2b, hvc], by simp only [evalB, hvc]⟩
          | ok vc =>
            refine Or.inr ⟨σ2.set (nm n) vc, by simp only [execs, exec, hvarb, hb1, hσ2b, hvc], ?_, fun y hy => ?_⟩
            · have hv : evalE C.N (σ2.set (nm n) vc) (.var (nm n)) = .ok vc := by simp [evalE, Env.set]
              simp only [evalB, hvc, hv]
            · have hyb : y ≠ nm n := fun e => hy ⟨n, Nat.le_refl n, by omega, e⟩
              rw [← hσ2 y hy]
              simp only [Env.set, hyb, if_false]

theorem andLower_correct (C : Ctx D) (nm : Nat → String) (hinj : ∀ i j, nm i = nm j → i = j) :
    ∀ (rc : List CExpr) (n : Nat) (σ : Env D) (rows : List (List (Val D))) (r : Bool),
      (∀ c ∈ rc, ∀ x ∈ vars c, ∀ j, n ≤ j → x ≠ nm j) →
      condsR C.N σ rc = .ok r →
      ∃ σ', execs C ((andLower nm rc n).decls ++ (andLower nm rc n).stmts) ⟨σ, rows⟩ = .ok ⟨σ', rows⟩ ∧
        evalB C.N σ' (andLower nm rc n).val = .ok r ∧
        (∀ y, ¬ InRange nm n (andLower nm rc n).next y → σ' y = σ y) := by
  intro rc n σ rows r hfresh h
  rcases andLower_sim C nm hinj rc n σ rows (fun c hc => .inRange (hfresh c hc)) with ⟨f, _, hr⟩ | ⟨σ', hex, hval, hfr⟩
  · rw [h] at hr; cases hr
  · exact ⟨σ', hex, hval.trans h, hfr⟩

theorem peQ_indep (C : QCtx D) (v : Val D) (x y : String) (ρ ρ' : LEnv D) :
    ∀ pe : PE, denote C ((x, v) :: ρ) (peQ x pe) = denote C ((y, v) :: ρ') (peQ y pe)
  | .int _ | .dbl _ _ | .bool _ => by simp [peQ, denote]
  | .it | .meth _ _ => by simp [peQ, denote, LEnv.get]
  | .bin _ a b | .cmp _ a b => by simp only [peQ, denote, peQ_indep C v x y ρ ρ' a, peQ_indep C v x y ρ ρ' b]
  | .neg a | .not a => by simp only [peQ, denote, peQ_indep C v x y ρ ρ' a]

theorem methTyped_of_hasTy {w : Val D} {t : Ty} (h : HasTy w t) (ms : List (String × Ty)) : MethTyped w ms := by
  intro p _ u hu
  cases w <;> cases t <;> simp [HasTy, member] at h hu

theorem stepConds_vars (ptr : Bool) : ∀ (steps : List Step) (cur : CExpr) (curTy : Option Ty),
    (∀ c ∈ (stepConds ptr cur curTy steps).1, ∀ x ∈ vars c, x ∈ vars cur) ∧
    (∀ x ∈ vars (stepConds ptr cur curTy steps).2.1, x ∈ vars cur)
  | [], cur, curTy => by simp [stepConds]
  | .sel f :: rest, cur, curTy => by
    have ih := stepConds_vars ptr rest (compPE (ptr && curTy.isNone) cur (curTy.getD .double) f) (some (tyPE (curTy.getD .double) f))
    simp only [stepConds]
    exact ⟨fun c hc x hx => vars_compPE _ _ _ f x (ih.1 c hc x hx), fun x hx => vars_compPE _ _ _ f x (ih.2 x hx)⟩
  | .whr c :: rest, cur, curTy => by
    have ih := stepConds_vars ptr rest cur curTy
    simp only [stepConds]
    refine ⟨?_, ih.2⟩
    intro c' hc' x hx
    rcases List.mem_cons.1 hc' with rfl | hc'
    · exact vars_compPE _ _ _ c x hx
    · exact ih.1 c' hc' x hx

theorem stepConds_ty (ptr : Bool) : ∀ (steps : List Step) (cur : CExpr) (t : Option Ty),
    (stepConds ptr cur t steps).2.2 = chainTy t steps
  | [], _, _ => rfl
  | .sel f :: rest, cur, t => by simp only [stepConds, chainTy]; exact stepConds_ty ptr rest _ _
  | .whr c :: rest, cur, t => by simp only [stepConds, chainTy]; exact stepConds_ty ptr rest _ _

def chainList (C : QCtx D) : List Step → List (Val D) → Except Fault (List (Val D))
  | [], l => .ok l
  | .sel f :: rest, l => match mapE (fun v => peSem C v f) l with
    | .error e => .error e
    | .ok r => chainList C rest r
  | .whr c :: rest, l => match filterE C.N (fun v => peSem C v c) l with
    | .error e => .error e
    | .ok r => chainList C rest r

/-- what a per-element meaning `f` (keep the element as `some w`, drop it as `none`, or fault) does to a list:
the form of `elemsSem`, `celemsSem` -/
def optsE (f : Val D → Except Fault (Option (Val D))) : List (Val D) → Except Fault (List (Val D))
  | [] => .ok []
  | v :: vs => match f v with
    | .error e => .error e
    | .ok o => match optsE f vs with
      | .error e => .error e
      | .ok rs => .ok (o.toList ++ rs)

theorem optsE_cons_ok {f : Val D → Except Fault (Option (Val D))} {v : Val D} {vs r : List (Val D)} :
    optsE f (v :: vs) = .ok r ↔ ∃ o rs, f v = .ok o ∧ optsE f vs = .ok rs ∧ r = o.toList ++ rs := by
  simp only [optsE]
  cases f v <;> cases optsE f vs <;> simp [eq_comm]

theorem elemsSem_eq_optsE (C : QCtx D) (steps : List Step) : ∀ l : List (Val D),
    elemsSem C steps l = optsE (elemSem C steps) l
  | [] => rfl
  | v :: vs => by simp only [elemsSem, optsE, elemsSem_eq_optsE C steps vs]; rfl

theorem elemsSem_cons_ok {C : QCtx D} {steps : List Step} {v : Val D} {vs r : List (Val D)} :
    elemsSem C steps (v :: vs) = .ok r ↔
      ∃ o rs, elemSem C steps v = .ok o ∧ elemsSem C steps vs = .ok rs ∧ r = o.toList ++ rs := by
  simp only [elemsSem_eq_optsE]; exact optsE_cons_ok

theorem elemsSem_nil_steps (C : QCtx D) : ∀ l : List (Val D), elemsSem C [] l = .ok l
  | [] => rfl
  | v :: vs => by simp [elemsSem, elemSem, elemsSem_nil_steps C vs]

end FaxVerif.Gen
