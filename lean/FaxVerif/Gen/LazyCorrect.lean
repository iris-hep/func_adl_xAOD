/-
Gen — the lowering of element-level expressions with LAZY operators (`compLE`, Gen/Lazy.lean) to statements:
where an emitted fragment sits in the name supply (`LLayout`, `compLE_layout`),
what it means for an emitted fragment to agree with the query's outcome (`Agrees`, `Sound`: the same value, or a
fault where the query faults; only the fragment's fresh names touched), and one combinator per construct
(`sound_bin`, `sound_ite`, `sound_bop`), stated for arbitrary outcomes of the parts, so that `le_sound`
(Gen/LazyExprCorrect.lean) only instantiates them.
-/
import FaxVerif.Gen.Lazy
import FaxVerif.Gen.FragSpec
namespace FaxVerif.Gen
open FaxVerif.Cpp FaxVerif.Linq
variable {D : Type}

def LDecl (d : Stmt) : Prop := ∃ ty x, d = .decl ty x none ∧ isVecType ty = false

def dname : Stmt → String
  | .decl _ x _ => x
  | _ => ""

/-- where a fragment compiled at supply position `n` sits: it draws the names `[n, next)`, its declarations are plain
(`T x;`, no vector) and of such names, its value mentions only them and variables in `S` (those of the current-value
expression) -/
structure LLayout (nm : Nat → String) (S : String → Prop) (n : Nat) (F : CondFrag) : Prop where
  ge : n ≤ F.next
  valVars : ∀ y ∈ vars F.val, S y ∨ InRange nm n F.next y
  decls : ∀ d ∈ F.decls, LDecl d ∧ InRange nm n F.next (dname d)

section layout
variable {nm : Nat → String} {S : String → Prop}

theorem LLayout.pure {val : CExpr} (n : Nat) (h : ∀ y ∈ vars val, S y) : LLayout nm S n ⟨[], [], val, n⟩ :=
  ⟨Nat.le_refl n, fun y hy => Or.inl (h y hy), fun _ h => nomatch h⟩

theorem LLayout.reval {n : Nat} {F : CondFrag} (h : LLayout nm S n F) (v : CExpr) (hv : ∀ y ∈ vars v, y ∈ vars F.val) :
    LLayout nm S n ⟨F.decls, F.stmts, v, F.next⟩ := ⟨h.ge, fun y hy => h.valVars y (hv y hy), h.decls⟩

theorem LLayout.wider {S' : String → Prop} {n : Nat} {F : CondFrag} (h : LLayout nm S n F) (hS : ∀ y, S y → S' y) :
    LLayout nm S' n F := ⟨h.ge, fun y hy => (h.valVars y hy).imp_left (hS y), h.decls⟩

theorem LLayout.seq {n : Nat} {Fa Fb : CondFrag} (ha : LLayout nm S n Fa) (hb : LLayout nm S Fa.next Fb) (v : CExpr)
    (hv : ∀ y ∈ vars v, y ∈ vars Fa.val ∨ y ∈ vars Fb.val) :
    LLayout nm S n ⟨Fa.decls ++ Fb.decls, Fa.stmts ++ Fb.stmts, v, Fb.next⟩ where
  ge := Nat.le_trans ha.ge hb.ge
  valVars y hy := (hv y hy).elim (fun h => (ha.valVars y h).imp_right (·.mono (Nat.le_refl _) hb.ge))
    fun h => (hb.valVars y h).imp_right (·.mono ha.ge (Nat.le_refl _))
  decls d hd := (List.mem_append.1 hd).elim (fun h => (ha.decls d h).imp_right (·.mono (Nat.le_refl _) hb.ge))
    fun h => (hb.decls d h).imp_right (·.mono ha.ge (Nat.le_refl _))

/-- a result variable `T r;` named `nm n` in front of a first part laid out from `n + 1`; the statements draw names up
to `next`, and the value is the result variable -/
theorem LLayout.res {S' : String → Prop} {n next : Nat} {F : CondFrag} (h : LLayout nm S (n + 1) F) (hn : F.next ≤ next)
    (ty : String) (hty : isVecType ty = false) (ss : List Stmt) :
    LLayout nm S' n ⟨.decl ty (nm n) none :: F.decls, ss, .var (nm n), next⟩ :=
  have hlt : n < next := Nat.lt_of_lt_of_le (Nat.lt_of_succ_le h.ge) hn
  ⟨Nat.le_of_lt hlt, fun _ hy => Or.inr ⟨n, Nat.le_refl n, hlt, List.mem_singleton.1 hy⟩, fun d hd =>
    (List.mem_cons.1 hd).elim (fun e => by subst e; exact ⟨⟨ty, nm n, rfl, hty⟩, n, Nat.le_refl n, hlt, rfl⟩)
      fun h' => (h.decls d h').imp_right (·.mono (Nat.le_succ n) hn)⟩

end layout

mutual
  theorem compLE_layout (nm : Nat → String) (ptr : Bool) (cur : CExpr) (t : Ty) :
      ∀ (le : LE) (k : Nat), LLayout nm (· ∈ vars cur) k (compLE nm ptr cur t le k)
    | .int _, k | .dbl _ _, k | .bool _, k => .pure k (by simp [vars])
    | .it, k => .pure k fun _ h => h
    | .meth _ _, k => .pure k (by simp [vars, varsL])
    | .bin op a b, k => (compLE_layout nm ptr cur t a k).seq (compLE_layout nm ptr cur t b _) _ (vars_binV _ _ _ _ _)
    | .cmp op a b, k => (compLE_layout nm ptr cur t a k).seq (compLE_layout nm ptr cur t b _) _ fun _ h => List.mem_append.1 h
    | .neg a, k | .not a, k => (compLE_layout nm ptr cur t a k).reval _ fun _ h => h
    | .bop op a rest, k =>
      (compLE_layout nm ptr cur t a (k + 1)).res (compRest_next_ge nm ptr cur t (nm k) op rest _) "bool" (by decide) _
    | .ite c x y, k =>
      (compLE_layout nm ptr cur t c (k + 1)).res
        (Nat.le_trans (compLE_layout nm ptr cur t x _).ge (compLE_layout nm ptr cur t y _).ge) "double" (by decide) _
  theorem compRest_next_ge (nm : Nat → String) (ptr : Bool) (cur : CExpr) (t : Ty) (r : String) (op : LOp) :
      ∀ (rest : List LE) (k : Nat), k ≤ (compRest nm ptr cur t r op rest k).2
    | [], k => Nat.le_refl k
    | b :: bs, k => Nat.le_trans (compLE_layout nm ptr cur t b k).ge (compRest_next_ge nm ptr cur t r op bs _)
end

theorem compLE_next_ge (nm : Nat → String) (ptr : Bool) (cur : CExpr) (t : Ty) (le : LE) (k : Nat) :
    k ≤ (compLE nm ptr cur t le k).next := (compLE_layout nm ptr cur t le k).ge

theorem compLE_val_vars (nm : Nat → String) (ptr : Bool) (cur : CExpr) (t : Ty) (le : LE) (k : Nat) :
    ∀ y ∈ vars (compLE nm ptr cur t le k).val, y ∈ vars cur ∨ InRange nm k (compLE nm ptr cur t le k).next y :=
  (compLE_layout nm ptr cur t le k).valVars

theorem compLE_val_fresh (nm : Nat → String) (hinj : ∀ i j, nm i = nm j → i = j) (ptr : Bool) (cur : CExpr) (t : Ty)
    (le : LE) (k : Nat) (hcur : ∀ y ∈ vars cur, ∀ j, k ≤ j → y ≠ nm j) :
    ∀ y ∈ vars (compLE nm ptr cur t le k).val, ∀ j, (compLE nm ptr cur t le k).next ≤ j → y ≠ nm j := by
  intro y hy j hj
  have hge := compLE_next_ge nm ptr cur t le k
  rcases compLE_val_vars nm ptr cur t le k y hy with h | ⟨i, _, hi2, hi3⟩
  · exact hcur y h j (by omega)
  · intro e
    have := hinj _ _ (hi3.symm.trans e)
    omega

def Frame (nm : Nat → String) (lo hi : Nat) (σ σ' : Env D) : Prop := ∀ y, ¬ InRange nm lo hi y → σ' y = σ y

def FrameR (nm : Nat → String) (lo hi : Nat) (r : String) (σ σ' : Env D) : Prop :=
  ∀ y, y ≠ r → ¬ InRange nm lo hi y → σ' y = σ y

def Mono (σ σ' : Env D) : Prop := ∀ y, (σ y).isSome = true → (σ' y).isSome = true

def Declared (σ : Env D) (ds : List Stmt) : Prop := ∀ d ∈ ds, (σ (dname d)).isSome = true

def IsErr {α : Type} (res : Except Fault α) : Prop := ∃ e, res = .error e

def Match (EF : Fault → Prop) (r res : Except Fault (Val D)) : Prop :=
  match res with
  | .ok w => r = .ok w
  | .error _ => ∃ f, r = .error f ∧ EF f

section
variable {EF : Fault → Prop} {r res : Except Fault (Val D)}

theorem Match.faults_iff (h : Match EF r res) : (∃ f', r = .error f') ↔ (∃ f, res = .error f) := by
  cases res with
  | ok w => rw [show r = .ok w from h]
  | error f => obtain ⟨f', hr, _⟩ := h; exact ⟨fun _ => ⟨f, rfl⟩, fun _ => ⟨f', hr⟩⟩

theorem Match.fault_mem (h : Match EF r res) {f' : Fault} (hr : r = .error f') : EF f' := by
  cases res with
  | ok w => rw [show r = .ok w from h] at hr; cases hr
  | error f => obtain ⟨f'', hr', hef⟩ := h; rw [hr] at hr'; cases hr'; exact hef

/-- where `EF` allows one fault only, and the faults of `res` are among `EF`, `r` raises exactly the fault of `res` -/
theorem Match.error_iff (h : Match EF r res) (hres : ∀ f, res = .error f → EF f)
    (huniq : ∀ f1 f2, EF f1 → EF f2 → f1 = f2) (f : Fault) : r = .error f ↔ res = .error f := by
  constructor
  · intro hr
    obtain ⟨f0, h0⟩ := h.faults_iff.1 ⟨f, hr⟩
    rw [h0, huniq f f0 (h.fault_mem hr) (hres f0 h0)]
  · intro h0
    obtain ⟨f', hr⟩ := h.faults_iff.2 ⟨f, h0⟩
    rw [hr, huniq f f' (hres f h0) (h.fault_mem hr)]

end

def Agrees (C : Ctx D) (nm : Nat → String) (EF : Fault → Prop) (n : Nat) (F : CondFrag) (σ : Env D)
    (rows : List (List (Val D))) (res : Except Fault (Val D)) : Prop :=
  (IsErr res ∧ ∃ f, execs C F.stmts ⟨σ, rows⟩ = .error f ∧ EF f) ∨
  (∃ σ', execs C F.stmts ⟨σ, rows⟩ = .ok ⟨σ', rows⟩ ∧ Frame nm n F.next σ σ' ∧ Mono σ σ' ∧
      Match EF (evalE C.N σ' F.val) res)

def AgreesR (C : Ctx D) (nm : Nat → String) (EF : Fault → Prop) (lo hi : Nat) (r : String) (ss : List Stmt) (σ : Env D)
    (rows : List (List (Val D))) (res : Except Fault (Val D)) : Prop :=
  (IsErr res ∧ ∃ f, execs C ss ⟨σ, rows⟩ = .error f ∧ EF f) ∨
  (∃ σ' w, res = .ok w ∧ execs C ss ⟨σ, rows⟩ = .ok ⟨σ', rows⟩ ∧ σ' r = some (.val w) ∧
      FrameR nm lo hi r σ σ' ∧ Mono σ σ')

def Sound (C : Ctx D) (nm : Nat → String) (EF : Fault → Prop) (Pre : Env D → Prop) (n : Nat) (F : CondFrag)
    (res : Except Fault (Val D)) : Prop :=
  ∀ σ rows, Pre σ → Declared σ F.decls → Agrees C nm EF n F σ rows res

def Stable (nm : Nat → String) (n : Nat) (Pre : Env D → Prop) : Prop :=
  ∀ σ σ', Pre σ → (∀ y, (∀ j, n ≤ j → y ≠ nm j) → σ' y = σ y) → Pre σ'

theorem Stable.mono {nm : Nat → String} {n m : Nat} {Pre : Env D → Prop} (h : Stable nm n Pre) (hnm : n ≤ m) :
    Stable nm m Pre :=
  fun σ σ' hp hfr => h σ σ' hp (fun y hy => hfr y (fun j hj => hy j (by omega)))

theorem Stable.frame {nm : Nat → String} {n lo hi : Nat} {Pre : Env D → Prop} (h : Stable nm n Pre) (hlo : n ≤ lo)
    {σ σ' : Env D} (hp : Pre σ) (hfr : Frame nm lo hi σ σ') : Pre σ' :=
  h σ σ' hp (fun y hy => hfr y (fun ⟨j, hj1, _, hj3⟩ => hy j (by omega) hj3))

theorem Stable.frameR {nm : Nat → String} {n lo hi k : Nat} {Pre : Env D → Prop} (h : Stable nm n Pre) (hlo : n ≤ lo)
    (hk : n ≤ k) {σ σ' : Env D} (hp : Pre σ) (hfr : FrameR nm lo hi (nm k) σ σ') : Pre σ' :=
  h σ σ' hp (fun y hy => hfr y (hy k hk) (fun ⟨j, hj1, _, hj3⟩ => hy j (by omega) hj3))

theorem Frame.trans {nm : Nat → String} {a b c d lo hi : Nat} {σ σ1 σ2 : Env D}
    (h1 : Frame nm a b σ σ1) (h2 : Frame nm c d σ1 σ2) (ha : lo ≤ a) (hb : b ≤ hi) (hc : lo ≤ c) (hd : d ≤ hi) :
    Frame nm lo hi σ σ2 := by
  intro y hy
  rw [h2 y fun h => hy (h.mono hc hd), h1 y fun h => hy (h.mono ha hb)]

theorem FrameR.trans {nm : Nat → String} {a b c d lo hi : Nat} {r : String} {σ σ1 σ2 : Env D}
    (h1 : FrameR nm a b r σ σ1) (h2 : FrameR nm c d r σ1 σ2) (ha : lo ≤ a) (hb : b ≤ hi) (hc : lo ≤ c) (hd : d ≤ hi) :
    FrameR nm lo hi r σ σ2 := by
  intro y hr hy
  rw [h2 y hr fun h => hy (h.mono hc hd), h1 y hr fun h => hy (h.mono ha hb)]

theorem Frame.toFrameR {nm : Nat → String} {lo hi : Nat} {σ σ' : Env D} (h : Frame nm lo hi σ σ') (r : String) :
    FrameR nm lo hi r σ σ' := fun y _ hy => h y hy

theorem FrameR.toFrame {nm : Nat → String} {lo hi lo' hi' n : Nat} {σ σ' : Env D} (h : FrameR nm lo hi (nm n) σ σ')
    (h1 : lo' ≤ n) (h2 : n < hi') (h3 : lo' ≤ lo) (h4 : hi ≤ hi') : Frame nm lo' hi' σ σ' :=
  fun y hy => h y (fun e => hy ⟨n, h1, h2, e⟩) fun hr => hy (hr.mono h3 h4)

theorem FrameR.refl (nm : Nat → String) (lo hi : Nat) (r : String) (σ : Env D) : FrameR nm lo hi r σ σ := fun _ _ _ => rfl
theorem Frame.refl (nm : Nat → String) (lo hi : Nat) (σ : Env D) : Frame nm lo hi σ σ := fun _ _ => rfl
theorem Mono.refl (σ : Env D) : Mono σ σ := fun _ h => h
theorem Mono.trans {σ σ1 σ2 : Env D} (h1 : Mono σ σ1) (h2 : Mono σ1 σ2) : Mono σ σ2 := fun y h => h2 y (h1 y h)

theorem Mono.set (σ : Env D) (x : String) (v : Val D) : Mono σ (σ.set x v) := by
  intro y h
  by_cases e : y = x <;> simp [Env.set, e, h]

theorem Declared.mono {σ σ' : Env D} {ds : List Stmt} (h : Declared σ ds) (hm : Mono σ σ') : Declared σ' ds :=
  fun d hd => hm _ (h d hd)

theorem run_decls (C : Ctx D) (nm : Nat → String) (lo hi : Nat) : ∀ (ds : List Stmt) (σ : Env D) (rows : List (List (Val D))),
    (∀ d ∈ ds, LDecl d ∧ InRange nm lo hi (dname d)) →
    ∃ σd, execs C ds ⟨σ, rows⟩ = .ok ⟨σd, rows⟩ ∧ Frame nm lo hi σ σd ∧ Mono σ σd ∧ Declared σd ds
  | [], σ, rows, _ => ⟨σ, rfl, Frame.refl nm lo hi σ, Mono.refl σ, fun _ h => by simp at h⟩
  | d :: ds, σ, rows, h => by
    obtain ⟨⟨ty, x, rfl, hv⟩, hin⟩ := h _ (List.mem_cons_self)
    simp only [dname] at hin
    obtain ⟨σd, hex, hfr, hmo, hde⟩ := run_decls C nm lo hi ds (σ.declare x) rows (fun d' hd' => h d' (List.mem_cons_of_mem _ hd'))
    have hm1 : Mono σ (σ.declare x) := by
      intro y hy
      by_cases e : y = x <;> simp [Env.declare, e, hy]
    refine ⟨σd, ?_, ?_, hm1.trans hmo, ?_⟩
    · simp only [execs, exec, hv, Bool.false_eq_true, if_false]
      exact hex
    · intro y hy
      rw [hfr y hy]
      have : y ≠ x := fun e => hy (e ▸ hin)
      simp [Env.declare, this]
    · intro d' hd'
      rcases List.mem_cons.1 hd' with rfl | hd'
      · simp only [dname]
        exact hmo x (by simp [Env.declare])
      · exact hde d' hd'

theorem match_self_ok (EF : Fault → Prop) (w : Val D) : Match EF (.ok w) (.ok w) := rfl

def Computes (C : Ctx D) (val e : CExpr) (g : Val D → Except Fault (Val D)) (res : Except Fault (Val D)) : Prop :=
  (∀ σ f, evalE C.N σ val = .error f → evalE C.N σ e = .error f) ∧
  (∀ σ w, res = .ok w → evalE C.N σ val = .ok w → evalE C.N σ e = g w) ∧
  (∀ w, res = .ok w → ∃ w', g w = .ok w')

theorem Computes.match {C : Ctx D} {EF : Fault → Prop} {val e : CExpr} {g : Val D → Except Fault (Val D)}
    {res : Except Fault (Val D)} (h : Computes C val e g res) {σ : Env D} (hm : Match EF (evalE C.N σ val) res) :
    Match EF (evalE C.N σ e) (strict1 res g) := by
  cases res with
  | error _ => obtain ⟨f, hf, hef⟩ := hm; exact ⟨f, h.1 σ f hf, hef⟩
  | ok w =>
    obtain ⟨w', hw'⟩ := h.2.2 w rfl
    simp only [strict1, hw']
    exact (h.2.1 σ w rfl hm).trans hw'

section combinators
variable (C : Ctx D) (nm : Nat → String) (EF : Fault → Prop)

theorem sound_pure (Pre : Env D → Prop) (n : Nat) (F : CondFrag) (res : Except Fault (Val D))
    (hs : F.stmts = []) (h : ∀ σ, Pre σ → Match EF (evalE C.N σ F.val) res) :
    Sound C nm EF Pre n F res := by
  intro σ rows hp _
  exact Or.inr ⟨σ, by rw [hs]; rfl, Frame.refl nm n F.next σ, Mono.refl σ, h σ hp⟩

theorem sound_un (Pre : Env D → Prop) (n : Nat) (Fa : CondFrag) (V : CExpr) (resa : Except Fault (Val D))
    (g : Val D → Except Fault (Val D)) (ha : Sound C nm EF Pre n Fa resa) (hV : Computes C Fa.val V g resa) :
    Sound C nm EF Pre n ⟨Fa.decls, Fa.stmts, V, Fa.next⟩ (strict1 resa g) := by
  intro σ rows hp hd
  rcases ha σ rows hp hd with ⟨⟨e, he⟩, f, hex, hef⟩ | ⟨σa, hexa, hfra, hmoa, hma⟩
  · exact Or.inl ⟨⟨e, by rw [he]; rfl⟩, f, hex, hef⟩
  · exact Or.inr ⟨σa, hexa, hfra, hmoa, hV.match hma⟩

/-- strict binary operator: the statements of `a`, then those of `b`, then ONE expression -/
theorem sound_bin (Pre : Env D → Prop) (n : Nat) (hst : Stable nm n Pre) (Fa Fb : CondFrag) (V : CExpr)
    (resa resb : Except Fault (Val D)) (g : Val D → Val D → Except Fault (Val D))
    (hna : n ≤ Fa.next) (hnb : Fa.next ≤ Fb.next)
    (ha : Sound C nm EF Pre n Fa resa) (hb : Sound C nm EF Pre Fa.next Fb resb)
    (hva : ∀ y ∈ vars Fa.val, ∀ j, Fa.next ≤ j → y ≠ nm j)
    (hVa : ∀ σ f, evalE C.N σ Fa.val = .error f → evalE C.N σ V = .error f)
    (hVb : ∀ σ wa f, resa = .ok wa → evalE C.N σ Fa.val = .ok wa → evalE C.N σ Fb.val = .error f → evalE C.N σ V = .error f)
    (hV : ∀ σ wa wb, resa = .ok wa → resb = .ok wb → evalE C.N σ Fa.val = .ok wa → evalE C.N σ Fb.val = .ok wb →
        evalE C.N σ V = g wa wb)
    (hg : ∀ wa wb, resa = .ok wa → resb = .ok wb → ∃ w, g wa wb = .ok w) :
    Sound C nm EF Pre n ⟨Fa.decls ++ Fb.decls, Fa.stmts ++ Fb.stmts, V, Fb.next⟩ (strict2 resa resb g) := by
  intro σ rows hp hd
  have hda : Declared σ Fa.decls := fun d h => hd d (List.mem_append_left _ h)
  have hdb : Declared σ Fb.decls := fun d h => hd d (List.mem_append_right _ h)
  rcases ha σ rows hp hda with ⟨⟨e, he⟩, f, hex, hef⟩ | ⟨σa, hexa, hfra, hmoa, hma⟩
  · exact Or.inl ⟨⟨e, by rw [he]; rfl⟩, f, execs_append_err C _ hex, hef⟩
  · have hpa : Pre σa := hst.frame (Nat.le_refl n) hp hfra
    rcases hb σa rows hpa (hdb.mono hmoa) with ⟨⟨e, he⟩, f, hex, hef⟩ | ⟨σb, hexb, hfrb, hmob, hmb⟩
    · refine Or.inl ⟨?_, f, (execs_append_ok C _ hexa).trans hex, hef⟩
      cases resa with
      | error e' => exact ⟨e', rfl⟩
      | ok wa => exact ⟨e, by rw [he]; rfl⟩
    · refine Or.inr ⟨σb, (execs_append_ok C _ hexa).trans hexb,
        hfra.trans hfrb (Nat.le_refl _) hnb hna (Nat.le_refl _), hmoa.trans hmob, ?_⟩
      -- `a`'s value expression still evaluates as it did before `b`'s statements ran
      have hsame : evalE C.N σb Fa.val = evalE C.N σa Fa.val := (OutOfReach.inRange hva).evalE (Nat.le_refl _) C.N hfrb
      show Match EF (evalE C.N σb V) (strict2 resa resb g)
      cases hra : resa with
      | error e =>
        rw [hra] at hma
        obtain ⟨f, hf, hef⟩ := hma
        exact ⟨f, hVa σb f (by rw [hsame]; exact hf), hef⟩
      | ok wa =>
        rw [hra] at hma
        have hma' : evalE C.N σb Fa.val = .ok wa := by rw [hsame]; exact hma
        cases hrb : resb with
        | error e =>
          rw [hrb] at hmb
          obtain ⟨f, hf, hef⟩ := hmb
          exact ⟨f, hVb σb wa f hra hma' hf, hef⟩
        | ok wb =>
          rw [hrb] at hmb
          obtain ⟨w, hw⟩ := hg wa wb hra hrb
          simp only [strict2, hw]
          exact (hV σb wa wb hra hrb hma' hmb).trans hw

theorem agreesR_of_exec_eq {lo hi lo1 hi1 lo2 hi2 : Nat} {r : String} {ss ss' : List Stmt} {σ σ1 : Env D}
    {rows : List (List (Val D))} {res : Except Fault (Val D)}
    (heq : execs C ss ⟨σ, rows⟩ = execs C ss' ⟨σ1, rows⟩) (hfr : FrameR nm lo1 hi1 r σ σ1) (hmo : Mono σ σ1)
    (h : AgreesR C nm EF lo2 hi2 r ss' σ1 rows res)
    (hl1 : lo ≤ lo1) (hh1 : hi1 ≤ hi) (hl2 : lo ≤ lo2) (hh2 : hi2 ≤ hi) :
    AgreesR C nm EF lo hi r ss σ rows res := by
  rcases h with ⟨herr, f, hex, hef⟩ | ⟨σ', w, hw, hex, hrv, hfr', hmo'⟩
  · exact Or.inl ⟨herr, f, heq.trans hex, hef⟩
  · exact Or.inr ⟨σ', w, hw, heq.trans hex, hrv, hfr.trans hfr' hl1 hh1 hl2 hh2, hmo.trans hmo'⟩

theorem agrees_of_agreesR {n lo hi next : Nat} {ds ss : List Stmt} {σ : Env D} {rows : List (List (Val D))}
    {res : Except Fault (Val D)} (h : AgreesR C nm EF lo hi (nm n) ss σ rows res)
    (h1 : n ≤ lo) (h2 : hi ≤ next) (h3 : n < next) :
    Agrees C nm EF n ⟨ds, ss, .var (nm n), next⟩ σ rows res := by
  rcases h with h | ⟨σ', w, rfl, hex, hrv, hfr, hmo⟩
  · exact Or.inl h
  · exact Or.inr ⟨σ', hex, hfr.toFrame (Nat.le_refl n) h3 h1 h2, hmo, by simp [Match, evalE, hrv]⟩

theorem run_set (n : Nat) (F : CondFrag) (r : String) (e : CExpr) (g : Val D → Except Fault (Val D))
    (res : Except Fault (Val D)) (σ : Env D) (rows : List (List (Val D)))
    (hF : Agrees C nm EF n F σ rows res) (hr : (σ r).isSome = true) (he : Computes C F.val e g res) :
    AgreesR C nm EF n F.next r (F.stmts ++ [.set r e]) σ rows (strict1 res g) := by
  rcases hF with ⟨⟨e', he'⟩, f, hex, hef⟩ | ⟨σ', hex, hfr, hmo, hm⟩
  · exact Or.inl ⟨⟨e', by rw [he']; rfl⟩, f, execs_append_err C _ hex, hef⟩
  · have hr' : (σ' r).isSome = true := hmo r hr
    rw [AgreesR, execs_append_ok C _ hex, execs_single]
    cases hres : res with
    | error e' =>
      rw [hres] at hm
      obtain ⟨f, hf, hef⟩ := hm
      exact Or.inl ⟨⟨e', rfl⟩, f, exec_set_err C ⟨σ', rows⟩ r e f hr' (he.1 σ' f hf), hef⟩
    | ok w =>
      rw [hres] at hm
      obtain ⟨w', hw'⟩ := he.2.2 w hres
      refine Or.inr ⟨σ'.set r w', w', by simp only [strict1, hw'],
        exec_set_ok C ⟨σ', rows⟩ r e w' hr' ((he.2.1 σ' w hres hm).trans hw'), by simp [Env.set], ?_,
        hmo.trans (Mono.set σ' r w')⟩
      intro y hy1 hy2
      simp only [Env.set, hy1, if_false]
      exact hfr y hy2

/-- a guarded operand / an arm: its declarations, its statements, the assignment to `r` -/
theorem run_arm (Pre : Env D → Prop) (n : Nat) (hst : Stable nm n Pre) (F : CondFrag) (r : String) (e : CExpr)
    (g : Val D → Except Fault (Val D)) (res : Except Fault (Val D))
    (hdecl : ∀ d ∈ F.decls, LDecl d ∧ InRange nm n F.next (dname d))
    (hS : Sound C nm EF Pre n F res) (he : Computes C F.val e g res)
    (σ : Env D) (rows : List (List (Val D))) (hp : Pre σ) (hr : (σ r).isSome = true) :
    AgreesR C nm EF n F.next r (F.decls ++ F.stmts ++ [.set r e]) σ rows (strict1 res g) := by
  obtain ⟨σd, hexd, hfrd, hmod, hdd⟩ := run_decls C nm n F.next F.decls σ rows hdecl
  have hpd : Pre σd := hst.frame (Nat.le_refl n) hp hfrd
  refine agreesR_of_exec_eq C nm EF ?_ (hfrd.toFrameR r) hmod
    (run_set C nm EF n F r e g res σd rows (hS σd rows hpd hdd) (hmod r hr) he)
    (Nat.le_refl _) (Nat.le_refl _) (Nat.le_refl _) (Nat.le_refl _)
  rw [List.append_assoc, execs_append_ok C _ hexd]

/-- what Python's conditional expression does with the outcomes of its parts -/
def iteRes (N : Num D) (rc rx ry : Except Fault (Val D)) : Except Fault (Val D) :=
  match rc with
  | .error e => .error e
  | .ok vc => match asBool N vc with
    | none => .error (.typeErr "condition")
    | some true => rx
    | some false => ry

/-- **conditional**: `T r;` (declared by the enclosing block) `stmts(c); if (c) { x…; r = x; } else { y…; r = y; }` -/
theorem sound_ite (Pre : Env D → Prop) (n : Nat) (hst : Stable nm n Pre)
    (ty : String) (Fc Fx Fy : CondFrag) (ex ey : CExpr)
    (gx gy : Val D → Except Fault (Val D)) (rc rx ry : Except Fault (Val D))
    (h1 : n + 1 ≤ Fc.next) (h2 : Fc.next ≤ Fx.next) (h3 : Fx.next ≤ Fy.next)
    (hc : Sound C nm EF Pre (n + 1) Fc rc) (hx : Sound C nm EF Pre Fc.next Fx rx) (hy : Sound C nm EF Pre Fx.next Fy ry)
    (hdx : ∀ d ∈ Fx.decls, LDecl d ∧ InRange nm Fc.next Fx.next (dname d))
    (hdy : ∀ d ∈ Fy.decls, LDecl d ∧ InRange nm Fx.next Fy.next (dname d))
    (hcb : ∀ vc, rc = .ok vc → ∃ b, asBool C.N vc = some b)
    (hex : Computes C Fx.val ex gx rx) (hey : Computes C Fy.val ey gy ry) :
    Sound C nm EF Pre n
      ⟨.decl ty (nm n) none :: Fc.decls,
       Fc.stmts ++ [.ite Fc.val (Fx.decls ++ Fx.stmts ++ [.set (nm n) ex]) (Fy.decls ++ Fy.stmts ++ [.set (nm n) ey])],
       .var (nm n), Fy.next⟩
      (iteRes C.N rc (strict1 rx gx) (strict1 ry gy)) := by
  intro σ rows hp hd
  have hr : (σ (nm n)).isSome = true := hd _ List.mem_cons_self
  have hdc : Declared σ Fc.decls := fun d h => hd d (List.mem_cons_of_mem _ h)
  refine agrees_of_agreesR C nm EF (lo := n + 1) (hi := Fy.next) ?_ (Nat.le_succ n) (Nat.le_refl _) (by omega)
  rcases hc σ rows hp hdc with ⟨⟨e, he⟩, f, hexc, hef⟩ | ⟨σc, hexc, hfrc, hmoc, hmc⟩
  · exact Or.inl ⟨⟨e, by rw [he]; rfl⟩, f, execs_append_err C _ hexc, hef⟩
  · have hpc : Pre σc := hst.frame (by omega) hp hfrc
    have hrc' : (σc (nm n)).isSome = true := hmoc _ hr
    have hrun : ∀ st, execs C (Fc.stmts ++ [st]) ⟨σ, rows⟩ = exec C st ⟨σc, rows⟩ := fun st => by
      rw [execs_append_ok C _ hexc, execs_single]
    cases hrc : rc with
    | error e =>
      rw [hrc] at hmc
      obtain ⟨f, hf, hef⟩ := hmc
      exact Or.inl ⟨⟨e, rfl⟩, f, (hrun _).trans (exec_ite_err C ⟨σc, rows⟩ _ _ _ f hf), hef⟩
    | ok vc =>
      rw [hrc] at hmc
      obtain ⟨b, hb⟩ := hcb vc hrc
      -- only the taken arm runs, from the state the condition's statements left
      have hwhole := (hrun _).trans (exec_ite_of C ⟨σc, rows⟩ Fc.val (Fx.decls ++ Fx.stmts ++ [.set (nm n) ex])
        (Fy.decls ++ Fy.stmts ++ [.set (nm n) ey]) vc b hmc hb)
      cases b with
      | true =>
        have hres : iteRes C.N (.ok vc) (strict1 rx gx) (strict1 ry gy) = strict1 rx gx := by simp [iteRes, hb]
        rw [hres]
        exact agreesR_of_exec_eq C nm EF hwhole (hfrc.toFrameR _) hmoc
          (run_arm C nm EF Pre Fc.next (hst.mono (by omega)) Fx (nm n) ex gx rx hdx hx hex σc rows hpc hrc')
          (Nat.le_refl _) (by omega) h1 (by omega)
      | false =>
        have hres : iteRes C.N (.ok vc) (strict1 rx gx) (strict1 ry gy) = strict1 ry gy := by simp [iteRes, hb]
        rw [hres]
        exact agreesR_of_exec_eq C nm EF hwhole (hfrc.toFrameR _) hmoc
          (run_arm C nm EF Pre Fx.next (hst.mono (by omega)) Fy (nm n) ey gy ry hdy hy hey σc rows hpc hrc')
          (Nat.le_refl _) (by omega) (by omega) (Nat.le_refl _)

/-- **and / or**: `bool r;` (declared by the enclosing block) `stmts(a); r = a;` then the guarded steps of the
other operands, characterised by `hrest` -/
theorem sound_bop (Pre : Env D → Prop) (n : Nat) (hst : Stable nm n Pre) (Fa : CondFrag) (ea : CExpr) (rs : List Stmt)
    (next : Nat) (g : Val D → Except Fault (Val D)) (resa : Except Fault (Val D))
    (restRes : Bool → Except Fault (Val D)) (res : Except Fault (Val D))
    (h1 : n + 1 ≤ Fa.next) (h2 : Fa.next ≤ next)
    (ha : Sound C nm EF Pre (n + 1) Fa resa) (he : Computes C Fa.val ea g resa)
    (hg : ∀ w w', resa = .ok w → g w = .ok w' → ∃ acc, w' = .bool acc)
    (hrest : ∀ σ rows acc, strict1 resa g = .ok (.bool acc) → Pre σ → σ (nm n) = some (.val (.bool acc)) →
        AgreesR C nm EF Fa.next next (nm n) rs σ rows (restRes acc))
    (hres_e : ∀ e, strict1 resa g = .error e → IsErr res)
    (hres_ok : ∀ acc, strict1 resa g = .ok (.bool acc) → res = restRes acc) :
    Sound C nm EF Pre n ⟨.decl "bool" (nm n) none :: Fa.decls, Fa.stmts ++ (.set (nm n) ea :: rs), .var (nm n), next⟩ res := by
  intro σ rows hp hd
  have hr : (σ (nm n)).isSome = true := hd _ List.mem_cons_self
  have hda : Declared σ Fa.decls := fun d h => hd d (List.mem_cons_of_mem _ h)
  refine agrees_of_agreesR C nm EF (lo := n + 1) (hi := next) ?_ (Nat.le_succ n) (Nat.le_refl _) (by omega)
  rw [show Fa.stmts ++ (.set (nm n) ea :: rs) = (Fa.stmts ++ [.set (nm n) ea]) ++ rs by simp]
  rcases run_set C nm EF (n + 1) Fa (nm n) ea g resa σ rows (ha σ rows hp hda) hr he with
    ⟨⟨e, he'⟩, f, hex, hef⟩ | ⟨σ1, w, hw, hex, hrv, hfr, hmo⟩
  · exact Or.inl ⟨hres_e e he', f, execs_append_err C _ hex, hef⟩
  · obtain ⟨wa, hra, hga⟩ := strict1_ok hw
    obtain ⟨acc, rfl⟩ := hg wa w hra hga
    rw [hres_ok acc hw]
    exact agreesR_of_exec_eq C nm EF (execs_append_ok C _ hex) hfr hmo
      (hrest σ1 rows acc hw (hst.frameR (by omega) (Nat.le_refl n) hp hfr) hrv) (Nat.le_refl _) h2 h1 (Nat.le_refl _)

theorem sound_weaken {Pre Pre' : Env D → Prop} {EF' : Fault → Prop} {n : Nat} {F : CondFrag} {res : Except Fault (Val D)}
    (h : Sound C nm EF Pre n F res) (hp : ∀ σ, Pre' σ → Pre σ) (hf : ∀ f, EF f → EF' f) :
    Sound C nm EF' Pre' n F res := by
  intro σ rows hp' hd
  rcases h σ rows (hp σ hp') hd with ⟨herr, f, hex, hef⟩ | ⟨σ', hex, hfr, hmo, hm⟩
  · exact Or.inl ⟨herr, f, hex, hf f hef⟩
  · refine Or.inr ⟨σ', hex, hfr, hmo, ?_⟩
    cases res with
    | ok w => exact hm
    | error e => obtain ⟨f, h1, h2⟩ := hm; exact ⟨f, h1, hf f h2⟩

theorem agrees_ok {n : Nat} {F : CondFrag} {σ : Env D} {rows : List (List (Val D))} {w : Val D}
    (h : Agrees C nm EF n F σ rows (.ok w)) :
    ∃ σ', execs C F.stmts ⟨σ, rows⟩ = .ok ⟨σ', rows⟩ ∧ Frame nm n F.next σ σ' ∧ Mono σ σ' ∧ evalE C.N σ' F.val = .ok w := by
  rcases h with ⟨⟨e, he⟩, _⟩ | ⟨σ', hex, hfr, hmo, hm⟩
  · cases he
  · exact ⟨σ', hex, hfr, hmo, hm⟩

/-- a sound fragment run as a BLOCK: its declarations first, then its statements -/
theorem sound_block {Pre : Env D → Prop} {n : Nat} (hst : Stable nm n Pre) (F : CondFrag) (w : Val D)
    (hS : Sound C nm EF Pre n F (.ok w)) (hdecl : ∀ d ∈ F.decls, LDecl d ∧ InRange nm n F.next (dname d))
    (σ : Env D) (rows : List (List (Val D))) (hp : Pre σ) :
    ∃ σ', execs C (F.decls ++ F.stmts) ⟨σ, rows⟩ = .ok ⟨σ', rows⟩ ∧ Frame nm n F.next σ σ' ∧ Mono σ σ' ∧
      evalE C.N σ' F.val = .ok w := by
  obtain ⟨σd, hexd, hfrd, hmod, hdd⟩ := run_decls C nm n F.next F.decls σ rows hdecl
  obtain ⟨σ', hex, hfr, hmo, hv⟩ := agrees_ok C nm EF (hS σd rows (hst.frame (Nat.le_refl n) hp hfrd) hdd)
  exact ⟨σ', (execs_append_ok C _ hexd).trans hex,
    hfrd.trans hfr (Nat.le_refl _) (Nat.le_refl _) (Nat.le_refl _) (Nat.le_refl _), hmod.trans hmo, hv⟩

theorem agreesR_ok {lo hi : Nat} {r : String} {ss : List Stmt} {σ : Env D} {rows : List (List (Val D))} {w : Val D}
    (h : AgreesR C nm EF lo hi r ss σ rows (.ok w)) :
    ∃ σ', execs C ss ⟨σ, rows⟩ = .ok ⟨σ', rows⟩ ∧ σ' r = some (.val w) ∧ FrameR nm lo hi r σ σ' ∧ Mono σ σ' := by
  rcases h with ⟨⟨e, he⟩, _⟩ | ⟨σ', w', hw, hex, hrv, hfr, hmo⟩
  · cases he
  · simp only [Except.ok.injEq] at hw; subst hw
    exact ⟨σ', hex, hrv, hfr, hmo⟩

end combinators

end FaxVerif.Gen
