/-
Gen — the QUERY side of the arbitrary-depth fragment (`Gen/Deep.lean`): what the embedded inner chain
`x.m().Where(c₁)…Where(cₙ)[.Select(f)]` denotes, element-at-a-time. The list-at-a-time denotation (nested
`filterE`s, then `mapE`) is `keepE` of the conjunction of the conditions — evaluated in order, stopping at the
first false one — then `mapE` of the `Select`.
The lambdas are arbitrary `DE` (they are only `denote`d here): nothing in this file depends on the depth.
-/
import FaxVerif.Gen.Deep
import FaxVerif.Gen.QueryLemmas
namespace FaxVerif.Gen
open FaxVerif.Cpp FaxVerif.Linq
variable {D : Type}

/-- a Boolean-valued `Where` as a per-element meaning (the form `optsE`, and so `loop_isFold`, takes): the element
itself is kept, or dropped -/
def keepSem (f : Val D → Except Fault Bool) (u : Val D) : Except Fault (Option (Val D)) :=
  match f u with
  | .error e => .error e
  | .ok b => .ok (if b then some u else none)

def keepE (f : Val D → Except Fault Bool) : List (Val D) → Except Fault (List (Val D)) := optsE (keepSem f)

/-- the Boolean a `Where` predicate's value stands for -/
def predB (N : Num D) (r : Except Fault (Val D)) : Except Fault Bool :=
  match r with
  | .error e => .error e
  | .ok w => match asBool N w with
    | none => .error (.typeErr "Where predicate")
    | some b => .ok b

theorem keepSem_ok {f : Val D → Except Fault Bool} {u : Val D} {o : Option (Val D)} :
    keepSem f u = .ok o ↔ ∃ b, f u = .ok b ∧ o = if b then some u else none := by
  simp only [keepSem]
  cases f u <;> simp [eq_comm]

theorem keepE_cons_ok {f : Val D → Except Fault Bool} {v : Val D} {vs r : List (Val D)} :
    keepE f (v :: vs) = .ok r ↔ ∃ b rs, f v = .ok b ∧ keepE f vs = .ok rs ∧ r = if b then v :: rs else rs := by
  simp only [keepE, optsE_cons_ok, keepSem_ok]
  constructor
  · rintro ⟨_, rs, ⟨b, hb, rfl⟩, hrs, rfl⟩
    exact ⟨b, rs, hb, hrs, by cases b <;> rfl⟩
  · rintro ⟨b, rs, hb, hrs, rfl⟩
    exact ⟨_, rs, ⟨b, hb, rfl⟩, hrs, by cases b <;> rfl⟩

theorem predB_ok {N : Num D} {r : Except Fault (Val D)} {b : Bool} :
    predB N r = .ok b ↔ ∃ w, r = .ok w ∧ asBool N w = some b := by
  cases r with
  | error e => simp [predB]
  | ok w => cases hb : asBool N w <;> simp [predB, hb]

theorem filterE_eq_keepE (N : Num D) (f : Val D → Except Fault (Val D)) :
    ∀ l, filterE N f l = keepE (fun v => predB N (f v)) l
  | [] => rfl
  | v :: vs => by
    rw [filterE, filterE_eq_keepE N f vs]
    simp only [keepE, optsE, keepSem]
    generalize optsE (keepSem fun v => predB N (f v)) vs = tl
    simp only [predB]
    cases f v with
    | error e => rfl
    | ok r =>
      dsimp only
      cases asBool N r with
      | none => rfl
      | some b => cases tl <;> cases b <;> rfl

/-- filtering by `f`, then by `g`, is filtering by "`f` and then `g`" -/
def andThenB (f g : Val D → Except Fault Bool) : Val D → Except Fault Bool := fun v =>
  match f v with
  | .error e => .error e
  | .ok false => .ok false
  | .ok true => g v

theorem keepE_comp (f g : Val D → Except Fault Bool) : ∀ (l r1 r2 : List (Val D)),
    keepE f l = .ok r1 → keepE g r1 = .ok r2 → keepE (andThenB f g) l = .ok r2
  | [], r1, r2, h1, h2 => by cases h1; exact h2
  | v :: vs, r1, r2, h1, h2 => by
    obtain ⟨b, rs, hf, hr, rfl⟩ := keepE_cons_ok.1 h1
    cases b with
    | false => exact keepE_cons_ok.2 ⟨false, r2, by simp [andThenB, hf], keepE_comp f g vs rs r2 hr h2, rfl⟩
    | true =>
      obtain ⟨b2, rs2, hg, hr2, rfl⟩ := keepE_cons_ok.1 h2
      exact keepE_cons_ok.2 ⟨b2, rs2, by simp [andThenB, hf, hg], keepE_comp f g vs rs rs2 hr hr2, rfl⟩

theorem keepE_true : ∀ l : List (Val D), keepE (fun _ => (.ok true : Except Fault Bool)) l = .ok l
  | [] => rfl
  | _ :: vs => keepE_cons_ok.2 ⟨true, vs, rfl, keepE_true vs, rfl⟩

/-- the inner element `u` (bound to `x`, outer environment `ρ`) passes the conditions -/
def condsSemD (QC : QCtx D) (d : Nat) (x : String) (ρ : LEnv D) : DConds → Val D → Except Fault Bool
  | .nil => fun _ => .ok true
  | .snoc init c => andThenB (condsSemD QC d x ρ init) (fun u => predB QC.N (denote QC ((x, u) :: ρ) (deQ d x c)))

/-- what a kept inner element becomes -/
def selSemD (QC : QCtx D) (d : Nat) (x : String) (ρ : LEnv D) : DOpt → Val D → Except Fault (Val D)
  | .none => fun u => .ok u
  | .some f => fun u => denote QC ((x, u) :: ρ) (deQ d x f)

/-- **the `Where`s of an inner chain, element-at-a-time**: the source denotes a list, of which the conditions keep `r` -/
theorem dcondsQ_denote (QC : QCtx D) (ρ : LEnv D) (d : Nat) (src : Query) : ∀ (whrs : DConds) (r : List (Val D)),
    denote QC ρ (dcondsQ d src whrs) = .ok (.vec r) →
      ∃ l, denote QC ρ src = .ok (.vec l) ∧ keepE (condsSemD QC (d + 1) (deepVar d) ρ whrs) l = .ok r
  | .nil, r, h => ⟨r, h, keepE_true r⟩
  | .snoc init c, r, h => by
    obtain ⟨l1, hs, hf⟩ := denote_where_ok.1 h
    obtain ⟨l, hl, ih⟩ := dcondsQ_denote QC ρ d src init l1 hs
    rw [filterE_eq_keepE] at hf
    exact ⟨l, hl, keepE_comp _ _ l l1 r ih hf⟩

/-- **the embedded inner chain, element-at-a-time**: the method returns a list `l`; the conditions keep `r` of
it; the `Select` maps `r` to the value -/
theorem dchainQ_ok (QC : QCtx D) (d : Nat) (x : String) (v : Val D) (ρ : LEnv D) (m : String) (elem : Option Ty)
    (whrs : DConds) (sel : DOpt) (ws : List (Val D))
    (h : denote QC ((x, v) :: ρ) (dchainQ d x (.mk m elem whrs sel)) = .ok (.vec ws)) :
    ∃ l r, member v m [] = .ok (.vec l) ∧
      keepE (condsSemD QC (d + 1) (deepVar d) ((x, v) :: ρ) whrs) l = .ok r ∧
      mapE (selSemD QC (d + 1) (deepVar d) ((x, v) :: ρ) sel) r = .ok ws := by
  have hsrc0 : denote QC ((x, v) :: ρ) (.meth (.var x) m) = member v m [] := by simp [denote, LEnv.get]
  cases sel with
  | none =>
    obtain ⟨l, hl, hk⟩ := dcondsQ_denote QC _ d _ whrs ws h
    exact ⟨l, ws, hsrc0 ▸ hl, hk, mapE_ok ws⟩
  | some f =>
    obtain ⟨r, hs, hm⟩ := denote_select_ok.1 h
    obtain ⟨l, hl, hk⟩ := dcondsQ_denote QC _ d _ whrs r hs
    exact ⟨l, r, hsrc0 ▸ hl, hk, hm⟩

end FaxVerif.Gen
