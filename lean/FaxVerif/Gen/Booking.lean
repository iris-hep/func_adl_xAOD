/-
Gen — the names and the booking of a package. `Supply nm cn`: what `unique_name` guarantees of the local names `nm` and
the class-level column variables `cn`. `Books P cn names types`: after the token members the package declares one
class-level variable `cn 0, cn 1, …` per column, of the column's C++ type, and books the column names against them in
order. It is proved of the generic builders (`eventPackage_books`, `rowPackageF_books`); the correctness proofs read
the branch variables off it (`Books.cols`), and the acceptance lemmas `Books.schemaOk`, `Wf.wf_of_books` take it as
their hypothesis on the shape of the package.
-/
import FaxVerif.Cpp.Frame
namespace FaxVerif.Gen
open FaxVerif.Cpp

/-- the names `unique_name` hands out, `nm` the local ones and `cn` the class-level column variables (`is_class_var`):
distinct within each kind and across the two, and none is the reserved `result` -/
structure Supply (nm cn : Nat → String) : Prop where
  inj : ∀ i j, nm i = nm j → i = j
  cinj : ∀ i j, cn i = cn j → i = j
  res : ∀ j, nm j ≠ "result"
  cres : ∀ k, cn k ≠ "result"
  disj : ∀ j k, nm j ≠ cn k

def colNames (cn : Nat → String) : Nat → Nat → List String
  | 0, _ => []
  | m + 1, idx => cn idx :: colNames cn m (idx + 1)

theorem colNames_length (cn : Nat → String) : ∀ (m idx : Nat), (colNames cn m idx).length = m
  | 0, _ => rfl
  | m + 1, idx => by simp [colNames, colNames_length cn m (idx + 1)]

theorem mem_colNames (cn : Nat → String) : ∀ (m idx k : Nat), idx ≤ k → k < idx + m → cn k ∈ colNames cn m idx
  | 0, idx, k, h1, h2 => by omega
  | m + 1, idx, k, h1, h2 => by
    simp only [colNames, List.mem_cons]
    by_cases e : k = idx
    · exact Or.inl (by rw [e])
    · exact Or.inr (mem_colNames cn m (idx + 1) k (by omega) (by omega))

theorem colNames_mem (cn : Nat → String) : ∀ (m idx : Nat) (y : String), y ∈ colNames cn m idx →
    ∃ j, idx ≤ j ∧ j < idx + m ∧ y = cn j
  | 0, _, y, h => by simp [colNames] at h
  | m + 1, idx, y, h => by
    simp only [colNames, List.mem_cons] at h
    rcases h with h | h
    · exact ⟨idx, Nat.le_refl _, by omega, h⟩
    · obtain ⟨j, a, b, e⟩ := colNames_mem cn m (idx + 1) y h
      exact ⟨j, by omega, by omega, e⟩

theorem colNames_nodup (cn : Nat → String) (hcinj : ∀ i j, cn i = cn j → i = j) : ∀ (m idx : Nat), (colNames cn m idx).Nodup
  | 0, _ => by simp [colNames]
  | m + 1, idx => by
    simp only [colNames, List.nodup_cons]
    refine ⟨fun h => ?_, colNames_nodup cn hcinj m (idx + 1)⟩
    obtain ⟨j, a, _, e⟩ := colNames_mem cn m (idx + 1) _ h
    have := hcinj _ _ e; omega

theorem token_ne_col {nm cn : Nat → String} (hdisj : ∀ j k, nm j ≠ cn k) {toks : List (String × String × String)}
    (htok : ∀ t ∈ toks, ∃ j, t.1 = nm j) {m idx : Nat} {v : String} (hv : v ∈ colNames cn m idx) : v ∉ toks.map (·.1) := by
  intro hm
  obtain ⟨k, _, _, rfl⟩ := colNames_mem cn _ _ _ hv
  obtain ⟨t, ht, he⟩ := List.mem_map.1 hm
  obtain ⟨j, hj⟩ := htok t ht
  exact hdisj j k (by rw [← hj, he])

/-- the package `P` books the columns `names`, of C++ types `types`, against the variables `cn 0, cn 1, …` -/
structure Books (P : Package) (cn : Nat → String) (names types : List String) : Prop where
  classVars : P.classVars =
    P.tokens.map (fun t => ("edm::EDGetTokenT<" ++ t.2.1 ++ ">", t.1)) ++ types.zip (colNames cn names.length 0)
  branches : P.branches = names.zip (colNames cn names.length 0)
  len : types.length = names.length

namespace Books
variable {P : Package} {cn : Nat → String} {names types : List String}

/-- a package laid out as token members, then the class variables `cvs` named `cn 0, cn 1, …`, the names booked
against them in order: the shape every package builder has by definition -/
theorem of_cvs (cvs : List (String × String))
    (hcv : P.classVars = P.tokens.map (fun t => ("edm::EDGetTokenT<" ++ t.2.1 ++ ">", t.1)) ++ cvs)
    (hbr : P.branches = names.zip (cvs.map (·.2))) (hvars : cvs.map (·.2) = colNames cn names.length 0)
    (htys : cvs.map (·.1) = types) : Books P cn names types :=
  ⟨hcv.trans (congrArg _ (List.zip_of_prod htys hvars)), hvars ▸ hbr,
    by rw [← htys]; simpa [colNames_length] using congrArg List.length hvars⟩

variable (h : Books P cn names types)
include h

theorem names_eq : P.branches.map (·.1) = names := by
  rw [h.branches, List.map_fst_zip (by simp [colNames_length])]

theorem vars_eq : P.branches.map (·.2) = colNames cn names.length 0 := by
  rw [h.branches, List.map_snd_zip (by simp [colNames_length])]

theorem cols {D : Type} (N : Num D) (ev : Event D) : (P.ctx N ev).cols = colNames cn names.length 0 := h.vars_eq

theorem width : P.branches.length = names.length := by
  simpa [colNames_length] using congrArg List.length h.vars_eq

theorem own_storage (hcinj : ∀ i j, cn i = cn j → i = j) : (P.branches.map (·.2)).Nodup :=
  h.vars_eq ▸ colNames_nodup cn hcinj _ 0

theorem classNames : P.classVars.map (·.2) = P.tokens.map (·.1) ++ colNames cn names.length 0 := by
  rw [h.classVars, List.map_append, List.map_map, List.map_snd_zip (by simp [colNames_length, h.len])]; rfl

theorem mem_classNames {k : Nat} (hk : k < names.length) : cn k ∈ Cpp.classNames P.classVars := by
  rw [Cpp.classNames, h.classNames]
  exact List.mem_append_right _ (mem_colNames cn _ 0 k (Nat.zero_le _) (by omega))

theorem classInit_decl {D : Type} {k : Nat} (hk : k < names.length) :
    ((classInit P.classVars : Env D) (cn k)).isSome = true :=
  Cpp.classInit_decl _ _ (h.mem_classNames hk)

end Books

end FaxVerif.Gen
