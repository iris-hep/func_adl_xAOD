/-
Root of the `FaxVerif` library, the default target of `lake build`: every module under FaxVerif/ except the drivers
(`Driver.lean`, `*Driver.lean`). A driver is the program a check runs the model with (`lake env lean --run`); each defines
`main` (most also `handle`) at top level, so no two of them can be imported into one module.
-/
import FaxVerif.C01.Instances
import FaxVerif.C01.Theorems
import FaxVerif.C01.TheoremsAgg
import FaxVerif.C01.TheoremsCapture
import FaxVerif.C01.TheoremsDeep
import FaxVerif.C01.TheoremsLazy
import FaxVerif.C01.TheoremsMiniAod
import FaxVerif.C01.TheoremsNested
import FaxVerif.C02.CursorModel
import FaxVerif.C02.CursorProofs
import FaxVerif.C02.CursorSpec
import FaxVerif.C02.Theorems
import FaxVerif.C02.TheoremsCursor
import FaxVerif.C02.TheoremsParse
import FaxVerif.C02.TheoremsParseExpr
import FaxVerif.C02.TheoremsWf
import FaxVerif.C03.Declared
import FaxVerif.C03.Labels
import FaxVerif.C03.Spec
import FaxVerif.C03.Theorems
import FaxVerif.C03.TheoremsBook
import FaxVerif.C03.TheoremsDeclared
import FaxVerif.C03.TheoremsGen
import FaxVerif.C03.TheoremsLabels
import FaxVerif.C03.TheoremsTyping
import FaxVerif.C04.Shapes
import FaxVerif.C04.Theorems
import FaxVerif.C04.TheoremsFault
import FaxVerif.C04.TheoremsFirstLazy
import FaxVerif.C04.TheoremsLazy
import FaxVerif.C05.Theorems
import FaxVerif.C05.TheoremsFragment
import FaxVerif.C05.TheoremsLazy
import FaxVerif.C05.TheoremsNested
import FaxVerif.C05.TheoremsWf
import FaxVerif.C06.ExtModel
import FaxVerif.C06.ExtTheorems
import FaxVerif.C06.Model
import FaxVerif.C06.Proofs
import FaxVerif.C06.Spec
import FaxVerif.C06.Theorems
import FaxVerif.C07.Model
import FaxVerif.C07.Proofs
import FaxVerif.C07.Spec
import FaxVerif.C07.Theorems
import FaxVerif.C08.AttachProofs
import FaxVerif.C08.ChainTheorems
import FaxVerif.C08.Eq
import FaxVerif.C08.ExtTheorems
import FaxVerif.C08.MdModel
import FaxVerif.C08.MdTheorems
import FaxVerif.C08.Model
import FaxVerif.C08.NamesProofs
import FaxVerif.C08.ScalarProofs
import FaxVerif.C08.Spec
import FaxVerif.C08.Theorems
import FaxVerif.C08.WireN
import FaxVerif.C08.WireNTheorems
import FaxVerif.C08.WireProofs
import FaxVerif.C09.ExecModel
import FaxVerif.C09.ExecProofs
import FaxVerif.C09.ExecSpec
import FaxVerif.C09.ExecTheorems
import FaxVerif.C09.Model
import FaxVerif.C09.Spec
import FaxVerif.C09.Theorems
import FaxVerif.C10.Chain
import FaxVerif.C10.Columns
import FaxVerif.C10.ExtModel
import FaxVerif.C10.ExtTheorems
import FaxVerif.C10.Model
import FaxVerif.C10.Proofs
import FaxVerif.C10.Spec
import FaxVerif.C10.TailTheorems
import FaxVerif.C10.Theorems
import FaxVerif.C11.Angle
import FaxVerif.C11.AngleProofs
import FaxVerif.C11.ExtModel
import FaxVerif.C11.ExtTheorems
import FaxVerif.C11.Model
import FaxVerif.C11.Proofs
import FaxVerif.C11.Spec
import FaxVerif.C11.Theorems
import FaxVerif.C12.Alive
import FaxVerif.C12.Model
import FaxVerif.C12.PosAccepted
import FaxVerif.C12.PosModel
import FaxVerif.C12.PosProofs
import FaxVerif.C12.PosSpec
import FaxVerif.C12.PosTheorems
import FaxVerif.C12.Proofs
import FaxVerif.C12.Spec
import FaxVerif.C12.Theorems
import FaxVerif.C13.Model
import FaxVerif.C13.ProofsAgg
import FaxVerif.C13.ProofsExpr
import FaxVerif.C13.Spec
import FaxVerif.C13.Text
import FaxVerif.C13.TextLex
import FaxVerif.C13.TextParse
import FaxVerif.C13.TextRead
import FaxVerif.C13.TextTheorems
import FaxVerif.C13.Theorems
import FaxVerif.C14.Model
import FaxVerif.C14.Proofs
import FaxVerif.C14.Spec
import FaxVerif.C14.Theorems
import FaxVerif.C15.All
import FaxVerif.C15.ExecTheorems
import FaxVerif.C15.Fifo
import FaxVerif.C15.Lists
import FaxVerif.C15.Loop
import FaxVerif.C15.Model
import FaxVerif.C15.ModelExec
import FaxVerif.C15.OrderTheorems
import FaxVerif.C15.Proofs
import FaxVerif.C15.RefusalTheorems
import FaxVerif.C15.Spec
import FaxVerif.C15.SpecOrder
import FaxVerif.C15.Theorems
import FaxVerif.C15.Tmpl
import FaxVerif.C16.Abs
import FaxVerif.C16.CheckAtlasR21
import FaxVerif.C16.CheckCmsR5
import FaxVerif.C16.CheckCmsR7
import FaxVerif.C16.Checks
import FaxVerif.C16.LiveAtlasR21
import FaxVerif.C16.LiveCmsR5
import FaxVerif.C16.LiveCmsR7
import FaxVerif.C16.Model
import FaxVerif.C16.OptionLoop
import FaxVerif.C16.Proofs
import FaxVerif.C16.Spec
import FaxVerif.C16.SpecRun
import FaxVerif.C16.Strict
import FaxVerif.C16.Theorems
import FaxVerif.C17.Model
import FaxVerif.C17.Proofs
import FaxVerif.C17.Spec
import FaxVerif.C17.Theorems
import FaxVerif.C18.Expr
import FaxVerif.C18.Model
import FaxVerif.C18.ProofsContext
import FaxVerif.C18.ProofsExpr
import FaxVerif.C18.ProofsNum
import FaxVerif.C18.ProofsParse
import FaxVerif.C18.ProofsStored
import FaxVerif.C18.ProofsStr
import FaxVerif.C18.Spec
import FaxVerif.C18.Theorems
import FaxVerif.C18.TheoremsContext
import FaxVerif.C18.TheoremsDigits
import FaxVerif.C18.TheoremsExpr
import FaxVerif.Common.AddNew
import FaxVerif.Common.Clash
import FaxVerif.Common.CounterNames
import FaxVerif.Common.Dict
import FaxVerif.Common.EraseDups
import FaxVerif.Common.Runs
import FaxVerif.Cpp.Check
import FaxVerif.Cpp.CheckRules
import FaxVerif.Cpp.CheckSound
import FaxVerif.Cpp.EventLocal
import FaxVerif.Cpp.Frame
import FaxVerif.Cpp.Json
import FaxVerif.Cpp.Parse
import FaxVerif.Cpp.ParseBaseProofs
import FaxVerif.Cpp.ParseExprProofs
import FaxVerif.Cpp.ParseLexProofs
import FaxVerif.Cpp.ParseLexSteps
import FaxVerif.Cpp.ParseProofs
import FaxVerif.Cpp.ParseSpec
import FaxVerif.Cpp.Run
import FaxVerif.Cpp.Sem
import FaxVerif.Cpp.Syntax
import FaxVerif.Fuel
import FaxVerif.Gen.Agg
import FaxVerif.Gen.AggBodyCorrect
import FaxVerif.Gen.AggCorrect
import FaxVerif.Gen.AggExprCorrect
import FaxVerif.Gen.AggRowsCorrect
import FaxVerif.Gen.AggSpec
import FaxVerif.Gen.Booking
import FaxVerif.Gen.Capture
import FaxVerif.Gen.CaptureChainCorrect
import FaxVerif.Gen.CaptureExprCorrect
import FaxVerif.Gen.CaptureRowsCorrect
import FaxVerif.Gen.CaptureSpec
import FaxVerif.Gen.ChainCorrect
import FaxVerif.Gen.ColsCorrect
import FaxVerif.Gen.Deep
import FaxVerif.Gen.DeepExprCorrect
import FaxVerif.Gen.DeepLoopCorrect
import FaxVerif.Gen.DeepRowsCorrect
import FaxVerif.Gen.DeepSem
import FaxVerif.Gen.EECorrect
import FaxVerif.Gen.ElemRowsCorrect
import FaxVerif.Gen.EventRowsCorrect
import FaxVerif.Gen.EventSpec
import FaxVerif.Gen.FaultCorrect
import FaxVerif.Gen.FaultCorrectChain
import FaxVerif.Gen.FaultCorrectCols
import FaxVerif.Gen.FaultCorrectJob
import FaxVerif.Gen.FaultCorrectRows
import FaxVerif.Gen.FirstCorrect
import FaxVerif.Gen.FirstFault
import FaxVerif.Gen.FirstLazy
import FaxVerif.Gen.FirstLazyCorrect
import FaxVerif.Gen.Forced
import FaxVerif.Gen.FragSpec
import FaxVerif.Gen.GuardedFirst
import FaxVerif.Gen.IsFold
import FaxVerif.Gen.JobCorrect
import FaxVerif.Gen.Lazy
import FaxVerif.Gen.LazyCorrect
import FaxVerif.Gen.LazyElemRowsCorrect
import FaxVerif.Gen.LazyExprCorrect
import FaxVerif.Gen.LazyRowsCorrect
import FaxVerif.Gen.Lite
import FaxVerif.Gen.LiteSpec
import FaxVerif.Gen.LoopCorrect
import FaxVerif.Gen.Nested
import FaxVerif.Gen.NestedExprCorrect
import FaxVerif.Gen.NestedRowsCorrect
import FaxVerif.Gen.PureCorrect
import FaxVerif.Gen.PushColsCorrect
import FaxVerif.Gen.QueryLemmas
import FaxVerif.Gen.Render
import FaxVerif.Gen.SchemaCorrect
import FaxVerif.Gen.SchemaCorrectTyping
import FaxVerif.Gen.SchemaCorrectTypingLazy
import FaxVerif.Gen.SchemaCorrectTypingNested
import FaxVerif.Gen.TokenTable
import FaxVerif.Gen.Toks
import FaxVerif.Gen.WfCorrectBase
import FaxVerif.Gen.WfCorrectChain
import FaxVerif.Gen.WfCorrectCols
import FaxVerif.Gen.WfCorrectTop
import FaxVerif.Generated.C06Render
import FaxVerif.Generated.C06Tables
import FaxVerif.Generated.C07Defaults
import FaxVerif.Generated.C09Exec
import FaxVerif.Generated.C09Tables
import FaxVerif.Generated.C10Tables
import FaxVerif.Generated.C11Builtins
import FaxVerif.Generated.C12Table
import FaxVerif.Generated.C13Tables
import FaxVerif.Generated.C14Templates
import FaxVerif.Generated.C15Template
import FaxVerif.Generated.C16Scripts
import FaxVerif.Generated.C17Backends
import FaxVerif.Generated.C18Tables
import FaxVerif.Linq.Combinators
import FaxVerif.Linq.FinalShape
import FaxVerif.Linq.Query
import FaxVerif.Linq.Typing
import FaxVerif.Linq.TypingProofs
